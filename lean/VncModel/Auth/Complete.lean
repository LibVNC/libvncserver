import VncModel.Auth.Process
/-
What one call of rfbProcessClientMessage does for a well-behaved client of a password screen (fixed
code), independent of the process-global handler list: the ingredients of `auth_complete`,
`auth_complete_tight` and `reach_authentication_38` / `reach_authentication_33` in Props/C05.lean.
-/
namespace VncModel.Auth
open VncModel.Gen

theorem need_auth : need .auth = 16 := by decide
theorem need_ver : need .ver = 12 := by decide
theorem need_sec : need .sec = 1 := by decide
theorem need_init : need .init = 1 := by decide

theorem offered_ne_nil (hs : List Handler) (legacy : List Nat) (t : Nat) : offered true hs legacy t ≠ [] := by
  unfold offered
  have h0 : C05.MAX_SECURITY_TYPES - 1 = 253 + 1 := by decide
  simp [h0]

variable {fixed : Bool} {env : Env} {scr : Screen} {hs : List Handler} {legacy : List Nat} {rand : List UInt8}
  {c : Conn}

theorem procConn_eq_dispatch {st : St} (ho : c.isOpen = true) (hst : c.st = st) (hn : st ≠ .normal)
    (hlen : need st ≤ c.inbuf.length) :
    procConn fixed env scr hs legacy rand c =
      dispatch fixed env scr hs legacy rand st { c with inbuf := c.inbuf.drop (need st) }
        (c.inbuf.take (need st)) := by
  subst hst
  rw [procConn, if_neg (by simp [ho]), if_neg hn, if_neg (by omega)]

theorem procConn_of_msg {st : St} (ho : c.isOpen = true) (hst : c.st = st) (hn : st ≠ .normal)
    (hlen : c.inbuf.length = need st) :
    procConn fixed env scr hs legacy rand c =
      dispatch fixed env scr hs legacy rand st { c with inbuf := [] } c.inbuf := by
  rw [procConn_eq_dispatch ho hst hn (Nat.le_of_eq hlen.symm), ← hlen, List.take_length, List.drop_length]

theorem procConn_sec {t : UInt8} {rest : List UInt8} (ho : c.isOpen = true) (hst : c.st = .sec)
    (hbuf : c.inbuf = t :: rest) :
    procConn fixed env scr hs legacy rand c =
      (processSecurityType fixed env scr hs legacy rand { c with inbuf := rest } t, legacy) := by
  rw [procConn_eq_dispatch ho hst (by simp) (by simp [hbuf, need_sec]), hbuf]
  rfl

theorem processSecurityType_vncAuth (hn : NeedsAuth scr c) :
    processSecurityType true env scr hs legacy rand c 2 = sendChallenge rand c := by
  have h22 : (2 : UInt8).toNat = secVncAuth := by decide
  simp [processSecurityType, builtinType_needsAuth hn, h22, runHandler, secVncAuth_ne_secNone]

theorem processSecurityType_refused {t : UInt8} (hbi : t.toNat ≠ builtinType scr c)
    (hnone : hs.find? (fun h => h.type == t.toNat) = none) :
    processSecurityType true env scr hs legacy rand c t = close c := by
  simp [processSecurityType, hbi, hnone]

theorem procConn_auth_ok {resp : List UInt8} {vo : Bool} (ho : c.isOpen = true) (hp : c.peerClosed = false)
    (hst : c.st = .auth) (hbuf : c.inbuf = resp) (hlen : resp.length = 16) (hv : c.viewOnly = false)
    (hchk : passwordCheck env scr.pw c.challenge resp = some vo) :
    (procConn true env scr hs legacy rand c).1 =
      { c with inbuf := [], resp := some resp, viewOnly := vo, sent := .secResult true :: c.sent,
               st := .init } := by
  rw [procConn_of_msg ho hst (by simp) (by rw [hbuf, hlen, need_auth]), hbuf]
  simp only [dispatch]
  unfold processAuth
  simp only [hchk]
  unfold authOk
  simp [hp, hv, wr]

theorem procConn_init {b : UInt8} (ho : c.isOpen = true) (hp : c.peerClosed = false) (hst : c.st = .init)
    (hbuf : c.inbuf = [b]) :
    (procConn fixed env scr hs legacy rand c).1 =
      { c with inbuf := [], st := .normal,
               sent := if c.tight then .tightInteractionCaps :: .serverInit :: c.sent
                       else .serverInit :: c.sent } := by
  rw [procConn_of_msg ho hst (by simp) (by rw [hbuf, need_init]; rfl)]
  simp only [dispatch]
  unfold processClientInit
  by_cases ht : c.tight <;> simp [hp, ht, wr]

theorem processVersion_needsAuth {pv : List UInt8} {minor : Int} (hn : NeedsAuth scr c)
    (hparse : env.parseVer pv = some (3, minor)) :
    processVersion fixed env scr hs legacy rand c pv =
      if minor < 7 then (sendSecurityType rand { c with minor := minor } secVncAuth, legacy)
      else sendSecurityTypeList fixed hs legacy { c with minor := minor } secVncAuth := by
  have hb : builtinType scr { c with minor := minor } = secVncAuth := builtinType_needsAuth ⟨hn.1, hn.2⟩
  simp [processVersion, hparse, authNewClient, hb]

theorem procConn_version_list {pv : List UInt8} {minor : Int} (hn : NeedsAuth scr c) (ho : c.isOpen = true)
    (hp : c.peerClosed = false) (hst : c.st = .ver) (hbuf : c.inbuf = pv) (hlen : pv.length = 12)
    (hparse : env.parseVer pv = some (3, minor)) (hm : ¬ minor < 7) :
    (procConn true env scr hs legacy rand c).1 =
      { c with inbuf := [], minor := minor, sent := .secTypes (offered true hs legacy secVncAuth) :: c.sent,
               st := .sec } := by
  rw [procConn_of_msg ho hst (by simp) (by rw [hbuf, hlen, need_ver]), hbuf]
  simp only [dispatch]
  rw [processVersion_needsAuth (c := { c with inbuf := [] }) ⟨hn.1, hn.2⟩ hparse, if_neg hm]
  simp [sendSecurityTypeList, hp, offered_ne_nil, wr]

theorem procConn_version_33 {pv : List UInt8} {minor : Int} (hn : NeedsAuth scr c) (ho : c.isOpen = true)
    (hp : c.peerClosed = false) (hst : c.st = .ver) (hbuf : c.inbuf = pv) (hlen : pv.length = 12)
    (hparse : env.parseVer pv = some (3, minor)) (hm : minor < 7) :
    (procConn fixed env scr hs legacy rand c).1 =
      { c with inbuf := [], minor := minor, challenge := rand,
               sent := .challenge rand :: .secType33 secVncAuth :: c.sent, st := .auth } := by
  rw [procConn_of_msg ho hst (by simp) (by rw [hbuf, hlen, need_ver]), hbuf]
  simp only [dispatch]
  rw [processVersion_needsAuth (c := { c with inbuf := [] }) ⟨hn.1, hn.2⟩ hparse, if_pos hm]
  simp [sendSecurityType, sendChallenge, hp, secVncAuth_ne_secNone, wr]

theorem procConn_choose_vncAuth (hn : NeedsAuth scr c) (ho : c.isOpen = true) (hp : c.peerClosed = false)
    (hst : c.st = .sec) (hbuf : c.inbuf = [2]) :
    (procConn true env scr hs legacy rand c).1 =
      { c with inbuf := [], challenge := rand, sent := .challenge rand :: c.sent, st := .auth } := by
  rw [procConn_sec ho hst hbuf, processSecurityType_vncAuth (c := { c with inbuf := [] }) ⟨hn.1, hn.2⟩]
  simp [sendChallenge, hp, wr]

/-- choosing the TightVNC security type 16 on a connection that has to authenticate, with the auth
type "VNC" and a response that passes the check all in the input: tunnelling caps, auth caps,
challenge, SecurityResult OK, state INITIALISATION — in one call -/
theorem procConn_choose_tight {resp : List UInt8} {vo : Bool} (hn : NeedsAuth scr c)
    (ho : c.isOpen = true) (hp : c.peerClosed = false) (hst : c.st = .sec) (hv : c.viewOnly = false)
    (hbuf : c.inbuf = 16 :: 0 :: 0 :: 0 :: 2 :: resp) (hlen : resp.length = 16)
    (hreg : hs.find? (fun h => h.type == 16) = some .tight)
    (hchk : passwordCheck env scr.pw rand resp = some vo) :
    (procConn true env scr hs legacy rand c).1 =
      { c with inbuf := [], tight := true, challenge := rand, resp := some resp, viewOnly := vo,
               st := .init,
               sent := .secResult true :: .challenge rand :: .tightAuthCaps 1 :: .tightTunnelCaps :: c.sent } := by
  rw [procConn_sec ho hst hbuf]
  have ht : resp.take 16 = resp := by rw [← hlen]; exact List.take_length
  have hd : resp.drop 16 = [] := by rw [← hlen]; exact List.drop_length
  simp [processSecurityType, builtinType, secVncAuth, C05.rfbSecTypeVncAuth, hreg, runRegistered, tightHandler, hp, hn.1, hn.2, tightAuth, wr,
    C05.sz_rfbAuthenticationCapsMsg, C05.rfbAuthVNC, C05.CHALLENGESIZE, be32val, hlen, ht, hd, processAuth,
    hchk, authOk, hv]

variable {screens : List Screen} {s : Proc} {cid : Nat}

/-- one exchange: bytes arrive for `cid`, it is served once, then other connections and the environment act -/
theorem getConn_run_recv_proc {bytes : List UInt8} {c' : Conn} {o : List Ev}
    (hg : getConn s cid = some c) (hp : c.peerClosed = false) (hs : screens[c.screen]? = some scr)
    (ho : ∀ e ∈ o, e.foreign cid = true)
    (h : (procConn fixed env scr s.handlers s.legacy s.rand { c with inbuf := c.inbuf ++ bytes }).1 = c') :
    getConn (run fixed env screens (run fixed env screens s [.recv cid bytes, .proc cid]) o) cid =
      some c' := by
  rw [getConn_run_foreign ho, run_cons, run_cons, run_nil, getConn_proc (getConn_recv hg hp) hs, ← h]
  rfl

theorem getConn_run_auth_tight {resp : List UInt8} {vo : Bool} {shared : UInt8} {o1 o2 : List Ev}
    (hg : getConn s cid = some c) (hscr : screens[c.screen]? = some scr) (hn : NeedsAuth scr c)
    (ho : c.isOpen = true) (hp : c.peerClosed = false) (hst : c.st = .sec) (hbuf : c.inbuf = [])
    (hv : c.viewOnly = false) (hlen : resp.length = 16)
    (hreg : s.handlers.find? (fun h => h.type == 16) = some .tight)
    (hchk : passwordCheck env scr.pw s.rand resp = some vo)
    (ho1 : ∀ e ∈ o1, e.foreign cid = true) (ho2 : ∀ e ∈ o2, e.foreign cid = true) :
    getConn (run true env screens s
        ([.recv cid (16 :: 0 :: 0 :: 0 :: 2 :: resp), .proc cid] ++ o1 ++
         [.recv cid [shared], .proc cid] ++ o2)) cid =
      some { c with inbuf := [], tight := true, challenge := s.rand, resp := some resp, viewOnly := vo,
                    st := .normal,
                    sent := .tightInteractionCaps :: .serverInit :: .secResult true :: .challenge s.rand ::
                      .tightAuthCaps 1 :: .tightTunnelCaps :: c.sent } := by
  simp only [run_append]
  have f1 := getConn_run_recv_proc (bytes := 16 :: 0 :: 0 :: 0 :: 2 :: resp) hg hp hscr ho1
    (procConn_choose_tight hn ho hp hst hv (by simp [hbuf]) hlen hreg hchk)
  exact getConn_run_recv_proc f1 hp hscr ho2 (procConn_init ho hp rfl rfl)

end VncModel.Auth
