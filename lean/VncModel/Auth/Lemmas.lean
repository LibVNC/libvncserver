import VncModel.Auth.Model
/-
One call of rfbProcessClientMessage on one connection: the fields it never touches (`Same`, `Kept`),
the per-connection invariant of the FIXED handshake (`fixed = true`) and its preservation whatever
the global state is, and where the recorded response comes from.
-/
namespace VncModel.Auth

/-- neither "authentication succeeded" nor ServerInit has been written to this connection -/
def Clean (c : Conn) : Prop := Msg.secResult true ∉ c.sent ∧ Msg.serverInit ∉ c.sent

/-- the connection has proved the password: the 16 bytes it sent in state AUTHENTICATION pass the
screen's password check against the challenge that was written to it; `viewOnly` is what the check
returned -/
def Proved (env : Env) (scr : Screen) (c : Conn) : Prop :=
  ∃ r vo, c.resp = some r ∧ Msg.challenge c.challenge ∈ c.sent ∧
    passwordCheck env scr.pw c.challenge r = some vo ∧ c.viewOnly = vo

/-- a connection that has to authenticate: password screen, not a reverse connection -/
def NeedsAuth (scr : Screen) (c : Conn) : Prop := scr.pw ≠ .none ∧ c.reverse = false

/-- still before a successful check -/
def Pre (c : Conn) : Prop :=
  Clean c ∧ c.viewOnly = false ∧ (c.st = .ver ∨ c.st = .sec ∨ c.st = .auth) ∧
  (c.st = .auth → c.isOpen = true → Msg.challenge c.challenge ∈ c.sent)

def Post (env : Env) (scr : Screen) (c : Conn) : Prop :=
  Proved env scr c ∧ (c.isOpen = true → c.st = .init ∨ c.st = .normal)

def Inv (env : Env) (scr : Screen) (c : Conn) : Prop := Post env scr c ∨ Pre c

theorem proved_of_inv {env : Env} {scr : Screen} {c : Conn} (h : Inv env scr c)
    (hadm : c.st = .init ∨ c.st = .initShared ∨ c.st = .normal ∨
      Msg.secResult true ∈ c.sent ∨ Msg.serverInit ∈ c.sent) : Proved env scr c := by
  rcases h with ⟨hp, _⟩ | ⟨⟨hc1, hc2⟩, _, hst, _⟩
  · exact hp
  · have hne : c.st ≠ .init ∧ c.st ≠ .initShared ∧ c.st ≠ .normal := by
      rcases hst with h | h | h <;> simp [h]
    rcases hadm with h | h | h | h | h
    · exact absurd h hne.1
    · exact absurd h hne.2.1
    · exact absurd h hne.2.2
    · exact absurd h hc1
    · exact absurd h hc2

/-- What the theorems assume of the handler functions of application-registered security handlers
(application code): invoked on a connection in state SECURITY_TYPE that has not been admitted, they
do not admit it by themselves (no SecurityResult-OK, no ServerInit, no state beyond AUTHENTICATION,
viewOnly untouched), and they do not forge the recorded response.  The handler of the harness
(`appClose`: writes a marker, closes) satisfies it (`appOk_appClose`); the TightVNC extension's
handler is NOT covered by this assumption but modelled explicitly (`tightHandler`). -/
def AppOk (env : Env) : Prop :=
  ∀ t c, (Pre c → c.st = .sec → Pre (env.app t c)) ∧ (env.app t c).resp = c.resp

theorem builtinType_needsAuth {scr : Screen} {c : Conn} (h : NeedsAuth scr c) :
    builtinType scr c = secVncAuth := by
  obtain ⟨h1, h2⟩ := h
  simp [builtinType, h1, h2]

theorem secVncAuth_ne_secNone : secVncAuth ≠ secNone := by decide

/-- identity, screen, direction and the peer's half of the socket are never changed by the server -/
def Same (c c' : Conn) : Prop :=
  c'.id = c.id ∧ c'.screen = c.screen ∧ c'.reverse = c.reverse ∧ c'.peerClosed = c.peerClosed ∧
  c'.origin = c.origin

theorem Same.rfl' (c : Conn) : Same c c := ⟨rfl, rfl, rfl, rfl, rfl⟩

/-- `Same` and the same recorded response: what everything below rfbProcessClientSecurityType except the
password check itself keeps -/
def Kept (c c' : Conn) : Prop := Same c c' ∧ c'.resp = c.resp

theorem Kept.rfl' (c : Conn) : Kept c c := ⟨Same.rfl' c, rfl⟩

variable {fixed : Bool} {env : Env} {scr : Screen} {hs : List Handler} {legacy : List Nat} {rand : List UInt8}

/- A record update of a field outside `Kept` has the `Kept`-fields of `c` by computation, so the lemma of a
callee applies to such an argument as it is. -/

theorem sendString_kept (c : Conn) (s : List UInt8) : Kept c (sendString c s) := by
  unfold sendString
  split <;> exact Kept.rfl' c

theorem sendChallenge_kept (c : Conn) : Kept c (sendChallenge rand c) := by
  unfold sendChallenge
  simp only
  split <;> exact Kept.rfl' c

theorem processClientInit_kept (c : Conn) : Kept c (processClientInit c) := by
  unfold processClientInit
  simp only
  split
  · exact Kept.rfl' c
  · split <;> exact Kept.rfl' c

theorem vncAuthNoneTail_kept (c : Conn) : Kept c (vncAuthNoneTail c) := by
  unfold vncAuthNoneTail
  split
  · exact processClientInit_kept _
  · exact Kept.rfl' c

theorem vncAuthNone_kept (c : Conn) : Kept c (vncAuthNone c) := by
  unfold vncAuthNone
  split
  · split
    · exact Kept.rfl' c
    · exact vncAuthNoneTail_kept (wr c _)
  · exact vncAuthNoneTail_kept c

theorem sendSecurityType_kept (c : Conn) (t : Nat) :
    Kept c (sendSecurityType rand c t) := by
  unfold sendSecurityType
  split
  · exact Kept.rfl' c
  · split
    · exact Kept.rfl' c
    · exact sendChallenge_kept (wr c _)

theorem sendSecurityTypeList_kept (c : Conn)
    (t : Nat) : Kept c (sendSecurityTypeList fixed hs legacy c t).1 := by
  unfold sendSecurityTypeList
  simp only
  split
  · exact Kept.rfl' c
  · split
    · exact sendString_kept (wr c _) _
    · exact Kept.rfl' c

theorem authFail_kept (c : Conn) : Kept c (authFail c) := by
  unfold authFail
  split
  · exact Kept.rfl' c
  · split
    · exact sendString_kept (wr c _) _
    · exact Kept.rfl' c

theorem authOk_kept (c : Conn) (vo : Bool) : Kept c (authOk c vo) := by
  unfold authOk
  split <;> exact Kept.rfl' c

theorem tightNoAuth_kept (c : Conn) : Kept c (tightNoAuth c) := by
  unfold tightNoAuth
  simp only
  split <;> exact Kept.rfl' c

theorem processVersion_kept (c : Conn) (pv : List UInt8) :
    Kept c (processVersion fixed env scr hs legacy rand c pv).1 := by
  unfold processVersion
  split
  · exact Kept.rfl' c
  · split
    · exact Kept.rfl' c
    · unfold authNewClient
      simp only
      split
      · exact sendSecurityType_kept { c with minor := _ } _
      · exact sendSecurityTypeList_kept { c with minor := _ } _

theorem processAuth_kept (c : Conn) (r : List UInt8) :
    Kept { c with resp := some r } (processAuth env scr c r) := by
  unfold processAuth
  split
  · exact authFail_kept _
  · exact authOk_kept _ _

theorem tightAuth_kept (c : Conn) :
    Kept c (tightAuth env scr rand c) ∨
    Kept { c with resp := some ((c.inbuf.drop 4).take Gen.C05.CHALLENGESIZE) } (tightAuth env scr rand c) := by
  unfold tightAuth
  simp only
  split
  · exact Or.inl (Kept.rfl' c)
  · split
    · exact Or.inl (Kept.rfl' c)
    · split
      · exact Or.inl (Kept.rfl' c)
      · exact Or.inr (processAuth_kept _ _)

theorem tightHandler_kept (c : Conn) :
    Kept c (tightHandler env scr rand c) ∨
    Kept { c with resp := some ((c.inbuf.drop 4).take Gen.C05.CHALLENGESIZE) } (tightHandler env scr rand c) := by
  unfold tightHandler
  simp only
  split
  · exact Or.inl (Kept.rfl' c)
  · split
    · exact tightAuth_kept (wr { c with tight := true } .tightTunnelCaps)
    · exact Or.inl (tightNoAuth_kept (wr { c with tight := true } .tightTunnelCaps))

theorem runHandler_kept (c : Conn) (t : Nat) : Kept c (runHandler rand c t) := by
  unfold runHandler
  split
  · exact vncAuthNone_kept c
  · exact sendChallenge_kept c

theorem runRegistered_same (c : Conn) (h : Handler) :
    Same c (runRegistered env scr rand c h) := by
  cases h with
  | tight => exact (tightHandler_kept c).elim And.left And.left
  | app t => exact Same.rfl' c

theorem processSecurityType_same (c : Conn) (t : UInt8) :
    Same c (processSecurityType fixed env scr hs legacy rand c t) := by
  unfold processSecurityType
  split
  · split
    · exact (runHandler_kept c _).1
    · split
      · exact runRegistered_same _ _
      · exact Same.rfl' c
  · split
    · exact (runHandler_kept c _).1
    · exact Same.rfl' c

theorem dispatch_same (st : St) (c : Conn) (msg : List UInt8) :
    Same c (dispatch fixed env scr hs legacy rand st c msg).1 := by
  cases st <;> simp only [dispatch]
  · exact (processVersion_kept _ _).1
  · exact processSecurityType_same _ _
  · exact (processAuth_kept _ _).1
  · exact (processClientInit_kept _).1
  · exact (processClientInit_kept _).1
  · exact Same.rfl' c

theorem procConn_cases (c : Conn) (P : Conn → Prop) (hnone : P c)
    (hshort : P (close { c with inbuf := [] }))
    (hmsg : c.isOpen = true → c.st ≠ .normal →
      P (dispatch fixed env scr hs legacy rand c.st { c with inbuf := c.inbuf.drop (need c.st) }
          (c.inbuf.take (need c.st))).1) :
    P (procConn fixed env scr hs legacy rand c).1 := by
  unfold procConn
  split
  · exact hnone
  · split
    · exact hnone
    · split
      · exact hshort
      · exact hmsg (by simp_all) ‹_›

theorem procConn_same (fixed : Bool) (env : Env) (scr : Screen) (hs : List Handler) (legacy : List Nat)
    (rand : List UInt8) (c : Conn) : Same c (procConn fixed env scr hs legacy rand c).1 :=
  procConn_cases c (Same c) (Same.rfl' c) (Same.rfl' c)
    (fun _ _ => dispatch_same _ { c with inbuf := _ } _)

theorem pre_close {c : Conn} (h : Pre c) : Pre (close c) :=
  ⟨h.1, h.2.1, h.2.2.1, by simp [close]⟩

theorem clean_wr {c : Conn} (h : Clean c) {m : Msg} (h1 : m ≠ .secResult true) (h2 : m ≠ .serverInit) :
    Clean (wr c m) :=
  ⟨fun hm => (List.mem_cons.mp hm).elim (fun e => h1 e.symm) h.1,
   fun hm => (List.mem_cons.mp hm).elim (fun e => h2 e.symm) h.2⟩

theorem pre_wr {c : Conn} (h : Pre c) {m : Msg} (h1 : m ≠ .secResult true) (h2 : m ≠ .serverInit) :
    Pre (wr c m) :=
  ⟨clean_wr h.1 h1 h2, h.2.1, h.2.2.1, fun hst ho => List.mem_cons_of_mem _ (h.2.2.2 hst ho)⟩

theorem pre_of_sec {c : Conn} (hc : Clean c) (hv : c.viewOnly = false) (hst : c.st = .sec) : Pre c :=
  ⟨hc, hv, Or.inr (Or.inl hst), fun h => by rw [hst] at h; cases h⟩

theorem sendChallenge_pre {c : Conn} (h : Pre c) : Pre (sendChallenge rand c) := by
  unfold sendChallenge
  simp only
  split
  · exact ⟨h.1, h.2.1, h.2.2.1, by simp [close]⟩
  · exact ⟨clean_wr h.1 (by simp) (by simp), h.2.1, Or.inr (Or.inr rfl), fun _ _ => List.mem_cons_self⟩

/-- rfbClientSendString, and the harness' handler -/
theorem pre_write_close {c : Conn} (h : Pre c) {m : Msg} (h1 : m ≠ .secResult true) (h2 : m ≠ .serverInit) :
    Pre (if c.peerClosed then close c else close (wr c m)) := by
  split
  · exact pre_close h
  · exact pre_close (pre_wr h h1 h2)

theorem sendString_pre {c : Conn} (s : List UInt8) (h : Pre c) : Pre (sendString c s) :=
  pre_write_close h (by simp) (by simp)

/-- the application handler of the harness meets the assumption -/
theorem appOk_appClose (enc : List UInt8 → List UInt8 → List UInt8) (decFile : List UInt8 → Option (List UInt8))
    (parseVer : List UInt8 → Option (Int × Int)) :
    AppOk { enc := enc, decFile := decFile, parseVer := parseVer, app := fun _ c => appClose c } := by
  intro t c
  refine ⟨fun h _ => pre_write_close h (by simp) (by simp), ?_⟩
  simp only [appClose]
  split <;> rfl

theorem sendSecurityType_pre {d : Conn} (h : Pre d) :
    Pre (sendSecurityType rand d secVncAuth) := by
  unfold sendSecurityType
  split
  · exact pre_close h
  · rw [if_neg secVncAuth_ne_secNone]
    exact sendChallenge_pre (pre_wr h (by simp) (by simp))

theorem sendSecurityTypeList_pre (t : Nat)
    {d : Conn} (h : Pre d) : Pre (sendSecurityTypeList fixed hs legacy d t).1 := by
  unfold sendSecurityTypeList
  simp only
  split
  · exact pre_close h
  · split
    · exact sendString_pre _ (pre_wr h (by simp) (by simp))
    · exact pre_of_sec (clean_wr h.1 (by simp) (by simp)) h.2.1 rfl

theorem processVersion_pre {c : Conn}
    (pv : List UInt8) (hn : NeedsAuth scr c) (h : Pre c) :
    Pre (processVersion fixed env scr hs legacy rand c pv).1 := by
  unfold processVersion
  split
  · exact pre_close h
  · rename_i major minor _
    split
    · exact pre_close h
    · have hb : builtinType scr { c with minor := minor } = secVncAuth := builtinType_needsAuth hn
      unfold authNewClient
      simp only [hb]
      split
      · exact sendSecurityType_pre (d := { c with minor := minor }) h
      · exact sendSecurityTypeList_pre _ (d := { c with minor := minor }) h

theorem authFail_pre {d : Conn} (h : Pre d) : Pre (authFail d) := by
  unfold authFail
  split
  · exact pre_close h
  · split
    · exact sendString_pre _ (pre_wr h (by simp) (by simp))
    · exact pre_close (pre_wr h (by simp) (by simp))

theorem authOk_post {d : Conn} (r : List UInt8) (vo : Bool)
    (hr : d.resp = some r) (hv : d.viewOnly = false) (hch : Msg.challenge d.challenge ∈ d.sent)
    (hchk : passwordCheck env scr.pw d.challenge r = some vo) : Post env scr (authOk d vo) := by
  unfold authOk
  split
  · exact ⟨⟨r, vo, hr, hch, hchk, by simp [close, hv]⟩, by simp [close]⟩
  · exact ⟨⟨r, vo, hr, List.mem_cons_of_mem _ hch, hchk, by simp [wr, hv]⟩, fun _ => Or.inl rfl⟩

theorem processAuth_inv {c : Conn} (r : List UInt8) (h : Pre c)
    (hch : Msg.challenge c.challenge ∈ c.sent) : Inv env scr (processAuth env scr c r) := by
  unfold processAuth
  split
  · exact Or.inr (authFail_pre (d := { c with resp := some r }) h)
  · rename_i vo hchk
    exact Or.inl (authOk_post (d := { c with resp := some r }) r vo rfl h.2.1 hch hchk)

theorem tightAuth_inv {d : Conn} (h : Pre d)
    (hst : d.st = .sec) : Inv env scr (tightAuth env scr rand d) := by
  have h1 : Pre (wr d (.tightAuthCaps 1)) := pre_wr h (by simp) (by simp)
  have h2 : ∀ buf, Pre (wr { wr d (.tightAuthCaps 1) with inbuf := buf, challenge := rand } (.challenge rand)) :=
    fun _ => pre_of_sec (clean_wr h1.1 (by simp) (by simp)) h.2.1 hst
  unfold tightAuth
  simp only
  split
  · exact Or.inr (pre_close h1)
  · split
    · exact Or.inr (pre_close h1)
    · split
      · exact Or.inr (pre_close (h2 _))
      · exact processAuth_inv _ (h2 _) List.mem_cons_self

theorem tightHandler_inv {c : Conn}
    (hn : NeedsAuth scr c) (h : Pre c) (hst : c.st = .sec) :
    Inv env scr (tightHandler env scr rand c) := by
  unfold tightHandler
  simp only
  split
  · exact Or.inr (pre_close h)
  · rw [if_pos ⟨hn.1, hn.2⟩]
    exact tightAuth_inv (d := wr { c with tight := true } .tightTunnelCaps)
      (pre_wr h (by simp) (by simp)) hst

theorem processSecurityType_inv (happ : AppOk env) {c : Conn}
    (t : UInt8) (hn : NeedsAuth scr c) (h : Pre c) (hst : c.st = .sec) :
    Inv env scr (processSecurityType true env scr hs legacy rand c t) := by
  unfold processSecurityType
  simp only [if_true, builtinType_needsAuth hn]
  split
  · rename_i ht
    rw [runHandler, ht, if_neg secVncAuth_ne_secNone]
    exact Or.inr (sendChallenge_pre h)
  · split
    · rename_i hd _
      cases hd with
      | tight => exact tightHandler_inv hn h hst
      | app k => exact Or.inr ((happ k c).1 h hst)
    · exact Or.inr (pre_close h)

theorem proved_wr {env : Env} {scr : Screen} {c : Conn} (h : Proved env scr c) (m : Msg) :
    Proved env scr (wr c m) := by
  obtain ⟨r, vo, h1, h2, h3, h4⟩ := h
  exact ⟨r, vo, h1, List.mem_cons_of_mem _ h2, h3, h4⟩

theorem processClientInit_post {c : Conn} (h : Proved env scr c) :
    Post env scr (processClientInit c) := by
  unfold processClientInit
  simp only
  split
  · exact ⟨h, by simp [close]⟩
  · split
    · exact ⟨proved_wr (proved_wr h _) _, fun _ => Or.inr rfl⟩
    · exact ⟨proved_wr h _, fun _ => Or.inr rfl⟩

theorem dispatch_inv (happ : AppOk env) {d : Conn}
    (msg : List UInt8) (hn : NeedsAuth scr d) (h : Inv env scr d) (ho : d.isOpen = true)
    (h2 : d.st ≠ .normal) : Inv env scr (dispatch true env scr hs legacy rand d.st d msg).1 := by
  rcases h with ⟨hp, hst⟩ | hp
  · rcases hst ho with hst | hst
    · rw [hst]
      exact Or.inl (processClientInit_post hp)
    · exact absurd hst h2
  · rcases hp.2.2.1 with hst | hst | hst <;> rw [hst]
    · exact Or.inr (processVersion_pre _ hn hp)
    · exact processSecurityType_inv (legacy := legacy) happ _ hn hp hst
    · exact processAuth_inv _ hp (hp.2.2.2 hst ho)

/-- **the step lemma**: whatever the registered handlers, the global state and the random source are -/
theorem procConn_inv (happ : AppOk env) {c : Conn}
    (hn : NeedsAuth scr c) (h : Inv env scr c) :
    Inv env scr (procConn true env scr hs legacy rand c).1 :=
  procConn_cases c (Inv env scr) h
    (h.imp (fun hp => ⟨hp.1, by simp [close]⟩) pre_close)
    (fun ho h2 => dispatch_inv happ
      (d := { c with inbuf := c.inbuf.drop (need c.st) }) _ hn h ho h2)

theorem processSecurityType_resp (happ : AppOk env) (c : Conn) (t : UInt8) :
    (processSecurityType fixed env scr hs legacy rand c t).resp = c.resp ∨
    (processSecurityType fixed env scr hs legacy rand c t).resp =
      some ((c.inbuf.drop 4).take Gen.C05.CHALLENGESIZE) := by
  unfold processSecurityType
  split
  · split
    · exact Or.inl (runHandler_kept c _).2
    · split
      · rename_i hd _
        cases hd with
        | tight => exact (tightHandler_kept c).imp And.right And.right
        | app k => exact Or.inl (happ k c).2
      · exact Or.inl rfl
  · split
    · exact Or.inl (runHandler_kept c _).2
    · exact Or.inl rfl

theorem dispatch_resp (happ : AppOk env) (st : St) (d : Conn) (msg : List UInt8) :
    (dispatch fixed env scr hs legacy rand st d msg).1.resp = d.resp ∨
    (dispatch fixed env scr hs legacy rand st d msg).1.resp =
      some ((d.inbuf.drop 4).take Gen.C05.CHALLENGESIZE) ∨
    (st = .auth ∧ (dispatch fixed env scr hs legacy rand st d msg).1.resp = some msg) := by
  cases st <;> simp only [dispatch]
  · exact Or.inl (processVersion_kept _ _).2
  · exact (processSecurityType_resp happ d (msg.headD 0)).imp_right Or.inl
  · exact Or.inr (Or.inr ⟨trivial, (processAuth_kept _ _).2⟩)
  · exact Or.inl (processClientInit_kept _).2
  · exact Or.inl (processClientInit_kept _).2
  · exact Or.inl trivial

theorem procConn_resp (happ : AppOk env) (c : Conn) :
    (procConn fixed env scr hs legacy rand c).1.resp = c.resp ∨
    (c.isOpen = true ∧ ∃ k, (procConn fixed env scr hs legacy rand c).1.resp =
      some ((c.inbuf.drop k).take Gen.C05.CHALLENGESIZE)) := by
  refine procConn_cases c
    (fun c' => c'.resp = c.resp ∨
      (c.isOpen = true ∧ ∃ k, c'.resp = some ((c.inbuf.drop k).take Gen.C05.CHALLENGESIZE)))
    (Or.inl rfl) (Or.inl rfl) (fun ho _ => ?_)
  rcases dispatch_resp happ c.st
    { c with inbuf := c.inbuf.drop (need c.st) } (c.inbuf.take (need c.st)) with h | h | ⟨hst, h⟩
  · exact Or.inl h
  · exact Or.inr ⟨ho, need c.st + 4, by rw [h]; simp only [List.drop_drop]⟩
  · exact Or.inr ⟨ho, 0, by rw [h, hst]; rfl⟩

end VncModel.Auth
