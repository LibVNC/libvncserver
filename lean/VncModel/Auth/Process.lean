import VncModel.Auth.Lemmas
/-
Process level: properties of single connections carried over all interleaved traces
(`ConnInvariant`: the handshake invariant, the exemption flag), the registered handlers against the
history, the list checker as a search for the first match, and what events do to the connection they address
and to the others.
-/
namespace VncModel.Auth

/-- `P` holds of a new client record and is kept by everything an event can do to a record: more
input, the peer closing its end, one call of rfbProcessClientMessage in whatever process-global state.
(The other events do not touch the records.) -/
structure ConnInvariant (fixed : Bool) (env : Env) (screens : List Screen) (P : Conn → Prop) : Prop where
  connect : ∀ cid sid rev, P { id := cid, screen := sid, reverse := rev,
                               origin := if rev then .reverse else .inbound, sent := [.version] }
  recv : ∀ c bytes, P c → P { c with inbuf := c.inbuf ++ bytes }
  peerClose : ∀ c, P c → P { c with peerClosed := true }
  proc : ∀ c scr hs legacy rand, screens[c.screen]? = some scr → P c →
    P (procConn fixed env scr hs legacy rand c).1

theorem ConnInvariant.step {fixed : Bool} {env : Env} {screens : List Screen} {P : Conn → Prop}
    (hP : ConnInvariant fixed env screens P) (s : Proc) (e : Ev) (h : ∀ c ∈ s.conns, P c) :
    ∀ c ∈ (step fixed env screens s e).conns, P c := by
  cases e with
  | connect cid sid rev =>
    simp only [Auth.step]
    split
    · exact h
    · split
      · exact h
      · intro c hc
        rcases List.mem_cons.mp hc with rfl | hc
        · exact hP.connect cid sid rev
        · exact h c hc
  | recv cid bytes =>
    intro c hc
    obtain ⟨d, hd, rfl⟩ := List.mem_map.mp hc
    split
    · exact hP.recv d bytes (h d hd)
    · exact h d hd
  | peerClose cid =>
    intro c hc
    obtain ⟨d, hd, rfl⟩ := List.mem_map.mp hc
    split
    · exact hP.peerClose d (h d hd)
    · exact h d hd
  | proc cid =>
    simp only [Auth.step]
    cases hg : getConn s cid with
    | none => exact h
    | some c0 =>
      simp only
      cases hs0 : screens[c0.screen]? with
      | none => exact h
      | some scr0 =>
        intro c hc
        obtain ⟨d, hd, rfl⟩ := List.mem_map.mp hc
        split
        · exact hP.proc c0 scr0 _ _ _ hs0 (h c0 (List.mem_of_find?_eq_some hg))
        · exact h d hd
  | setRand r => exact h
  | reverseFailed sid => exact h
  | register hd => exact h
  | unregister hd => exact h

theorem ConnInvariant.run {fixed : Bool} {env : Env} {screens : List Screen} {P : Conn → Prop}
    (hP : ConnInvariant fixed env screens P) (evs : List Ev) (s : Proc) (h : ∀ c ∈ s.conns, P c) :
    ∀ c ∈ (run fixed env screens s evs).conns, P c := by
  induction evs generalizing s with
  | nil => exact h
  | cons e es ih => exact ih _ (hP.step s e h)

theorem inv_connInvariant {env : Env} (happ : AppOk env) (screens : List Screen) :
    ConnInvariant true env screens
      (fun c => ∀ scr, screens[c.screen]? = some scr → NeedsAuth scr c → Inv env scr c) where
  connect _ _ _ _ _ _ := Or.inr ⟨⟨by simp, by simp⟩, rfl, Or.inl rfl, by simp⟩
  recv _ _ h := h
  peerClose _ h := h
  proc c scr hs legacy rand hscr h scr' hscr' hn := by
    -- the call keeps the screen and the direction, so it is the same screen and still has to authenticate
    obtain ⟨_, h2, h3, _, _⟩ := procConn_same true env scr hs legacy rand c
    rw [h2, hscr] at hscr'
    cases hscr'
    have hn0 : NeedsAuth scr c := ⟨hn.1, h3 ▸ hn.2⟩
    exact procConn_inv happ hn0 (h scr hscr hn0)

/-- the flag the authentication code reads agrees with how the client record came into being -/
def ExemptOk (c : Conn) : Prop := (c.reverse = true ↔ c.origin = .reverse)

theorem exemptOk_connInvariant (fixed : Bool) (env : Env) (screens : List Screen) :
    ConnInvariant fixed env screens ExemptOk where
  connect _ _ rev := by cases rev <;> simp [ExemptOk]
  recv _ _ h := h
  peerClose _ h := h
  proc c scr hs legacy rand _ h := by
    obtain ⟨_, _, h3, _, h5⟩ := procConn_same fixed env scr hs legacy rand c
    unfold ExemptOk
    rw [h3, h5]
    exact h

/-- what the history says about handler `h`: the last `register h` / `unregister h` event decides -/
def regAfter (b : Bool) (h : Handler) : List Ev → Bool
  | [] => b
  | .register h' :: es => regAfter (if h' = h then true else b) h es
  | .unregister h' :: es => regAfter (if h' = h then false else b) h es
  | _ :: es => regAfter b h es

theorem step_handlers (fixed : Bool) (env : Env) (screens : List Screen) (s : Proc) (e : Ev) :
    (step fixed env screens s e).handlers =
      match e with
      | .register h => if h ∈ s.handlers then s.handlers else h :: s.handlers
      | .unregister h => s.handlers.erase h
      | _ => s.handlers := by
  cases e with
  | connect cid sid rev => simp only [step]; split <;> (try split) <;> rfl
  | recv cid bytes => rfl
  | proc cid => simp only [step]; split <;> (try split) <;> rfl
  | peerClose cid => rfl
  | setRand r => rfl
  | reverseFailed sid => rfl
  | register h => rfl
  | unregister h => rfl

theorem decide_mem_register (l : List Handler) (h h' : Handler) :
    decide (h ∈ if h' ∈ l then l else h' :: l) = if h' = h then true else decide (h ∈ l) := by
  by_cases heq : h' = h <;> by_cases hm : h' ∈ l <;> simp_all [eq_comm]

theorem decide_mem_unregister (l : List Handler) (hnd : l.Nodup) (h h' : Handler) :
    decide (h ∈ l.erase h') = if h' = h then false else decide (h ∈ l) := by
  by_cases heq : h' = h
  · simp [hnd.mem_erase_iff, heq]
  · simp [hnd.mem_erase_iff, heq, Ne.symm heq]

/-- In every reachable state the list of registered handlers has no duplicates and holds exactly the
handlers whose last (un)registration in the history is a registration — whatever connections did in
between, in whatever order handlers were registered, registered again, or unregistered (head, middle
or tail of the list, or not in it at all). -/
theorem handlers_follow_history (fixed : Bool) (env : Env) (screens : List Screen) (evs : List Ev)
    (s : Proc) (hnd : s.handlers.Nodup) :
    (run fixed env screens s evs).handlers.Nodup ∧
    ∀ h, h ∈ (run fixed env screens s evs).handlers ↔ regAfter (decide (h ∈ s.handlers)) h evs = true := by
  induction evs generalizing s with
  | nil => exact ⟨hnd, fun h => by simp [run, regAfter]⟩
  | cons e es ih =>
    -- the step keeps the list duplicate-free and changes membership as `regAfter` changes its flag
    have hstep : (step fixed env screens s e).handlers.Nodup ∧ ∀ h,
        regAfter (decide (h ∈ (step fixed env screens s e).handlers)) h es =
          regAfter (decide (h ∈ s.handlers)) h (e :: es) := by
      rw [step_handlers]
      cases e with
      | register h' =>
        refine ⟨?_, fun h => by rw [regAfter, decide_mem_register]⟩
        simp only
        split
        · exact hnd
        · exact List.nodup_cons.mpr ⟨‹_›, hnd⟩
      | unregister h' => exact ⟨hnd.erase _, fun h => by rw [regAfter, decide_mem_unregister _ hnd]⟩
      | _ => exact ⟨hnd, fun h => rfl⟩
    obtain ⟨ih1, ih2⟩ := ih _ hstep.1
    exact ⟨ih1, fun h => (ih2 h).trans (by rw [hstep.2])⟩

theorem checkList_eq_findIdx? (enc : List UInt8 → List UInt8 → List UInt8) (chal resp : List UInt8)
    (fvo : Int) (pws : List (List UInt8)) (k : Nat) :
    checkList enc chal resp fvo pws k =
      (pws.findIdx? (fun pw => decide (enc pw chal = resp))).map
        (fun i => decide (fvo ≤ ((k + i : Nat) : Int))) := by
  induction pws generalizing k with
  | nil => rfl
  | cons pw rest ih =>
    rw [checkList, List.findIdx?_cons, ih]
    by_cases hm : enc pw chal = resp
    · simp [hm]
    · simp [hm, Option.map_map, Function.comp_def, Nat.add_assoc, Nat.add_comm 1]

/-- events that do not address connection `cid` -/
def Ev.foreign (cid : Nat) : Ev → Bool
  | .connect c _ _ => c != cid
  | .recv c _ => c != cid
  | .proc c => c != cid
  | .peerClose c => c != cid
  | .setRand _ => true
  | .reverseFailed _ => true
  | .register _ => true
  | .unregister _ => true

theorem getConn_id {s : Proc} {cid : Nat} {c : Conn} (h : getConn s cid = some c) : c.id = cid := by
  simpa using List.find?_some h

theorem find?_id_map (f : Conn → Conn) (hf : ∀ d, (f d).id = d.id) (l : List Conn) (cid : Nat) :
    (l.map f).find? (fun c => c.id == cid) = (l.find? (fun c => c.id == cid)).map f := by
  rw [List.find?_map]
  congr 2
  funext d
  simp [hf d]

theorem find?_id_map_other (f : Conn → Conn) (hf : ∀ d, (f d).id = d.id) (l : List Conn) (cid : Nat)
    (hfix : ∀ d, d.id = cid → f d = d) :
    (l.map f).find? (fun c => c.id == cid) = l.find? (fun c => c.id == cid) := by
  rw [find?_id_map f hf]
  cases h : l.find? (fun c => c.id == cid) with
  | none => rfl
  | some c => rw [Option.map_some, hfix c (by simpa using List.find?_some h)]

theorem getConn_foreign {fixed : Bool} {env : Env} {screens : List Screen} {s : Proc} {e : Ev} {cid : Nat}
    (hf : e.foreign cid = true) : getConn (step fixed env screens s e) cid = getConn s cid := by
  cases e with
  | connect c sid rev =>
    have hne : (c == cid) = false := by simpa [Ev.foreign] using hf
    simp only [step]
    split
    · rfl
    · split
      · rfl
      · simp [getConn, hne]
  | recv c bytes =>
    have hne : c ≠ cid := by simpa [Ev.foreign] using hf
    exact find?_id_map_other _ (fun d => by split <;> rfl) _ _
      (fun d hd => if_neg (by simp [hd, Ne.symm hne]))
  | peerClose c =>
    have hne : c ≠ cid := by simpa [Ev.foreign] using hf
    exact find?_id_map_other _ (fun d => by split <;> rfl) _ _
      (fun d hd => if_neg (by simp [hd, Ne.symm hne]))
  | proc c =>
    have hne : c ≠ cid := by simpa [Ev.foreign] using hf
    simp only [step]
    cases hg : getConn s c with
    | none => rfl
    | some c0 =>
      simp only
      cases hs0 : screens[c0.screen]? with
      | none => rfl
      | some scr0 =>
        have hid := (procConn_same fixed env scr0 s.handlers s.legacy s.rand c0).1.trans (getConn_id hg)
        refine find?_id_map_other _ (fun d => ?_) _ _ (fun d hd => if_neg (by simp [hd, Ne.symm hne]))
        split
        · rw [hid]; simp_all
        · rfl
  | setRand r => rfl
  | reverseFailed sid => rfl
  | register hd => rfl
  | unregister hd => rfl

theorem getConn_run_foreign {fixed : Bool} {env : Env} {screens : List Screen} {evs : List Ev} {s : Proc}
    {cid : Nat} (hf : ∀ e ∈ evs, e.foreign cid = true) :
    getConn (run fixed env screens s evs) cid = getConn s cid := by
  induction evs generalizing s with
  | nil => rfl
  | cons e es ih =>
    simp only [run, List.foldl_cons]
    have := ih (s := step fixed env screens s e) (fun e' he' => hf e' (List.mem_cons_of_mem _ he'))
    simp only [run] at this
    rw [this]
    exact getConn_foreign (hf e List.mem_cons_self)

theorem run_nil (fixed : Bool) (env : Env) (screens : List Screen) (s : Proc) :
    run fixed env screens s [] = s := rfl

theorem run_cons (fixed : Bool) (env : Env) (screens : List Screen) (s : Proc) (e : Ev) (es : List Ev) :
    run fixed env screens s (e :: es) = run fixed env screens (step fixed env screens s e) es := rfl

theorem run_append {fixed : Bool} {env : Env} {screens : List Screen} {s : Proc} {a b : List Ev} :
    run fixed env screens s (a ++ b) = run fixed env screens (run fixed env screens s a) b := by
  simp [run, List.foldl_append]

theorem getConn_recv {fixed : Bool} {env : Env} {screens : List Screen} {s : Proc} {cid : Nat}
    {bytes : List UInt8} {c : Conn} (hg : getConn s cid = some c) (hp : c.peerClosed = false) :
    getConn (step fixed env screens s (.recv cid bytes)) cid = some { c with inbuf := c.inbuf ++ bytes } := by
  refine (find?_id_map _ (fun d => by split <;> rfl) _ _).trans ?_
  rw [show s.conns.find? (fun c => c.id == cid) = some c from hg]
  simp [getConn_id hg, hp]

theorem getConn_proc {fixed : Bool} {env : Env} {screens : List Screen} {s : Proc} {cid : Nat}
    {c : Conn} {scr : Screen} (hg : getConn s cid = some c) (hs : screens[c.screen]? = some scr) :
    getConn (step fixed env screens s (.proc cid)) cid =
      some (procConn fixed env scr s.handlers s.legacy s.rand c).1 := by
  have hid := (procConn_same fixed env scr s.handlers s.legacy s.rand c).1.trans (getConn_id hg)
  simp only [step, hg, hs]
  refine (find?_id_map _ (fun d => ?_) _ _).trans ?_
  · split
    · rw [hid]; simp_all
    · rfl
  · rw [show s.conns.find? (fun c => c.id == cid) = some c from hg]
    simp [getConn_id hg]

end VncModel.Auth
