import VncModel.Client.FbLemmas
/-!
Painting the decoded tiles one after the other (`blitTiles`, what the tile loops of hextile.c,
trle.c and zrle.c do) gives the rectangle that `Spec.assemble` describes.

A cell of the rectangle lies in exactly one tile of `tileGrid`, the one with index `tileIdx`; the
tiles painted before it and after it leave the cell alone, and `Spec.assemble` looks the cell up in
that same tile.
-/
namespace VncModel.Client
open VncModel.Enc.Spec

def blitTiles (fb : FB) (rx ry : Nat) : List TileRect → List (List Pixel) → FB
  | t :: ts, px :: pxs => blitTiles (blit fb (rx + t.x) (ry + t.y) t.w t.h px) rx ry ts pxs
  | _, _ => fb

inductive TileLens : List TileRect → List (List Pixel) → Prop
  | nil : TileLens [] []
  | cons {t : TileRect} {px : List Pixel} {ts : List TileRect} {pxs : List (List Pixel)} :
      px.length = t.w * t.h → TileLens ts pxs → TileLens (t :: ts) (px :: pxs)

theorem tileLens_of_getElem : ∀ {ts : List TileRect} {pxs : List (List Pixel)}, pxs.length = ts.length →
    (∀ j (h1 : j < ts.length) (h2 : j < pxs.length), (pxs[j]).length = (ts[j]).w * (ts[j]).h) →
    TileLens ts pxs
  | [], [], _, _ => .nil
  | t :: ts, px :: pxs, hl, h =>
    .cons (h 0 (by simp) (by simp)) (tileLens_of_getElem (by simpa using hl)
      fun j h1 h2 => h (j + 1) (by simpa using h1) (by simpa using h2))
  | [], _ :: _, hl, _ => by simp at hl
  | _ :: _, [], hl, _ => by simp at hl

def tileOf (T : Nat) (g : Geometry) (k : Nat) : TileRect :=
  ⟨(k % ((g.w + T - 1) / T)) * T, (k / ((g.w + T - 1) / T)) * T,
   min T (g.w - (k % ((g.w + T - 1) / T)) * T), min T (g.h - (k / ((g.w + T - 1) / T)) * T)⟩

theorem tileGrid_eq (T : Nat) (g : Geometry) :
    tileGrid T g = (List.range (((g.h + T - 1) / T) * ((g.w + T - 1) / T))).map (tileOf T g) := rfl

/-- index of the tile containing the cell with local coordinates `x,y` -/
def tileIdx (T : Nat) (g : Geometry) (x y : Nat) : Nat := (y / T) * ((g.w + T - 1) / T) + x / T

/-- position of that cell inside its tile (row-major) -/
def tileLoc (T : Nat) (g : Geometry) (x y : Nat) : Nat := (y % T) * (min T (g.w - (x / T) * T)) + x % T

theorem tile_origin_lt {T n a : Nat} (hT : 0 < T) (ha : a < (n + T - 1) / T) : a * T < n := by
  have h1 := Nat.div_add_mod (n + T - 1) T
  have h2 := Nat.mod_lt (n + T - 1) hT
  have h3 : (a + 1) * T ≤ ((n + T - 1) / T) * T := Nat.mul_le_mul_right T ha
  rw [Nat.succ_mul, Nat.mul_comm ((n + T - 1) / T)] at h3
  omega

theorem ceil_div_gt {T w x : Nat} (hT : 0 < T) (hx : x < w) : x / T < (w + T - 1) / T := by
  rw [Nat.div_lt_iff_lt_mul hT]
  have := Nat.div_add_mod (w + T - 1) T
  have := Nat.mod_lt (w + T - 1) hT
  rw [Nat.mul_comm]
  omega

theorem tileOf_bounds {T : Nat} (hT : 0 < T) (g : Geometry) {k : Nat}
    (hk : k < ((g.h + T - 1) / T) * ((g.w + T - 1) / T)) :
    (tileOf T g k).x + (tileOf T g k).w ≤ g.w ∧ (tileOf T g k).y + (tileOf T g k).h ≤ g.h ∧
    1 ≤ (tileOf T g k).w ∧ 1 ≤ (tileOf T g k).h ∧ (tileOf T g k).w ≤ T ∧ (tileOf T g k).h ≤ T := by
  have htpr : 0 < (g.w + T - 1) / T := Nat.pos_of_ne_zero fun e => by simp [e] at hk
  have h1 := tile_origin_lt hT (Nat.mod_lt k htpr)
  have h2 := tile_origin_lt hT (a := k / ((g.w + T - 1) / T)) (n := g.h)
    (Nat.div_lt_of_lt_mul (by rwa [Nat.mul_comm]))
  simp only [tileOf]
  omega

theorem mem_tileGrid_iff {T : Nat} {g : Geometry} {t : TileRect} :
    t ∈ tileGrid T g ↔ ∃ k, k < ((g.h + T - 1) / T) * ((g.w + T - 1) / T) ∧ tileOf T g k = t := by
  simp [tileGrid_eq]

theorem mem_tileGrid {T : Nat} {g : Geometry} {t : TileRect} (hT : 0 < T) (h : t ∈ tileGrid T g) :
    t.x + t.w ≤ g.w ∧ t.y + t.h ≤ g.h := by
  obtain ⟨k, hk, rfl⟩ := mem_tileGrid_iff.mp h
  exact ⟨(tileOf_bounds hT g hk).1, (tileOf_bounds hT g hk).2.1⟩

theorem tileGrid_nonempty {T : Nat} (hT : 0 < T) (g : Geometry) : ∀ t ∈ tileGrid T g, 1 ≤ t.w * t.h := by
  intro t ht
  obtain ⟨k, hk, rfl⟩ := mem_tileGrid_iff.mp ht
  have := tileOf_bounds hT g hk
  exact Nat.mul_le_mul this.2.2.1 this.2.2.2.1

theorem tileGrid_area_le {T : Nat} (g : Geometry) : ∀ t ∈ tileGrid T g, t.w * t.h ≤ T * T := by
  intro t ht
  obtain ⟨k, _, rfl⟩ := mem_tileGrid_iff.mp ht
  exact Nat.mul_le_mul (Nat.min_le_left _ _) (Nat.min_le_left _ _)

theorem tileIdx_lt {T : Nat} (hT : 0 < T) (g : Geometry) {x y : Nat} (hx : x < g.w) (hy : y < g.h) :
    tileIdx T g x y < ((g.h + T - 1) / T) * ((g.w + T - 1) / T) := by
  have h1 := ceil_div_gt hT hy
  have h2 := ceil_div_gt hT hx
  have h3 : (y / T + 1) * ((g.w + T - 1) / T) ≤ ((g.h + T - 1) / T) * ((g.w + T - 1) / T) :=
    Nat.mul_le_mul_right _ h1
  rw [Nat.succ_mul] at h3
  unfold tileIdx
  omega

theorem tileOf_tileIdx {T : Nat} (hT : 0 < T) (g : Geometry) {x : Nat} (y : Nat) (hx : x < g.w) :
    tileOf T g (tileIdx T g x y) =
      ⟨x / T * T, y / T * T, min T (g.w - x / T * T), min T (g.h - y / T * T)⟩ := by
  have hxT := ceil_div_gt hT hx
  have e1 : tileIdx T g x y % ((g.w + T - 1) / T) = x / T := by
    rw [tileIdx, Nat.add_comm, Nat.add_mul_mod_self_right, Nat.mod_eq_of_lt hxT]
  have e2 : tileIdx T g x y / ((g.w + T - 1) / T) = y / T := by
    rw [tileIdx, Nat.add_comm, Nat.add_mul_div_right _ _ (by omega), Nat.div_eq_of_lt hxT, Nat.zero_add]
  rw [tileOf, e1, e2]

theorem cell_in_tile {T : Nat} (hT : 0 < T) (g : Geometry) {l : Nat} (hx : l % g.w < g.w) (hy : l / g.w < g.h)
    {t : TileRect} (ht : t = tileOf T g (tileIdx T g (l % g.w) (l / g.w))) :
    InRect g.w t.x t.y t.w t.h l ∧ loc g.w t.x t.y t.w l = tileLoc T g (l % g.w) (l / g.w) := by
  subst ht
  have hdx := Nat.div_add_mod (l % g.w) T
  have hdy := Nat.div_add_mod (l / g.w) T
  have := Nat.mod_lt (l % g.w) hT
  have := Nat.mod_lt (l / g.w) hT
  rw [Nat.mul_comm] at hdx hdy
  simp only [tileOf_tileIdx hT g _ hx, InRect, loc, tileLoc]
  refine ⟨by omega, ?_⟩
  rw [show l / g.w - l / g.w / T * T = l / g.w % T by omega, show l % g.w - l % g.w / T * T = l % g.w % T by omega]

theorem eq_tileIdx_of_inRect {T : Nat} (hT : 0 < T) (g : Geometry) {k l : Nat}
    (h : InRect g.w (tileOf T g k).x (tileOf T g k).y (tileOf T g k).w (tileOf T g k).h l) :
    k = tileIdx T g (l % g.w) (l / g.w) := by
  simp only [InRect, tileOf] at h
  have ex : l % g.w / T = k % ((g.w + T - 1) / T) :=
    Nat.div_eq_of_lt_le h.2.2.1 (by rw [Nat.succ_mul]; omega)
  have ey : l / g.w / T = k / ((g.w + T - 1) / T) :=
    Nat.div_eq_of_lt_le h.1 (by rw [Nat.succ_mul]; omega)
  rw [tileIdx, ex, ey, Nat.mul_comm]
  exact (Nat.div_add_mod k _).symm

theorem blitTiles_w (rx ry : Nat) : ∀ (ts : List TileRect) (pxs : List (List Pixel)) (fb : FB),
    (blitTiles fb rx ry ts pxs).w = fb.w ∧ (blitTiles fb rx ry ts pxs).h = fb.h ∧
    (blitTiles fb rx ry ts pxs).px.size = fb.px.size
  | t :: ts, px :: pxs, fb => by simpa [blitTiles] using blitTiles_w rx ry ts pxs (blit fb (rx + t.x) (ry + t.y) t.w t.h px)
  | [], _, _ => by simp [blitTiles]
  | _ :: _, [], _ => by simp [blitTiles]

theorem getD_blitTiles_of_not_inRect {rx ry i : Nat} {ts : List TileRect} {pxs : List (List Pixel)}
    (hl : TileLens ts pxs) (fb : FB) (hW : ∀ t ∈ ts, rx + t.x + t.w ≤ fb.w)
    (hout : ∀ t ∈ ts, ¬ InRect fb.w (rx + t.x) (ry + t.y) t.w t.h i) :
    (blitTiles fb rx ry ts pxs).px.getD i 0 = fb.px.getD i 0 := by
  induction hl generalizing fb with
  | nil => rfl
  | @cons t px ts pxs hpx _ ih =>
    rw [blitTiles, ih (blit fb (rx + t.x) (ry + t.y) t.w t.h px) (fun t' h' => hW t' (by simp [h']))
      (fun t' h' => hout t' (by simp [h'])), blit_px,
      getD_blitRows _ _ _ _ _ _ _ _ _ (hW t (by simp)) hpx, if_neg fun h => hout t (by simp) h.1]

theorem getD_blitTiles {rx ry i : Nat} {ts : List TileRect} {pxs : List (List Pixel)}
    (hl : TileLens ts pxs) (fb : FB) (hW : ∀ t ∈ ts, rx + t.x + t.w ≤ fb.w) (hi : i < fb.px.size)
    (j : Nat) (hj : j < ts.length) (hin : InRect fb.w (rx + ts[j].x) (ry + ts[j].y) ts[j].w ts[j].h i)
    (hout : ∀ j' (hj' : j' < ts.length), j' ≠ j → ¬ InRect fb.w (rx + ts[j'].x) (ry + ts[j'].y) ts[j'].w ts[j'].h i) :
    (blitTiles fb rx ry ts pxs).px.getD i 0 =
      (pxs.getD j []).getD (loc fb.w (rx + ts[j].x) (ry + ts[j].y) ts[j].w i) 0 := by
  induction hl generalizing fb j with
  | nil => simp at hj
  | @cons t px ts pxs hpx hl ih =>
    rw [blitTiles]
    cases j with
    | zero =>
      rw [getD_blitTiles_of_not_inRect hl (blit fb (rx + t.x) (ry + t.y) t.w t.h px)
        (fun t' h' => hW t' (by simp [h'])), blit_px,
        getD_blitRows _ _ _ _ _ _ _ _ _ (hW t (by simp)) hpx, if_pos ⟨hin, hi⟩]
      · rfl
      · intro t' h'
        obtain ⟨j', hj', rfl⟩ := List.getElem_of_mem h'
        exact hout (j' + 1) (by simpa using hj') (by omega)
    | succ j =>
      exact ih (blit fb (rx + t.x) (ry + t.y) t.w t.h px) (fun t' h' => hW t' (by simp [h']))
        (by simpa using hi) j (by simpa using hj) hin
        fun j' hj' hne => hout (j' + 1) (by simpa using hj') (by omega)

theorem getD_assemble {T : Nat} {g : Geometry} {pxs : List (List Pixel)} {l : Nat} (hl : l < g.w * g.h) :
    (assemble T g pxs).getD l 0 =
      (pxs.getD (tileIdx T g (l % g.w) (l / g.w)) []).getD (tileLoc T g (l % g.w) (l / g.w)) 0 := by
  simp only [assemble, List.getD_eq_getElem?_getD, List.getElem?_map, List.getElem?_range hl, Option.map_some,
    Option.getD_some, tileIdx, tileLoc, Array.getD_eq_getD_getElem?, List.getElem?_toArray]
  cases pxs[l / g.w / T * ((g.w + T - 1) / T) + l % g.w / T]? <;> simp

/-- **assembly**: painting the tiles of `tileGrid T g` one by one = `blit` of `Spec.assemble` -/
theorem blitTiles_eq_blit_assemble {T : Nat} (hT : 0 < T) (g : Geometry) (fb : FB) (rx ry : Nat)
    (pxs : List (List Pixel)) (hW : rx + g.w ≤ fb.w) (hlen : TileLens (tileGrid T g) pxs) :
    blitTiles fb rx ry (tileGrid T g) pxs = blit fb rx ry g.w g.h (assemble T g pxs) := by
  obtain ⟨hw, hh, hsz⟩ := blitTiles_w rx ry (tileGrid T g) pxs fb
  have hWt : ∀ t ∈ tileGrid T g, rx + t.x + t.w ≤ fb.w := fun t ht => by
    have := mem_tileGrid hT ht; omega
  suffices hpx : (blitTiles fb rx ry (tileGrid T g) pxs).px = blitRows fb.px fb.w rx ry g.w g.h (assemble T g pxs) by
    generalize blitTiles fb rx ry (tileGrid T g) pxs = res at *
    cases res
    simp_all [blit]
  apply array_ext_getD (by rw [hsz, size_blitRows])
  intro i hi
  rw [hsz] at hi
  rw [getD_blitRows _ _ _ _ _ _ _ _ _ hW (by simp [assemble])]
  by_cases hin : InRect fb.w rx ry g.w g.h i ∧ i < fb.px.size
  · -- the cell is in the rectangle, at the local index `l`, in tile `k`
    have hl := loc_lt hin.1
    have hlw : loc fb.w rx ry g.w i % g.w < g.w := by
      rw [(loc_div_mod hin.1).2]; have := hin.1; unfold InRect at this; omega
    have hk := tileIdx_lt hT g hlw (Nat.div_lt_of_lt_mul hl)
    have hkl : tileIdx T g (loc fb.w rx ry g.w i % g.w) (loc fb.w rx ry g.w i / g.w) < (tileGrid T g).length := by
      simpa [tileGrid_eq] using hk
    obtain ⟨hint, hloc⟩ := cell_in_tile hT g hlw (Nat.div_lt_of_lt_mul hl) rfl
    rw [if_pos hin, getD_assemble hl, getD_blitTiles hlen fb hWt hin.2 _ hkl]
    · simp only [tileGrid_eq, List.getElem_map, List.getElem_range]
      rw [loc_sub hin.1, hloc]
    · simp only [tileGrid_eq, List.getElem_map, List.getElem_range]
      rwa [inRect_sub hin.1]
    · intro j hj hne hj'
      rw [inRect_sub hin.1] at hj'
      simp only [tileGrid_eq, List.getElem_map, List.getElem_range] at hj'
      exact hne (eq_tileIdx_of_inRect hT g hj')
  · -- outside the rectangle: no tile touches the cell
    rw [if_neg hin, getD_blitTiles_of_not_inRect hlen fb hWt]
    exact fun t ht h' => hin ⟨h'.of_sub (mem_tileGrid hT ht).1 (mem_tileGrid hT ht).2, hi⟩

end VncModel.Client
