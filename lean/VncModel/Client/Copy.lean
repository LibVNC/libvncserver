import VncModel.Client.FbLemmas
/-!
`CopyRectangleFromRectangle` (vncviewer.c) is an overlapping copy done right: the sequential
execution of the assignments in the loop order chosen by the code equals the simultaneous copy.
-/
namespace VncModel.Client
open VncModel.Enc.Spec

theorem size_runPairs (a : Array Pixel) (ps : List (Nat × Nat)) : (runPairs a ps).size = a.size := by
  induction ps generalizing a with
  | nil => rfl
  | cons p ps ih => obtain ⟨d, s⟩ := p; simp [runPairs, ih]

/-- destinations pairwise distinct -/
def DistinctDst (ps : List (Nat × Nat)) : Prop := ps.Pairwise fun p q => p.1 ≠ q.1
/-- no assignment reads a cell that an EARLIER assignment has written -/
def SafeOrder (ps : List (Nat × Nat)) : Prop := ps.Pairwise fun p q => q.2 ≠ p.1

theorem runPairs_spec (ps : List (Nat × Nat)) (hd : DistinctDst ps) (hs : SafeOrder ps) :
    ∀ (a : Array Pixel), (∀ p ∈ ps, p.1 < a.size) →
      (∀ d s, (d, s) ∈ ps → (runPairs a ps).getD d 0 = a.getD s 0) ∧
      (∀ i, (∀ p ∈ ps, p.1 ≠ i) → (runPairs a ps).getD i 0 = a.getD i 0) := by
  induction ps with
  | nil => intro a _; exact ⟨by simp, by simp [runPairs]⟩
  | cons p ps ih =>
    obtain ⟨d0, s0⟩ := p
    intro a hb
    unfold DistinctDst at hd
    unfold SafeOrder at hs
    rw [List.pairwise_cons] at hd hs
    have hb' : ∀ p ∈ ps, p.1 < (a.setIfInBounds d0 (a.getD s0 0)).size := by
      intro p hp; simp; exact hb p (by simp [hp])
    obtain ⟨ih1, ih2⟩ := ih hd.2 hs.2 (a.setIfInBounds d0 (a.getD s0 0)) hb'
    have hd0 : d0 < a.size := hb (d0, s0) (by simp)
    constructor
    · intro d s hmem
      simp only [List.mem_cons, Prod.mk.injEq] at hmem
      rcases hmem with ⟨h1, h2⟩ | hmem
      · subst h1 h2
        simp only [runPairs]
        rw [ih2 d (fun p hp => (hd.1 p hp).symm), getD_setIfInBounds]
        simp [hd0]
      · simp only [runPairs]
        rw [ih1 d s hmem, getD_setIfInBounds]
        have : s ≠ d0 := hs.1 (d, s) hmem
        have h3 : ¬ (d0 = s ∧ s < a.size) := fun hh => this hh.1.symm
        simp [h3]
    · intro i hi
      simp only [runPairs]
      rw [ih2 i (fun p hp => hi p (by simp [hp])), getD_setIfInBounds]
      have : d0 ≠ i := hi (d0, s0) (by simp)
      simp [this]

theorem lin_inj {W A a B b : Nat} (ha : a < W) (hb : b < W) (h : A * W + a = B * W + b) : A = B ∧ a = b := by
  have h1 := div_mod_of_row ha (rfl : A * W + a = A * W + a)
  have h2 := div_mod_of_row hb (rfl : B * W + b = B * W + b)
  rw [h] at h1
  omega

theorem mem_copyRows {h sy dy r : Nat} : r ∈ copyRows h sy dy ↔ r < h := by
  unfold copyRows; split <;> simp

/-- the columns are ordered by the same rule as the rows -/
theorem mem_copyCols {w sx dx c : Nat} : c ∈ copyCols w sx dx ↔ c < w :=
  mem_copyRows (h := w) (sy := sx) (dy := dx)

theorem mem_copyPairs {W sx sy w h dx dy d s : Nat} :
    (d, s) ∈ copyPairs W sx sy w h dx dy ↔
      ∃ r c, r < h ∧ c < w ∧ d = (dy + r) * W + (dx + c) ∧ s = (sy + r) * W + (sx + c) := by
  simp only [copyPairs, List.mem_flatMap, List.mem_map, mem_copyRows, mem_copyCols, Prod.mk.injEq]
  constructor
  · rintro ⟨r, hr, c, hc, h1, h2⟩; exact ⟨r, c, hr, hc, h1.symm, h2.symm⟩
  · rintro ⟨r, c, hr, hc, h1, h2⟩; exact ⟨r, hr, c, hc, h1.symm, h2.symm⟩

/-- order of the rows: an earlier row `r` and a later row `r'` -/
theorem copyRows_order (h sy dy : Nat) :
    (copyRows h sy dy).Pairwise fun r r' => if dy < sy then r < r' else r' < r := by
  unfold copyRows
  split
  · exact List.pairwise_lt_range
  · rw [List.pairwise_reverse]; exact List.pairwise_lt_range

theorem copyCols_order (w sx dx : Nat) :
    (copyCols w sx dx).Pairwise fun c c' => if dx < sx then c < c' else c' < c :=
  copyRows_order w sx dx

theorem copyPairs_ordered (W sx sy w h dx dy : Nat) (hsx : sx + w ≤ W) (hdx : dx + w ≤ W) :
    (copyPairs W sx sy w h dx dy).Pairwise fun p q => p.1 ≠ q.1 ∧ q.2 ≠ p.1 := by
  unfold copyPairs
  rw [List.pairwise_flatMap]
  constructor
  · intro r _
    rw [List.pairwise_map]
    refine (copyCols_order w sx dx).imp_of_mem ?_
    intro c c' hc hc' hcc
    simp only [mem_copyCols] at hc hc'
    constructor
    · intro heq
      have := lin_inj (W := W) (by omega) (by omega) heq
      split at hcc <;> omega
    · intro heq
      have := lin_inj (W := W) (by omega) (by omega) heq
      split at hcc <;> omega
  · refine (copyRows_order h sy dy).imp ?_
    intro r r' hrr x hx y hy
    simp only [List.mem_map, mem_copyCols] at hx hy
    obtain ⟨c, hc, rfl⟩ := hx
    obtain ⟨c', hc', rfl⟩ := hy
    constructor
    · intro heq
      have := lin_inj (W := W) (by omega) (by omega) heq
      split at hrr <;> omega
    · intro heq
      have := lin_inj (W := W) (by omega) (by omega) heq
      split at hrr <;> omega

/-- source pixels of the rectangle, row-major, read from the ORIGINAL framebuffer -/
def srcPixels (fb : FB) (sx sy w h : Nat) : List Pixel :=
  (List.range (w * h)).map fun k => fb.px.getD ((sy + k / w) * fb.w + (sx + k % w)) 0

/-- what `memmove`-like semantics demand: all sources are read before any destination is written -/
def simCopy (fb : FB) (sx sy w h dx dy : Nat) : FB := blit fb dx dy w h (srcPixels fb sx sy w h)

/-- **copyrect_memmove**: for every position of source and destination (all 8 directions of
overlap and the degenerate ones) `CopyRectangleFromRectangle` produces the simultaneous copy -/
theorem copyFromRect_eq_simCopy (fb : FB) (hwf : fb.WF) (sx sy w h dx dy : Nat)
    (hs : checkRect fb sx sy w h = true) (hd : checkRect fb dx dy w h = true) :
    copyFromRect fb sx sy w h dx dy = simCopy fb sx sy w h dx dy := by
  have hs' := hs
  have hd' := hd
  simp only [checkRect, Bool.and_eq_true, decide_eq_true_eq] at hs' hd'
  obtain ⟨hsx, hsy⟩ := hs'
  obtain ⟨hdx, hdy⟩ := hd'
  unfold FB.WF at hwf
  simp only [copyFromRect, hs, hd, Bool.and_self, if_true, simCopy, blit]
  congr 1
  have hord := copyPairs_ordered fb.w sx sy w h dx dy hsx hdx
  obtain ⟨h1, h2⟩ := runPairs_spec _ (hord.imp And.left) (hord.imp And.right) fb.px (by
      rintro ⟨d, s⟩ hp
      obtain ⟨r, c, hr, hc, rfl, _⟩ := mem_copyPairs.mp hp
      exact hwf ▸ cell_lt hdx hdy hr hc)
  apply array_ext_getD (by rw [size_runPairs, size_blitRows])
  intro i _
  rw [getD_blitRows _ _ _ _ _ _ _ _ _ hdx (by simp [srcPixels])]
  by_cases hin : InRect fb.w dx dy w h i ∧ i < fb.px.size
  · -- `i` is the destination of the pair of row `i / W - dy`, column `i % W - dx`
    have hb := hin.1
    unfold InRect at hb
    have hi : i = (dy + (i / fb.w - dy)) * fb.w + (dx + (i % fb.w - dx)) := by
      rw [show dy + (i / fb.w - dy) = i / fb.w by omega, show dx + (i % fb.w - dx) = i % fb.w by omega,
        Nat.mul_comm]
      exact (Nat.div_add_mod i fb.w).symm
    rw [if_pos hin, h1 _ _ (mem_copyPairs.mpr ⟨_, _, by omega, by omega, hi, rfl⟩)]
    simp only [srcPixels, List.getD_eq_getElem?_getD, List.getElem?_map, List.getElem?_range (loc_lt hin.1),
      Option.map_some, Option.getD_some]
    rw [(loc_div_mod hin.1).1, (loc_div_mod hin.1).2]
  · rw [if_neg hin]
    apply h2
    rintro ⟨d, s⟩ hp heq
    obtain ⟨r, c, hr, hc, rfl, _⟩ := mem_copyPairs.mp hp
    have := div_mod_of_row (show dx + c < fb.w by omega) heq.symm
    exact hin ⟨by unfold InRect; omega, heq ▸ hwf ▸ cell_lt hdx hdy hr hc⟩

end VncModel.Client
