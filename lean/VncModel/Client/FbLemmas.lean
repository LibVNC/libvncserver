import VncModel.Client.Basic
/-!
The framebuffer primitives cell by cell.  `blitRows` is the only primitive that needs an induction
of its own: `fillRect` is `blitRows` of a constant list, and every equation between framebuffers
(painting inside a painted rectangle, two stacked rectangles) is read off `getD_blitRows`.

`blit fb x y w h px` is the framebuffer in which the rectangle `x,y,w,h` holds the row-major pixel
list `px` and every other cell is unchanged — the meaning the RFB specification gives to a decoded
rectangle.
-/
namespace VncModel.Client
open VncModel.Enc.Spec

theorem getD_setIfInBounds (a : Array Pixel) (i j : Nat) (v d : Pixel) :
    (a.setIfInBounds i v).getD j d = if i = j ∧ j < a.size then v else a.getD j d := by
  simp only [Array.getD_eq_getD_getElem?, Array.getElem?_setIfInBounds]
  by_cases h : i = j <;> by_cases h2 : j < a.size <;> simp [h, h2]

theorem array_ext_getD {a b : Array Pixel} (hs : a.size = b.size)
    (h : ∀ i, i < a.size → a.getD i 0 = b.getD i 0) : a = b := by
  apply Array.ext hs
  intro i h1 h2
  simpa [Array.getD_eq_getD_getElem?, h1, h2] using h i h1

/-- flat index `i` lies in the rectangle `x,y,w,h` of a canvas with row length `W` -/
def InRect (W x y w h i : Nat) : Prop := y ≤ i / W ∧ i / W < y + h ∧ x ≤ i % W ∧ i % W < x + w

instance (W x y w h i : Nat) : Decidable (InRect W x y w h i) := by unfold InRect; infer_instance

/-- index on the local `w`-wide canvas of the rectangle `x,y` of the cell `i` -/
def loc (W x y w i : Nat) : Nat := (i / W - y) * w + (i % W - x)

theorem div_mod_of_row {W x i y : Nat} (hx : x < W) (h : i = y * W + x) : i / W = y ∧ i % W = x := by
  subst h
  rw [Nat.add_comm, Nat.add_mul_div_right _ _ (by omega), Nat.add_mul_mod_self_right,
    Nat.div_eq_of_lt hx, Nat.mod_eq_of_lt hx]
  omega

theorem row_segment {W x w y i : Nat} (hxw : x + w ≤ W) :
    (y * W + x ≤ i ∧ i < y * W + x + w) ↔ (i / W = y ∧ x ≤ i % W ∧ i % W < x + w) := by
  constructor
  · intro h
    have := div_mod_of_row (W := W) (x := i - y * W) (i := i) (y := y) (by omega) (by omega)
    omega
  · intro ⟨hy, h⟩
    have := Nat.div_add_mod i W
    rw [hy, Nat.mul_comm] at this
    omega

theorem cell_lt {W H x y w h r c : Nat} (hW : x + w ≤ W) (hH : y + h ≤ H) (hr : r < h) (hc : c < w) :
    (y + r) * W + (x + c) < W * H := by
  have h1 : (y + r + 1) * W ≤ H * W := Nat.mul_le_mul_right W (by omega)
  rw [Nat.succ_mul] at h1
  rw [Nat.mul_comm W H]
  omega

theorem loc_div_mod {W x y w h i : Nat} (hin : InRect W x y w h i) :
    loc W x y w i / w = i / W - y ∧ loc W x y w i % w = i % W - x :=
  div_mod_of_row (by unfold InRect at hin; omega) rfl

theorem loc_lt {W x y w h i : Nat} (hin : InRect W x y w h i) : loc W x y w i < w * h := by
  unfold InRect at hin
  have h2 : (i / W - y + 1) * w ≤ h * w := Nat.mul_le_mul_right w (by omega)
  rw [Nat.succ_mul] at h2
  rw [loc, Nat.mul_comm w h]
  omega

theorem inRect_sub {W x y w h sx sy sw sh i : Nat} (hin : InRect W x y w h i) :
    InRect W (x + sx) (y + sy) sw sh i ↔ InRect w sx sy sw sh (loc W x y w i) := by
  have hdm := loc_div_mod hin
  unfold InRect at hin ⊢
  rw [hdm.1, hdm.2]
  omega

theorem loc_sub {W x y w h sx sy sw i : Nat} (hin : InRect W x y w h i) :
    loc W (x + sx) (y + sy) sw i = loc w sx sy sw (loc W x y w i) := by
  unfold loc
  have := loc_div_mod hin
  unfold loc at this
  rw [this.1, this.2, Nat.sub_add_eq, Nat.sub_add_eq]

theorem InRect.of_sub {W x y w h sx sy sw sh i : Nat} (hsx : sx + sw ≤ w) (hsy : sy + sh ≤ h)
    (hin : InRect W (x + sx) (y + sy) sw sh i) : InRect W x y w h i := by
  unfold InRect at hin ⊢
  omega

theorem size_blitRow (a : Array Pixel) (s : Nat) (ps : List Pixel) : (blitRow a s ps).size = a.size := by
  induction ps generalizing a s with
  | nil => rfl
  | cons p ps ih => simp [blitRow, ih]

theorem getD_blitRow (a : Array Pixel) (s : Nat) (ps : List Pixel) (d : Pixel) (i : Nat) :
    (blitRow a s ps).getD i d =
      if s ≤ i ∧ i < s + ps.length ∧ i < a.size then ps.getD (i - s) d else a.getD i d := by
  induction ps generalizing a s with
  | nil => simp [blitRow]; omega
  | cons p ps ih =>
    simp only [blitRow, ih, Array.size_setIfInBounds, getD_setIfInBounds, List.length_cons]
    by_cases h1 : s = i
    · subst h1
      have h0 : ¬ (s + 1 ≤ s ∧ s < s + 1 + ps.length ∧ s < a.size) := by omega
      rw [if_neg h0]
      by_cases h2 : s < a.size
      · have h3 : s ≤ s ∧ s < s + (ps.length + 1) ∧ s < a.size := by omega
        rw [if_pos h3]
        simp [h2]
      · have h3 : ¬ (s ≤ s ∧ s < s + (ps.length + 1) ∧ s < a.size) := by omega
        rw [if_neg h3]
        simp [h2]
    · by_cases h2 : s + 1 ≤ i ∧ i < s + 1 + ps.length ∧ i < a.size
      · have h3 : s ≤ i ∧ i < s + (ps.length + 1) ∧ i < a.size := by omega
        have h4 : i - s = (i - (s + 1)) + 1 := by omega
        simp [h2, h3, h4]
      · have h3 : ¬ (s ≤ i ∧ i < s + (ps.length + 1) ∧ i < a.size) := by omega
        simp [h1, h2, h3]

theorem size_blitRows (a : Array Pixel) (W x y w h : Nat) (ps : List Pixel) :
    (blitRows a W x y w h ps).size = a.size := by
  induction h generalizing a y ps with
  | zero => rfl
  | succ h ih => simp [blitRows, ih, size_blitRow]

theorem getD_blitRows (a : Array Pixel) (W x y w h : Nat) (ps : List Pixel) (d : Pixel) (i : Nat)
    (hxw : x + w ≤ W) (hlen : ps.length = w * h) :
    (blitRows a W x y w h ps).getD i d =
      if InRect W x y w h i ∧ i < a.size then ps.getD (loc W x y w i) d else a.getD i d := by
  induction h generalizing a y ps with
  | zero => simp [blitRows, InRect]; omega
  | succ h ih =>
    rw [Nat.mul_succ] at hlen
    rw [blitRows, ih _ _ _ (by rw [List.length_drop]; omega), size_blitRow, getD_blitRow,
      List.length_take, Nat.min_eq_left (by omega)]
    by_cases hge : a.size ≤ i
    · simp [Nat.not_lt.mpr hge]
    have hsz : i < a.size := Nat.lt_of_not_le hge
    have hrow := row_segment (y := y) (i := i) hxw
    by_cases hin : InRect W x (y + 1) w h i
    · -- a later row: the index moves past the first `w` pixels
      have h1 : InRect W x y w (h + 1) i := by unfold InRect at *; omega
      have e : loc W x y w i = w + loc W x (y + 1) w i := by
        unfold InRect at hin
        rw [loc, loc, show i / W - y = (i / W - (y + 1)) + 1 by omega, Nat.succ_mul]
        omega
      simp [hin, h1, hsz, e, List.getD_eq_getElem?_getD]
    · by_cases hr : y * W + x ≤ i ∧ i < y * W + x + w
      · -- the first row
        have hr' := hrow.mp hr
        have h1 : InRect W x y w (h + 1) i := by unfold InRect; omega
        have e : loc W x y w i = i - (y * W + x) := by
          have := Nat.div_add_mod i W
          rw [hr'.1, Nat.mul_comm] at this
          rw [loc, hr'.1, Nat.sub_self, Nat.zero_mul]; omega
        simp [hin, hr, h1, hsz, e, show i - (y * W + x) < w by omega, List.getD_eq_getElem?_getD]
      · have h1 : ¬ InRect W x y w (h + 1) i := fun h1 => hr (hrow.mpr (by unfold InRect at *; omega))
        have h2 : ¬ (y * W + x ≤ i ∧ i < y * W + x + w ∧ i < a.size) := fun h2 => hr ⟨h2.1, h2.2.1⟩
        simp [hin, h1, h2]

theorem blitRows_add (a : Array Pixel) (W x y w l k : Nat) (ps : List Pixel) :
    blitRows a W x y w (l + k) ps =
      blitRows (blitRows a W x y w l (ps.take (w * l))) W x (y + l) w k (ps.drop (w * l)) := by
  induction l generalizing a y ps with
  | zero => simp [blitRows]
  | succ l ih =>
    rw [Nat.succ_add]
    simp only [blitRows]
    rw [ih, List.take_take, List.drop_take, List.drop_drop, Nat.mul_succ,
      Nat.min_eq_left (Nat.le_add_left _ _), Nat.add_sub_cancel, Nat.add_comm (w * l) w,
      Nat.add_assoc y 1 l, Nat.add_comm 1 l]

theorem blitRows_zero_cols (a : Array Pixel) (W x y h : Nat) (ps : List Pixel) : blitRows a W x y 0 h ps = a := by
  induction h generalizing y ps with
  | zero => rfl
  | succ h ih => simp [blitRows, blitRow, ih]

theorem fillRow_eq_blitRow (cv : Array Pixel) (s n : Nat) (c : Pixel) :
    fillRow cv s n c = blitRow cv s (List.replicate n c) := by
  induction n generalizing cv s with
  | zero => rfl
  | succ n ih => simp [fillRow, blitRow, List.replicate_succ, ih]

theorem fillRect_eq_blitRows (cv : Array Pixel) (W x y w h : Nat) (c : Pixel) :
    fillRect cv W x y w h c = blitRows cv W x y w h (List.replicate (w * h) c) := by
  induction h generalizing cv y with
  | zero => rfl
  | succ h ih =>
    simp [fillRect, blitRows, fillRow_eq_blitRow, ih, Nat.mul_succ, Nat.min_eq_left]

theorem size_fillRow (cv : Array Pixel) (s n : Nat) (c : Pixel) : (fillRow cv s n c).size = cv.size := by
  rw [fillRow_eq_blitRow, size_blitRow]

theorem getD_fillRow (cv : Array Pixel) (s n : Nat) (c d : Pixel) (i : Nat) :
    (fillRow cv s n c).getD i d = if s ≤ i ∧ i < s + n ∧ i < cv.size then c else cv.getD i d := by
  rw [fillRow_eq_blitRow, getD_blitRow, List.length_replicate]
  split
  · next h => simp [List.getD_eq_getElem?_getD, show i - s < n by omega]
  · rfl

theorem size_fillRect (cv : Array Pixel) (W x y w h : Nat) (c : Pixel) :
    (fillRect cv W x y w h c).size = cv.size := by
  rw [fillRect_eq_blitRows, size_blitRows]

theorem getD_fillRect (cv : Array Pixel) (W x y w h : Nat) (c d : Pixel) (i : Nat)
    (hxw : x + w ≤ W) :
    (fillRect cv W x y w h c).getD i d =
      if InRect W x y w h i ∧ i < cv.size then c else cv.getD i d := by
  rw [fillRect_eq_blitRows, getD_blitRows _ _ _ _ _ _ _ _ _ hxw List.length_replicate]
  split
  · next h => simp [List.getD_eq_getElem?_getD, loc_lt h.1]
  · rfl

theorem fillRect_blitRows {W x y w h sx sy sw sh : Nat} (a cv : Array Pixel) (c : Pixel)
    (hxw : x + w ≤ W) (hcv : cv.size = w * h) (hsx : sx + sw ≤ w) (hsy : sy + sh ≤ h) :
    fillRect (blitRows a W x y w h cv.toList) W (x + sx) (y + sy) sw sh c =
      blitRows a W x y w h (fillRect cv w sx sy sw sh c).toList := by
  apply array_ext_getD (by simp [size_fillRect, size_blitRows])
  intro i _
  rw [getD_fillRect _ _ _ _ _ _ _ _ _ (by omega), size_blitRows,
    getD_blitRows _ _ _ _ _ _ _ _ _ hxw (by simpa using hcv),
    getD_blitRows _ _ _ _ _ _ _ _ _ hxw (by simpa [size_fillRect] using hcv),
    List.getD_eq_getElem?_getD, List.getD_eq_getElem?_getD, Array.getElem?_toList, Array.getElem?_toList,
    ← Array.getD_eq_getD_getElem?, ← Array.getD_eq_getD_getElem?, getD_fillRect _ _ _ _ _ _ _ _ _ hsx, hcv]
  by_cases hin : InRect W x y w h i
  · by_cases hsz : i < a.size <;> by_cases hs : InRect w sx sy sw sh (loc W x y w i) <;>
      simp [hin, inRect_sub hin, loc_lt hin, hsz, hs]
  · have : ¬ InRect W (x + sx) (y + sy) sw sh i := fun h' => hin (h'.of_sub hsx hsy)
    simp [hin, this]

def blit (fb : FB) (x y w h : Nat) (ps : List Pixel) : FB :=
  { fb with px := blitRows fb.px fb.w x y w h ps }

def FB.WF (fb : FB) : Prop := fb.px.size = fb.w * fb.h

@[simp] theorem blit_w (fb : FB) (x y w h : Nat) (ps : List Pixel) : (blit fb x y w h ps).w = fb.w := rfl
@[simp] theorem blit_h (fb : FB) (x y w h : Nat) (ps : List Pixel) : (blit fb x y w h ps).h = fb.h := rfl
theorem blit_px (fb : FB) (x y w h : Nat) (ps : List Pixel) :
    (blit fb x y w h ps).px = blitRows fb.px fb.w x y w h ps := rfl
@[simp] theorem blit_px_size (fb : FB) (x y w h : Nat) (ps : List Pixel) :
    (blit fb x y w h ps).px.size = fb.px.size := size_blitRows ..

theorem writeDirect_eq_blit (fb : FB) (x y w h : Nat) (ps : List Pixel) :
    writeDirect fb x y w h ps = blit fb x y w h ps := rfl

theorem copyRectangle_eq_blit (fb : FB) (x y w h : Nat) (ps : List Pixel)
    (hW : x + w ≤ fb.w) (hH : y + h ≤ fb.h) : copyRectangle fb x y w h ps = blit fb x y w h ps := by
  simp [copyRectangle, checkRect, hW, hH, blit]

theorem fillRectangle_of_le (fb : FB) (x y w h : Nat) (c : Pixel) (hW : x + w ≤ fb.w) (hH : y + h ≤ fb.h) :
    fillRectangle fb x y w h c = { fb with px := fillRect fb.px fb.w x y w h c } := by
  simp [fillRectangle, checkRect, hW, hH]

theorem fillRectangle_eq_blit (fb : FB) (x y w h : Nat) (c : Pixel) (hW : x + w ≤ fb.w) (hH : y + h ≤ fb.h) :
    fillRectangle fb x y w h c = blit fb x y w h (List.replicate (w * h) c) := by
  rw [fillRectangle_of_le fb x y w h c hW hH, fillRect_eq_blitRows, blit]

theorem blit_zero_rows (fb : FB) (x y w : Nat) (ps : List Pixel) : blit fb x y w 0 ps = fb := rfl

theorem blit_blit (fb : FB) (x y w l k : Nat) (p1 p2 : List Pixel) (hl : p1.length = w * l) :
    blit (blit fb x y w l p1) x (y + l) w k p2 = blit fb x y w (l + k) (p1 ++ p2) := by
  simp [blit, blitRows_add, hl]

/-- `GotFillRect` of a sub-rectangle given relative to the origin `x,y` of its rectangle or tile -/
def paintAt (x y : Nat) (fb : FB) (r : Subrect) : FB := fillRectangle fb (x + r.x) (y + r.y) r.w r.h r.c

theorem foldl_paintAt_blit {fb : FB} {x y w h : Nat} (hW : x + w ≤ fb.w) (hH : y + h ≤ fb.h)
    (rs : List Subrect) (hrs : ∀ r ∈ rs, r.x + r.w ≤ w ∧ r.y + r.h ≤ h) (cv : Array Pixel)
    (hcv : cv.size = w * h) :
    rs.foldl (paintAt x y) (blit fb x y w h cv.toList) =
      blit fb x y w h (rs.foldl (fun cv r => fillRect cv w r.x r.y r.w r.h r.c) cv).toList := by
  induction rs generalizing cv with
  | nil => rfl
  | cons r rs ih =>
    have hr := hrs r (by simp)
    rw [List.foldl_cons, List.foldl_cons, ← ih (fun r' h' => hrs r' (by simp [h'])) _
      (by rw [size_fillRect, hcv]), paintAt,
      fillRectangle_of_le _ _ _ _ _ _ (by rw [blit_w]; omega) (by rw [blit_h]; omega)]
    simp [blit, fillRect_blitRows _ _ _ hW hcv hr.1 hr.2]

/-- what rre.c, corre.c and a hextile tile do with `GotFillRect`: background, then sub-rectangles -/
theorem foldl_paintAt_fillRectangle {fb : FB} {x y w h : Nat} (hW : x + w ≤ fb.w) (hH : y + h ≤ fb.h)
    (bg : Pixel) (rs : List Subrect) (hrs : ∀ r ∈ rs, r.x + r.w ≤ w ∧ r.y + r.h ≤ h) :
    rs.foldl (paintAt x y) (fillRectangle fb x y w h bg) = blit fb x y w h (paintRects w h bg rs).toList := by
  rw [fillRectangle_eq_blit fb x y w h bg hW hH, ← Array.toList_replicate,
    foldl_paintAt_blit hW hH rs hrs _ Array.size_replicate, paintRects]

end VncModel.Client
