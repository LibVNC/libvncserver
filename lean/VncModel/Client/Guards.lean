import VncModel.Client.Session
import VncModel.Client.Copy
import VncModel.Client.RefineZrle
/-!
Guards and index arithmetic of LibVNCClient (C08): every modelled write/read index is inside its
buffer once the guard the C code has in front of it has passed.  All statements are for ALL
arguments.  The constants (`rfbBufferSize`, caps, array sizes) are regenerated from the source on
every run (`VncModel.Gen.C07`), so a changed constant that breaks a bound breaks the build.
-/
namespace VncModel.Client
open VncModel.Enc.Spec hiding encRaw encCopyRect encRRE encCoRRE encHextile encZlib encTight encUltra encTRLE encZRLE encZYWRLE encLastRect tightMinToCompress
open VncModel.Gen.C07

/-- every index `FILL_RECT` writes -/
theorem fillIdx_lt {W H x y w h : Nat} (hW : x + w ≤ W) (hH : y + h ≤ H) :
    ∀ i ∈ fillIdx W x y w h, i < W * H := by
  intro i hi
  simp only [fillIdx, List.mem_flatMap, List.mem_map, List.mem_range] at hi
  obtain ⟨r, hr, c, hc, rfl⟩ := hi
  exact cell_lt hW hH hr hc

/-- `fillRow`/`fillRect` (the loop nest used by the model) write exactly the indices `fillIdx` -/
theorem fillRow_eq_foldl (cv : Array Pixel) (s n : Nat) (c : Pixel) :
    fillRow cv s n c = ((List.range n).map (s + ·)).foldl (fun a i => a.setIfInBounds i c) cv := by
  induction n generalizing cv s with
  | zero => rfl
  | succ n ih =>
    rw [List.range_succ_eq_map, List.map_cons, List.foldl_cons, List.map_map, fillRow, ih]
    congr 1
    apply List.map_congr_left
    intro j _
    simp only [Function.comp]; omega

theorem fillIdx_succ (W x y w h : Nat) :
    fillIdx W x y w (h + 1) = ((List.range w).map (y * W + x + ·)) ++ fillIdx W x (y + 1) w h := by
  simp only [fillIdx]
  rw [List.range_succ_eq_map, List.flatMap_cons, List.flatMap_map]
  simp only [Nat.add_zero]
  congr 1
  · apply List.map_congr_left; intro j _; omega
  · have hf : (fun r => List.map (fun c => (y + (r + 1)) * W + (x + c)) (List.range w)) =
        (fun r => List.map (fun c => (y + 1 + r) * W + (x + c)) (List.range w)) := by
      funext r
      have e : y + (r + 1) = y + 1 + r := by omega
      rw [e]
    rw [hf]

/-- every cell `CopyRectangleFromRectangle` reads or writes -/
theorem copyPairs_lt {W H sx sy w h dx dy : Nat} (hsW : sx + w ≤ W) (hsH : sy + h ≤ H)
    (hdW : dx + w ≤ W) (hdH : dy + h ≤ H) :
    ∀ p ∈ copyPairs W sx sy w h dx dy, p.1 < W * H ∧ p.2 < W * H := by
  intro p hp
  obtain ⟨d, s⟩ := p
  rw [mem_copyPairs] at hp
  obtain ⟨r, c, hr, hc, rfl, rfl⟩ := hp
  exact ⟨cell_lt hdW hdH hr hc, cell_lt hsW hsH hr hc⟩

/-- `COPY_RECT`: the `memcpy` of row `r` (`rs = w·b` bytes at byte offset `x·b + (y+r)·W·b`) ends
inside the `W·H·b` bytes of the framebuffer -/
theorem copyRect_row_in_bounds {W H x y w h r b : Nat} (hW : x + w ≤ W) (hH : y + h ≤ H) (hr : r < h) :
    x * b + (y + r) * (W * b) + w * b ≤ W * H * b := by
  have h1 : (y + r + 1) * (W * b) ≤ H * (W * b) := Nat.mul_le_mul_right _ (by omega)
  have h2 : (x + w) * b ≤ W * b := Nat.mul_le_mul_right _ hW
  rw [Nat.succ_mul] at h1
  rw [Nat.add_mul] at h2
  have h3 : W * H * b = H * (W * b) := by rw [Nat.mul_comm W H, Nat.mul_assoc]
  omega

theorem capLen_le {cap v n : Nat} (h : capLen cap v = some n) : n ≤ cap ∧ n = v := by
  unfold capLen at h
  split at h
  · simp at h
  · simp only [Option.some.injEq] at h; omega

/-- Raw: `linesToRead * bytesPerLine <= RFB_BUFFER_SIZE` -/
theorem raw_batch_fits (bpl h : Nat) : min (rfbBufferSize / bpl) h * bpl ≤ rfbBufferSize := by
  have h1 : min (rfbBufferSize / bpl) h ≤ rfbBufferSize / bpl := Nat.min_le_left _ _
  have h2 := Nat.mul_le_mul_right bpl h1
  have h3 := Nat.div_mul_le_self rfbBufferSize bpl
  omega

/-- Hextile: a raw tile and the sub-rectangle list of a tile fit (`n` is a byte) -/
theorem hextile_reads_fit {bpp w h n : Nat} (hb : bpp ≤ 4) (hw : w ≤ 16) (hh : h ≤ 16) (hn : n ≤ 255) :
    w * h * bpp ≤ rfbBufferSize ∧ n * (2 + bpp) ≤ rfbBufferSize := by
  have h1 : w * h ≤ 16 * 16 := Nat.mul_le_mul hw hh
  have h2 : w * h * bpp ≤ 16 * 16 * 4 := Nat.mul_le_mul h1 hb
  have h3 : n * (2 + bpp) ≤ 255 * 6 := Nat.mul_le_mul hn (by omega)
  simp only [rfbBufferSize]; omega

/-- TRLE: raw tile, palette and packed rows fit the `raw_buffer` the function makes sure of -/
theorem trle_reads_fit {cs w h t cur : Nat} (hcs : 1 ≤ cs) (hcs4 : cs ≤ 4) (hw : w ≤ 16) (hh : h ≤ 16) (ht : t ≤ 127) :
    w * h * cs ≤ trleRawBuf (.full cs) cur ∧ t * cs ≤ trleRawBuf (.full cs) cur ∧
    (w + 7) / 1 * h ≤ trleRawBuf (.full cs) cur + 16 * 16 := by
  have hb : 16 * 16 * cs * 2 ≤ trleRawBuf (.full cs) cur := by
    simp only [trleRawBuf, CPix.size]; omega
  have h1 : w * h ≤ 16 * 16 := Nat.mul_le_mul hw hh
  have h2 : w * h * cs ≤ 16 * 16 * cs := Nat.mul_le_mul_right cs h1
  have h3 : t * cs ≤ 127 * cs := Nat.mul_le_mul_right cs ht
  have h4 : (w + 7) / 1 * h ≤ 23 * 16 := by
    rw [Nat.div_one]; exact Nat.mul_le_mul (by omega) hh
  omega

/-- a TRLE run is read at the start of `raw_buffer` (fixed code) and its 0xff chain takes at most
`budget + 1` bytes -/
theorem trleRunLen_consumes : ∀ (budget acc : Nat) (bs rest : Bytes) (len : Nat),
    trleRunLen budget acc bs = some (len, rest) →
    rest.length < bs.length ∧ bs.length - rest.length ≤ budget + 1
  | _, _, [], _, _, h => by simp [trleRunLen] at h
  | 0, acc, b :: bs, rest, len, h => by
    simp only [trleRunLen, Option.some.injEq, Prod.mk.injEq] at h
    simp [← h.2]
  | k + 1, acc, b :: bs, rest, len, h => by
    simp only [trleRunLen] at h
    split at h
    · have := trleRunLen_consumes k _ _ _ _ h
      simp only [List.length_cons]; omega
    · simp only [Option.some.injEq, Prod.mk.injEq] at h
      simp [← h.2]

/-- Tight: the decompression window, the palette and the gradient rows fit their arrays -/
theorem tight_buffers_fit {bits bpp w k tps : Nat}
    (hk : k ≤ 256) (htps : tps ≤ 4) (hgrad : w * 3 ≤ tightThisRowCells) :
    rfbBufferSize * bits / (bits + bpp) / 4 * 4 ≤ rfbBufferSize ∧
    k * tps ≤ tightPaletteBytes ∧
    w * 3 * 2 ≤ tightPrevRowBytes := by
  refine ⟨?_, ?_, ?_⟩
  · have h1 : rfbBufferSize * bits / (bits + bpp) ≤ rfbBufferSize := by
      apply Nat.div_le_of_le_mul
      rw [Nat.mul_comm (bits + bpp)]
      exact Nat.mul_le_mul_left _ (by omega)
    have h2 := Nat.div_mul_le_self (rfbBufferSize * bits / (bits + bpp)) 4
    omega
  · have := Nat.mul_le_mul hk htps
    simp only [tightPaletteBytes]; omega
  · simp only [tightThisRowCells] at hgrad
    simp only [tightPrevRowBytes]; omega

/-! ## UltraZip: the sub-rectangle walk of the FIXED code -/

/-- the walk over the decompressed buffer of `len` bytes: `n` entries of a 12-byte header
(geometry `sw×sh`, encoding) optionally followed by `sw·sh·bpp` raw bytes.  Result: the byte ranges
`(offset, length)` that are read; `none` = FALSE.  `hdr o` gives `(sw, sh, isRaw)` of the header
at offset `o`. -/
def uzWalk (bpp len : Nat) (hdr : Nat → Nat × Nat × Bool) : Nat → Nat → Option (List (Nat × Nat))
  | 0, _ => some []
  | n + 1, ptr =>
    if len - ptr < 12 then none else
    let (sw, sh, raw) := hdr ptr
    if raw then
      if len - (ptr + 12) < sw * sh * bpp then none else
      (uzWalk bpp len hdr n (ptr + 12 + sw * sh * bpp)).map fun l => (ptr, 12) :: (ptr + 12, sw * sh * bpp) :: l
    else (uzWalk bpp len hdr n (ptr + 12)).map fun l => (ptr, 12) :: l

/-- the walk as it was before fixes/C08-ultrazip-bounds.diff: no comparison with `len` -/
def uzWalkUnfixed (bpp : Nat) (hdr : Nat → Nat × Nat × Bool) : Nat → Nat → List (Nat × Nat)
  | 0, _ => []
  | n + 1, ptr =>
    let (sw, sh, raw) := hdr ptr
    if raw then (ptr, 12) :: (ptr + 12, sw * sh * bpp) :: uzWalkUnfixed bpp hdr n (ptr + 12 + sw * sh * bpp)
    else (ptr, 12) :: uzWalkUnfixed bpp hdr n (ptr + 12)

theorem uzWalk_in_bounds (bpp len : Nat) (hdr : Nat → Nat × Nat × Bool) :
    ∀ (n ptr : Nat) (acc : List (Nat × Nat)), ptr ≤ len → uzWalk bpp len hdr n ptr = some acc →
      ∀ r ∈ acc, r.1 + r.2 ≤ len
  | 0, ptr, acc, _, h => by simp only [uzWalk, Option.some.injEq] at h; simp [← h]
  | n + 1, ptr, acc, hp, h => by
    simp only [uzWalk] at h
    split at h
    · cases h
    next h12 =>
    generalize hdr ptr = hh at h
    obtain ⟨sw, sh, raw⟩ := hh
    cases raw with
    | true =>
      simp only [if_true] at h
      split at h
      · cases h
      next hpix =>
      simp only [Option.map_eq_some_iff] at h
      obtain ⟨l, hr, rfl⟩ := h
      have := uzWalk_in_bounds bpp len hdr n _ l (by omega) hr
      simp only [List.mem_cons, forall_eq_or_imp]
      exact ⟨by omega, by omega, this⟩
    | false =>
      simp only [Bool.false_eq_true, if_false, Option.map_eq_some_iff] at h
      obtain ⟨l, hr, rfl⟩ := h
      have := uzWalk_in_bounds bpp len hdr n _ l (by omega) hr
      simp only [List.mem_cons, forall_eq_or_imp]
      exact ⟨by omega, this⟩

/-- RRE: `n` sub-rectangles take exactly `n·(bytespp+8)` bytes; fewer bytes ⇒ FALSE -/
theorem rreSubs_consumes (bpp rx ry : Nat) :
    ∀ (n : Nat) (fb fb' : FB) (bs rest : Bytes), rreSubs bpp rx ry n fb bs = some (fb', rest) →
      bs.length = n * (bpp + 8) + rest.length := by
  intro n
  induction n with
  | zero => intro fb fb' bs rest h; simp only [rreSubs, Option.some.injEq, Prod.mk.injEq] at h; simp [← h.2]
  | succ n ih =>
    intro fb fb' bs rest h
    simp only [rreSubs] at h
    split at h
    · cases h
    next c bs1 hc =>
    split at h
    · cases h
    next g bs2 hg =>
    rw [(exact_readPixel bpp).length hc, exact_readGeom16.length hg, ih _ _ _ _ h, Nat.succ_mul]
    omega

/-- the fuel of the Raw loop (`h`) is never the reason for stopping -/
theorem rawLoop_fuel_irrelevant (bpp x w ltr : Nat) (hltr : 1 ≤ ltr) :
    ∀ (f1 f2 : Nat) (fb : FB) (y h : Nat) (bs : Bytes), h ≤ f1 → h ≤ f2 →
      rawLoop bpp x w ltr f1 fb y h bs = rawLoop bpp x w ltr f2 fb y h bs
  | f1 + 1, f2 + 1, fb, y, h, bs, h1, h2 => by
    simp only [rawLoop]
    split
    · rfl
    split
    · rfl
    · exact rawLoop_fuel_irrelevant bpp x w ltr hltr f1 f2 _ _ _ _ (by omega) (by omega)
  | 0, f2, fb, y, h, bs, h1, _ => by
    obtain rfl : h = 0 := by omega
    rw [rawLoop_zero_rows, rawLoop_zero_rows]
  | f1, 0, fb, y, h, bs, _, h2 => by
    obtain rfl : h = 0 := by omega
    rw [rawLoop_zero_rows, rawLoop_zero_rows]

end VncModel.Client
