import VncModel.Client.Basic
import VncModel.Gen.C07
/-!
# `ReadFromRFBServer` (sockets.c) — the buffered reader over an arbitrarily segmented stream

The socket delivers the server's byte stream in pieces: `chunks` is the list of what successive
`read()` calls can return at most (each piece non-empty; an empty list = the peer has closed,
`read()` returns 0).  `read(fd, dst, cap)` returns the head piece, or its first `cap` bytes.

The C function has three paths: serve from the 8 KiB buffer; refill the buffer until it holds
the `n` bytes (`n <= RFB_BUF_SIZE`); or read directly into the caller's buffer (`n` larger).
`readFrom_spec`: whatever the segmentation, the call returns the first `n` bytes of the remaining
stream and leaves the rest (buffer ++ pieces) untouched, and fails exactly when fewer than `n`
bytes remain.  (EAGAIN/`WaitForMessage` retries only repeat a `read()`; they are not modelled.)
-/
namespace VncModel.Client
open VncModel.Enc.Spec
open VncModel.Gen.C07

structure RdSt where
  buf : Bytes
  chunks : List Bytes
deriving Inhabited

/-- everything the server has sent and the library has not yet handed out -/
def RdSt.stream (s : RdSt) : Bytes := s.buf ++ s.chunks.flatten

def NonEmptyChunks (cs : List Bytes) : Prop := ∀ c ∈ cs, c ≠ []

/-- one `read()` with capacity `cap` -/
def sysRead (cap : Nat) : List Bytes → Option (Bytes × List Bytes)
  | [] => none
  | c :: cs => if c.length ≤ cap then some (c, cs) else some (c.take cap, c.drop cap :: cs)

/-- `while (client->buffered < n) read(client->buf + buffered, RFB_BUF_SIZE - buffered)` -/
def fillLoop (n : Nat) : Nat → Bytes → List Bytes → Option (Bytes × List Bytes)
  | 0, _, _ => none
  | f + 1, buf, cs =>
    if n ≤ buf.length then some (buf, cs) else
    match sysRead (rfbBufSize - buf.length) cs with
    | none => none
    | some (d, cs') => fillLoop n f (buf ++ d) cs'

/-- `while (n > 0) read(out, n)` -/
def directLoop : Nat → Nat → Bytes → List Bytes → Option (Bytes × List Bytes)
  | 0, _, _, _ => none
  | f + 1, need, acc, cs =>
    if need = 0 then some (acc, cs) else
    match sysRead need cs with
    | none => none
    | some (d, cs') => directLoop f (need - d.length) (acc ++ d) cs'

def readFrom (s : RdSt) (n : Nat) : Option (Bytes × RdSt) :=
  if n ≤ s.buf.length then some (s.buf.take n, { s with buf := s.buf.drop n })
  else
    let n' := n - s.buf.length
    let fuel := s.chunks.flatten.length + 1
    if n' ≤ rfbBufSize then
      match fillLoop n' fuel [] s.chunks with
      | none => none
      | some (b, cs) => some (s.buf ++ b.take n', ⟨b.drop n', cs⟩)
    else
      match directLoop fuel n' [] s.chunks with
      | none => none
      | some (d, cs) => some (s.buf ++ d, ⟨[], cs⟩)

theorem sysRead_spec {cap : Nat} {cs : List Bytes} (hcap : 1 ≤ cap) (hne : NonEmptyChunks cs) :
    (cs = [] ∧ sysRead cap cs = none) ∨
    ∃ d cs', sysRead cap cs = some (d, cs') ∧ d ++ cs'.flatten = cs.flatten ∧ 1 ≤ d.length ∧
      d.length ≤ cap ∧ NonEmptyChunks cs' := by
  cases cs with
  | nil => left; simp [sysRead]
  | cons c cs =>
    right
    have hc : c ≠ [] := hne c (by simp)
    have hcl : 1 ≤ c.length := by
      cases c with
      | nil => exact absurd rfl hc
      | cons _ _ => simp
    by_cases h : c.length ≤ cap
    · exact ⟨c, cs, by simp [sysRead, h], by simp, hcl, h, fun c' hc' => hne c' (by simp [hc'])⟩
    · refine ⟨c.take cap, c.drop cap :: cs, by simp [sysRead, h], ?_, ?_, ?_, ?_⟩
      · simp [← List.append_assoc, List.take_append_drop]
      · rw [List.length_take]; omega
      · rw [List.length_take]; omega
      · intro c' hc'
        simp only [List.mem_cons] at hc'
        rcases hc' with rfl | hc'
        · intro hd
          have : (c.drop cap).length = 0 := by rw [hd]; rfl
          rw [List.length_drop] at this; omega
        · exact hne c' (by simp [hc'])

theorem fillLoop_spec (n : Nat) (hn : n ≤ rfbBufSize) :
    ∀ (f : Nat) (buf : Bytes) (cs : List Bytes), NonEmptyChunks cs → cs.flatten.length < f →
      if n ≤ buf.length + cs.flatten.length then
        ∃ b cs', fillLoop n f buf cs = some (b, cs') ∧ b ++ cs'.flatten = buf ++ cs.flatten ∧
          n ≤ b.length ∧ NonEmptyChunks cs'
      else fillLoop n f buf cs = none := by
  intro f
  induction f with
  | zero => intro buf cs _ h; omega
  | succ f ih =>
    intro buf cs hne hf
    by_cases hb : n ≤ buf.length
    · have : n ≤ buf.length + cs.flatten.length := by omega
      simp only [this, if_true]
      exact ⟨buf, cs, by simp [fillLoop, hb], rfl, hb, hne⟩
    · have hcap : 1 ≤ rfbBufSize - buf.length := by omega
      rcases sysRead_spec hcap hne with ⟨rfl, hr⟩ | ⟨d, cs', hr, hcat, hd1, hd2, hne'⟩
      · have : ¬ (n ≤ buf.length + ([] : List Bytes).flatten.length) := by simp; omega
        simp only [this, if_false]
        simp [fillLoop, hb, hr]
      · have hlen : cs.flatten.length = d.length + cs'.flatten.length := by
          rw [← hcat, List.length_append]
        have := ih (buf ++ d) cs' hne' (by omega)
        simp only [fillLoop, hb, if_false, hr]
        have e : (buf ++ d).length + cs'.flatten.length = buf.length + cs.flatten.length := by
          rw [List.length_append]; omega
        rw [e] at this
        by_cases hc : n ≤ buf.length + cs.flatten.length
        · simp only [hc, if_true] at this ⊢
          obtain ⟨b, cs'', h1, h2, h3, h4⟩ := this
          exact ⟨b, cs'', h1, by rw [h2, List.append_assoc, hcat], h3, h4⟩
        · simp only [hc, if_false] at this ⊢
          exact this

theorem directLoop_spec :
    ∀ (f need : Nat) (acc : Bytes) (cs : List Bytes), NonEmptyChunks cs → cs.flatten.length < f →
      if need ≤ cs.flatten.length then
        ∃ d cs', directLoop f need acc cs = some (d, cs') ∧ d ++ cs'.flatten = acc ++ cs.flatten ∧
          d.length = acc.length + need ∧ NonEmptyChunks cs'
      else directLoop f need acc cs = none := by
  intro f
  induction f with
  | zero => intro need acc cs _ h; omega
  | succ f ih =>
    intro need acc cs hne hf
    by_cases h0 : need = 0
    · subst h0
      rw [if_pos (Nat.zero_le _)]
      exact ⟨acc, cs, by simp [directLoop], rfl, rfl, hne⟩
    · rcases sysRead_spec (show 1 ≤ need by omega) hne with ⟨rfl, hr⟩ | ⟨d, cs', hr, hcat, hd1, hd2, hne'⟩
      · rw [if_neg (by simp; omega)]
        simp [directLoop, h0, hr]
      · have hlen : cs.flatten.length = d.length + cs'.flatten.length := by
          rw [← hcat, List.length_append]
        have := ih (need - d.length) (acc ++ d) cs' hne' (by omega)
        simp only [directLoop, h0, if_false, hr]
        split
        · rw [if_pos (by omega)] at this
          obtain ⟨b, cs'', h1, h2, h3, h4⟩ := this
          exact ⟨b, cs'', h1, by rw [h2, List.append_assoc, hcat], by rw [h3, List.length_append]; omega, h4⟩
        · rwa [if_neg (by omega)] at this

/-- **read_buffering_invariant**: the result of `ReadFromRFBServer(n)` depends only on the
remaining stream, not on how it is cut into reads, and what is left is again that stream's tail -/
theorem readFrom_spec (s : RdSt) (n : Nat) (hne : NonEmptyChunks s.chunks) :
    if n ≤ s.stream.length then
      ∃ s', readFrom s n = some (s.stream.take n, s') ∧ s'.stream = s.stream.drop n ∧ NonEmptyChunks s'.chunks
    else readFrom s n = none := by
  unfold RdSt.stream
  by_cases hb : n ≤ s.buf.length
  · rw [if_pos (by rw [List.length_append]; omega)]
    exact ⟨{ s with buf := s.buf.drop n }, by simp [readFrom, hb, List.take_append_of_le_length hb],
      by simp [List.drop_append_of_le_length hb], hne⟩
  · -- what the buffer lacks comes out of the pieces: `b` holds at least the `n - |buf|` bytes, `cs'` the rest
    have key : ∀ (b : Bytes) (cs' : List Bytes), b ++ cs'.flatten = s.chunks.flatten → n - s.buf.length ≤ b.length →
        s.buf ++ b.take (n - s.buf.length) = (s.buf ++ s.chunks.flatten).take n ∧
        (⟨b.drop (n - s.buf.length), cs'⟩ : RdSt).stream = (s.buf ++ s.chunks.flatten).drop n := by
      intro b cs' h2 h3
      rw [List.take_append, List.take_of_length_le (by omega : s.buf.length ≤ n), List.drop_append,
        List.drop_eq_nil_of_le (by omega : s.buf.length ≤ n), List.nil_append, ← h2,
        List.take_append_of_le_length h3, List.drop_append_of_le_length h3]
      exact ⟨rfl, rfl⟩
    simp only [readFrom, hb, if_false, List.length_append]
    by_cases hsmall : n - s.buf.length ≤ rfbBufSize
    · have := fillLoop_spec (n - s.buf.length) hsmall (s.chunks.flatten.length + 1) [] s.chunks hne (by omega)
      simp only [List.length_nil, Nat.zero_add, List.nil_append] at this
      simp only [hsmall, if_true]
      by_cases hc : n ≤ s.buf.length + s.chunks.flatten.length
      · rw [if_pos (by omega)] at this
        obtain ⟨b, cs', h1, h2, h3, h4⟩ := this
        rw [if_pos hc, h1]
        exact ⟨⟨b.drop (n - s.buf.length), cs'⟩, by simp only [(key b cs' h2 h3).1], (key b cs' h2 h3).2, h4⟩
      · rw [if_neg (by omega)] at this
        rw [if_neg hc, this]
    · have := directLoop_spec (s.chunks.flatten.length + 1) (n - s.buf.length) [] s.chunks hne (by omega)
      simp only [List.length_nil, Nat.zero_add, List.nil_append] at this
      simp only [hsmall, if_false]
      by_cases hc : n ≤ s.buf.length + s.chunks.flatten.length
      · rw [if_pos (by omega)] at this
        obtain ⟨d, cs', h1, h2, h3, h4⟩ := this
        have hk := key d cs' h2 (by omega)
        rw [List.take_of_length_le (by omega), List.drop_eq_nil_of_le (by omega)] at hk
        rw [if_pos hc, h1]
        exact ⟨⟨[], cs'⟩, by simp only [hk.1], hk.2, h4⟩
      · rw [if_neg (by omega)] at this
        rw [if_neg hc, this]

end VncModel.Client
