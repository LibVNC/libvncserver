import VncModel.Client.FbLemmas
import VncModel.Client.Exact
import VncModel.Client.Decode
/-!
RRE, CoRRE, Raw.  The sub-rectangle loops of rre.c, corre.c (and hextile.c) parse what
`Spec.readSubrects` parses and call `GotFillRect` for each item (`paintAt`); the RRE and CoRRE
theorems themselves stand in Props/C07.lean.
-/
namespace VncModel.Client
open VncModel.Enc.Spec
open VncModel.Gen.C07

theorem decodeRREWith_eq_some {rg : Dec (Nat × Nat × Nat × Nat)} {g : Geometry} {bpp : Nat} {bs rest : Bytes}
    {px : List Pixel} (h : decodeRREWith rg g bpp bs = some (px, rest)) :
    ∃ n bs1 bg bs2 rs, readU32 bs = some (n, bs1) ∧ readPixel bpp bs1 = some (bg, bs2) ∧
      readSubrects (readPixel bpp) rg g.w g.h n bs2 = some (rs, rest) ∧ px = (paintRects g.w g.h bg rs).toList := by
  simp only [decodeRREWith] at h
  split at h
  · cases h
  · next n bs1 hn =>
    split at h
    · cases h
    · next bg bs2 hb =>
      simp only [Option.map_eq_some_iff, Prod.exists, Prod.mk.injEq] at h
      obtain ⟨rs, r, hr, rfl, rfl⟩ := h
      exact ⟨n, bs1, bg, bs2, rs, hn, hb, hr, rfl⟩

theorem rreSubs_eq_foldl (bpp rx ry : Nat) {W H n : Nat} {fb : FB} {bs rest : Bytes} {rs : List Subrect}
    (h : readSubrects (readPixel bpp) readGeom16 W H n bs = some (rs, rest)) :
    rreSubs bpp rx ry n fb bs = some (rs.foldl (paintAt rx ry) fb, rest) := by
  induction n generalizing fb bs rs with
  | zero =>
    simp only [readSubrects, Option.some.injEq, Prod.mk.injEq] at h
    obtain ⟨rfl, rfl⟩ := h
    rfl
  | succ n ih =>
    obtain ⟨c, bs1, x, y, w, h', bs2, rs', hc, hg, _, hr, rfl⟩ := readSubrects_succ_eq_some.mp h
    simp [rreSubs, hc, hg, ih hr, paintAt]

theorem correSubs_eq_foldl (bpp rx ry : Nat) {W H n : Nat} {fb : FB} {bs rest : Bytes} {rs : List Subrect}
    (h : readSubrects (readPixel bpp) readGeom8 W H n bs = some (rs, rest)) :
    correSubs bpp rx ry n fb bs = rs.foldl (paintAt rx ry) fb := by
  induction n generalizing fb bs rs with
  | zero =>
    simp only [readSubrects, Option.some.injEq, Prod.mk.injEq] at h
    obtain ⟨rfl, rfl⟩ := h
    rfl
  | succ n ih =>
    obtain ⟨c, bs1, x, y, w, h', bs2, rs', hc, hg, _, hr, rfl⟩ := readSubrects_succ_eq_some.mp h
    simp [correSubs, hc, hg, ih hr, paintAt]

theorem readPixels_add (bpp a b : Nat) (bs : Bytes) :
    readPixels bpp (a + b) bs =
      match readPixels bpp a bs with
      | none => none
      | some (p1, r1) => (readPixels bpp b r1).map fun (p2, r2) => (p1 ++ p2, r2) := by
  rw [readPixels_eq]
  exact readMany_add _ a b bs

theorem rawLoop_zero_rows (bpp x w ltr fuel : Nat) (fb : FB) (y : Nat) (bs : Bytes) :
    rawLoop bpp x w ltr fuel fb y 0 bs = some (fb, bs) := by
  cases fuel <;> simp [rawLoop]

theorem rawLoop_refines (bpp x w : Nat) {ltr : Nat} (hltr : 1 ≤ ltr) {fuel : Nat} {fb : FB} {y h : Nat}
    {bs rest : Bytes} {px : List Pixel} (hf : h ≤ fuel) (hW : x + w ≤ fb.w) (hH : y + h ≤ fb.h)
    (hsp : readPixels bpp (w * h) bs = some (px, rest)) :
    rawLoop bpp x w ltr fuel fb y h bs = some (blit fb x y w h px, rest) := by
  induction fuel generalizing fb y h bs px with
  | zero =>
    obtain rfl : h = 0 := by omega
    simp only [Nat.mul_zero, readPixels, Option.some.injEq, Prod.mk.injEq] at hsp
    rw [rawLoop_zero_rows, ← hsp.1, ← hsp.2, blit_zero_rows]
  | succ fuel ih =>
    by_cases h0 : h = 0
    · subst h0
      simp only [Nat.mul_zero, readPixels, Option.some.injEq, Prod.mk.injEq] at hsp
      rw [rawLoop_zero_rows, ← hsp.1, ← hsp.2, blit_zero_rows]
    · -- one batch of `min ltr h ≥ 1` lines, then the remaining lines
      have hsplit : w * h = w * (min ltr h) + w * (h - min ltr h) := by
        rw [← Nat.mul_add]; congr 1; omega
      rw [hsplit, readPixels_add] at hsp
      split at hsp
      · cases hsp
      · next p1 r1 h1 =>
        simp only [Option.map_eq_some_iff, Prod.exists, Prod.mk.injEq] at hsp
        obtain ⟨p2, r2, h2, rfl, rfl⟩ := hsp
        simp only [rawLoop, h0, if_false, h1]
        rw [copyRectangle_eq_blit fb x y w (min ltr h) p1 hW (by omega),
          ih (y := y + min ltr h) (by omega) (by simpa using hW) (by rw [blit_h]; omega) h2,
          blit_blit _ _ _ _ _ _ _ _ (readPixels_length h1)]
        congr 3
        omega

/-- **Raw**: the batching of rows through `client->buffer` (`RFB_BUFFER_SIZE / bytesPerLine`
lines per read) is invisible: the rectangle holds exactly the transmitted pixels -/
theorem clientRaw_refines (bpp : Nat) (fb : FB) (x y w h : Nat) (bs : Bytes) (px : List Pixel) (rest : Bytes)
    (hbpp : 1 ≤ bpp) (hfit : w * bpp ≤ rfbBufferSize)
    (hW : x + w ≤ fb.w) (hH : y + h ≤ fb.h)
    (hsp : decodeRaw ⟨w, h⟩ bpp bs = some (px, rest)) :
    clientRaw bpp fb x y w h bs = some (blit fb x y w h px, rest) := by
  simp only [decodeRaw] at hsp
  simp only [clientRaw]
  by_cases hw0 : w = 0
  · subst hw0
    simp only [Nat.zero_mul, readPixels, Option.some.injEq, Prod.mk.injEq] at hsp
    simp [← hsp.1, ← hsp.2, blit, blitRows_zero_cols]
  · have hbpl : w * bpp ≠ 0 := Nat.mul_ne_zero hw0 (by omega)
    have hltr : 1 ≤ rfbBufferSize / (w * bpp) :=
      (Nat.le_div_iff_mul_le (by omega)).mpr (by simpa using hfit)
    have hne : rfbBufferSize / (w * bpp) ≠ 0 := by omega
    simp only [hbpl, hne, if_false]
    exact rawLoop_refines bpp x w hltr (Nat.le_refl _) hW hH hsp

end VncModel.Client
