import VncModel.Client.Refine
import VncModel.Client.Assemble
import VncModel.Client.SpecExtra
/-!
Refinement of `HandleHextileBPP` (hextile.c): every tile, the tile loop, the whole rectangle.
-/
namespace VncModel.Client
open VncModel.Enc.Spec
open VncModel.Gen.C07

theorem hexColoured_fst_eq_foldl (bpp x y : Nat) {W H n : Nat} {fb : FB} {fg : Pixel} {bs rest : Bytes}
    {rs : List Subrect} (h : readSubrects (readPixel bpp) readGeomHex W H n bs = some (rs, rest)) :
    (hexColoured bpp x y n fb fg bs).1 = rs.foldl (paintAt x y) fb := by
  induction n generalizing fb fg bs rs with
  | zero =>
    simp only [readSubrects, Option.some.injEq, Prod.mk.injEq] at h
    obtain ⟨rfl, rfl⟩ := h
    rfl
  | succ n ih =>
    obtain ⟨c, bs1, sx, sy, sw, sh, bs2, rs', hc, hg, _, hr, rfl⟩ := readSubrects_succ_eq_some.mp h
    simp [hexColoured, hc, hg, ih hr, paintAt]

theorem hexMono_eq_foldl (x y : Nat) (fg : Pixel) {W H n : Nat} {fb : FB} {bs rest : Bytes}
    {rs : List Subrect} (h : readSubrects (fun b => some (fg, b)) readGeomHex W H n bs = some (rs, rest)) :
    hexMono x y fg n fb bs = rs.foldl (paintAt x y) fb := by
  induction n generalizing fb bs rs with
  | zero =>
    simp only [readSubrects, Option.some.injEq, Prod.mk.injEq] at h
    obtain ⟨rfl, rfl⟩ := h
    rfl
  | succ n ih =>
    obtain ⟨c, bs1, sx, sy, sw, sh, bs2, rs', hc, hg, _, hr, rfl⟩ := readSubrects_succ_eq_some.mp h
    simp only [Option.some.injEq, Prod.mk.injEq] at hc
    obtain ⟨rfl, rfl⟩ := hc
    simp [hexMono, hg, ih hr, paintAt]

/-- what the client's two C variables hold agrees with everything the specification knows -/
def HexRel (st : HexState) (cst : HexSt) : Prop :=
  (∀ p, st.bg = some p → cst.bg = p) ∧ (∀ p, st.fg = some p → cst.fg = p)

theorem optPixel_eq_some {p : Prop} [Decidable p] {bpp : Nat} {old v : Option Pixel} {bs r : Bytes} {c : Pixel}
    (hc : ∀ q, old = some q → c = q) (h : optPixel (decide p) bpp old bs = some (v, r)) :
    ∃ c', (if p then readPixel bpp bs else some (c, bs)) = some (c', r) ∧ ∀ q, v = some q → c' = q := by
  unfold optPixel at h
  by_cases hp : p
  · simp only [hp, decide_true, if_true, Option.map_eq_some_iff, Prod.exists, Prod.mk.injEq] at h ⊢
    obtain ⟨c', r', hr, rfl, rfl⟩ := h
    exact ⟨c', hr, fun q hq => Option.some.inj hq⟩
  · simp only [hp, decide_false, Bool.false_eq_true, if_false, Option.some.injEq, Prod.mk.injEq] at h ⊢
    obtain ⟨rfl, rfl⟩ := h
    exact ⟨c, ⟨rfl, rfl⟩, hc⟩

/-- **Hextile, one tile**: for every tile the (strict) specification decodes, the client tile
decoder accepts, consumes the same bytes, paints exactly the decoded pixels, and its `bg`/`fg`
variables keep agreeing with the specification's knowledge — for all flag combinations.
(Sub-rectangles never leave the tile's 16×16 grid, hence their geometry is whatever `readGeomHex`
says; the specification additionally demands that they stay inside the possibly smaller tile.) -/
theorem hexTile_refines (bpp : Nat) (fb : FB) (st : HexState) (cst : HexSt) (x y tw th : Nat) (bs : Bytes)
    (px : List Pixel) (st' : HexState) (rest : Bytes)
    (hR : HexRel st cst) (hW : x + tw ≤ fb.w) (hH : y + th ≤ fb.h)
    (hsp : decodeHextileTile bpp tw th st bs = some ((px, st'), rest)) :
    ∃ cst', hexTile bpp fb cst x y tw th bs = some ((blit fb x y tw th px, cst'), rest) ∧
      HexRel (strictAfter (bs.headD 0).toNat st') cst' := by
  cases bs with
  | nil => simp [decodeHextileTile] at hsp
  | cons m bs =>
    simp only [hexTile, List.headD_cons]
    rcases decodeHextileTile_cons_eq_some hsp with ⟨hraw, hp, rfl⟩ | ⟨hraw, bg, fg?, bs1, bs2, h1, h2, rfl, hrest⟩
    · refine ⟨cst, by simp [hraw, hp, copyRectangle_eq_blit _ _ _ _ _ _ hW hH], ?_⟩
      simpa [strictAfter, hexColouredTile, hraw] using hR
    obtain ⟨cbg, hcbg, hbg⟩ := optPixel_eq_some hR.1 h1
    obtain rfl := hbg bg rfl
    obtain ⟨cfg, hcfg, hfg⟩ := optPixel_eq_some hR.2 h2
    simp only [hraw, if_false, hcbg, hcfg]
    rcases hrest with ⟨hany, rfl, rfl⟩ | ⟨hany, n, bs3, rs, hn, rfl, ⟨hcol, hs⟩ | ⟨hcol, fg, rfl, hs⟩⟩
    · have hany0 : m.toNat / 8 % 2 = 0 := by omega
      refine ⟨⟨cbg, cfg⟩, by simp [hany0, fillRectangle_eq_blit fb x y tw th cbg hW hH], ?_⟩
      simpa [strictAfter, hexColouredTile, hany0, HexRel] using hfg
    · -- coloured sub-rectangles: the last colour read stays in `fg`, the specification forgets it
      obtain ⟨buf, ht, hbuf⟩ := (exact_readSubrects (exact_readPixel bpp) exact_readGeomHex tw th n).takeN hs
      refine ⟨⟨cbg, (hexColoured bpp x y n (fillRectangle fb x y tw th cbg) cfg buf).2⟩, ?_, ?_⟩
      · simp only [show ¬ m.toNat / 8 % 2 = 0 by omega, if_false, hn, hcol, if_true, ht]
        rw [← foldl_paintAt_fillRectangle hW hH cbg rs (readSubrects_inside hs),
          ← hexColoured_fst_eq_foldl bpp x y hbuf]
      · have : hexColouredTile m.toNat = true := by simp [hexColouredTile, hany, hcol]; omega
        simp [strictAfter, this, HexRel]
    · obtain rfl := hfg fg rfl
      obtain ⟨buf, ht, hbuf⟩ := (exact_readSubrects (exact_const cfg) exact_readGeomHex tw th n).takeN hs
      refine ⟨⟨cbg, cfg⟩, ?_, ?_⟩
      · simp only [show ¬ m.toNat / 8 % 2 = 0 by omega, if_false, hn, hcol, ht]
        rw [← foldl_paintAt_fillRectangle hW hH cbg rs (readSubrects_inside hs), ← hexMono_eq_foldl x y cfg hbuf]
      · simp [strictAfter, hexColouredTile, hcol, HexRel]

theorem hexTiles_refines (bpp rx ry rw rh : Nat) {ts : List TileRect} {fb : FB} {st : HexState} {cst : HexSt}
    {bs rest : Bytes} {pxs : List (List Pixel)} (hts : ∀ t ∈ ts, t.x + t.w ≤ rw ∧ t.y + t.h ≤ rh)
    (hW : rx + rw ≤ fb.w) (hH : ry + rh ≤ fb.h) (hR : HexRel st cst)
    (h : decodeHextileTilesStrict bpp ts st bs = some (pxs, rest)) :
    hexTiles bpp rx ry ts fb cst bs = some (blitTiles fb rx ry ts pxs, rest) := by
  induction ts generalizing fb st cst bs pxs with
  | nil =>
    simp only [decodeHextileTilesStrict, Option.some.injEq, Prod.mk.injEq] at h
    simp [hexTiles, blitTiles, ← h.2]
  | cons t ts ih =>
    simp only [decodeHextileTilesStrict] at h
    split at h
    · cases h
    next px st' bs' ht =>
    simp only [Option.map_eq_some_iff, Prod.exists, Prod.mk.injEq] at h
    obtain ⟨restpx, r', hr, rfl, rfl⟩ := h
    have hin := hts t (by simp)
    obtain ⟨cst', e1, hR'⟩ := hexTile_refines bpp fb st cst (rx + t.x) (ry + t.y) t.w t.h bs px st' bs' hR
      (by omega) (by omega) ht
    simp [hexTiles, e1, blitTiles, ih (fb := blit fb (rx + t.x) (ry + t.y) t.w t.h px)
      (fun t' ht' => hts t' (by simp [ht'])) hW hH hR' hr]

/-- **Hextile, whole rectangle**: on every stream the (strict) specification decoder accepts,
`HandleHextileBPP` returns TRUE with the same rest and has painted, tile by tile, exactly the
specification's tiles -/
theorem clientHextile_refines (bpp : Nat) (fb : FB) (rx ry rw rh : Nat) (bs : Bytes)
    (pxs : List (List Pixel)) (rest : Bytes)
    (hW : rx + rw ≤ fb.w) (hH : ry + rh ≤ fb.h)
    (hsp : decodeHextileTilesStrict bpp (tileGrid 16 ⟨rw, rh⟩) {} bs = some (pxs, rest)) :
    clientHextile bpp fb rx ry rw rh bs = some (blitTiles fb rx ry (tileGrid 16 ⟨rw, rh⟩) pxs, rest) :=
  hexTiles_refines bpp rx ry rw rh (fun t ht => mem_tileGrid (by decide) ht) hW hH ⟨fun p hp => by simp at hp, fun p hp => by simp at hp⟩ hsp

theorem size_paint_fold (w : Nat) (rs : List Subrect) (cv : Array Pixel) :
    (rs.foldl (fun cv r => fillRect cv w r.x r.y r.w r.h r.c) cv).size = cv.size := by
  induction rs generalizing cv with
  | nil => rfl
  | cons r rs ih => simp [ih, size_fillRect]

theorem paintRects_length (W H : Nat) (bg : Pixel) (rs : List Subrect) :
    (paintRects W H bg rs).toList.length = W * H := by
  simp [paintRects, size_paint_fold]

theorem decodeHextileTile_length {bpp tw th : Nat} {st st' : HexState} {bs rest : Bytes} {px : List Pixel}
    (h : decodeHextileTile bpp tw th st bs = some ((px, st'), rest)) : px.length = tw * th := by
  cases bs with
  | nil => simp [decodeHextileTile] at h
  | cons m bs =>
    rcases decodeHextileTile_cons_eq_some h with ⟨_, hp, _⟩ | ⟨_, bg, fg?, bs1, bs2, _, _, _, hrest⟩
    · exact readPixels_length hp
    · rcases hrest with ⟨_, rfl, _⟩ | ⟨_, n, bs3, rs, _, rfl, _⟩
      · simp
      · exact paintRects_length _ _ _ _

theorem strictTiles_lengths {bpp : Nat} {ts : List TileRect} {st : HexState} {bs rest : Bytes}
    {pxs : List (List Pixel)} (h : decodeHextileTilesStrict bpp ts st bs = some (pxs, rest)) : TileLens ts pxs := by
  induction ts generalizing st bs pxs with
  | nil =>
    simp only [decodeHextileTilesStrict, Option.some.injEq, Prod.mk.injEq] at h
    exact h.1 ▸ .nil
  | cons t ts ih =>
    simp only [decodeHextileTilesStrict] at h
    split at h
    · cases h
    next px st' bs' ht =>
    simp only [Option.map_eq_some_iff, Prod.exists, Prod.mk.injEq] at h
    obtain ⟨restpx, r', hr, rfl, rfl⟩ := h
    exact .cons (decodeHextileTile_length ht) (ih hr)

end VncModel.Client
