import VncModel.Client.Session
import VncModel.Client.Exact
import VncModel.Client.FbLemmas
/-!
Refinement of `HandleTightBPP` (tight.c; model `tightDecode`) to `Spec.decodeTight`: fill, basic
compression with the copy / palette (2 colours → 1-bit padded rows; 3‥256 → bytes) / gradient
filters, compact length, the 12-byte rule, stream selection (`t % 4`), `inflate` as a parameter.
-/
namespace VncModel.Client
open VncModel.Enc.Spec hiding encRaw encCopyRect encRRE encCoRRE encHextile encZlib encTight encUltra encTRLE encZRLE encZYWRLE encLastRect tightMinToCompress
open VncModel.Gen.C07

theorem compactLenC_eq : ∀ bs, compactLenC bs = readCompactLen bs
  | [] => rfl
  | [_] => rfl
  | a :: b :: bs => by
    simp only [compactLenC, readCompactLen]
    split
    · rfl
    split
    · next hb => rw [Nat.mod_eq_of_lt hb]
    · rfl

theorem readTightData_eq_some {infl : Bytes → Option Bytes} {size : Nat} {bs d r : Bytes}
    (h : readTightData infl size bs = some (d, r)) :
    (size < 12 ∧ takeN size bs = some (d, r)) ∨
    (¬ size < 12 ∧ ∃ n bs1 z, readCompactLen bs = some (n, bs1) ∧ takeN n bs1 = some (z, r) ∧ infl z = some d ∧
      d.length = size) := by
  simp only [readTightData, VncModel.Enc.Spec.tightMinToCompress] at h
  by_cases hs : size < 12
  · exact .inl ⟨hs, by simpa [hs] using h⟩
  simp only [hs, if_false] at h
  split at h
  · cases h
  next n bs1 hc =>
  split at h
  · cases h
  next z rest ht =>
  split at h
  · cases h
  next dd hi =>
  split at h
  · next hl =>
    simp only [Option.some.injEq, Prod.mk.injEq] at h
    obtain ⟨rfl, rfl⟩ := h
    exact .inr ⟨hs, n, bs1, z, hc, ht, hi, hl⟩
  · cases h

theorem readTightData_length {infl : Bytes → Option Bytes} {size : Nat} {bs d r : Bytes}
    (h : readTightData infl size bs = some (d, r)) : d.length = size := by
  rcases readTightData_eq_some h with ⟨_, ht⟩ | ⟨_, n, bs1, z, _, _, _, hl⟩
  · exact takeN_length ht
  · exact hl

/-- the data block: `readTightData` of the specification = the client's reading (12-byte rule,
compact length, one inflate call on stream `sid`, row accounting) -/
theorem tightData_refines (f : PixFmt) (infl : Nat → Bytes → Option Bytes) (sid bits w h : Nat) (bs d rest : Bytes)
    (hfit : (w * bits + 7) / 8 ≤ rfbBufferSize * bits / (bits + f.bpp) / 4 * 4)
    (hinfl0 : ∀ id dd, infl id [] = some dd → dd.length < 12)
    (hsp : readTightData (infl sid) (h * ((w * bits + 7) / 8)) bs = some (d, rest)) :
    ∃ used, tightData f infl false sid bits w h bs = .ok (d, used, rest) := by
  unfold tightData
  simp only [VncModel.Gen.C07.tightMinToCompress]
  rcases readTightData_eq_some hsp with ⟨hsmall, ht⟩ | ⟨hsmall, n, bs1, z, hc, ht, hi, hlen⟩
  · exact ⟨none, by simp [hsmall, ht]⟩
  · -- an empty chunk cannot inflate to 12 bytes or more, and the rows are not empty
    have hn0 : ¬ (n = 0) := by
      rintro rfl
      simp only [takeN, Option.some.injEq, Prod.mk.injEq] at ht
      have := hinfl0 sid d (ht.1 ▸ hi)
      omega
    have hrs : 0 < (w * bits + 7) / 8 := Nat.pos_of_ne_zero fun h0 => by simp [h0] at hsmall
    have hrows : d.length / ((w * bits + 7) / 8) = h := by rw [hlen, Nat.mul_div_cancel _ hrs]
    exact ⟨some (sid, z), by simp [hsmall, compactLenC_eq, hc, hn0, Nat.not_lt.mpr hfit, ht, hi, hrows]⟩

/-- bytes per row for the copy and gradient filters = `w` TPIXELs -/
theorem tight_rowsize_tpix (f : PixFmt) (hbpp : f.bpp = 8 * f.bytespp) (w : Nat) :
    (w * (if f.tpix.size = 3 ∧ f.bpp = 32 then 24 else f.bpp) + 7) / 8 = w * f.tpix.size := by
  by_cases hc : f.tpix.size = 3 ∧ f.bpp = 32
  · simp only [hc, and_self, if_true]
    have : w * 24 = 8 * (w * 3) := by omega
    rw [this]; omega
  · simp only [hc, if_false]
    have hsz : f.tpix.size = f.bytespp := by
      by_cases hr : f.bpp = 32 ∧ f.depth = 24 ∧ f.rMax = 255 ∧ f.gMax = 255 ∧ f.bMax = 255
      · exfalso; apply hc; simp [PixFmt.tpix, hr, TPix.size]
      · simp [PixFmt.tpix, hr, TPix.size]
    rw [hsz, hbpp]
    have : w * (8 * f.bytespp) = 8 * (w * f.bytespp) := by
      rw [Nat.mul_left_comm]
    rw [this]; omega

theorem tightData_tpixels (f : PixFmt) (infl : Nat → Bytes → Option Bytes) (sid w h : Nat) (bs d rest : Bytes)
    (hbpp : f.bpp = 8 * f.bytespp)
    (hrow : ∀ bits, bits = 1 ∨ bits = 8 ∨ bits = 24 ∨ bits = f.bpp →
      (w * bits + 7) / 8 ≤ rfbBufferSize * bits / (bits + f.bpp) / 4 * 4)
    (hinfl0 : ∀ id dd, infl id [] = some dd → dd.length < 12)
    (hd : readTightData (infl sid) (w * h * f.tpix.size) bs = some (d, rest)) :
    ∃ used, tightData f infl false sid (if f.tpix.size = 3 ∧ f.bpp = 32 then 24 else f.bpp) w h bs =
      .ok (d, used, rest) := by
  have hfit := hrow (if f.tpix.size = 3 ∧ f.bpp = 32 then 24 else f.bpp) (by split <;> simp)
  refine tightData_refines f infl sid _ w h bs d rest hfit hinfl0 ?_
  rw [tight_rowsize_tpix f hbpp w, show h * (w * f.tpix.size) = w * h * f.tpix.size by ac_rfl]
  exact hd

/-- a one-colour palette (count byte 0): accepted by `Spec.decodeTight`, refused by tight.c
(`if (++client->rectColors < 2) return 0`); the Tight documentation wants 2‥256 colours -/
def tightOneColourPalette : Bytes → Bool
  | c :: fid :: nc :: _ => c.toNat / 16 < 8 && c.toNat / 64 % 2 = 1 && fid.toNat = 1 && nc.toNat = 0
  | _ => false

def tightIsGradient : Bytes → Bool
  | c :: fid :: _ => c.toNat / 16 < 8 && c.toNat / 64 % 2 = 1 && fid.toNat = 2
  | _ => false

/-- **Tight**: whenever `Spec.decodeTight` (no JPEG/PNG codec, no "no zlib" extension: the RFB
specification proper) decodes a rectangle to `px`, `HandleTightBPP` obtains exactly `px`,
leaves the same rest, and has used the zlib stream the specification names.
Hypotheses = limits of the library, each stated: pixel formats with whole bytes; every row fits
the decompression window (`hrow`, the C code's "incorrect buffer size" guard); gradient rows
fit the 2048-pixel row buffers; no one-colour palette; inflating an empty chunk yields < 12 bytes. -/
theorem tightDecode_refines (f : PixFmt) (infl : Nat → Bytes → Option Bytes) (w h : Nat) (bs : Bytes)
    (px : List Pixel) (rest : Bytes)
    (hbpp : f.bpp = 8 * f.bytespp)
    (hrow : ∀ bits, bits = 1 ∨ bits = 8 ∨ bits = 24 ∨ bits = f.bpp →
      (w * bits + 7) / 8 ≤ rfbBufferSize * bits / (bits + f.bpp) / 4 * 4)
    (hgrad : tightIsGradient bs = true → w * 3 ≤ tightThisRowCells)
    (hpal1 : tightOneColourPalette bs = false)
    (hinfl0 : ∀ id dd, infl id [] = some dd → dd.length < 12)
    (hsp : decodeTight {} infl f ⟨w, h⟩ bs = some (px, rest)) :
    ∃ used, tightDecode f infl w h bs = .ok (px, used, rest) := by
  cases bs with
  | nil => simp [decodeTight] at hsp
  | cons c bs =>
    simp only [decodeTight] at hsp
    simp only [tightDecode]
    have hc256 : c.toNat < 256 := c.toNat_lt
    by_cases h8 : c.toNat / 16 = 8
    · -- fill
      simp only [h8, if_true, Option.map_eq_some_iff, Prod.exists, Prod.mk.injEq] at hsp
      obtain ⟨p, r, hp, rfl, rfl⟩ := hsp
      exact ⟨none, by simp [h8, tightFill, hp]⟩
    by_cases h9 : c.toNat / 16 = 9
    · -- JPEG: there is no codec in the specification proper
      simp only [h9, if_true, show ¬ (9 = 8) by decide, if_false] at hsp
      split at hsp
      · cases hsp
      split at hsp
      · cases hsp
      simp at hsp
    simp only [h8, h9, if_false, show ¬ (c.toNat / 16 = 10 ∧ ({} : TightCodecs).isPng = true) by simp] at hsp
    by_cases hge : c.toNat / 16 ≥ 8
    · -- 10‥15: not part of the specification proper
      simp [hge] at hsp
    -- basic compression, stream `t % 4`
    have hlt : c.toNat / 16 < 8 := by omega
    rw [if_neg (fun hh => hge hh.1)] at hsp
    simp only [show ¬ (c.toNat / 16 = 10 ∨ c.toNat / 16 = 14) by omega, if_false] at hsp
    simp only [show ¬ (c.toNat / 16 % 4 / 2 = 1 ∧ c.toNat / 16 / 8 = 1) by omega, decide_false,
      Bool.false_eq_true, if_false, show ¬ c.toNat / 16 = tightFill by simp [tightFill]; omega,
      show ¬ c.toNat / 16 = tightJpeg by simp [tightJpeg]; omega,
      show ¬ c.toNat / 16 > tightMaxSubencoding by simp [tightMaxSubencoding]; omega]
    split at hsp
    · cases hsp
    next fid b1 hf =>
    simp only [hf]
    -- a filter other than copy comes with an explicit filter byte
    have hbyte : fid ≠ 0 → c.toNat / 64 % 2 = 1 ∧ ∃ fb0 : UInt8, bs = fb0 :: b1 ∧ fb0.toNat = fid := by
      intro hne
      split at hf
      · next hexp =>
        cases bs with
        | nil => simp [readU8] at hf
        | cons fb0 bs' =>
          simp only [readU8, Option.some.injEq, Prod.mk.injEq] at hf
          exact ⟨by omega, fb0, by rw [hf.2], hf.1⟩
      · simp only [Option.some.injEq, Prod.mk.injEq] at hf
        exact absurd hf.1.symm hne
    by_cases hf0 : fid = 0
    · -- copy filter
      subst hf0
      simp only [if_true] at hsp
      split at hsp
      · cases hsp
      next d r hd =>
      split at hsp
      · next ps hpx =>
        simp only [Option.some.injEq, Prod.mk.injEq] at hsp
        obtain ⟨rfl, rfl⟩ := hsp
        obtain ⟨used, hu⟩ := tightData_tpixels f infl (c.toNat / 16 % 4) w h b1 d r hbpp hrow hinfl0 hd
        exact ⟨used, by simp [tightFilterOf, tightFilterCopy, hu, tightFilterRows, hpx]⟩
      · cases hsp
    obtain ⟨hexp, fb0, rfl, rfl⟩ := hbyte hf0
    simp only [hf0, if_false] at hsp
    by_cases hf1 : fb0.toNat = 1
    · -- palette filter
      simp only [hf1, if_true] at hsp
      split at hsp
      · cases hsp
      next nc1 b2 hn =>
      have hnc : nc1 ≠ 0 := by
        rintro rfl
        cases b1 with
        | nil => simp [readU8] at hn
        | cons nb b1' =>
          simp only [readU8, Option.some.injEq, Prod.mk.injEq] at hn
          simp [tightOneColourPalette, hlt, hexp, hf1, hn.1] at hpal1
      split at hsp
      · cases hsp
      next pal b3 hpl =>
      have hpll := readTPixels_length hpl
      split at hsp
      · next h2 =>
        -- two colours: one bit per pixel, padded rows
        split at hsp
        · cases hsp
        next d r hd =>
        split at hsp
        · next ps hpx =>
          simp only [Option.some.injEq, Prod.mk.injEq] at hsp
          obtain ⟨rfl, rfl⟩ := hsp
          obtain ⟨used, hu⟩ := tightData_refines f infl (c.toNat / 16 % 4) 1 w h b3 d r (hrow 1 (.inl rfl)) hinfl0
            (by rw [Nat.mul_one, Nat.mul_comm]; exact hd)
          rw [h2] at hpl hpll
          exact ⟨used, by simp [tightFilterOf, tightFilterCopy, tightFilterPalette, hf1, hn, h2, hpl, hu,
            tightFilterRows, hpll, hpx]⟩
        · cases hsp
      · next h2 =>
        -- 3‥256 colours: one byte per pixel
        split at hsp
        · cases hsp
        next d r hd =>
        simp only [Option.map_eq_some_iff] at hsp
        obtain ⟨ps, hpx, heq⟩ := hsp
        obtain ⟨rfl, rfl⟩ := Prod.mk.inj heq
        obtain ⟨used, hu⟩ := tightData_refines f infl (c.toNat / 16 % 4) 8 w h b3 d r
          (hrow 8 (.inr (.inl rfl))) hinfl0
          (by rw [show (w * 8 + 7) / 8 = w by omega, Nat.mul_comm]; exact hd)
        have htk : d.take (w * h) = d := List.take_of_length_le (by rw [readTightData_length hd]; omega)
        exact ⟨used, by simp [tightFilterOf, tightFilterCopy, tightFilterPalette, hf1, hn,
          show ¬ nc1 + 1 < 2 by omega, hpl, h2, hu, tightFilterRows, hpll, htk, hpx]⟩
    simp only [hf1, if_false] at hsp
    by_cases hf2 : fb0.toNat = 2
    · -- gradient filter
      simp only [hf2, if_true] at hsp
      split at hsp
      · cases hsp
      next d r hd =>
      split at hsp
      · next dpx hpx =>
        simp only [Option.some.injEq, Prod.mk.injEq] at hsp
        obtain ⟨rfl, rfl⟩ := hsp
        have hg : ¬ (w * 3 > tightThisRowCells) :=
          Nat.not_lt.mpr (hgrad (by simp [tightIsGradient, hlt, hexp, hf2]))
        obtain ⟨used, hu⟩ := tightData_tpixels f infl (c.toNat / 16 % 4) w h b1 d r hbpp hrow hinfl0 hd
        exact ⟨used, by simp [tightFilterOf, tightFilterCopy, tightFilterPalette, tightFilterGradient, hf2, hg, hu,
          tightFilterRows, hpx]⟩
      · cases hsp
    · simp [hf2] at hsp

/-- the decompressor parameter the session model hands to `tightDecode`: the oracle queue -/
def St.tightOracle (s : St) : Nat → Bytes → Option Bytes := fun id z => (popZ id z s.zq).map (·.1)

theorem handleTight_of_tightDecode (s : St) (x y w h : Nat) (bs : Bytes) (px : List Pixel) (rest : Bytes)
    (used : Option (Nat × Bytes)) (hW : x + w ≤ s.fb.w) (hH : y + h ≤ s.fb.h)
    (hu : tightDecode s.fmt s.tightOracle w h bs = .ok (px, used, rest)) :
    ∃ s', handleTight s x y w h bs = .ok (s', rest) ∧ s'.fb = blit s.fb x y w h px := by
  unfold St.tightOracle at hu
  simp only [handleTight, show ¬ (x + w > s.fb.w ∨ y + h > s.fb.h) by omega, if_false, hu]
  refine ⟨_, rfl, ?_⟩
  cases used with
  | none => rfl
  | some u =>
    obtain ⟨id, z⟩ := u
    simp only
    cases popZ id z s.zq <;> rfl

end VncModel.Client
