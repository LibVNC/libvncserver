import VncModel.Client.RefineZrle
import VncModel.Client.SpecExtra
/-!
Refinement of `HandleTRLE` (trle.c) to `Spec.decodeTRLE`: every tile sub-encoding including the
palette reuse (127 / 129) with the `last_type` bookkeeping, then the tile loop and the assembly.
-/
namespace VncModel.Client
open VncModel.Enc.Spec
open VncModel.Gen.C07

/-! ### run lengths: the byte-by-byte reader of trle.c = `Spec.readRunLen` while the 0xff chain is
shorter than the room in `raw_buffer` -/

theorem trleRunLen_eq : ∀ (bs : Bytes) (budget acc n : Nat) (rest : Bytes),
    readRunLen bs = some (n, rest) → (n - 1) / 255 ≤ budget →
    trleRunLen budget acc bs = some (acc + (n - 1), rest)
  | [], _, _, _, _, h, _ => by simp [readRunLen] at h
  | b :: bs, budget, acc, n, rest, h, hb => by
    simp only [readRunLen] at h
    split at h
    · next h255 =>
      simp only [Option.map_eq_some_iff, Prod.exists, Prod.mk.injEq] at h
      obtain ⟨n', r', hr, rfl, rfl⟩ := h
      have hn' := (readRunLen_pos hr).1
      cases budget with
      | zero => omega
      | succ k =>
        simp only [trleRunLen, h255, if_true, trleRunLen_eq bs k (acc + 255) n' r' hr (by omega)]
        congr 2; omega
    · next h255 =>
      simp only [Option.some.injEq, Prod.mk.injEq] at h
      obtain ⟨rfl, rfl⟩ := h
      cases budget <;> simp [trleRunLen, h255]

theorem trleRunLen_of_le {bs bs2 : Bytes} {len rem budget : Nat} (hl : readRunLen bs = some (len, bs2))
    (hle : len ≤ rem) (hb : rem / 255 ≤ budget) : trleRunLen budget 1 bs = some (len, bs2) := by
  have h1 := (readRunLen_pos hl).1
  have := trleRunLen_eq bs budget 1 len bs2 hl (Nat.le_trans (Nat.div_le_div_right (by omega)) hb)
  rwa [show 1 + (len - 1) = len by omega] at this

theorem trlePlainRLE_refines (cp : CPix) (budget : Nat) :
    ∀ (f rem : Nat) (bs : Bytes) (px : List Pixel) (rest : Bytes),
      rem / 255 ≤ budget - cp.size →
      decodePlainRLE cp f rem bs = some (px, rest) → trlePlainRLE cp budget f rem bs = some (px, rest)
  | _, 0, bs, px, rest, _, h => by simpa [decodePlainRLE, trlePlainRLE] using h
  | 0, rem + 1, bs, px, rest, _, h => by simp [decodePlainRLE] at h
  | f + 1, rem + 1, bs, px, rest, hb, h => by
    obtain ⟨p, bs1, len, bs2, ps, hp, hl, hle, hr, rfl⟩ := decodePlainRLE_succ_eq_some h
    have hb' : (rem + 1 - len) / 255 ≤ budget - cp.size :=
      Nat.le_trans (Nat.div_le_div_right (by omega)) hb
    simp only [trlePlainRLE, hp, trleRunLen_of_le hl hle hb, Nat.min_eq_left hle,
      trlePlainRLE_refines cp budget f _ _ _ _ hb' hr, Option.map_some]

theorem trlePaletteRLE_refines (pal : List Pixel) (arr : Array Pixel) (hag : PalAgree pal arr) (budget : Nat) :
    ∀ (f rem : Nat) (bs : Bytes) (px : List Pixel) (rest : Bytes),
      rem / 255 ≤ budget - 1 →
      decodePaletteRLE pal f rem bs = some (px, rest) → trlePaletteRLE arr budget f rem bs = some (px, rest)
  | _, 0, bs, px, rest, _, h => by simpa [decodePaletteRLE, trlePaletteRLE] using h
  | 0, rem + 1, bs, px, rest, _, h => by simp [decodePaletteRLE] at h
  | f + 1, rem + 1, [], px, rest, _, h => by simp [decodePaletteRLE] at h
  | f + 1, rem + 1, b :: bs, px, rest, hb, h => by
    have hb256 : b.toNat < 256 := b.toNat_lt
    rcases decodePaletteRLE_succ_eq_some h with ⟨p, ps, hlt, hp, hr, rfl⟩ | ⟨p, len, bs2, ps, hlt, hp, hl, hle, hr, rfl⟩
    · have hb' : rem / 255 ≤ budget - 1 := Nat.le_trans (Nat.div_le_div_right (by omega)) hb
      simp only [trlePaletteRLE, hlt, if_true, Nat.mod_eq_of_lt hlt, hag _ _ hp,
        trlePaletteRLE_refines pal arr hag budget f _ _ _ _ hb' hr, Option.map_some]
    · have hb' : (rem + 1 - len) / 255 ≤ budget - 1 := Nat.le_trans (Nat.div_le_div_right (by omega)) hb
      simp only [trlePaletteRLE, hlt, if_false, show b.toNat % 128 = b.toNat - 128 by omega, hag _ _ hp,
        trleRunLen_of_le hl hle hb, Nat.min_eq_left hle,
        trlePaletteRLE_refines pal arr hag budget f _ _ _ _ hb' hr, Option.map_some]

theorem unpackRowsC_prefix (bits : Nat) (hb : bits = 1 ∨ bits = 2 ∨ bits = 4) (w : Nat) :
    ∀ (h : Nat) (bs : Bytes), (w * bits + 7) / 8 * h ≤ bs.length →
      unpackRowsC bits w h (bs.take ((w * bits + 7) / 8 * h)) = unpackRowsC bits w h bs := by
  intro h
  induction h with
  | zero => intro bs _; simp [unpackRowsC]
  | succ h ih =>
    intro bs hlen
    rw [Nat.mul_succ] at hlen
    have hrl : (bs.take ((w * bits + 7) / 8)).length = (w * bits + 7) / 8 := List.length_take_of_le (by omega)
    have hdl : (w * bits + 7) / 8 * h ≤ (bs.drop ((w * bits + 7) / 8)).length := by
      rw [List.length_drop]; omega
    have e1 : bs.take ((w * bits + 7) / 8 * (h + 1)) =
        bs.take ((w * bits + 7) / 8) ++ (bs.drop ((w * bits + 7) / 8)).take ((w * bits + 7) / 8 * h) := by
      rw [Nat.mul_succ, Nat.add_comm, List.take_add]
    rw [e1]
    simp only [unpackRowsC]
    rw [unpackRowC_row bits hb w _ _ hrl]
    conv => rhs; rw [← List.take_append_drop ((w * bits + 7) / 8) bs, unpackRowC_row bits hb w _ _ hrl]
    rw [ih _ hdl]

theorem trlePacked_refines (bits : Nat) (hb : bits = 1 ∨ bits = 2 ∨ bits = 4) (fb : FB) (st : TrleSt)
    (x y tw th : Nat) (pal : List Pixel) (hbpp : st.bpp = bits) (hag : PalAgree pal st.pal)
    (bs : Bytes) (px : List Pixel) (rest : Bytes)
    (h : decodePackedRows bits tw pal th bs = some (px, rest)) :
    trlePacked fb st x y tw th bs = some ((blit fb x y tw th px, st), rest) := by
  obtain ⟨r1, _, r3, r4⟩ := packedRows_refines hb tw hag h
  have hle : (tw * bits + 7) / 8 * th ≤ bs.length := by omega
  simp only [trlePacked, hbpp, row_bytes_eq hb tw, takeN_take hle, unpackRowsC_prefix bits hb tw th bs hle, ← r1,
    ← r4, writeDirect_eq_blit]

/-- what the client's `last_type` / `palette[]` / `bpp` say agrees with the palette the
specification would reuse -/
def TrleRel (prev : List Pixel) (st : TrleSt) : Prop :=
  prev = [] ∨ (2 ≤ prev.length ∧ PalAgree prev st.pal ∧
    ((st.lastType = prev.length ∧ prev.length ≤ 16 ∧ st.bpp = packedBits prev.length) ∨
     (st.lastType = 128 + prev.length ∧ prev.length ≤ 127)))

/-- reading the palette of a tile: `ReadFromRFBServer(n·cpixel)` then `palette[i] = …` -/
theorem trle_palette_read (cp : CPix) (n : Nat) (arr : Array Pixel) (harr : n ≤ arr.size) (bs : Bytes)
    (pal : List Pixel) (bs1 : Bytes) (h : readCPixels cp n bs = some (pal, bs1)) :
    ∃ pb arr' rem, takeN (n * cp.size) bs = some (pb, bs1) ∧ readPalette cp n 0 arr pb = (arr', rem) ∧
      arr'.size = arr.size ∧ PalAgree pal arr' := by
  obtain ⟨pb, ht, hpb⟩ := (exact_readCPixels cp n).takeN h
  obtain ⟨arr', e, hs, hag⟩ := readPalette_agree harr hpb
  exact ⟨pb, arr', [], ht, e, hs, hag⟩

/-- **TRLE, one tile** (all sub-encodings): for every tile the specification decodes with the
"previous palette" `prev`, the client — whose state agrees with `prev` — accepts, consumes the same
bytes, paints exactly the decoded pixels, and its state agrees with the new palette (forgotten
after a solid tile) -/
theorem trleTile_refines (cp : CPix) (rawBuf : Nat) (fb : FB) (st : TrleSt) (x y tw th : Nat)
    (prev : List Pixel) (bs : Bytes) (px prev' : List Pixel) (rest : Bytes)
    (hrel : TrleRel prev st) (hW : x + tw ≤ fb.w) (hH : y + th ≤ fb.h)
    (hpalsz : st.pal.size = trlePaletteCells)
    (hbud : tw * th / 255 + cp.size + 2 ≤ rawBuf)
    (hsp : decodeTRLETile cp tw th prev bs = some ((px, prev'), rest)) :
    ∃ st', trleTile cp rawBuf fb st x y tw th bs = some ((blit fb x y tw th px, st'), rest) ∧
      TrleRel (trleStrictAfter (bs.headD 0).toNat prev') st' ∧ st'.pal.size = trlePaletteCells := by
  cases bs with
  | nil => simp [decodeTRLETile] at hsp
  | cons m bs =>
    simp only [trleTile, List.headD_cons]
    have hm256 : m.toNat < 256 := m.toNat_lt
    have hb1 : tw * th / 255 ≤ rawBuf - 1 - cp.size := by omega
    have hb2 : tw * th / 255 ≤ rawBuf - 1 - 1 := by omega
    have hcells : trlePaletteCells = 128 := rfl
    rcases decodeTRLETile_cons_eq_some hsp with ⟨h127, hlen, rfl, hd⟩ | ⟨h129, hlen, rfl, hd⟩ |
      ⟨hpk, bs1, hpal, hd⟩ | ⟨h130, bs1, hpal, hd⟩ | ⟨h0, rfl, hraw⟩ | ⟨h1, rfl, c, hp, rfl⟩ | ⟨h128, rfl, hrle⟩
    · -- reuse the palette, packed
      rw [trleStrictAfter_of_ne (by omega)]
      have hbc := packedBits_cases prev'.length
      rcases hrel with hnil | ⟨h2, hag, ⟨hlt, h16, hbpp⟩ | ⟨hlt, _⟩⟩
      · simp [hnil] at hlen
      · refine ⟨st, ?_, Or.inr ⟨h2, hag, Or.inl ⟨hlt, h16, hbpp⟩⟩, hpalsz⟩
        have hl : ¬ (st.lastType = 0 ∨ st.lastType = 128) ∧ ¬ st.lastType = 1 ∧ ¬ st.lastType ≥ 130 ∧
            st.lastType ≤ 16 := by omega
        simp only [h127, show ¬ (127 = 0) by decide, show ¬ (127 = 1) by decide, if_false, if_true, hl,
          trlePacked_refines _ hbc fb st x y tw th prev' hbpp hag bs px rest hd]
      · -- the palette came with an RLE tile: `last_type` and `bpp` are switched to the packed form
        have hpb := packBits_eq hlen.1 hlen.2
        refine ⟨⟨prev'.length, st.pal, packBits prev'.length, st.color⟩, ?_,
          Or.inr ⟨h2, hag, Or.inl ⟨rfl, hlen.2, hpb⟩⟩, hpalsz⟩
        have hl : ¬ (st.lastType = 0 ∨ st.lastType = 128) ∧ ¬ st.lastType = 1 ∧ st.lastType ≥ 130 ∧
            st.lastType % 128 = prev'.length := by omega
        simp only [h127, show ¬ (127 = 0) by decide, show ¬ (127 = 1) by decide, if_false, if_true, hl, hlen.2,
          trlePacked_refines _ hbc fb ⟨prev'.length, st.pal, packBits prev'.length, st.color⟩ x y tw th prev'
            hpb hag bs px rest hd]
    · -- reuse the palette, RLE
      rw [trleStrictAfter_of_ne (by omega)]
      rcases hrel with hnil | ⟨h2, hag, hform⟩
      · simp [hnil] at hlen
      · exact ⟨st, by simp [h129, trlePaletteRLE_refines prev' st.pal hag (rawBuf - 1) _ _ _ _ _ hb2 hd,
          writeDirect_eq_blit], Or.inr ⟨h2, hag, hform⟩, hpalsz⟩
    · -- new palette, packed
      rw [trleStrictAfter_of_ne (by omega)]
      obtain ⟨pb, arr', rem', htk, hrp, hsz, hag⟩ := trle_palette_read cp m.toNat st.pal (by omega) bs prev' bs1 hpal
      have hplen : prev'.length = m.toNat := readCPixels_length hpal
      have hbpp : (if m.toNat > 4 then 4 else if m.toNat > 2 then 2 else 1) = packedBits m.toNat := by
        rw [← packBits_eq hpk.1 hpk.2, packBits, if_neg (show ¬ m.toNat > 16 by omega)]
      refine ⟨⟨m.toNat, arr', if m.toNat > 4 then 4 else if m.toNat > 2 then 2 else 1, st.color⟩, ?_,
        Or.inr ⟨by omega, hag, Or.inl ⟨hplen.symm, by omega, by simp [hbpp, hplen]⟩⟩, hsz.trans hpalsz⟩
      have hm : ¬ m.toNat = 0 ∧ ¬ m.toNat = 1 ∧ ¬ m.toNat = 127 ∧ ¬ m.toNat = 128 ∧ ¬ m.toNat = 129 := by omega
      simp only [hm, if_false, hpk.2, if_true, htk, hrp]
      rw [trlePacked_refines _ (packedBits_cases m.toNat) fb _ x y tw th prev' (by simp [hbpp]) hag bs1 px rest hd]
    · -- new palette, RLE
      rw [trleStrictAfter_of_ne (by omega)]
      obtain ⟨pb, arr', rem', htk, hrp, hsz, hag⟩ :=
        trle_palette_read cp (m.toNat - 128) st.pal (by omega) bs prev' bs1 hpal
      have hplen : prev'.length = m.toNat - 128 := readCPixels_length hpal
      refine ⟨⟨m.toNat, arr', st.bpp, st.color⟩, ?_,
        Or.inr ⟨by omega, hag, Or.inr ⟨by simp [hplen]; omega, by omega⟩⟩, hsz.trans hpalsz⟩
      have hm : ¬ m.toNat = 0 ∧ ¬ m.toNat = 1 ∧ ¬ m.toNat = 127 ∧ ¬ m.toNat = 128 ∧ ¬ m.toNat = 129 ∧
          ¬ m.toNat ≤ 16 := by omega
      simp [hm, h130, htk, hrp,
        trlePaletteRLE_refines prev' arr' hag (rawBuf - 1) _ _ _ _ _ hb2 hd, writeDirect_eq_blit]
    · exact ⟨st, by simp [h0, hraw, writeDirect_eq_blit], by rwa [trleStrictAfter_of_ne (by omega)], hpalsz⟩
    · -- solid: the palette is forgotten
      exact ⟨⟨1, st.pal, st.bpp, c⟩, by simp [h1, hp, fillRectangle_eq_blit fb x y tw th c hW hH],
        Or.inl (by simp [trleStrictAfter, h1]), hpalsz⟩
    · exact ⟨st, by simp [h128, trlePlainRLE_refines cp (rawBuf - 1) _ _ _ _ _ hb1 hrle, writeDirect_eq_blit],
        by rwa [trleStrictAfter_of_ne (by omega)], hpalsz⟩

theorem strictTrleTiles_lengths {cp : CPix} {ts : List TileRect} {prev : List Pixel} {bs rest : Bytes}
    {pxs : List (List Pixel)} (h : decodeTRLETilesStrict cp ts prev bs = some (pxs, rest)) : TileLens ts pxs := by
  induction ts generalizing prev bs pxs with
  | nil =>
    simp only [decodeTRLETilesStrict, Option.some.injEq, Prod.mk.injEq] at h
    exact h.1 ▸ .nil
  | cons t ts ih =>
    simp only [decodeTRLETilesStrict] at h
    split at h
    · cases h
    next px pal bs' ht =>
    simp only [Option.map_eq_some_iff, Prod.exists, Prod.mk.injEq] at h
    obtain ⟨restpx, r', hr, rfl, rfl⟩ := h
    exact .cons (decodeTRLETile_length ht) (ih hr)

theorem trleTiles_refines (cp : CPix) (rawBuf rx ry rw rh : Nat) (hraw : cp.size + 3 ≤ rawBuf) {ts : List TileRect}
    {fb : FB} {prev : List Pixel} {st : TrleSt} {bs rest : Bytes} {pxs : List (List Pixel)}
    (hts : ∀ t ∈ ts, t.x + t.w ≤ rw ∧ t.y + t.h ≤ rh ∧ t.w * t.h ≤ 256) (hW : rx + rw ≤ fb.w) (hH : ry + rh ≤ fb.h)
    (hR : TrleRel prev st) (hsz : st.pal.size = trlePaletteCells)
    (h : decodeTRLETilesStrict cp ts prev bs = some (pxs, rest)) :
    trleTiles cp rawBuf rx ry ts fb st bs = some (blitTiles fb rx ry ts pxs, rest) := by
  induction ts generalizing fb prev st bs pxs with
  | nil =>
    simp only [decodeTRLETilesStrict, Option.some.injEq, Prod.mk.injEq] at h
    simp [trleTiles, blitTiles, ← h.2]
  | cons t ts ih =>
    simp only [decodeTRLETilesStrict] at h
    split at h
    · cases h
    next px pal bs' ht =>
    simp only [Option.map_eq_some_iff, Prod.exists, Prod.mk.injEq] at h
    obtain ⟨restpx, r', hr, rfl, rfl⟩ := h
    have hin := hts t (by simp)
    -- a run in a tile of at most 256 pixels has at most one 0xff byte
    have hbud : t.w * t.h / 255 + cp.size + 2 ≤ rawBuf := by
      have : t.w * t.h / 255 ≤ 1 := by omega
      omega
    obtain ⟨st', e1, hR', hsz'⟩ := trleTile_refines cp rawBuf fb st (rx + t.x) (ry + t.y) t.w t.h prev bs px pal bs'
      hR (by omega) (by omega) hsz hbud ht
    simp [trleTiles, e1, blitTiles, ih (fb := blit fb (rx + t.x) (ry + t.y) t.w t.h px)
      (fun t' ht' => hts t' (by simp [ht'])) hW hH hR' hsz' hr]

end VncModel.Client
