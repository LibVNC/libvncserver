import VncModel.Client.Session
/-!
Lemmas on the request builders (SetPixelFormat / SetEncodings / FramebufferUpdateRequest).
-/
namespace VncModel.Client
open VncModel.Enc.Spec hiding encRaw encCopyRect encRRE encCoRRE encHextile encZlib encTight encUltra encTRLE encZRLE encZYWRLE encLastRect tightMinToCompress
open VncModel.Gen.C07

theorem toNat_ofNat_mod (n : Nat) : (UInt8.ofNat n).toNat = n % 256 := by
  simp [UInt8.toNat_ofNat']

theorem readU16_u16be {n : Nat} (h : n < 65536) (r : Bytes) : readU16 (u16be n ++ r) = some (n, r) := by
  simp [u16be, readU16]; omega

theorem readU32_u32be {n : Nat} (h : n < 4294967296) (r : Bytes) : readU32 (u32be n ++ r) = some (n, r) := by
  simp [u32be, readU32]; omega

theorem u32be_length (n : Nat) : (u32be n).length = 4 := rfl
theorem u16be_length (n : Nat) : (u16be n).length = 2 := rfl

theorem fbUpdateRequest_length (x y w h : Nat) (incr : Bool) :
    (fbUpdateRequest x y w h incr).length = szFramebufferUpdateRequest := by
  simp [fbUpdateRequest, u16be, szFramebufferUpdateRequest]

theorem be16_roundtrip {x : Nat} (h : x < 65536) : x / 256 % 256 * 256 + x % 256 = x := by
  have : x / 256 % 256 = x / 256 := Nat.mod_eq_of_lt (by omega)
  rw [this]; omega

/-- parsing a FramebufferUpdateRequest back (what the server's parser does) -/
def parseFBUR : Bytes → Option (Nat × Nat × Nat × Nat × Nat × Nat)
  | t :: i :: r =>
    match readGeom16 r with
    | some ((x, y, w, h), []) => some (t.toNat, i.toNat, x, y, w, h)
    | _ => none
  | _ => none

theorem parseFBUR_fbUpdateRequest {x y w h : Nat} (incr : Bool)
    (hx : x < 65536) (hy : y < 65536) (hw : w < 65536) (hh : h < 65536) :
    parseFBUR (fbUpdateRequest x y w h incr) =
      some (msgFramebufferUpdateRequest, if incr then 1 else 0, x, y, w, h) := by
  have e1 := be16_roundtrip hx
  have e2 := be16_roundtrip hy
  have e3 := be16_roundtrip hw
  have e4 := be16_roundtrip hh
  simp only [fbUpdateRequest, u16be, parseFBUR, List.cons_append, List.nil_append, readGeom16, toNat_ofNat_mod]
  cases incr <;> simp [e1, e2, e3, e4, msgFramebufferUpdateRequest]

theorem setPixelFormatMsg_length (f : PixFmt) : (setPixelFormatMsg f).length = szSetPixelFormat := by
  simp [setPixelFormatMsg, pixelFormatBytes, u16be, szSetPixelFormat]

theorem flatMap_u32be_length (es : List Nat) : (es.flatMap u32be).length = 4 * es.length := by
  induction es with
  | nil => rfl
  | cons e es ih => rw [List.flatMap_cons, List.length_append, ih, u32be_length, List.length_cons]; omega

theorem setEncodingsMsg_length (es : List Nat) :
    (setEncodingsMsg es).length = szSetEncodings + 4 * es.length := by
  simp only [setEncodingsMsg, List.length_append, List.length_cons, List.length_nil, u16be_length,
    flatMap_u32be_length, szSetEncodings]

theorem pushEnc_le (acc : List Nat) (e : Nat) (h : acc.length ≤ maxEncodings) :
    (pushEnc acc e).length ≤ maxEncodings := by
  unfold pushEnc
  split
  · next hlt => simp only [List.length_append, List.length_cons, List.length_nil]; omega
  · exact h

theorem ite_le_of {c : Prop} [Decidable c] {a b n : Nat} (ha : a ≤ n) (hb : b ≤ n) :
    (if c then a else b) ≤ n := by split <;> assumption

theorem encToken_le2 (t : String) : (encToken t).1.length ≤ 2 := by
  simp only [encToken, apply_ite Prod.fst, apply_ite List.length, List.length_cons, List.length_nil]
  repeat' apply ite_le_of
  all_goals omega

theorem encLoop_length : ∀ (ts : List String) (acc : List Nat) (fl : Bool × Bool × Bool),
    (encLoop ts acc fl).1.length ≤ acc.length + 2 * ts.length := by
  intro ts
  induction ts with
  | nil => intro acc fl; simp [encLoop]
  | cons t ts ih =>
    intro acc fl
    obtain ⟨c, q, l⟩ := fl
    simp only [encLoop]
    have h2 := encToken_le2 t
    generalize encToken t = et at h2
    obtain ⟨e, c', q', l'⟩ := et
    simp only
    split
    · have := ih (acc ++ e) (c || c', q || q', l || l')
      simp only [List.length_append, List.length_cons] at this ⊢
      simp only at h2
      omega
    · simp only [List.length_append, List.length_cons]
      simp only at h2
      omega

/-- with at most 31 tokens in `appData.encodingsString` the SetEncodings message holds at most
`MAX_ENCODINGS` entries (two-encoding tokens such as "ultra" are appended without a bound check
in the C loop, so a 63-entry list followed by "ultra" would write one entry too many) -/
theorem encodingList_le (encs : List String) (cursor newFB : Bool) (h : encs.length ≤ 31) :
    (encodingList encs cursor newFB).length ≤ maxEncodings := by
  unfold encodingList
  have h0 := encLoop_length encs [] (false, false, false)
  generalize encLoop encs [] (false, false, false) = r at h0
  obtain ⟨acc, c, q, l⟩ := r
  simp only [List.length_nil, Nat.zero_add] at h0
  have hacc : acc.length ≤ maxEncodings := by simp only [maxEncodings]; omega
  simp only
  have step : ∀ (b : Bool) (a : List Nat) (e : Nat), a.length ≤ maxEncodings →
      (if b then pushEnc a e else a).length ≤ maxEncodings := by
    intro b a e ha; cases b <;> simp [pushEnc_le, ha]
  have h1 := step c acc (encCompressLevel0 + 3) hacc
  have h2 := step q _ (encQualityLevel0 + 5) h1
  have stepc : ∀ (a : List Nat), a.length ≤ maxEncodings →
      (if cursor then pushEnc (pushEnc (pushEnc a encXCursor) encRichCursor) encPointerPos else a).length ≤
        maxEncodings := by
    intro a ha
    cases cursor
    · simpa using ha
    · exact pushEnc_le _ _ (pushEnc_le _ _ (pushEnc_le _ _ ha))
  exact pushEnc_le _ _ (pushEnc_le _ _ (pushEnc_le _ _ (pushEnc_le _ _ (pushEnc_le _ _ (step l _ _
    (pushEnc_le _ _ (step newFB _ _ (pushEnc_le _ _ (stepc _ h2)))))))))

end VncModel.Client
