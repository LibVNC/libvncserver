import VncModel.Enc.Spec
/-!
# Additions to the specification decoders (`VncModel.Enc.Spec`) that C07 is stated with

* `decodeHextileTilesStrict`: `Spec.decodeHextileTiles` with the rule that a tile with coloured
  sub-rectangles leaves the foreground *unspecified* for the following tiles.  RFC 6143 is silent
  on what the "current foreground" is after such a tile; every decoder in the field (RealVNC,
  TigerVNC, LibVNCClient — one C variable for both uses) and every encoder (they invalidate their
  foreground after a coloured tile) behave as if it were undefined.  A stream is *valid* for C07
  if the strict decoder accepts it; `strict_implies_spec` shows that on such streams the strict
  decoder and `Spec.decodeHextile` agree.
* The same for TRLE's "palette of the previous tile" (`decodeTRLETilesStrict`, below).
* `decode{Hextile,ZRLE,TRLE}Tile_cons_eq_some`: a successful run of a tile decoder, sub-encoding by
  sub-encoding; the refinement, length and monotonicity proofs start from these.
-/
namespace VncModel.Client
open VncModel.Enc.Spec

/-- was the tile just decoded (sub-encoding byte `m`) one with coloured sub-rectangles? -/
def hexColouredTile (m : Nat) : Bool := m % 2 = 0 && m / 8 % 2 = 1 && m / 16 % 2 = 1

/-- forget the foreground after a tile with coloured sub-rectangles -/
def strictAfter (m : Nat) (st : HexState) : HexState :=
  if hexColouredTile m then { st with fg := none } else st

def decodeHextileTilesStrict (bpp : Nat) : List TileRect → HexState → Dec (List (List Pixel))
  | [], _, bs => some ([], bs)
  | t :: ts, st, bs =>
    match decodeHextileTile bpp t.w t.h st bs with
    | none => none
    | some ((px, st'), bs') =>
      (decodeHextileTilesStrict bpp ts (strictAfter (bs.headD 0).toNat st') bs').map
        fun (rest, r) => (px :: rest, r)

def decodeHextileStrict (g : Geometry) (bpp : Nat) : Dec (List Pixel) := fun bs =>
  (decodeHextileTilesStrict bpp (tileGrid 16 g) {} bs).map fun (tiles, r) => (assemble 16 g tiles, r)

/-- information order on hextile states: `a` knows at most what `b` knows -/
def HexLe (a b : HexState) : Prop :=
  (∀ p, a.bg = some p → b.bg = some p) ∧ (∀ p, a.fg = some p → b.fg = some p)

theorem hexLe_refl (a : HexState) : HexLe a a := ⟨fun _ h => h, fun _ h => h⟩

theorem hexLe_strictAfter (m : Nat) {a b : HexState} (h : HexLe a b) : HexLe (strictAfter m a) b := by
  unfold strictAfter
  split
  · exact ⟨h.1, fun p hp => by simp at hp⟩
  · exact h

theorem optPixel_mono {present : Bool} {bpp : Nat} {a b : Option Pixel} {bs : Bytes} {v : Option Pixel} {r : Bytes}
    (hab : ∀ p, a = some p → b = some p)
    (h : optPixel present bpp a bs = some (v, r)) :
    ∃ v', optPixel present bpp b bs = some (v', r) ∧ (∀ p, v = some p → v' = some p) := by
  unfold optPixel at h ⊢
  cases present with
  | true => exact ⟨v, by simpa using h, fun _ hp => hp⟩
  | false =>
    simp only [Bool.false_eq_true, if_false, Option.some.injEq, Prod.mk.injEq] at h ⊢
    obtain ⟨h1, h2⟩ := h
    subst h1 h2
    exact ⟨b, ⟨rfl, rfl⟩, hab⟩

theorem decodeHextileTile_cons_eq_some {bpp tw th : Nat} {st st' : HexState} {m : UInt8} {bs rest : Bytes}
    {px : List Pixel} (h : decodeHextileTile bpp tw th st (m :: bs) = some ((px, st'), rest)) :
    (m.toNat % 2 = 1 ∧ readPixels bpp (tw * th) bs = some (px, rest) ∧ st' = st) ∨
    (¬ m.toNat % 2 = 1 ∧ ∃ bg fg? bs1 bs2, optPixel (m.toNat / 2 % 2 = 1) bpp st.bg bs = some (some bg, bs1) ∧
      optPixel (m.toNat / 4 % 2 = 1) bpp st.fg bs1 = some (fg?, bs2) ∧ st' = ⟨some bg, fg?⟩ ∧
      ((¬ m.toNat / 8 % 2 = 1 ∧ px = (Array.replicate (tw * th) bg).toList ∧ rest = bs2) ∨
       (m.toNat / 8 % 2 = 1 ∧ ∃ n bs3 rs, readU8 bs2 = some (n, bs3) ∧ px = (paintRects tw th bg rs).toList ∧
        ((m.toNat / 16 % 2 = 1 ∧ readSubrects (readPixel bpp) readGeomHex tw th n bs3 = some (rs, rest)) ∨
         (¬ m.toNat / 16 % 2 = 1 ∧ ∃ fg, fg? = some fg ∧
            readSubrects (fun b => some (fg, b)) readGeomHex tw th n bs3 = some (rs, rest)))))) := by
  simp only [decodeHextileTile] at h
  split at h
  · next hraw =>
    simp only [Option.map_eq_some_iff, Prod.exists, Prod.mk.injEq] at h
    obtain ⟨ps, r, hp, ⟨rfl, rfl⟩, rfl⟩ := h
    exact .inl ⟨hraw, hp, rfl⟩
  next hraw =>
  refine .inr ⟨hraw, ?_⟩
  split at h
  · cases h
  next bg? bs1 h1 =>
  split at h
  · cases h
  next fg? bs2 h2 =>
  split at h
  · cases h
  next bg =>
  refine ⟨bg, fg?, bs1, bs2, h1, h2, ?_⟩
  split at h
  · next hany =>
    split at h
    · cases h
    next n bs3 hn =>
    split at h
    · next hcol =>
      simp only [Option.map_eq_some_iff, Prod.exists, Prod.mk.injEq] at h
      obtain ⟨rs, r, hs, ⟨rfl, rfl⟩, rfl⟩ := h
      exact ⟨rfl, .inr ⟨hany, n, bs3, rs, hn, rfl, .inl ⟨hcol, hs⟩⟩⟩
    · next hcol =>
      split at h
      · cases h
      next fg =>
      simp only [Option.map_eq_some_iff, Prod.exists, Prod.mk.injEq] at h
      obtain ⟨rs, r, hs, ⟨rfl, rfl⟩, rfl⟩ := h
      exact ⟨rfl, .inr ⟨hany, n, bs3, rs, hn, rfl, .inr ⟨hcol, fg, rfl, hs⟩⟩⟩
  · next hany =>
    simp only [Option.some.injEq, Prod.mk.injEq] at h
    obtain ⟨⟨rfl, rfl⟩, rfl⟩ := h
    exact ⟨rfl, .inl ⟨hany, rfl, rfl⟩⟩

theorem decodeHextileTile_mono (bpp tw th : Nat) {a b : HexState} (hab : HexLe a b) (bs : Bytes)
    (px : List Pixel) (a' : HexState) (r : Bytes)
    (h : decodeHextileTile bpp tw th a bs = some ((px, a'), r)) :
    ∃ b', decodeHextileTile bpp tw th b bs = some ((px, b'), r) ∧ HexLe a' b' := by
  cases bs with
  | nil => simp [decodeHextileTile] at h
  | cons m bs =>
    rcases decodeHextileTile_cons_eq_some h with ⟨hraw, hp, rfl⟩ | ⟨hraw, bg, fg?, bs1, bs2, h1, h2, rfl, hrest⟩
    · exact ⟨b, by simp [decodeHextileTile, hraw, hp], hab⟩
    · obtain ⟨bg', e1, m1⟩ := optPixel_mono hab.1 h1
      obtain rfl := m1 bg rfl
      obtain ⟨fg', e2, m2⟩ := optPixel_mono hab.2 h2
      refine ⟨⟨some bg, fg'⟩, ?_, fun _ hp => hp, m2⟩
      rcases hrest with ⟨hany, rfl, rfl⟩ | ⟨hany, n, bs3, rs, hn, rfl, ⟨hcol, hs⟩ | ⟨hcol, fg, rfl, hs⟩⟩
      · simp [decodeHextileTile, hraw, e1, e2, hany]
      · simp [decodeHextileTile, hraw, e1, e2, hany, hn, hcol, hs]
      · simp [decodeHextileTile, hraw, e1, e2, hany, hn, hcol, m2 fg rfl, hs]

theorem strictTiles_implies_spec (bpp : Nat) :
    ∀ (ts : List TileRect) (a b : HexState) (bs : Bytes) (tiles : List (List Pixel)) (r : Bytes),
      HexLe a b → decodeHextileTilesStrict bpp ts a bs = some (tiles, r) →
      decodeHextileTiles bpp ts b bs = some (tiles, r)
  | [], a, b, bs, tiles, r, _, h => by simpa [decodeHextileTilesStrict, decodeHextileTiles] using h
  | t :: ts, a, b, bs, tiles, r, hab, h => by
    simp only [decodeHextileTilesStrict] at h
    split at h
    · cases h
    next px a' bs' ht =>
    simp only [Option.map_eq_some_iff, Prod.exists, Prod.mk.injEq] at h
    obtain ⟨rest, r', hr, rfl, rfl⟩ := h
    obtain ⟨b', e1, hle⟩ := decodeHextileTile_mono bpp t.w t.h hab bs px a' bs' ht
    simp [decodeHextileTiles, e1, strictTiles_implies_spec bpp ts _ b' bs' rest r' (hexLe_strictAfter _ hle) hr]

theorem strict_implies_spec (g : Geometry) (bpp : Nat) (bs : Bytes) (px : List Pixel) (r : Bytes)
    (h : decodeHextileStrict g bpp bs = some (px, r)) : decodeHextile g bpp bs = some (px, r) := by
  simp only [decodeHextileStrict, Option.map_eq_some_iff, Prod.exists, Prod.mk.injEq] at h
  obtain ⟨tiles, r', ht, rfl, rfl⟩ := h
  simp [decodeHextile, strictTiles_implies_spec bpp _ {} {} bs tiles r' (hexLe_refl _) ht]

theorem decodeZRLETile_cons_eq_some {cp : CPix} {tw th : Nat} {m : UInt8} {bs rest : Bytes} {px : List Pixel}
    (h : decodeZRLETile cp tw th (m :: bs) = some (px, rest)) :
    (m.toNat = 0 ∧ readCPixels cp (tw * th) bs = some (px, rest)) ∨
    (m.toNat = 1 ∧ ∃ p, readCPixel cp bs = some (p, rest) ∧ px = List.replicate (tw * th) p) ∨
    (2 ≤ m.toNat ∧ m.toNat ≤ 16 ∧ ∃ pal bs1, readCPixels cp m.toNat bs = some (pal, bs1) ∧
      decodePackedRows (packedBits m.toNat) tw pal th bs1 = some (px, rest)) ∨
    (m.toNat = 128 ∧ decodePlainRLE cp (tw * th) (tw * th) bs = some (px, rest)) ∨
    (130 ≤ m.toNat ∧ ∃ pal bs1, readCPixels cp (m.toNat - 128) bs = some (pal, bs1) ∧
      decodePaletteRLE pal (tw * th) (tw * th) bs1 = some (px, rest)) := by
  simp only [decodeZRLETile] at h
  by_cases h0 : m.toNat = 0
  · exact .inl ⟨h0, by simpa [h0] using h⟩
  by_cases h1 : m.toNat = 1
  · simp only [h1, show ¬ (1 = 0) by decide, if_false, if_true, Option.map_eq_some_iff, Prod.exists,
      Prod.mk.injEq] at h
    obtain ⟨p, r, hp, rfl, rfl⟩ := h
    exact .inr (.inl ⟨h1, p, hp, rfl⟩)
  simp only [h0, h1, if_false] at h
  by_cases h16 : m.toNat ≤ 16
  · simp only [h16, if_true] at h
    split at h
    · cases h
    next pal bs1 hpal => exact .inr (.inr (.inl ⟨by omega, h16, pal, bs1, hpal, h⟩))
  by_cases h128 : m.toNat = 128
  · exact .inr (.inr (.inr (.inl ⟨h128, by simpa [h128] using h⟩)))
  by_cases h130 : m.toNat ≥ 130
  · simp only [h16, h128, h130, if_false, if_true] at h
    split at h
    · cases h
    next pal bs1 hpal => exact .inr (.inr (.inr (.inr ⟨h130, pal, bs1, hpal, h⟩)))
  · simp [h16, h128, h130] at h

theorem decodeTRLETile_cons_eq_some {cp : CPix} {tw th : Nat} {prev prev' : List Pixel} {m : UInt8}
    {bs rest : Bytes} {px : List Pixel}
    (h : decodeTRLETile cp tw th prev (m :: bs) = some ((px, prev'), rest)) :
    (m.toNat = 127 ∧ (2 ≤ prev.length ∧ prev.length ≤ 16) ∧ prev' = prev ∧
      decodePackedRows (packedBits prev.length) tw prev th bs = some (px, rest)) ∨
    (m.toNat = 129 ∧ prev.length ≥ 2 ∧ prev' = prev ∧
      decodePaletteRLE prev (tw * th) (tw * th) bs = some (px, rest)) ∨
    ((2 ≤ m.toNat ∧ m.toNat ≤ 16) ∧ ∃ bs1, readCPixels cp m.toNat bs = some (prev', bs1) ∧
      decodePackedRows (packedBits m.toNat) tw prev' th bs1 = some (px, rest)) ∨
    (130 ≤ m.toNat ∧ ∃ bs1, readCPixels cp (m.toNat - 128) bs = some (prev', bs1) ∧
      decodePaletteRLE prev' (tw * th) (tw * th) bs1 = some (px, rest)) ∨
    (m.toNat = 0 ∧ prev' = prev ∧ readCPixels cp (tw * th) bs = some (px, rest)) ∨
    (m.toNat = 1 ∧ prev' = prev ∧ ∃ p, readCPixel cp bs = some (p, rest) ∧ px = List.replicate (tw * th) p) ∨
    (m.toNat = 128 ∧ prev' = prev ∧ decodePlainRLE cp (tw * th) (tw * th) bs = some (px, rest)) := by
  simp only [decodeTRLETile] at h
  by_cases h127 : m.toNat = 127
  · by_cases hlen : 2 ≤ prev.length ∧ prev.length ≤ 16
    · simp only [h127, hlen, and_self, if_true, Option.map_eq_some_iff, Prod.exists, Prod.mk.injEq] at h
      obtain ⟨p, r, hd, ⟨rfl, rfl⟩, rfl⟩ := h
      exact .inl ⟨h127, hlen, rfl, hd⟩
    · simp [h127, hlen] at h
  by_cases h129 : m.toNat = 129
  · by_cases hlen : prev.length ≥ 2
    · simp only [h129, hlen, show ¬ (129 = 127) by decide, if_false, if_true, Option.map_eq_some_iff,
        Prod.exists, Prod.mk.injEq] at h
      obtain ⟨p, r, hd, ⟨rfl, rfl⟩, rfl⟩ := h
      exact .inr (.inl ⟨h129, hlen, rfl, hd⟩)
    · simp [h129, hlen] at h
  simp only [h127, h129, if_false] at h
  by_cases hpk : 2 ≤ m.toNat ∧ m.toNat ≤ 16
  · simp only [hpk, and_self, if_true] at h
    split at h
    · cases h
    next pal bs1 hpal =>
    simp only [Option.map_eq_some_iff, Prod.exists, Prod.mk.injEq] at h
    obtain ⟨p, r, hd, ⟨rfl, rfl⟩, rfl⟩ := h
    exact .inr (.inr (.inl ⟨hpk, bs1, hpal, hd⟩))
  by_cases h130 : m.toNat ≥ 130
  · simp only [hpk, h130, if_false, if_true] at h
    split at h
    · cases h
    next pal bs1 hpal =>
    simp only [Option.map_eq_some_iff, Prod.exists, Prod.mk.injEq] at h
    obtain ⟨p, r, hd, ⟨rfl, rfl⟩, rfl⟩ := h
    exact .inr (.inr (.inr (.inl ⟨h130, bs1, hpal, hd⟩)))
  · simp only [hpk, h130, if_false, show UInt8.ofNat m.toNat = m by simp, Option.map_eq_some_iff, Prod.exists,
      Prod.mk.injEq] at h
    obtain ⟨p, r, hz, ⟨rfl, rfl⟩, rfl⟩ := h
    rcases decodeZRLETile_cons_eq_some hz with ⟨h0, h⟩ | ⟨h1, h⟩ | h | ⟨h128, h⟩ | h
    · exact .inr (.inr (.inr (.inr (.inl ⟨h0, rfl, h⟩))))
    · exact .inr (.inr (.inr (.inr (.inr (.inl ⟨h1, rfl, h⟩)))))
    · exact absurd ⟨h.1, h.2.1⟩ hpk
    · exact .inr (.inr (.inr (.inr (.inr (.inr ⟨h128, rfl, h⟩)))))
    · exact absurd h.1 h130

/-! ## TRLE: "palette of the previous tile"

RFC 6143 lets sub-encodings 127/129 reuse "the palette of the previous tile".  `Spec.decodeTRLETile`
keeps the palette of the last *palettised* tile; LibVNCClient (and the TRLE encoders in the field)
treat a solid tile as ending that palette (`last_type = 1`).  The strict decoder forgets the palette
after a solid tile; on the streams it accepts, `Spec.decodeTRLE` gives the same pixels. -/

def trleStrictAfter (m : Nat) (prev : List Pixel) : List Pixel := if m = 1 then [] else prev

theorem trleStrictAfter_of_ne {m : Nat} (h : m ≠ 1) (prev : List Pixel) : trleStrictAfter m prev = prev :=
  if_neg h

def decodeTRLETilesStrict (cp : CPix) : List TileRect → List Pixel → Dec (List (List Pixel))
  | [], _, bs => some ([], bs)
  | t :: ts, prev, bs =>
    match decodeTRLETile cp t.w t.h prev bs with
    | none => none
    | some ((px, pal), bs') =>
      (decodeTRLETilesStrict cp ts (trleStrictAfter (bs.headD 0).toNat pal) bs').map fun (rest, r) => (px :: rest, r)

def decodeTRLEStrict (g : Geometry) (cp : CPix) : Dec (List Pixel) := fun bs =>
  (decodeTRLETilesStrict cp (tileGrid 16 g) [] bs).map fun (tiles, r) => (assemble 16 g tiles, r)

/-- the strict decoder knows nothing, or exactly what the specification knows -/
def TrleLe (a b : List Pixel) : Prop := a = [] ∨ a = b

theorem decodeTRLETile_mono (cp : CPix) (tw th : Nat) {a b : List Pixel} (hab : TrleLe a b) (bs : Bytes)
    (px a' : List Pixel) (r : Bytes) (h : decodeTRLETile cp tw th a bs = some ((px, a'), r)) :
    ∃ b', decodeTRLETile cp tw th b bs = some ((px, b'), r) ∧ TrleLe a' b' := by
  rcases hab with rfl | rfl
  · -- nothing known: the tile does not reuse a palette, so it decodes the same whatever `b` is
    cases bs with
    | nil => simp [decodeTRLETile] at h
    | cons m bs =>
      rcases decodeTRLETile_cons_eq_some h with ⟨_, hl, _⟩ | ⟨_, hl, _⟩ | ⟨hpk, bs1, hpal, hd⟩ |
        ⟨h130, bs1, hpal, hd⟩ | ⟨h0, rfl, hz⟩ | ⟨h1, rfl, p, hz, rfl⟩ | ⟨h128, rfl, hz⟩
      · simp at hl
      · simp at hl
      · exact ⟨a', by simp [decodeTRLETile, show ¬ m.toNat = 127 by omega, show ¬ m.toNat = 129 by omega, hpk,
          hpal, hd], .inr rfl⟩
      · exact ⟨a', by simp [decodeTRLETile, show ¬ m.toNat = 127 by omega, show ¬ m.toNat = 129 by omega, h130,
          show ¬ m.toNat ≤ 16 by omega, hpal, hd], .inr rfl⟩
      · exact ⟨b, by simp [decodeTRLETile, decodeZRLETile, h0, hz], .inl rfl⟩
      · exact ⟨b, by simp [decodeTRLETile, decodeZRLETile, h1, hz], .inl rfl⟩
      · exact ⟨b, by simp [decodeTRLETile, decodeZRLETile, h128, hz], .inl rfl⟩
  · exact ⟨a', h, .inr rfl⟩

theorem trleLe_strictAfter (m : Nat) {a b : List Pixel} (h : TrleLe a b) : TrleLe (trleStrictAfter m a) b := by
  unfold trleStrictAfter
  split
  · exact Or.inl rfl
  · exact h

theorem strictTrleTiles_implies_spec (cp : CPix) :
    ∀ (ts : List TileRect) (a b : List Pixel) (bs : Bytes) (tiles : List (List Pixel)) (r : Bytes),
      TrleLe a b → decodeTRLETilesStrict cp ts a bs = some (tiles, r) →
      decodeTRLETiles cp ts b bs = some (tiles, r)
  | [], a, b, bs, tiles, r, _, h => by simpa [decodeTRLETilesStrict, decodeTRLETiles] using h
  | t :: ts, a, b, bs, tiles, r, hab, h => by
    simp only [decodeTRLETilesStrict] at h
    split at h
    · cases h
    next px a' bs' ht =>
    simp only [Option.map_eq_some_iff, Prod.exists, Prod.mk.injEq] at h
    obtain ⟨rest, r', hr, rfl, rfl⟩ := h
    obtain ⟨b', e1, hle⟩ := decodeTRLETile_mono cp t.w t.h hab bs px a' bs' ht
    simp [decodeTRLETiles, e1, strictTrleTiles_implies_spec cp ts _ b' bs' rest r' (trleLe_strictAfter _ hle) hr]

theorem strictTrle_implies_spec (g : Geometry) (cp : CPix) (bs : Bytes) (px : List Pixel) (r : Bytes)
    (h : decodeTRLEStrict g cp bs = some (px, r)) : decodeTRLE g cp bs = some (px, r) := by
  simp only [decodeTRLEStrict, Option.map_eq_some_iff, Prod.exists, Prod.mk.injEq] at h
  obtain ⟨tiles, r', ht, rfl, rfl⟩ := h
  simp [decodeTRLE, strictTrleTiles_implies_spec cp _ [] [] bs tiles r' (Or.inl rfl) ht]

end VncModel.Client
