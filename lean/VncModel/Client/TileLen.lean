import VncModel.Client.Exact
import VncModel.Client.Assemble
import VncModel.Client.SpecExtra
/-!
One round of the two run-length decoders of the specification, and: every tile the specification
decodes has exactly `w·h` pixels (needed to put the tiles together with `Spec.assemble`).
-/
namespace VncModel.Client
open VncModel.Enc.Spec

theorem readRunLen_pos : ∀ {bs r : Bytes} {n : Nat}, readRunLen bs = some (n, r) → 1 ≤ n ∧ r.length < bs.length
  | [], _, _, h => by simp [readRunLen] at h
  | b :: bs, r, n, h => by
    simp only [readRunLen] at h
    split at h
    · simp only [Option.map_eq_some_iff, Prod.exists, Prod.mk.injEq] at h
      obtain ⟨n', r', hr, rfl, rfl⟩ := h
      have := readRunLen_pos hr
      simp only [List.length_cons]; omega
    · simp only [Option.some.injEq, Prod.mk.injEq] at h
      simp [← h.1, ← h.2]

theorem decodePlainRLE_succ_eq_some {cp : CPix} {f rem : Nat} {bs rest : Bytes} {px : List Pixel}
    (h : decodePlainRLE cp (f + 1) (rem + 1) bs = some (px, rest)) :
    ∃ p bs1 len bs2 ps, readCPixel cp bs = some (p, bs1) ∧ readRunLen bs1 = some (len, bs2) ∧ len ≤ rem + 1 ∧
      decodePlainRLE cp f (rem + 1 - len) bs2 = some (ps, rest) ∧ px = List.replicate len p ++ ps := by
  simp only [decodePlainRLE] at h
  split at h
  · cases h
  next p bs1 hp =>
  split at h
  · cases h
  next len bs2 hl =>
  split at h
  · cases h
  next hle =>
  simp only [Option.map_eq_some_iff, Prod.exists, Prod.mk.injEq] at h
  obtain ⟨ps, r, hr, rfl, rfl⟩ := h
  exact ⟨p, bs1, len, bs2, ps, hp, hl, by omega, hr, rfl⟩

theorem decodePaletteRLE_succ_eq_some {pal : List Pixel} {f rem : Nat} {b : UInt8} {bs rest : Bytes}
    {px : List Pixel} (h : decodePaletteRLE pal (f + 1) (rem + 1) (b :: bs) = some (px, rest)) :
    (∃ p ps, b.toNat < 128 ∧ pal[b.toNat]? = some p ∧ decodePaletteRLE pal f rem bs = some (ps, rest) ∧
      px = p :: ps) ∨
    (∃ p len bs2 ps, ¬ b.toNat < 128 ∧ pal[b.toNat - 128]? = some p ∧ readRunLen bs = some (len, bs2) ∧
      len ≤ rem + 1 ∧ decodePaletteRLE pal f (rem + 1 - len) bs2 = some (ps, rest) ∧
      px = List.replicate len p ++ ps) := by
  simp only [decodePaletteRLE] at h
  split at h
  · next hb =>
    split at h
    · cases h
    next p hp =>
    simp only [Option.map_eq_some_iff, Prod.exists, Prod.mk.injEq] at h
    obtain ⟨ps, r, hr, rfl, rfl⟩ := h
    exact .inl ⟨p, ps, hb, hp, hr, rfl⟩
  · next hb =>
    split at h
    · cases h
    next p hp =>
    split at h
    · cases h
    next len bs2 hl =>
    split at h
    · cases h
    next hle =>
    simp only [Option.map_eq_some_iff, Prod.exists, Prod.mk.injEq] at h
    obtain ⟨ps, r, hr, rfl, rfl⟩ := h
    exact .inr ⟨p, len, bs2, ps, hb, hp, hl, by omega, hr, rfl⟩

theorem lookupAll_length {pal : List Pixel} : ∀ {is : List Nat} {px : List Pixel},
    lookupAll pal is = some px → px.length = is.length
  | [], px, h => by simp only [lookupAll, Option.some.injEq] at h; simp [← h]
  | i :: is, px, h => by
    simp only [lookupAll] at h
    split at h
    · cases h
    simp only [Option.map_eq_some_iff] at h
    obtain ⟨ps, hr, rfl⟩ := h
    simp [lookupAll_length hr]

theorem decodePackedRows_length {bits tw : Nat} {pal : List Pixel} : ∀ {th : Nat} {bs r : Bytes} {px : List Pixel},
    decodePackedRows bits tw pal th bs = some (px, r) → px.length = tw * th
  | 0, bs, r, px, h => by simp only [decodePackedRows, Option.some.injEq, Prod.mk.injEq] at h; simp [← h.1]
  | th + 1, bs, r, px, h => by
    simp only [decodePackedRows] at h
    split at h
    · cases h
    split at h
    · cases h
    next rowpx hl =>
    simp only [Option.map_eq_some_iff, Prod.exists, Prod.mk.injEq] at h
    obtain ⟨ps, r', hr, rfl, rfl⟩ := h
    simp [decodePackedRows_length hr, lookupAll_length hl, unpackRow, Nat.mul_succ, Nat.add_comm]

theorem decodePlainRLE_length {cp : CPix} : ∀ {f rem : Nat} {bs r : Bytes} {px : List Pixel},
    decodePlainRLE cp f rem bs = some (px, r) → px.length = rem
  | _, 0, bs, r, px, h => by simp only [decodePlainRLE, Option.some.injEq, Prod.mk.injEq] at h; simp [← h.1]
  | 0, rem + 1, bs, r, px, h => by simp [decodePlainRLE] at h
  | f + 1, rem + 1, bs, r, px, h => by
    obtain ⟨p, bs1, len, bs2, ps, _, _, hle, hr, rfl⟩ := decodePlainRLE_succ_eq_some h
    simp [decodePlainRLE_length hr]; omega

theorem decodePaletteRLE_length {pal : List Pixel} : ∀ {f rem : Nat} {bs r : Bytes} {px : List Pixel},
    decodePaletteRLE pal f rem bs = some (px, r) → px.length = rem
  | _, 0, bs, r, px, h => by simp only [decodePaletteRLE, Option.some.injEq, Prod.mk.injEq] at h; simp [← h.1]
  | 0, rem + 1, bs, r, px, h => by simp [decodePaletteRLE] at h
  | f + 1, rem + 1, [], r, px, h => by simp [decodePaletteRLE] at h
  | f + 1, rem + 1, b :: bs, r, px, h => by
    rcases decodePaletteRLE_succ_eq_some h with ⟨p, ps, _, _, hr, rfl⟩ | ⟨p, len, bs2, ps, _, _, _, hle, hr, rfl⟩
    · simp [decodePaletteRLE_length hr]
    · simp [decodePaletteRLE_length hr]; omega

theorem decodeZRLETile_length {cp : CPix} {tw th : Nat} {bs r : Bytes} {px : List Pixel}
    (h : decodeZRLETile cp tw th bs = some (px, r)) : px.length = tw * th := by
  cases bs with
  | nil => simp [decodeZRLETile] at h
  | cons m bs =>
    rcases decodeZRLETile_cons_eq_some h with ⟨_, h⟩ | ⟨_, p, _, rfl⟩ | ⟨_, _, pal, bs1, _, h⟩ | ⟨_, h⟩ |
      ⟨_, pal, bs1, _, h⟩
    · exact readCPixels_length h
    · simp
    · exact decodePackedRows_length h
    · exact decodePlainRLE_length h
    · exact decodePaletteRLE_length h

theorem decodeTRLETile_length {cp : CPix} {tw th : Nat} {prev prev' : List Pixel} {bs r : Bytes} {px : List Pixel}
    (h : decodeTRLETile cp tw th prev bs = some ((px, prev'), r)) : px.length = tw * th := by
  cases bs with
  | nil => simp [decodeTRLETile] at h
  | cons m bs =>
    rcases decodeTRLETile_cons_eq_some h with ⟨_, _, _, h⟩ | ⟨_, _, _, h⟩ | ⟨_, bs1, _, h⟩ | ⟨_, bs1, _, h⟩ |
      ⟨_, _, h⟩ | ⟨_, _, p, _, rfl⟩ | ⟨_, _, h⟩
    · exact decodePackedRows_length h
    · exact decodePaletteRLE_length h
    · exact decodePackedRows_length h
    · exact decodePaletteRLE_length h
    · exact readCPixels_length h
    · simp
    · exact decodePlainRLE_length h

theorem zrleTiles_lengths {cp : CPix} {ts : List TileRect} {bs rest : Bytes} {pxs : List (List Pixel)}
    (h : decodeZRLETiles cp ts bs = some (pxs, rest)) : TileLens ts pxs := by
  induction ts generalizing bs pxs with
  | nil =>
    simp only [decodeZRLETiles, Option.some.injEq, Prod.mk.injEq] at h
    exact h.1 ▸ .nil
  | cons t ts ih =>
    simp only [decodeZRLETiles] at h
    split at h
    · cases h
    next px bs' ht =>
    simp only [Option.map_eq_some_iff, Prod.exists, Prod.mk.injEq] at h
    obtain ⟨restpx, r', hr, rfl, rfl⟩ := h
    exact .cons (decodeZRLETile_length ht) (ih hr)

end VncModel.Client
