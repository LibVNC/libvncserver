import VncModel.Clip.Model

/-! Lemmas for the clipboard model: the inflate-call model `zcall`, one record (`readRecord_sound`:
whatever is accepted is in the stream, for every value of the uninitialised size), the record loop,
the branches of `handleExt`, and how each of the two message loops takes one framed message. -/
namespace VncModel.Clip
open VncModel.Gen.C18

theorem be32_length (n : Nat) : (be32 n).length = 4 := rfl

theorem rd32_be32 (n : Nat) (h : n < 4294967296) (rest : Bytes) : rd32 (be32 n ++ rest) = n := by
  simp only [be32, rd32, List.cons_append, List.nil_append, UInt8.toNat_ofNat', Nat.mod_mod]
  -- the four bytes are the base-256 digits of `n`
  have e2 : n / 65536 = n / 256 / 256 := (Nat.div_div_eq_div_mul n 256 256).symm
  have e3 : n / 16777216 = n / 256 / 256 / 256 := by rw [Nat.div_div_eq_div_mul, Nat.div_div_eq_div_mul]
  rw [e2, e3]
  omega

theorem rd32_be32' (n : Nat) (h : n < 4294967296) : rd32 (be32 n) = n := by
  simpa using rd32_be32 n h []

theorem be32_append_length (n : Nat) (z : Bytes) : (be32 n ++ z).length = 4 + z.length := by
  rw [List.length_append, be32_length]

theorem drop_be32 (n : Nat) (z : Bytes) : (be32 n ++ z).drop 4 = z := List.drop_left' (be32_length n)

theorem take_be32 (n : Nat) (z : Bytes) : (be32 n ++ z).take 4 = be32 n := List.take_left' (be32_length n)

theorem record_length (d : Bytes) : (record d).length = 4 + d.length := be32_append_length _ d

theorem neg32_lt (x : Nat) : neg32 x < 4294967296 := by
  unfold neg32; omega

theorem neg32_neg32 (n : Nat) (h : n < 4294967296) : neg32 (neg32 n) = n := by
  unfold neg32; omega

theorem neg32_ge (n : Nat) (h1 : 0 < n) (h2 : n ≤ 2147483648) : neg32 n ≥ 2147483648 := by
  unfold neg32; omega

theorem hdr_decode (ty p1 p2 p3 : UInt8) (n : Nat) (hn : n < 4294967296) (tail : Bytes) :
    ¬ (ty :: p1 :: p2 :: p3 :: (be32 n ++ tail)).length < 8 ∧
    rd32 ((ty :: p1 :: p2 :: p3 :: (be32 n ++ tail)).drop 4) = n ∧
    (ty :: p1 :: p2 :: p3 :: (be32 n ++ tail)).drop 8 = tail :=
  ⟨by simp [be32_length], by simpa using rd32_be32 n hn tail, by simp [be32]⟩

/-- a cut-text message (of either direction) with body `body` and sign-encoded length field -/
def extMsg (ty : UInt8) (body : Bytes) : Bytes :=
  ty :: 0 :: 0 :: 0 :: (be32 (neg32 body.length) ++ body)

theorem extMsg_append (ty : UInt8) (body rest : Bytes) :
    extMsg ty body ++ rest = ty :: 0 :: 0 :: 0 :: (be32 (neg32 body.length) ++ (body ++ rest)) := by
  simp [extMsg]

theorem cliSendClassic_append (t rest : Bytes) :
    cliSendClassic t ++ rest = (6 : UInt8) :: 0 :: 0 :: 0 :: (be32 t.length ++ (t ++ rest)) := by
  simp [cliSendClassic, msgClientCutText]

theorem wire_classic_append (Z : Zlib) (t rest : Bytes) :
    SMsg.wire Z (.classic t) ++ rest = (3 : UInt8) :: 0 :: 0 :: 0 :: (be32 t.length ++ (t ++ rest)) := by
  simp [SMsg.wire, msgServerCutText]

theorem cliNotifyMsg_eq : cliNotifyMsg = extMsg 6 (be32 cliNotifyFlags) := rfl

theorem cliProvideMsg_eq (z : Bytes) : cliProvideMsg z = extMsg 6 (be32 cliProvideFlags ++ z) := by
  simp [cliProvideMsg, extMsg, be32_length, msgClientCutText]

theorem cliProvideMsg_append (z rest : Bytes) :
    cliProvideMsg z ++ rest = (6 : UInt8) :: 0 :: 0 :: 0 ::
      (be32 (neg32 (4 + z.length)) ++ ((be32 cliProvideFlags ++ z) ++ rest)) := by
  rw [cliProvideMsg_eq, extMsg_append, be32_append_length]

theorem wire_provide (Z : Zlib) (r : Bytes) :
    SMsg.wire Z (.provide r) = extMsg 3 (be32 srvProvideFlags ++ Z.compress r) := by
  simp [SMsg.wire, extMsg, be32_length, msgServerCutText]

theorem wire_caps (Z : Zlib) : SMsg.wire Z .caps = extMsg 3 [23, 0, 0, 1, 0, 16, 0, 0] := by
  simp only [SMsg.wire]
  decide

theorem zcall_bytes_le (s : ZState) (n : Nat) : (zcall s n).bytes.length ≤ n := by
  fun_cases zcall s n
  case case1 => exact Nat.zero_le n  -- empty input, first call
  case case2 => exact Nat.zero_le n  -- more pending, no space
  case case3 => exact (List.length_take_le n s.rem)  -- more pending than space
  case case4 hle _ => exact Nat.le_of_not_gt hle  -- everything left fits

theorem zcall_split (s : ZState) (n : Nat) : (zcall s n).bytes ++ (zcall s n).st.rem = s.rem := by
  fun_cases zcall s n
  case case1 => rfl
  case case2 => rfl
  case case3 => exact List.take_append_drop n s.rem
  case case4 => exact List.append_nil s.rem

theorem zcall_fin (s : ZState) (n : Nat) : (zcall s n).st.fin = s.fin ∧ (zcall s n).st.inEmpty = s.inEmpty := by
  fun_cases zcall s n <;> exact ⟨rfl, rfl⟩

theorem zcall_of_lt (s : ZState) (n : Nat) (he : s.inEmpty = false) (h0 : n ≠ 0) (h : n < s.rem.length) :
    zcall s n = ⟨.ok, s.rem.take n, { s with rem := s.rem.drop n, fresh := false }⟩ := by
  simp [zcall, he, h0, h]

theorem zcall_of_ge (s : ZState) (n : Nat) (he : s.inEmpty = false) (h : s.rem.length ≤ n) :
    zcall s n =
      ⟨match s.fin with
        | .done => .streamEnd
        | .err => .dataError
        | .more => if s.rem.isEmpty && !s.fresh then .bufError else .ok,
       s.rem, { s with rem := [], fresh := false }⟩ := by
  simp only [zcall, he, Bool.and_false, Bool.false_eq_true, if_false, Nat.not_lt.mpr h]
  cases s.fin <;> rfl

theorem zcall_stuck (s : ZState) (n : Nat) (h1 : s.rem = []) (h2 : s.fin = .more) (h3 : s.fresh = false) :
    (zcall s n).rc = ZRc.bufError := by
  simp [zcall, h1, h2, h3]

theorem zcall_ok (s : ZState) (n : Nat) (h : (zcall s n).rc = ZRc.ok) :
    (zcall s n).st.fresh = false ∧
    (((zcall s n).bytes.length = n ∧ (zcall s n).st.rem ≠ []) ∨
     ((zcall s n).st.rem = [] ∧ (zcall s n).st.fin = .more)) := by
  revert h
  fun_cases zcall s n
  all_goals intro h
  case case1 => cases h
  case case2 => cases h
  case case3 hgt _ =>
    refine ⟨rfl, Or.inl ⟨by simp only [List.length_take]; omega, ?_⟩⟩
    simp only [ne_eq, List.drop_eq_nil_iff]
    omega
  case case4 rc =>
    refine ⟨rfl, Or.inr ⟨rfl, ?_⟩⟩
    cases hf : s.fin <;> simp [rc, hf] at h ⊢

theorem zcall_zero (s : ZState) (hnf : s.fresh = false) :
    (zcall s 0).rc = ZRc.bufError ∨ (s.rem = [] ∧ s.fin ≠ .more) := by
  unfold zcall
  simp only [hnf, Bool.false_and, Bool.false_eq_true, if_false]
  by_cases hr : s.rem.length > 0
  · simp [hr]
  · have : s.rem = [] := List.length_eq_zero_iff.mp (by omega)
    cases hf : s.fin <;> simp [this]

section
variable (Z : Zlib) (env : Env) (cfg : Cfg) (cl : Cl)

theorem readRecord_ok (limit : Nat) (d rest : Bytes) (fin : Fin) (fresh : Bool)
    (hd1 : d ≠ []) (hd2 : d.length ≤ limit) (hd3 : d.length < 4294967296)
    (hfin : rest = [] → fin ≠ .err) :
    readRecord env limit ⟨be32 d.length ++ d ++ rest, fin, fresh, false⟩ =
      some (d, ⟨rest, fin, false, false⟩) := by
  have hdl : 0 < d.length := List.length_pos_iff.mpr hd1
  have hc1 : zcall ⟨be32 d.length ++ d ++ rest, fin, fresh, false⟩ 4 =
      ⟨.ok, be32 d.length, ⟨d ++ rest, fin, false, false⟩⟩ := by
    rw [zcall_of_lt _ 4 rfl (by decide) (by simp [be32_length]; omega)]
    simp [List.append_assoc, take_be32, drop_be32]
  unfold readRecord
  simp only [hc1, be32_length, if_true, rd32_be32' _ hd3]
  by_cases hr : rest = []
  · subst hr
    have hfin' := hfin rfl
    have he : d.isEmpty = false := by cases d <;> simp_all
    rw [List.append_nil, zcall_of_ge _ d.length rfl (Nat.le_refl _)]
    cases fin
    · simp [Nat.not_lt.mpr hd2]
    · simp [Nat.not_lt.mpr hd2, he]
    · exact absurd rfl hfin'
  · have hrl : 0 < rest.length := List.length_pos_iff.mpr hr
    rw [zcall_of_lt _ d.length rfl (by omega) (by simp; omega)]
    simp [Nat.not_lt.mpr hd2]

theorem readRecord_eq_some (limit : Nat) (st : ZState) (d : Bytes) (st' : ZState)
    (h : readRecord env limit st = some (d, st')) :
    ∃ size, (zcall st 4).rc = .ok ∧ ((zcall st 4).bytes.length = 4 → size = rd32 (zcall st 4).bytes) ∧
      size ≤ limit ∧ (zcall (zcall st 4).st size).rc ≠ .bufError ∧
      d.length = size ∧ d = (zcall (zcall st 4).st size).bytes ∧ st' = (zcall (zcall st 4).st size).st := by
  revert h
  fun_cases readRecord env limit st
  all_goals intro h
  case case5 r1 hrc size hlim r2 hrc2 hlen =>  -- both calls and both tests pass
    obtain ⟨rfl, rfl⟩ := Prod.mk.inj (Option.some.inj h)
    refine ⟨size, by simpa using hrc, fun h4 => by simp only [size, r1, if_pos h4], Nat.le_of_not_gt hlim, ?_,
      by simpa using hlen, rfl, rfl⟩
    intro hb; simp [r2, r1, hb] at hrc2
  all_goals cases h

/-- **no invented bytes** (for every value of the uninitialised `size`): whatever `readRecord`
accepts is a record that really is in the stream — four size bytes that announce exactly `|d|`,
followed by the `|d| ≤ limit` bytes delivered; the remaining output stays pending -/
theorem readRecord_sound (limit : Nat) (st : ZState) (d : Bytes) (st' : ZState)
    (h : readRecord env limit st = some (d, st')) :
    ∃ szb, szb.length = 4 ∧ rd32 szb = d.length ∧ d.length ≤ limit ∧ st.rem = szb ++ d ++ st'.rem := by
  obtain ⟨size, hrc, hsz, hlim, hrc2, hlen, hd, hst⟩ := readRecord_eq_some env limit st d st' h
  rcases (zcall_ok st 4 hrc).2 with ⟨h4, _⟩ | ⟨k1, k2⟩
  · refine ⟨(zcall st 4).bytes, h4, by rw [hlen, hsz h4], by omega, ?_⟩
    rw [hd, hst, List.append_assoc, zcall_split, zcall_split]
  · -- fewer than four size bytes although the call returned Z_OK: nothing is pending on an
    -- unfinished stream, so the second call cannot make progress whatever `size` happens to be
    exact absurd (zcall_stuck _ size k1 k2 (zcall_ok st 4 hrc).1) hrc2

theorem readRecord_of_size (limit sz : Nat) (st : ZState) (more d : Bytes) (st' : ZState)
    (hrem : st.rem = be32 sz ++ more) (hsz : sz < 4294967296)
    (h : readRecord env limit st = some (d, st')) :
    d.length = sz ∧ sz ≤ limit ∧ more = d ++ st'.rem := by
  obtain ⟨szb, h4, hrd, hlim, hsplit⟩ := readRecord_sound env limit st d st' h
  rw [hrem, List.append_assoc] at hsplit
  have hszb : be32 sz = szb := List.append_inj_left hsplit (by rw [be32_length, h4])
  rw [← hszb, rd32_be32' sz hsz] at hrd
  exact ⟨hrd.symm, by omega, List.append_inj_right hsplit (by rw [be32_length, h4])⟩

theorem readRecord_oversize (limit sz : Nat) (st : ZState) (more : Bytes)
    (hrem : st.rem = be32 sz ++ more) (hsz : sz < 4294967296) (hbig : sz > limit) :
    readRecord env limit st = none := by
  cases h : readRecord env limit st with
  | none => rfl
  | some p =>
    have := (readRecord_of_size env limit sz st more p.1 p.2 hrem hsz h).2.1
    omega

/-- **declared size larger than the data present** (fixes/C18-provide-size-check.diff): refused -/
theorem readRecord_short (limit sz : Nat) (st : ZState) (have_ : Bytes)
    (hrem : st.rem = be32 sz ++ have_) (hsz : sz < 4294967296) (hshort : have_.length < sz) :
    readRecord env limit st = none := by
  cases h : readRecord env limit st with
  | none => rfl
  | some p =>
    obtain ⟨h1, _, h3⟩ := readRecord_of_size env limit sz st have_ p.1 p.2 hrem hsz h
    have := congrArg List.length h3
    rw [List.length_append] at this
    omega

theorem readRecord_tiny (limit : Nat) (st : ZState) (h : st.rem.length < 4) :
    readRecord env limit st = none := by
  cases hr : readRecord env limit st with
  | none => rfl
  | some p =>
    obtain ⟨szb, h4, _, _, hsplit⟩ := readRecord_sound env limit st p.1 p.2 hr
    have := congrArg List.length hsplit
    simp only [List.length_append] at this
    omega

/-- a record announcing zero bytes is refused, however the stream is made or continues: the second
`inflate` call has no output space and cannot make progress (`Z_BUF_ERROR`), or the first one
already returned `Z_STREAM_END` -/
theorem readRecord_zero (limit : Nat) (st : ZState) (more : Bytes)
    (hrem : st.rem = be32 0 ++ more) : readRecord env limit st = none := by
  cases h : readRecord env limit st with
  | none => rfl
  | some p =>
    exfalso
    have hd := (readRecord_of_size env limit 0 st more p.1 p.2 hrem (by decide) h).1
    obtain ⟨size, hrc, _, _, hrc2, hlen, _, _⟩ := readRecord_eq_some env limit st p.1 p.2 h
    -- so the second call asked for 0 bytes of a stream that was called before, and was accepted
    rw [← hlen, hd] at hrc2
    obtain ⟨hnf, hrest⟩ := zcall_ok st 4 hrc
    rcases zcall_zero (zcall st 4).st hnf with hk | ⟨hk1, hk2⟩
    · exact hrc2 hk
    · rcases hrest with ⟨_, hne⟩ | ⟨_, hm⟩
      · exact hne hk1
      · exact hk2 hm

theorem readRecord_init (limit : Nat) (z d extra : Bytes) (fin : Fin)
    (hz : Z.inflateAll z = ⟨record d ++ extra, fin⟩) (hne : z ≠ [])
    (hd1 : d ≠ []) (hd2 : d.length ≤ limit) (hd3 : d.length < 4294967296)
    (hfin : extra = [] → fin ≠ .err) :
    readRecord env limit (ZState.init Z z) = some (d, ⟨extra, fin, false, false⟩) := by
  have he : z.isEmpty = false := by cases z <;> simp_all
  have hinit : ZState.init Z z = ⟨be32 d.length ++ d ++ extra, fin, true, false⟩ := by
    simp [ZState.init, hz, he, record]
  rw [hinit]
  exact readRecord_ok env limit d extra fin true hd1 hd2 hd3 hfin

theorem provLoop_skip (v : Bool) (flags : Nat) (is : List Nat) (st : ZState)
    (cbs : List Cb) (h : ∀ i ∈ is, flags.testBit i = false) :
    provLoop env cfg v flags is st cbs = (true, cbs) := by
  induction is generalizing st cbs with
  | nil => simp [provLoop]
  | cons i is ih =>
    have hi : flags.testBit i = false := h i (by simp)
    rw [provLoop]
    simp only [hi, Bool.not_false, if_true]
    exact ih st cbs (fun j hj => h j (by simp [hj]))

end

theorem provLoop_prefix (env : Env) (cfg : Cfg) (v : Bool) (flags : Nat) (is : List Nat) (st : ZState)
    (cbs : List Cb) : ∃ more, (provLoop env cfg v flags is st cbs).2 = cbs ++ more := by
  induction is generalizing st cbs with
  | nil => exact ⟨[], by simp [provLoop]⟩
  | cons i is ih =>
    rw [provLoop]
    split
    · exact ih st cbs
    · split
      · exact ⟨[], by simp⟩
      · rename_i d st' _
        split
        · obtain ⟨m, hm⟩ := ih st' (cbs ++ [Cb.utf8 d])
          exact ⟨Cb.utf8 d :: m, by rw [hm]; simp⟩
        · exact ih st' cbs

section
variable (Z : Zlib) (env : Env) (cfg : Cfg) (cl : Cl)

theorem range16 : List.range nFormatBits = 0 :: [1, 2, 3, 4, 5, 6, 7, 8, 9, 10, 11, 12, 13, 14, 15] := by
  decide

theorem provLoop_refused (v : Bool) (flags : Nat) (st : ZState)
    (htext : flags.testBit 0 = true) (h : readRecord env srvRecLimit st = none) :
    provLoop env cfg v flags (List.range nFormatBits) st [] = (false, []) := by
  rw [range16, provLoop]
  simp [htext, h]

theorem provLoop_text (v : Bool) (flags : Nat) (st : ZState) (d : Bytes)
    (st' : ZState) (htext : flags.testBit 0 = true)
    (hother : ∀ i, 1 ≤ i → i < 16 → flags.testBit i = false)
    (h : readRecord env srvRecLimit st = some (d, st')) :
    provLoop env cfg v flags (List.range nFormatBits) st [] =
      (true, if !v && cfg.cb8 then [Cb.utf8 d] else []) := by
  rw [range16, provLoop]
  simp only [htext, Bool.not_true, Bool.false_eq_true, if_false, h]
  rw [provLoop_skip env cfg v flags _ st' _
    (fun i hi => hother i (by revert i; decide) (by revert i; decide))]
  simp

/-- "`b` is a record of the stream output `out`": a 4-byte size word announcing `|b|`, then `b` -/
def IsRecordOf (out b : Bytes) (limit : Nat) : Prop :=
  ∃ pre szb post, out = pre ++ szb ++ b ++ post ∧ szb.length = 4 ∧ rd32 szb = b.length ∧ b.length ≤ limit

theorem provLoop_sound (v : Bool) (flags : Nat) (out : Bytes) (is : List Nat)
    (st : ZState) (cbs : List Cb) (hsuf : ∃ pre, out = pre ++ st.rem) :
    ∀ x ∈ (provLoop env cfg v flags is st cbs).2,
      x ∈ cbs ∨ ∃ b, x = Cb.utf8 b ∧ IsRecordOf out b srvRecLimit := by
  induction is generalizing st cbs with
  | nil => intro x hx; exact Or.inl (by simpa [provLoop] using hx)
  | cons i is ih =>
    rw [provLoop]
    split
    · exact ih st cbs hsuf
    · split
      · intro x hx; exact Or.inl hx
      · rename_i d st' hrec
        obtain ⟨szb, h4, hrd, hlim, hsplit⟩ := readRecord_sound env srvRecLimit st d st' hrec
        obtain ⟨pre, hpre⟩ := hsuf
        have hsuf' : ∃ pre', out = pre' ++ st'.rem :=
          ⟨pre ++ szb ++ d, by rw [hpre, hsplit]; simp [List.append_assoc]⟩
        have hd : IsRecordOf out d srvRecLimit :=
          ⟨pre, szb, st'.rem, by rw [hpre, hsplit]; simp [List.append_assoc], h4, hrd, hlim⟩
        intro x hx
        rcases ih st' _ hsuf' x hx with hx | hx
        · split at hx
          · rcases List.mem_append.mp hx with hx | hx
            · exact Or.inl hx
            · exact Or.inr ⟨d, List.mem_singleton.mp hx, hd⟩
          · exact Or.inl hx
        · exact Or.inr hx

theorem handleExt_provide (flags : Nat) (z : Bytes)
    (hfl : flags < 4294967296) (hcaps : flags.testBit bCaps = false)
    (hreq : flags.testBit bRequest = false) (hpeek : flags.testBit bPeek = false)
    (hprov : flags.testBit bProvide = true) :
    handleExt Z env cfg cl (be32 flags ++ z) =
      ⟨if (provLoop env cfg cl.viewOnly flags (List.range nFormatBits) (ZState.init Z z) []).1
         then cl else closeCl cl,
       (provLoop env cfg cl.viewOnly flags (List.range nFormatBits) (ZState.init Z z) []).2, []⟩ := by
  have hlen : ¬ 4 + z.length < 4 := by omega
  simp [handleExt, extMinLen, be32_length, hlen, rd32_be32 _ hfl, drop_be32, hcaps, hreq, hpeek, hprov]

theorem handleExt_request (flags : Nat) (junk : Bytes)
    (hfl : flags < 4294967296) (hcaps : flags.testBit bCaps = false)
    (hreq : flags.testBit bRequest = true) :
    handleExt Z env cfg cl (be32 flags ++ junk) =
      match cl.data with
      | some d =>
        if cl.userCap.testBit bProvide && decide (d.length > 0) then ⟨cl, [], [.provide (record d)]⟩
        else ⟨cl, [], []⟩
      | none => ⟨cl, [], []⟩ := by
  have hlen : ¬ 4 + junk.length < 4 := by omega
  simp only [handleExt, extMinLen, be32_append_length, hlen, rd32_be32 _ hfl, hcaps, hreq, if_true,
    if_false, Bool.false_eq_true]
  cases cl.data <;> rfl

theorem handleExt_peek (flags : Nat) (junk : Bytes)
    (hfl : flags < 4294967296) (hcaps : flags.testBit bCaps = false)
    (hreq : flags.testBit bRequest = false) (hpeek : flags.testBit bPeek = true) :
    handleExt Z env cfg cl (be32 flags ++ junk) =
      match cl.data with
      | some d =>
        if cl.userCap.testBit bNotify && decide (d.length > 0) then ⟨cl, [], [.notify]⟩
        else ⟨cl, [], []⟩
      | none => ⟨cl, [], []⟩ := by
  have hlen : ¬ 4 + junk.length < 4 := by omega
  simp only [handleExt, extMinLen, be32_append_length, hlen, rd32_be32 _ hfl, hcaps, hreq, hpeek,
    if_true, if_false, Bool.false_eq_true]
  cases cl.data <;> rfl

theorem handleExt_ignored (body : Bytes)
    (hl : 4 ≤ body.length) (hcaps : (rd32 body).testBit bCaps = false)
    (hreq : (rd32 body).testBit bRequest = false) (hpeek : (rd32 body).testBit bPeek = false)
    (hprov : (rd32 body).testBit bProvide = false) :
    handleExt Z env cfg cl body = ⟨cl, [], []⟩ := by
  simp [handleExt, extMinLen, Nat.not_lt.mpr hl, hcaps, hreq, hpeek, hprov]

theorem handleExt_refused (flags : Nat) (z : Bytes)
    (hfl : flags < 4294967296) (hcaps : flags.testBit bCaps = false)
    (hreq : flags.testBit bRequest = false) (hpeek : flags.testBit bPeek = false)
    (hprov : flags.testBit bProvide = true) (htext : flags.testBit 0 = true)
    (h : readRecord env srvRecLimit (ZState.init Z z) = none) :
    handleExt Z env cfg cl (be32 flags ++ z) = ⟨closeCl cl, [], []⟩ := by
  rw [handleExt_provide Z env cfg cl flags z hfl hcaps hreq hpeek hprov,
    provLoop_refused env cfg _ flags _ htext h]
  simp

theorem bits_of_range (f : Nat) (h : ∀ i ∈ List.range 16, 1 ≤ i → f.testBit i = false) :
    ∀ i, 1 ≤ i → i < 16 → f.testBit i = false :=
  fun i h1 h2 => h i (List.mem_range.mpr h2) h1

theorem stepMsg_cut (p1 p2 p3 : UInt8) (n : Nat)
    (hn : n < 4294967296) (tail : Bytes) :
    stepMsg Z env cfg cl ((6 : UInt8) :: p1 :: p2 :: p3 :: (be32 n ++ tail)) =
      (let isExt := cl.ext && decide (n ≥ 2147483648)
       let len := if isExt then neg32 n else n
       if len > srvMsgLimit then Step.closed (closeCl cl) [] [] else
       let body := tail.take len
       if body.length < len then Step.closed (closeCl cl) [] [] else
       if isExt then
         let r := handleExt Z env cfg cl body
         if r.cl.isOpen then Step.next r.cl r.cbs r.out (8 + len) else Step.closed r.cl r.cbs r.out
       else Step.next cl (if cl.viewOnly then [] else [Cb.latin1 body]) [] (8 + len)) := by
  obtain ⟨h8, hrd, hdrop⟩ := hdr_decode 6 p1 p2 p3 n hn tail
  simp only [stepMsg]
  rw [if_pos (by decide)]
  unfold stepCut
  simp only [szClientCutTextMsg]
  simp only [h8, if_false, hrd, hdrop]

theorem stepMsg_plain (p1 p2 p3 : UInt8) (n : Nat) (tail : Bytes) (hn : n < 4294967296)
    (hcl : cl.ext = false ∨ n < 2147483648) :
    stepMsg Z env cfg cl ((6 : UInt8) :: p1 :: p2 :: p3 :: (be32 n ++ tail)) =
      if n ≤ srvMsgLimit ∧ n ≤ tail.length then
        .next cl (if cl.viewOnly then [] else [Cb.latin1 (tail.take n)]) [] (8 + n)
      else .closed (closeCl cl) [] [] := by
  have hx : (cl.ext && decide (n ≥ 2147483648)) = false := by
    rcases hcl with h | h
    · simp [h]
    · simp [Nat.not_le.mpr h]
  rw [stepMsg_cut Z env cfg cl p1 p2 p3 n hn tail]
  by_cases h1 : n ≤ srvMsgLimit
  · by_cases h2 : n ≤ tail.length
    · simp [hx, h1, h2, Nat.not_lt.mpr h1, List.length_take, Nat.min_eq_left h2]
    · simp [hx, h1, h2, Nat.not_lt.mpr h1, List.length_take, Nat.min_eq_right (Nat.le_of_not_le h2),
        Nat.lt_of_not_le h2]
  · simp [hx, h1, Nat.lt_of_not_le h1]

theorem stepMsg_ext_oversize (p1 p2 p3 : UInt8) (n : Nat)
    (tail : Bytes) (he : cl.ext = true) (h1 : n > srvMsgLimit) (h2 : n ≤ 2147483648) :
    stepMsg Z env cfg cl ((6 : UInt8) :: p1 :: p2 :: p3 :: (be32 (neg32 n) ++ tail)) =
      .closed (closeCl cl) [] [] := by
  have hlim : srvMsgLimit = 1048576 := rfl
  have hge := neg32_ge n (by omega) h2
  have hnn := neg32_neg32 n (by omega)
  rw [stepMsg_cut Z env cfg cl p1 p2 p3 _ (neg32_lt _) tail]
  simp [he, hge, hnn, h1]

theorem feed_nil :
    feed Z env cfg cl [] = ⟨cl, [], [], false⟩ := by
  rw [feed]

end

theorem feed_of_closed (Z : Zlib) (env : Env) (cfg : Cfg) (cl : Cl) (input : Bytes)
    (ho : cl.isOpen = false) : feed Z env cfg cl input = ⟨cl, [], [], false⟩ := by
  cases input with
  | nil => exact feed_nil ..
  | cons t rest => rw [feed]; simp [ho]

section
variable (Z : Zlib) (env : Env) (cfg : Cfg) (cl : Cl)

theorem feed_closedStep (cl cl' : Cl) (t : UInt8) (rest : Bytes)
    (cbs : List Cb) (out : List SMsg) (ho : cl.isOpen = true)
    (h : stepMsg Z env cfg cl (t :: rest) = .closed cl' cbs out) :
    feed Z env cfg cl (t :: rest) = ⟨cl', cbs, out, false⟩ := by
  rw [feed]
  simp [ho, h]

theorem feed_msg (cl cl' : Cl) (msg rest : Bytes)
    (cbs : List Cb) (out : List SMsg) (k : Nat) (ho : cl.isOpen = true) (hk : k = msg.length)
    (hpos : 0 < k) (h : stepMsg Z env cfg cl (msg ++ rest) = .next cl' cbs out k) :
    feed Z env cfg cl (msg ++ rest) =
      ⟨(feed Z env cfg cl' rest).cl, cbs ++ (feed Z env cfg cl' rest).cbs,
       out ++ (feed Z env cfg cl' rest).out, (feed Z env cfg cl' rest).unmodelled⟩ := by
  have hdrop : (msg ++ rest).drop (max k 1) = rest := by
    rw [Nat.max_eq_left hpos, hk, List.drop_left]
  cases hm : msg ++ rest with
  | nil => rw [hm] at hdrop; subst hk; cases msg <;> simp_all
  | cons t r =>
    rw [hm] at h hdrop
    rw [feed]
    simp [ho, h, hdrop]

theorem feed_ext (body rest : Bytes) (r : Res) (ho : cl.isOpen = true) (he : cl.ext = true)
    (hb1 : 0 < body.length) (hb2 : body.length ≤ srvMsgLimit) (hr : handleExt Z env cfg cl body = r) :
    feed Z env cfg cl (extMsg 6 body ++ rest) =
      if r.cl.isOpen then
        ⟨(feed Z env cfg r.cl rest).cl, r.cbs ++ (feed Z env cfg r.cl rest).cbs,
         r.out ++ (feed Z env cfg r.cl rest).out, (feed Z env cfg r.cl rest).unmodelled⟩
      else ⟨r.cl, r.cbs, r.out, false⟩ := by
  have hlim : srvMsgLimit = 1048576 := rfl
  have hge := neg32_ge body.length hb1 (by omega)
  have hnn := neg32_neg32 body.length (by omega)
  have hstep : stepMsg Z env cfg cl (extMsg 6 body ++ rest) =
      if r.cl.isOpen then .next r.cl r.cbs r.out (8 + body.length) else .closed r.cl r.cbs r.out := by
    rw [extMsg_append, stepMsg_cut Z env cfg cl 0 0 0 _ (neg32_lt _) (body ++ rest)]
    simp [he, hge, hnn, List.take_left' rfl, Nat.not_lt.mpr hb2, hr]
  split
  · rename_i hopen
    rw [if_pos hopen] at hstep
    exact feed_msg Z env cfg cl _ _ rest _ _ _ ho (by simp [extMsg, be32_length]; omega) (by omega) hstep
  · rename_i hopen
    rw [if_neg hopen, extMsg_append] at hstep
    rw [extMsg_append]
    exact feed_closedStep Z env cfg cl _ _ _ _ _ ho hstep

theorem countExt_flatMap (encs : List Nat) (h : ∀ e ∈ encs, e < 4294967296) :
    countExt (encs.flatMap be32) = encs.count encExtendedClipboard := by
  induction encs with
  | nil => simp [countExt]
  | cons e es ih =>
    have he : e < 4294967296 := h e (by simp)
    have ih' := ih (fun x hx => h x (by simp [hx]))
    have hrd : rd32 (be32 e) = e := rd32_be32' e he
    have hb : be32 e = [UInt8.ofNat (e / 16777216 % 256), UInt8.ofNat (e / 65536 % 256),
        UInt8.ofNat (e / 256 % 256), UInt8.ofNat (e % 256)] := rfl
    simp only [List.flatMap_cons, List.count_cons]
    rw [hb] at hrd ⊢
    simp only [List.cons_append, List.nil_append, countExt, hrd, ih']
    by_cases hc : e = encExtendedClipboard <;> simp [hc] <;> omega

theorem flatMap_be32_length (encs : List Nat) : (encs.flatMap be32).length = 4 * encs.length := by
  induction encs with
  | nil => simp
  | cons e es ih => simp [List.flatMap_cons, be32_length, ih]; omega

/-- step outcome that neither enables the extension nor delivers UTF-8 text -/
def StepNoExt (st : Step) : Prop :=
  match st with
  | .next cl' cbs _ _ => cl'.ext = false ∧ ∀ b, Cb.utf8 b ∉ cbs
  | .closed cl' cbs _ => cl'.ext = false ∧ ∀ b, Cb.utf8 b ∉ cbs
  | .unmodelled => True

/-- without the UTF-8 callback SetEncodings never enables the extension, and with the extension off
no ClientCutText reaches the extended handler -/
theorem stepMsg_noext (input : Bytes) (he : cl.ext = false) :
    StepNoExt (stepMsg Z env ⟨false⟩ cl input) := by
  have hcl : StepNoExt (Step.closed (closeCl cl) [] []) := ⟨he, fun _ h => nomatch h⟩
  fun_cases stepMsg Z env ⟨false⟩ cl input
  · trivial  -- no input
  · fun_cases stepCut Z env ⟨false⟩ cl _  -- ClientCutText
    · exact hcl  -- header incomplete
    · exact hcl  -- over the limit
    · exact hcl  -- body incomplete
    · rename_i isExt _ _ _ _ hx _ _; simp [isExt, he] at hx  -- extended: excluded
    · rename_i isExt _ _ _ _ hx _ _; simp [isExt, he] at hx
    · cases cl.viewOnly <;> simp [StepNoExt, he]  -- classic
  · unfold stepEnc  -- SetEncodings
    split
    · simp only [Bool.false_and, Bool.false_eq_true, if_false]
      split
      · exact hcl
      · simp [StepNoExt, he]
    · exact hcl
  · trivial  -- any other message type

/-- a `next` step leaves the client open, a `closed` step leaves it closed -/
def StepWF (st : Step) : Prop :=
  match st with
  | .next cl' _ _ _ => cl'.isOpen = true
  | .closed cl' _ _ => cl'.isOpen = false
  | .unmodelled => True

theorem stepMsg_wf (input : Bytes) (ho : cl.isOpen = true) :
    StepWF (stepMsg Z env cfg cl input) := by
  have hcl : ∀ a b, StepWF (Step.closed (closeCl cl) a b) := fun _ _ => rfl
  fun_cases stepMsg Z env cfg cl input
  · trivial  -- no input
  · fun_cases stepCut Z env cfg cl _  -- ClientCutText
    · exact hcl _ _  -- header incomplete
    · exact hcl _ _  -- over the limit
    · exact hcl _ _  -- body incomplete
    · assumption  -- extended, handler keeps the connection
    · rename_i h; simpa [StepWF] using h  -- extended, handler closes
    · exact ho  -- classic
  · unfold stepEnc  -- SetEncodings
    split
    · simp only []
      split
      · exact hcl _ _
      · split <;> exact ho
    · exact hcl _ _
  · trivial  -- any other message type

theorem find_set_ne (cls : List (Nat × Cl)) (id j : Nat) (cl : Cl) (h : j ≠ id) :
    (cls.map (fun p => if p.1 == id then (p.1, cl) else p)).find? (fun p => p.1 == j) =
      cls.find? (fun p => p.1 == j) := by
  induction cls with
  | nil => rfl
  | cons p ps ih =>
    rw [List.map_cons, List.find?_cons, List.find?_cons, ih]
    by_cases hp : p.1 = id
    · have hj1 : (p.1 == j) = false := by
        simp only [beq_eq_false_iff_ne, ne_eq]
        intro e; exact h (e ▸ hp)
      simp [hp, hp ▸ hj1]
    · simp [hp]

theorem get_set_ne (s : Sys) (id j : Nat) (cl : Cl) (h : j ≠ id) : (s.set id cl).get j = s.get j := by
  simp only [Sys.get, Sys.set, find_set_ne s.cls id j cl h]

theorem writeOutcome_snd (r : Cl × List SMsg) :
    (writeOutcome cl r).2 = if cl.peerGone = true then [] else r.2 := by
  unfold writeOutcome
  rcases r with ⟨c, _ | _⟩ <;> cases cl.peerGone <;> simp

theorem writeOutcome_fst (r : Cl × List SMsg) :
    (writeOutcome cl r).1 = if cl.peerGone = true ∧ r.2 ≠ [] then closeCl r.1 else r.1 := by
  unfold writeOutcome
  rcases r with ⟨c, _ | _⟩ <;> cases cl.peerGone <;> simp

theorem sendUtf8One_fst (t : Bytes) (fb : Option Bytes) :
    (sendUtf8One cl t fb).1 =
      if cl.isOpen = true ∧ cl.normal = true ∧ cl.ext = true then { cl with data := some (t ++ [0]) }
      else cl := by
  unfold sendUtf8One
  cases cl.isOpen <;> cases cl.normal <;> cases cl.ext <;> try rfl
  · cases fb <;> rfl
  · simp only [Bool.not_true, Bool.or_self, Bool.false_eq_true, if_false, if_true, and_self]
    split
    · rfl
    · split <;> rfl

theorem cliStepMsg_cut (c : LC) (p1 p2 p3 : UInt8) (n : Nat)
    (hn : n < 4294967296) (tail : Bytes) :
    cliStepMsg Z env c ((3 : UInt8) :: p1 :: p2 :: p3 :: (be32 n ++ tail)) =
      (let neg := decide (n ≥ 2147483648)
       let len := if neg then neg32 n else n
       if len > cliMsgLimit then CStep.drop else
       let body := tail.take len
       if body.length < len then CStep.drop else
       if neg && c.hasU8 then cliExtStep Z env c body (8 + len)
       else if c.hasL1 then CStep.next c [CCb.latin1 body] (8 + len)
       else CStep.next c [] (8 + len)) := by
  obtain ⟨h8, hrd, hdrop⟩ := hdr_decode 3 p1 p2 p3 n hn tail
  simp only [cliStepMsg]
  rw [if_pos (by decide)]
  unfold cliStepCut
  simp only [szServerCutTextMsg]
  simp only [h8, if_false, hrd, hdrop]

theorem cliFeed_nil (c : LC) : cliFeed Z env c [] = ⟨c, [], false, false⟩ := by
  rw [cliFeed]

theorem cliFeed_msg (c c' : LC) (msg rest : Bytes) (cbs : List CCb) (k : Nat)
    (hk : k = msg.length) (hpos : 0 < k)
    (h : cliStepMsg Z env c (msg ++ rest) = .next c' cbs k) :
    cliFeed Z env c (msg ++ rest) =
      ⟨(cliFeed Z env c' rest).c, cbs ++ (cliFeed Z env c' rest).cbs,
       (cliFeed Z env c' rest).dropped, (cliFeed Z env c' rest).unmodelled⟩ := by
  have hdrop : (msg ++ rest).drop (max k 1) = rest := by
    rw [Nat.max_eq_left hpos, hk, List.drop_left]
  cases hm : msg ++ rest with
  | nil => rw [hm] at hdrop; subst hk; cases msg <;> simp_all
  | cons t r =>
    rw [hm] at h hdrop
    rw [cliFeed]
    simp [h, hdrop]

theorem cliFeed_drop (c : LC) (t : UInt8) (rest : Bytes)
    (h : cliStepMsg Z env c (t :: rest) = .drop) :
    cliFeed Z env c (t :: rest) = ⟨c, [], true, false⟩ := by
  rw [cliFeed]
  simp only [h]

theorem cliStepMsg_ext_oversize (c : LC) (p1 p2 p3 : UInt8) (n : Nat)
    (tail : Bytes) (h1 : n > cliMsgLimit) (h2 : n ≤ 2147483648) :
    cliStepMsg Z env c ((3 : UInt8) :: p1 :: p2 :: p3 :: (be32 (neg32 n) ++ tail)) = .drop := by
  have hlim : cliMsgLimit = 1048576 := rfl
  have hge := neg32_ge n (by omega) h2
  have hnn := neg32_neg32 n (by omega)
  rw [cliStepMsg_cut Z env c p1 p2 p3 _ (neg32_lt _) tail]
  simp [hge, hnn, h1]

theorem cliFeed_ext (c : LC) (body rest : Bytes) (hu : c.hasU8 = true)
    (hb1 : 0 < body.length) (hb2 : body.length ≤ cliMsgLimit) :
    cliFeed Z env c (extMsg 3 body ++ rest) =
      match cliExt Z env c body with
      | none => ⟨c, [], true, false⟩
      | some (c', cbs) =>
        ⟨(cliFeed Z env c' rest).c, cbs ++ (cliFeed Z env c' rest).cbs,
         (cliFeed Z env c' rest).dropped, (cliFeed Z env c' rest).unmodelled⟩ := by
  have hlim : cliMsgLimit = 1048576 := rfl
  have hge := neg32_ge body.length hb1 (by omega)
  have hnn := neg32_neg32 body.length (by omega)
  have hstep : cliStepMsg Z env c (extMsg 3 body ++ rest) = cliExtStep Z env c body (8 + body.length) := by
    rw [extMsg_append, cliStepMsg_cut Z env c 0 0 0 _ (neg32_lt _) (body ++ rest)]
    simp [hge, hnn, List.take_left' rfl, Nat.not_lt.mpr hb2, hu]
  unfold cliExtStep at hstep
  split
  · rename_i hx
    rw [hx, extMsg_append] at hstep
    rw [extMsg_append]
    exact cliFeed_drop Z env c _ _ hstep
  · rename_i c' cbs hx
    rw [hx] at hstep
    exact cliFeed_msg Z env c c' _ rest cbs _ (by simp [extMsg, be32_length]; omega) (by omega) hstep

theorem cliExt_provide (c : LC) (z : Bytes) :
    cliExt Z env c (be32 srvProvideFlags ++ z) =
      (readRecord env cliRecLimit (ZState.init Z z)).map (fun p => (c, [CCb.utf8 p.1])) := by
  have h1 : srvProvideFlags.testBit bText = true := by decide
  have h2 : srvProvideFlags.testBit bProvide = true := by decide
  have h3 : srvProvideFlags.testBit bCaps = false := by decide
  simp only [cliExt, be32_append_length, rd32_be32 _ (by decide : srvProvideFlags < 4294967296), h1, h2,
    h3, drop_be32]
  cases readRecord env cliRecLimit (ZState.init Z z) <;> simp

theorem cliFeed_provide (hZ : ZLaw Z) (c : LC) (d rest : Bytes) (hu : c.hasU8 = true) (hd1 : d ≠ [])
    (hd3 : d.length < 2147483648) (h31 : 4 + (Z.compress (record d)).length ≤ 2147483648) :
    cliFeed Z env c (SMsg.wire Z (.provide (record d)) ++ rest) =
      if 4 + (Z.compress (record d)).length ≤ cliMsgLimit ∧ d.length ≤ cliRecLimit then
        ⟨(cliFeed Z env c rest).c, CCb.utf8 d :: (cliFeed Z env c rest).cbs,
         (cliFeed Z env c rest).dropped, (cliFeed Z env c rest).unmodelled⟩
      else ⟨c, [], true, false⟩ := by
  have hbl := be32_append_length srvProvideFlags (Z.compress (record d))
  rw [wire_provide]
  by_cases hm : 4 + (Z.compress (record d)).length ≤ cliMsgLimit
  · rw [cliFeed_ext Z env c _ rest hu (by omega) (by omega), cliExt_provide]
    by_cases hrec : d.length ≤ cliRecLimit
    · rw [readRecord_init Z env cliRecLimit _ d [] .done
        (by rw [List.append_nil]; exact hZ.inflate_compress _) (hZ.compress_ne _) hd1 hrec (by omega)
        (by intro _ h; cases h), if_pos ⟨hm, hrec⟩]
      rfl
    · rw [readRecord_oversize env cliRecLimit d.length _ d
        (by simp [ZState.init, hZ.inflate_compress, record]) (by omega) (by omega),
        if_neg (fun h => hrec h.2)]
      rfl
  · rw [extMsg_append, if_neg (fun h => hm h.1)]
    exact cliFeed_drop Z env c _ _ (cliStepMsg_ext_oversize Z env c 0 0 0 _ _ (by omega) (by omega))

end

end VncModel.Clip
