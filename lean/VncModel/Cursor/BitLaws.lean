import VncModel.Cursor.ShapeLemmas
/-
Independent statements about the pixel arithmetic and the bitmap conversions of cursor.c (C15):
channel laws of the alpha blend and of the X-cursor colours for packed true-colour formats, bit
laws of the bitmap conversions.
-/
namespace VncModel.Cursor

/-- red in the low `kr` bits, green in the next `kg`, blue in the next `kb` — the formats
rfbInitServerFormat gives a little-endian server: 3/3/2 (8 bpp), 5/5/5 (16 bpp), 8/8/8 (24, 32 bpp) -/
structure Format.Packed (f : Format) (kr kg kb : Nat) : Prop where
  rs : f.redShift = 0
  gs : f.greenShift = kr
  bs : f.blueShift = kr + kg
  rm : f.redMax = 2 ^ kr - 1
  gm : f.greenMax = 2 ^ kg - 1
  bm : f.blueMax = 2 ^ kb - 1

/-- colour channel of a pixel, the way every RFB implementation reads it: `(p >> shift) & max` -/
def chanOf (max shift p : Nat) : Nat := (p >>> shift) &&& max

theorem chanOf_le (max shift p : Nat) : chanOf max shift p ≤ max := Nat.and_le_right

/-- the code's `(p & (max << shift)) >> shift` is that channel -/
theorem and_shiftLeft_shiftRight (max sh p : Nat) : (p &&& (max <<< sh)) >>> sh = chanOf max sh p := by
  rw [chanOf, Nat.shiftRight_and_distrib, Nat.shiftLeft_shiftRight]

theorem chanOf_two_pow (k sh p : Nat) : chanOf (2 ^ k - 1) sh p = (p / 2 ^ sh) % 2 ^ k := by
  rw [chanOf, Nat.and_two_pow_sub_one_eq_mod, Nat.shiftRight_eq_div_pow]

theorem pack3 {kr kg : Nat} {r g b : Nat} (hr : r < 2 ^ kr) (hg : g < 2 ^ kg) :
    (r <<< 0 ||| g <<< kr ||| b <<< (kr + kg)) = r + g * 2 ^ kr + b * (2 ^ kr * 2 ^ kg) := by
  have hlt : g <<< kr + r < 2 ^ (kr + kg) := by
    rw [Nat.shiftLeft_eq, Nat.pow_add, Nat.mul_comm (2 ^ kr)]
    exact lin_lt hg hr
  rw [Nat.shiftLeft_zero, Nat.or_comm r, ← Nat.shiftLeft_add_eq_or_of_lt hr g, Nat.or_comm,
    ← Nat.shiftLeft_add_eq_or_of_lt hlt b]
  simp only [Nat.shiftLeft_eq, Nat.pow_add]
  omega

theorem unpack3 {A B C r g b : Nat} (hr : r < A) (hg : g < B) (hb : b < C) :
    (r + g * A + b * (A * B)) % A = r ∧ ((r + g * A + b * (A * B)) / A) % B = g ∧
    ((r + g * A + b * (A * B)) / (A * B)) % C = b ∧ r + g * A + b * (A * B) < A * B * C := by
  have e1 : r + g * A + b * (A * B) = (b * B + g) * A + r := by
    rw [Nat.add_mul, Nat.mul_assoc, Nat.mul_comm B A]; omega
  have e2 : r + g * A + b * (A * B) = b * (A * B) + (g * A + r) := by omega
  have hlt : g * A + r < A * B := Nat.mul_comm A B ▸ lin_lt hg hr
  refine ⟨?_, ?_, ?_, ?_⟩
  · rw [e1]; exact Nat.mul_add_mod_of_lt hr
  · rw [e1, lin_div A _ r hr]; exact Nat.mul_add_mod_of_lt hg
  · rw [e2, lin_div (A * B) b _ hlt, Nat.mod_eq_of_lt hb]
  · rw [e2, Nat.mul_comm (A * B) C]; exact lin_lt hb hlt

/-- three channels assembled into a pixel of `bpp` bytes the way cursor.c does it: shifted, OR-ed,
cut to 32 bits and to the pixel size -/
def packPx (f : Format) (bpp r g b : Nat) : Px :=
  (((r <<< f.redShift) ||| (g <<< f.greenShift) ||| (b <<< f.blueShift)) % 2 ^ 32) % 2 ^ (8 * bpp)

/-- three in-range channels of a packed format are read back from the assembled pixel; the
truncations to 32 bits / to the pixel size are no-ops -/
theorem packed_value {f : Format} {kr kg kb bpp : Nat} (hp : f.Packed kr kg kb) (hbits : kr + kg + kb ≤ 8 * bpp)
    (hbpp : bpp ≤ 4) {r g b : Nat} (hr : r ≤ f.redMax) (hg : g ≤ f.greenMax) (hb : b ≤ f.blueMax) :
    chanOf f.redMax f.redShift (packPx f bpp r g b) = r ∧ chanOf f.greenMax f.greenShift (packPx f bpp r g b) = g ∧
    chanOf f.blueMax f.blueShift (packPx f bpp r g b) = b ∧ packPx f bpp r g b < 2 ^ (kr + kg + kb) := by
  obtain ⟨rs, gs, bs, rm, gm, bm⟩ := hp
  have lt : ∀ {x k : Nat}, x ≤ 2 ^ k - 1 → x < 2 ^ k := fun h =>
    Nat.lt_of_le_of_lt h (Nat.sub_lt (Nat.two_pow_pos _) Nat.one_pos)
  rw [rm] at hr; rw [gm] at hg; rw [bm] at hb
  obtain ⟨u1, u2, u3, u4⟩ := unpack3 (lt hr) (lt hg) (lt hb)
  have h32 : 2 ^ kr * 2 ^ kg * 2 ^ kb ≤ 2 ^ 32 := by
    rw [← Nat.pow_add, ← Nat.pow_add]; exact Nat.pow_le_pow_right (by omega) (by omega)
  have h8 : 2 ^ kr * 2 ^ kg * 2 ^ kb ≤ 2 ^ (8 * bpp) := by
    rw [← Nat.pow_add, ← Nat.pow_add]; exact Nat.pow_le_pow_right (by omega) hbits
  simp only [packPx, rs, gs, bs, rm, gm, bm, chanOf_two_pow]
  rw [pack3 (lt hr) (lt hg), Nat.mod_eq_of_lt (Nat.lt_of_lt_of_le u4 h32), Nat.mod_eq_of_lt (Nat.lt_of_lt_of_le u4 h8),
    Nat.pow_zero, Nat.div_one, Nat.pow_add _ (kr + kg), Nat.pow_add]
  exact ⟨u1, u2, u3, u4⟩

/-- one blended channel, with the code's rounding (two truncating divisions by 255) -/
def blendChan (a src dst : Nat) : Nat := a * src / 255 + (255 - a) * dst / 255

theorem blendChan_le {a src dst M : Nat} (ha : a ≤ 255) (hs : src ≤ M) (hd : dst ≤ M) :
    blendChan a src dst ≤ M := by
  unfold blendChan
  have h1 : a * src ≤ a * M := Nat.mul_le_mul_left a hs
  have h2 : (255 - a) * dst ≤ (255 - a) * M := Nat.mul_le_mul_left _ hd
  have h3 : a * M + (255 - a) * M = 255 * M := by rw [← Nat.add_mul]; congr 1; omega
  omega

/-- the pixel rfbShowCursor stores for a non-premultiplied alpha cursor -/
theorem blend_eq (f : Format) (bpp d s a : Nat) :
    blend f bpp false d s a =
      packPx f bpp (blendChan a (chanOf f.redMax f.redShift s) (chanOf f.redMax f.redShift d))
        (blendChan a (chanOf f.greenMax f.greenShift s) (chanOf f.greenMax f.greenShift d))
        (blendChan a (chanOf f.blueMax f.blueShift s) (chanOf f.blueMax f.blueShift d)) := by
  simp only [blend, and_shiftLeft_shiftRight, Bool.false_eq_true, if_false]
  rfl

theorem scaled_le {m c : Nat} (hc : c ≤ 0xffff) : m * c / 0xffff ≤ m :=
  Nat.div_le_of_le_mul (Nat.mul_comm m _ ▸ Nat.mul_le_mul_left m hc)

/-- rfbMakeRichCursorFromXCursor: foreground colour where the source bit (row stride `(w+7)/8`, MSB
first) is set, background colour elsewhere -/
theorem make_rich_law {v : Variant} {f : Format} {bpp : Nat} {c : Cursor} {src : Array UInt8} {rich : Array Px}
    (hsrc : c.source = some src) (h : makeRichPixels v f bpp c = some rich) {u w : Nat}
    (hu : u < c.w) (hw : w < c.h) :
    ∃ bit, maskBit src c.w u w = some bit ∧
      rich[w * c.w + u]? = some (if bit then xColour v f bpp c.foreR c.foreG c.foreB
                                  else xColour v f bpp c.backR c.backG c.backB) := by
  unfold makeRichPixels at h
  simp only [hsrc] at h
  obtain ⟨hsz, hel⟩ := tabulate?_spec h
  have hlt : w * c.w + u < c.w * c.h := by rw [Nat.mul_comm c.w c.h]; exact lin_lt hw hu
  have := hel _ hlt
  rw [Nat.mul_add_mod_of_lt hu, lin_div c.w w u hu] at this
  cases hm : maskBit src c.w u w with
  | none => rw [hm] at this; simp at this; omega
  | some bit => rw [hm] at this; exact ⟨bit, rfl, this⟩

/-- every configured server format of the harness is packed -/
example : (⟨7, 7, 3, 0, 3, 6⟩ : Format).Packed 3 3 2 ∧ (⟨31, 31, 31, 0, 5, 10⟩ : Format).Packed 5 5 5 ∧
    (⟨255, 255, 255, 0, 8, 16⟩ : Format).Packed 8 8 8 :=
  ⟨⟨rfl, rfl, rfl, rfl, rfl, rfl⟩, ⟨rfl, rfl, rfl, rfl, rfl, rfl⟩, ⟨rfl, rfl, rfl, rfl, rfl, rfl⟩⟩

theorem and_two_pow_ne_zero (x i : Nat) : ((x &&& 2 ^ i) != 0) = x.testBit i := by
  cases h : x.testBit i with
  | true =>
    have : (x &&& 2 ^ i).testBit i = true := by rw [Nat.testBit_and, h, Nat.testBit_two_pow_self]; rfl
    have hne : x &&& 2 ^ i ≠ 0 := by
      intro e; rw [e, Nat.zero_testBit] at this; exact Bool.noConfusion this
    simp [hne]
  | false =>
    have : x &&& 2 ^ i = 0 := by
      apply Nat.eq_of_testBit_eq
      intro j
      rw [Nat.testBit_and, Nat.testBit_two_pow, Nat.zero_testBit]
      by_cases hj : i = j
      · subst hj; simp [h]
      · simp [hj]
    simp [this]

/-- bit `k` (0 = leftmost pixel of the byte) of a bitmap byte: `(b << k) & 0x80` -/
def bitOf (b : UInt8) (k : Nat) : Bool := ((b.toNat <<< k) &&& 0x80) != 0

theorem maskBit_eq (bits : Array UInt8) (w u v : Nat) :
    maskBit bits w u v = (bits[v * rowBytes w + u / 8]?).map fun b => bitOf b (u % 8) := rfl

/-- MSB first: bit `k` of the byte is binary digit `7-k` -/
theorem bitOf_eq_testBit (b : UInt8) (k : Nat) (hk : k < 8) : bitOf b k = b.toNat.testBit (7 - k) := by
  unfold bitOf
  have : (0x80 : Nat) = 2 ^ 7 := rfl
  rw [this, and_two_pow_ne_zero, Nat.testBit_shiftLeft]
  have : decide (7 ≥ k) = true := by simp; omega
  rw [this, Bool.true_and]

theorem bitOf_or (a b : UInt8) (k : Nat) (hk : k < 8) : bitOf (a ||| b) k = (bitOf a k || bitOf b k) := by
  rw [bitOf_eq_testBit _ _ hk, bitOf_eq_testBit _ _ hk, bitOf_eq_testBit _ _ hk, UInt8.toNat_or, Nat.testBit_or]

theorem bitOf_and (a b : UInt8) (k : Nat) (hk : k < 8) : bitOf (a &&& b) k = (bitOf a k && bitOf b k) := by
  rw [bitOf_eq_testBit _ _ hk, bitOf_eq_testBit _ _ hk, bitOf_eq_testBit _ _ hk, UInt8.toNat_and, Nat.testBit_and]

theorem bitOf_zero (k : Nat) : bitOf 0 k = false := by
  unfold bitOf; simp

theorem bitOf_single : ∀ i, i < 8 → ∀ j, j < 8 → bitOf (UInt8.ofNat (0x80 >>> i)) j = decide (i = j) := by
  decide

/-- rfbMakeMaskFromAlphaSource's `0x100 >> ((i&7)+1)` is the same byte -/
theorem shiftRight_succ_256 (i : Nat) : 0x100 >>> (i + 1) = 0x80 >>> i := by
  rw [Nat.add_comm, Nat.shiftRight_add]; rfl

/-- the mask that keeps the `r` leftmost bits -/
theorem bitOf_padmask : ∀ r, r < 8 → ∀ j, j < 8 → bitOf (UInt8.ofNat (0xff - (0xff >>> r))) j = decide (j < r) := by
  decide

/-- rfbMakeXCursor: the string's bit at every pixel of the cursor, zero in every padding position -/
theorem make_xcursor_bits {width height : Nat} {bits : Array UInt8} (hsz : bits.size = rowBytes width * height)
    {u v : Nat} (hv : v < height) (hu : u < rowBytes width * 8) :
    maskBit (clearPadding width height bits) width u v =
      (maskBit bits width u v).map fun b => b && decide (u < width) := by
  have hcol : u / 8 < rowBytes width := by omega
  have hidx : v * rowBytes width + u / 8 < rowBytes width * height := idx_lt hcol hv
  have hk : u % 8 < 8 := Nat.mod_lt _ (by decide)
  rw [maskBit_eq, maskBit_eq]
  unfold clearPadding
  simp only []
  rw [Array.getElem?_ofFn]
  simp only [hidx, dite_true, Nat.mul_add_mod_of_lt hcol, Array.getElem?_eq_getElem (hsz ▸ hidx), Option.getD_some,
    Option.map_some]
  generalize bits[v * rowBytes width + u / 8]'(hsz ▸ hidx) = b
  clear hidx hsz hv hcol
  split
  · -- a byte wholly inside the cursor
    rw [decide_eq_true (by omega), Bool.and_true]
  · -- the last byte of the row: bit `u % 8` survives iff it is one of the `width - u/8*8` leftmost
    have hr : width - u / 8 * 8 < 8 := by omega
    rw [bitOf_and _ _ _ hk, bitOf_padmask _ hr _ hk]
    congr 2
    rw [decide_eq_decide]
    omega

/-- `m'` has the size of `m` and every bit set in `m` is set in `m'` -/
def BMono (m m' : Array UInt8) : Prop :=
  m'.size = m.size ∧ ∀ (idx : Nat) (b : UInt8), m[idx]? = some b →
    ∃ b' : UInt8, m'[idx]? = some b' ∧ ∀ k, k < 8 → bitOf b k = true → bitOf b' k = true

theorem BMono.refl (m : Array UInt8) : BMono m m := ⟨rfl, fun _ b h => ⟨b, h, fun _ _ hb => hb⟩⟩

/-- bits of the source byte at `idx` are set in the mask byte at `idx` -/
def CoversAt (src m : Array UInt8) (idx : Nat) : Prop :=
  ∀ bs, src[idx]? = some bs → ∃ bm, m[idx]? = some bm ∧ ∀ k, k < 8 → bitOf bs k = true → bitOf bm k = true

theorem CoversAt.mono {src m m' : Array UInt8} {idx : Nat} (h : CoversAt src m idx) (hm : BMono m m') :
    CoversAt src m' idx := by
  intro bs hbs
  obtain ⟨bm, hbm, hb⟩ := h bs hbs
  obtain ⟨bm', hbm', hb'⟩ := hm.2 idx bm hbm
  exact ⟨bm', hbm', fun k hk hbit => hb' k hk (hb k hk hbit)⟩

theorem BMono.trans {a b c : Array UInt8} (h1 : BMono a b) (h2 : BMono b c) : BMono a c :=
  ⟨h2.1.trans h1.1, fun idx => CoversAt.mono (h1.2 idx) h2⟩

/-- `mask[i] |= x` -/
theorem orByte_spec {a a' : Array UInt8} {i : Nat} {x : UInt8} (h : orByte a i x = some a') :
    BMono a a' ∧ (∃ b, a[i]? = some b ∧ a'[i]? = some (b ||| x)) ∧ ∀ idx, idx ≠ i → a'[idx]? = a[idx]? := by
  unfold orByte at h
  split at h
  · rename_i hlt
    simp only [Option.some.injEq] at h; subst h
    refine ⟨⟨Array.size_set _, fun idx b hb => ?_⟩, ⟨a[i], Array.getElem?_eq_getElem hlt, by simp⟩,
      fun idx hne => Array.getElem?_set_ne _ (Ne.symm hne)⟩
    by_cases hidx : idx = i
    · subst hidx
      rw [Array.getElem?_eq_getElem hlt] at hb
      simp only [Option.some.injEq] at hb; subst hb
      exact ⟨a[idx] ||| x, by simp, fun k hk hbit => by rw [bitOf_or _ _ _ hk, hbit]; rfl⟩
    · exact ⟨b, by rw [Array.getElem?_set_ne _ (Ne.symm hidx)]; exact hb, fun _ _ h => h⟩
  · simp at h

theorem ite_orByte_mono {p : Prop} [Decidable p] {a a' : Array UInt8} {i : Nat} {x : UInt8}
    (h : (if p then orByte a i x else some a) = some a') : BMono a a' := by
  split at h
  · exact (orByte_spec h).1
  · simp at h; subst h; exact BMono.refl _

theorem forM?_mono {n : Nat} {f : Nat → Array UInt8 → Option (Array UInt8)} {s s' : Array UInt8}
    (hf : ∀ k, k < n → ∀ a b, f k a = some b → BMono a b) (h : forM? n f s = some s') : BMono s s' :=
  forM?_ind (fun _ a => BMono s a) (BMono.refl s) (fun k hk a b ha hab => ha.trans (hf k hk a b hab)) h

theorem maskForXStep_spec {w height : Nat} {src m m' : Array UInt8} {j k : Nat}
    (h : maskForXStep w height src j k m = some m') :
    BMono m m' ∧ CoversAt src m' (j * w + (w - 1 - k)) := by
  unfold maskForXStep at h
  simp only [] at h
  obtain ⟨c0, hc0, h⟩ := Option.bind_eq_some_iff.mp h
  obtain ⟨c1, _, h⟩ := Option.bind_eq_some_iff.mp h
  obtain ⟨c2, _, h⟩ := Option.bind_eq_some_iff.mp h
  obtain ⟨m1, h1, h⟩ := Option.bind_eq_some_iff.mp h
  obtain ⟨m2, h2, h⟩ := Option.bind_eq_some_iff.mp h
  obtain ⟨hm3, ⟨b, _, hb'⟩, _⟩ := orByte_spec h
  refine ⟨(ite_orByte_mono h1).trans ((ite_orByte_mono h2).trans hm3), fun bs hbs => ?_⟩
  cases hc0.symm.trans hbs
  refine ⟨_, hb', fun k hk hbit => ?_⟩
  -- the byte OR-ed in contains `c0` itself
  simp only [bitOf_or _ _ _ hk, hbit, Bool.true_or, Bool.or_true]

/-- the mask rfbMakeMaskForXCursor derives (the source dilated by one pixel) contains the source -/
theorem mask_covers_source {width height : Nat} {src mask : Array UInt8}
    (h : makeMaskForXCursor width height src = some mask) {u v : Nat} (hu : u < width) (hv : v < height)
    (hbit : maskBit src width u v = some true) : maskBit mask width u v = some true := by
  -- rows before `J` are covered, and of row `J` the `K` columns visited (from the right)
  have key := forM2?_ind
    (fun J K (m : Array UInt8) => ∀ j i, i < rowBytes width → j < J ∨ (j = J ∧ rowBytes width - 1 - i < K) →
      CoversAt src m (j * rowBytes width + i)) h
    (fun j i _ hj => by omega)
    (fun J _ K _ a b ha hab j i hi hj => by
      obtain ⟨hmono, hc⟩ := maskForXStep_spec hab
      by_cases hnew : j = J ∧ rowBytes width - 1 - i = K
      · obtain ⟨rfl, rfl⟩ := hnew
        rwa [show rowBytes width - 1 - (rowBytes width - 1 - i) = i by omega] at hc
      · exact (ha j i hi (by omega)).mono hmono)
    (fun J _ a ha j i hi hj => ha j i hi (by omega))
  obtain ⟨bs, hs, e⟩ := Option.map_eq_some_iff.mp hbit
  obtain ⟨bm, hbm, hb⟩ := key v (u / 8) (rowByte_lt hu) (.inl hv) bs hs
  rw [maskBit_eq, hbm]
  exact congrArg some (hb _ (Nat.mod_lt _ (by decide)) e)

/-- is rich pixel `(u,v)` turned into a set bit? -/
def xSetAt (f : Format) (bpp : Nat) (c : Cursor) (rich : Array Px) (v u : Nat) : Bool :=
  match rich[v * c.w + u]? with
  | some p => xBitSet f bpp c p
  | none => false

theorem orBit_bits {w u0 v0 : Nat} {m m' : Array UInt8} (hu0 : u0 < w)
    (h : orByte m (v0 * rowBytes w + u0 / 8) (UInt8.ofNat (0x80 >>> (u0 % 8))) = some m') :
    m'.size = m.size ∧ maskBit m' w u0 v0 = some true ∧
    ∀ u, u < w → ∀ v, ¬ (v = v0 ∧ u = u0) → maskBit m' w u v = maskBit m w u v := by
  obtain ⟨hmono, ⟨b, hb0, hb1⟩, hframe⟩ := orByte_spec h
  have h8 : ∀ n, n % 8 < 8 := fun n => Nat.mod_lt _ (by decide)
  have hx := fun u => bitOf_single _ (h8 u0) _ (h8 u)
  refine ⟨hmono.1, ?_, fun u hu v hne => ?_⟩
  · rw [maskBit_eq, hb1, Option.map_some, bitOf_or _ _ _ (h8 u0), hx, decide_eq_true rfl, Bool.or_true]
  · rw [maskBit_eq, maskBit_eq]
    by_cases hidx : v * rowBytes w + u / 8 = v0 * rowBytes w + u0 / 8
    · obtain ⟨hv, hu8⟩ := lin_inj (rowByte_lt hu) (rowByte_lt hu0) hidx
      rw [hidx, hb0, hb1, Option.map_some, Option.map_some, bitOf_or _ _ _ (h8 u), hx,
        decide_eq_false fun e => hne ⟨hv, by omega⟩, Bool.or_false]
    · rw [hframe _ hidx]

/-- a loop over the pixels of a `w×h` bitmap that starts from the all-clear bitmap and at pixel `(i,j)`
either ORs in that pixel's bit or leaves the bitmap alone (`p j i` says which; the loop state may
carry more than the bitmap, `I` is what is known about it) builds the bitmap of `p` -/
theorem bitLoop {σ : Type} {w h : Nat} {f : Nat → Nat → σ → Option σ} {s s' : σ} (res : σ → Array UInt8)
    (I : σ → Prop) (p : Nat → Nat → Bool) (hloop : forM2? h w f s = some s') (h0 : I s)
    (hres : res s = Array.replicate (rowBytes w * h) 0)
    (hstep : ∀ j, j < h → ∀ i, i < w → ∀ a b, I a → f j i a = some b → I b ∧
      if p j i then orByte (res a) (j * rowBytes w + i / 8) (UInt8.ofNat (0x80 >>> (i % 8))) = some (res b)
      else res b = res a)
    {u v : Nat} (hu : u < w) (hv : v < h) : maskBit (res s') w u v = some (p v u) := by
  -- the pixels visited so far carry their bit, the others are still clear
  have key := forM2?_ind
    (fun J K (a : σ) => I a ∧ ∀ u, u < w → ∀ v, v < h →
      maskBit (res a) w u v = some ((decide (v < J) || (decide (v = J) && decide (u < K))) && p v u))
    hloop
    ⟨h0, fun u hu v hv => by
      rw [hres, maskBit_eq, Array.getElem?_replicate, if_pos (idx_lt (rowByte_lt hu) hv)]
      simp [bitOf_zero]⟩
    (fun J hJ K hK a b ⟨hI, ha⟩ hab => by
      obtain ⟨hIb, hor⟩ := hstep J hJ K hK a b hI hab
      refine ⟨hIb, fun u hu v hv => ?_⟩
      have hkeep : ¬ (v = J ∧ u = K) ∨ p J K = false → maskBit (res b) w u v = maskBit (res a) w u v := by
        intro hne
        split at hor
        · exact (orBit_bits hK hor).2.2 u hu v (hne.resolve_right (by simp [*]))
        · rw [hor]
      by_cases hcell : v = J ∧ u = K
      · obtain ⟨rfl, rfl⟩ := hcell
        cases hp : p v u
        · rw [hkeep (.inr hp), ha u hu v hv, hp]; simp
        · rw [hp, if_pos rfl] at hor
          rw [(orBit_bits hK hor).2.1]; simp
      · rw [hkeep (.inl hcell), ha u hu v hv]
        congr 3
        by_cases hvJ : v = J
        · have : u ≠ K := fun e => hcell ⟨hvJ, e⟩
          simp [hvJ]; omega
        · simp [hvJ])
    (fun J _ a ⟨hI, ha⟩ => ⟨hI, fun u hu v hv => by
      rw [ha u hu v hv]
      congr 2
      by_cases hvJ : v = J
      · simp [hvJ, hu]
      · simp [hvJ]; omega⟩)
  rw [key.2 u hu v hv]
  simp [hv]

/-- rfbMakeXCursorFromRichCursor: bit `(u,v)` is set exactly when rich pixel `(u,v)` differs from the
background colour (interpolating mode: grey level at least 128) -/
theorem x_from_rich_bits {f : Format} {bpp : Nat} {c c' : Cursor} {rich : Array Px}
    (hr : c.rich = some rich) (h : makeXFromRich f bpp c = some c') :
    ∃ src, c'.source = some src ∧ src.size = rowBytes c.w * c.h ∧
      ∀ u, u < c.w → ∀ v, v < c.h → maskBit src c.w u v = some (xSetAt f bpp c rich v u) := by
  obtain ⟨rich', src, _, _, _, hr', hloop, rfl, _⟩ := makeXFromRich_some h
  cases hr.symm.trans hr'
  refine ⟨src, rfl, (xLoop_size hloop).trans Array.size_replicate, fun u hu v hv =>
    bitLoop id (fun _ => True) (xSetAt f bpp c rich) hloop trivial rfl
      (fun j _ i _ a b _ hab => ⟨trivial, ?_⟩) hu hv⟩
  unfold xFromRichStep at hab
  obtain ⟨p, hp, hab⟩ := Option.bind_eq_some_iff.mp hab
  rw [xSetAt, hp]
  split at hab
  · rwa [if_pos ‹_›]
  · rw [if_neg ‹_›]; exact (Option.some.inj hab).symm

/-- a two-colour rich cursor (foreground ≠ background, colours not all zero) survives
rich → X (rfbMakeXCursorFromRichCursor) → rich (rfbMakeRichCursorFromXCursor) unchanged -/
theorem rich_x_rich {f : Format} {bpp : Nat} {c c' : Cursor} {rich rich' : Array Px}
    (hr : c.rich = some rich) (hsz : rich.size = c.w * c.h) (hni : xInterp bpp c = false)
    (hne : xColour Variant.fixed f bpp c.foreR c.foreG c.foreB ≠ xColour Variant.fixed f bpp c.backR c.backG c.backB)
    (h2 : ∀ t, t < c.w * c.h → rich[t]? = some (xColour Variant.fixed f bpp c.foreR c.foreG c.foreB) ∨
                                 rich[t]? = some (xColour Variant.fixed f bpp c.backR c.backG c.backB))
    (hx : makeXFromRich f bpp c = some c')
    (hback : makeRichPixels Variant.fixed f bpp { c' with rich := none } = some rich') : rich' = rich := by
  obtain ⟨src, hsrc, _, hbits⟩ := x_from_rich_bits hr hx
  obtain ⟨_, src', fr, fg, fb, _, _, rfl, hfore⟩ := makeXFromRich_some hx
  obtain ⟨rfl, rfl, rfl⟩ := hfore hni
  cases hsrc
  dsimp only at hback
  have hsz' := makeRichPixels_size hback
  dsimp only at hsz'
  apply Array.ext_getElem?
  intro t
  by_cases ht : t < c.w * c.h
  · obtain ⟨hu, hv⟩ := coords_lt ht
    obtain ⟨bit, hbit, hpix⟩ := make_rich_law (h := hback) (hsrc := rfl) (u := t % c.w) (w := t / c.w) hu hv
    rw [show maskBit src c.w (t % c.w) (t / c.w) = _ from hbits _ hu _ hv] at hbit
    cases hbit
    have ht' : t / c.w * c.w + t % c.w = t := Nat.div_add_mod' t c.w
    simp only [xSetAt, ht'] at hpix
    -- the bit says whether the pixel differs from the background colour
    have hbg : xBackground f bpp c = xColour Variant.fixed f bpp c.backR c.backG c.backB := rfl
    rw [hpix]
    rcases h2 t ht with hp | hp <;> simp only [hp, xBitSet, hni, Bool.false_eq_true, if_false, hbg]
    · rw [bne_iff_ne.mpr hne]; rfl
    · rw [bne_self_eq_false]; rfl
  · rw [Array.getElem?_eq_none (by omega), Array.getElem?_eq_none (by omega)]

def ZeroErr (width : Nat) (e : Array Int) : Prop := e.size = width ∧ ∀ k, k < width → e[k]? = some 0

theorem setErr_zero {width : Nat} {e e' : Array Int} {i : Nat} (hz : ZeroErr width e)
    (h : setErr e i 0 = some e') : ZeroErr width e' := by
  unfold setErr at h
  split at h
  · cases h
    refine ⟨(Array.size_set _).trans hz.1, fun k hk => ?_⟩
    rw [Array.getElem?_set]
    split
    · rfl
    · exact hz.2 k hk
  · cases h

theorem ite_setErr_zero {width : Nat} {p : Prop} [Decidable p] {e e' : Array Int} {i : Nat} (hz : ZeroErr width e)
    (h : (if p then setErr e i 0 else some e) = some e') : ZeroErr width e' := by
  split at h
  · exact setErr_zero hz h
  · cases h; exact hz

/-- what one pixel of the Floyd–Steinberg loop does: the accumulated value `cur + alpha + err[i]`
is compared with 0x80; at or above it the pixel's mask bit is set (and 0xff is subtracted); when the
accumulated value is exactly 0 or 0xff nothing is left over to diffuse -/
theorem fsStep_spec {width stride : Nat} {alpha : Array UInt8} {j i : Nat} {st st' : FsState}
    (h : fsStep width stride alpha j i st = some st') :
    ∃ a e, alpha[i + width * j]? = some a ∧ st.err[i]? = some e ∧
      (st.cur + (a.toNat : Int) + e < 0x80 → st'.res = st.res) ∧
      (¬ st.cur + (a.toNat : Int) + e < 0x80 →
        orByte st.res (j * stride + i / 8) (UInt8.ofNat (0x80 >>> (i % 8))) = some st'.res) ∧
      (st.cur + (a.toNat : Int) + e = 0 ∨ st.cur + (a.toNat : Int) + e = 0xff →
        st'.cur = 0 ∧ ∀ w, ZeroErr w st.err → ZeroErr w st'.err) := by
  unfold fsStep at h
  obtain ⟨a, ha, h⟩ := Option.bind_eq_some_iff.mp h
  obtain ⟨e, he, h⟩ := Option.bind_eq_some_iff.mp h
  simp only [] at h
  obtain ⟨⟨cur1, res⟩, hres, h⟩ := Option.bind_eq_some_iff.mp h
  simp only [] at h
  obtain ⟨e1, h1, h⟩ := Option.bind_eq_some_iff.mp h
  obtain ⟨e2, h2, h⟩ := Option.bind_eq_some_iff.mp h
  obtain ⟨e3, h3, h⟩ := Option.bind_eq_some_iff.mp h
  cases h
  rw [Nat.add_comm (i / 8), shiftRight_succ_256] at hres
  refine ⟨a, e, ha, he, fun hlt => ?_, fun hge => ?_, fun h0 => ?_⟩
  · rw [if_pos hlt] at hres; cases hres; rfl
  · rw [if_neg hge] at hres
    obtain ⟨r, hr, e⟩ := Option.map_eq_some_iff.mp hres
    cases e; exact hr
  · -- either way the value carried on is 0, and so are the three shares of it
    have hc1 : cur1 = 0 := by
      split at hres
      · cases hres; omega
      · obtain ⟨r, _, e⟩ := Option.map_eq_some_iff.mp hres
        cases e; omega
    subst hc1
    exact ⟨rfl, fun w hz => ite_setErr_zero (ite_setErr_zero (setErr_zero hz h1) h2) h3⟩

/-- the first pixel of the mask is set exactly when its alpha value reaches the dithering threshold
0x80; no later step touches that bit -/
theorem alpha_threshold {width height : Nat} {alpha mask : Array UInt8} (hw : 0 < width) (hh : 0 < height)
    (h : makeMaskFromAlpha width height alpha = some mask) :
    ∃ a0, alpha[0]? = some a0 ∧ maskBit mask width 0 0 = some (decide (a0.toNat ≥ 0x80)) := by
  obtain ⟨stf, hloop, rfl⟩ := Option.map_eq_some_iff.mp h
  -- before pixel (0,0) nothing has been accumulated and its bit is clear; afterwards the bit is decided
  have key := forM2?_ind
    (fun J I (st : FsState) =>
      if J = 0 ∧ I = 0 then st.cur = 0 ∧ st.err[0]? = some 0 ∧ maskBit st.res width 0 0 = some false
      else ∃ a0, alpha[0]? = some a0 ∧ maskBit st.res width 0 0 = some (decide (a0.toNat ≥ 0x80)))
    hloop
    (by
      have hpos : 0 < rowBytes width * height := Nat.mul_pos (by unfold rowBytes; omega) hh
      rw [if_pos ⟨rfl, rfl⟩]
      exact ⟨rfl, by simp [hw], by simp [maskBit_eq, hpos, bitOf_zero]⟩)
    (fun J _ I hI x y hx hxy => by
      obtain ⟨a, e, ha, he, hlo, hhi, _⟩ := fsStep_spec hxy
      rw [if_neg (by omega)]
      by_cases h00 : J = 0 ∧ I = 0
      · -- pixel (0,0): the accumulated value is its alpha value
        obtain ⟨rfl, rfl⟩ := h00
        obtain ⟨hcur, herr, hbit⟩ := (if_pos ⟨rfl, rfl⟩).mp hx
        cases herr.symm.trans he
        refine ⟨a, ha, ?_⟩
        by_cases hc : x.cur + (a.toNat : Int) + 0 < 0x80
        · rw [hlo hc, hbit, decide_eq_false (by omega)]
        · rw [(orBit_bits hI (hhi hc)).2.1, decide_eq_true (by omega)]
      · -- any other pixel leaves bit (0,0) alone
        rw [if_neg h00] at hx
        by_cases hc : x.cur + (a.toNat : Int) + e < 0x80
        · rwa [hlo hc]
        · rwa [(orBit_bits hI (hhi hc)).2.2 0 hw 0 (by omega)])
    (fun J _ a ha => by rw [if_neg (by omega)] at ha ⊢; exact ha)
  rwa [if_neg (by omega)] at key

theorem alphaIdx_lt {width height i j : Nat} (hi : i < width) (hj : j < height) : i + width * j < width * height := by
  rw [Nat.add_comm, Nat.mul_comm width j]; exact idx_lt hi hj

theorem fsStep_flat {width stride : Nat} {alpha : Array UInt8} {j i : Nat} {st st' : FsState} {a : UInt8}
    (hi : i < width) (hcur : st.cur = 0) (hz : ZeroErr width st.err) (ha : alpha[i + width * j]? = some a)
    (ha2 : a.toNat = 0 ∨ a.toNat = 255) (h : fsStep width stride alpha j i st = some st') :
    st'.cur = 0 ∧ ZeroErr width st'.err ∧ (a.toNat = 0 → st'.res = st.res) ∧
    (a.toNat = 255 → orByte st.res (j * stride + i / 8) (UInt8.ofNat (0x80 >>> (i % 8))) = some st'.res) := by
  obtain ⟨a', e, ha', he, hlo, hhi, hflat⟩ := fsStep_spec h
  cases ha.symm.trans ha'
  cases (hz.2 i hi).symm.trans he
  rw [hcur] at hlo hhi hflat
  obtain ⟨hc, hz'⟩ := hflat (by omega)
  exact ⟨hc, hz' width hz, fun h0 => hlo (by omega), fun h1 => hhi (by omega)⟩

/-- a fully transparent alpha source gives the all-zero mask -/
theorem alpha_mask_clear {width height : Nat} {alpha mask : Array UInt8}
    (hall : ∀ t, t < width * height → alpha[t]? = some 0)
    (h : makeMaskFromAlpha width height alpha = some mask) :
    mask = Array.replicate (rowBytes width * height) 0 := by
  obtain ⟨stf, hloop, rfl⟩ := Option.map_eq_some_iff.mp h
  refine (forM2?_ind
    (fun _ _ (st : FsState) => st.cur = 0 ∧ ZeroErr width st.err ∧ st.res = Array.replicate (rowBytes width * height) 0)
    hloop ⟨rfl, ⟨Array.size_replicate, fun k hk => by simp [hk]⟩, rfl⟩
    (fun J hJ I hI x y ⟨hc, hz, hr⟩ hxy => ?_) (fun _ _ _ ha => ha)).2.2
  obtain ⟨c1, z1, r0, _⟩ := fsStep_flat hI hc hz (hall _ (alphaIdx_lt hI hJ)) (.inl rfl) hxy
  exact ⟨c1, z1, (r0 rfl).trans hr⟩

/-- a binary alpha source (every value 0 or 255) is dithered exactly: the mask is the set of opaque
pixels -/
theorem alpha_mask_binary {width height : Nat} {alpha mask : Array UInt8}
    (hall : ∀ t, t < width * height → alpha[t]? = some 0 ∨ alpha[t]? = some 255)
    (h : makeMaskFromAlpha width height alpha = some mask) {u v : Nat} (hu : u < width) (hv : v < height) :
    maskBit mask width u v = some (alpha[u + width * v]? == some 255) := by
  obtain ⟨stf, hloop, rfl⟩ := Option.map_eq_some_iff.mp h
  refine bitLoop (·.res) (fun st => st.cur = 0 ∧ ZeroErr width st.err) (fun j i => alpha[i + width * j]? == some 255)
    hloop ⟨rfl, Array.size_replicate, fun k hk => by simp [hk]⟩ rfl (fun J hJ I hI x y ⟨hc, hz⟩ hxy => ?_) hu hv
  rcases hall _ (alphaIdx_lt hI hJ) with ha | ha
  · obtain ⟨c1, z1, r0, _⟩ := fsStep_flat hI hc hz ha (.inl rfl) hxy
    exact ⟨⟨c1, z1⟩, by rw [ha]; exact r0 rfl⟩
  · obtain ⟨c1, z1, _, r1⟩ := fsStep_flat hI hc hz ha (.inr rfl) hxy
    exact ⟨⟨c1, z1⟩, by rw [ha]; exact r1 rfl⟩

theorem alpha_mask_full {width height : Nat} {alpha mask : Array UInt8}
    (hall : ∀ t, t < width * height → alpha[t]? = some 255)
    (h : makeMaskFromAlpha width height alpha = some mask) {u v : Nat} (hu : u < width) (hv : v < height) :
    maskBit mask width u v = some true := by
  rw [alpha_mask_binary (fun t ht => .inr (hall t ht)) h hu hv, hall _ (alphaIdx_lt hu hv)]
  rfl

end VncModel.Cursor
