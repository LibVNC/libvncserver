import VncModel.Cursor.SessionLemmas
/-
The whole-history invariant of C15: what every client's picture shows, pixel by pixel, and that
every operation of a session preserves it.
-/
namespace VncModel.Cursor

/-- what pixel `(x,y)` of client `c`'s picture must show once it is up to date: the framebuffer
pixel, for a soft-cursor client with the cursor laid over it at the client's `cursorX/Y` -/
def expectedPx (v : Variant) (scr : Screen) (c : Client) (x y : Nat) : Option Px :=
  (scr.fb[y * scr.w + x]?).bind fun old =>
    if c.shape then some old else
    match scr.cursor with
    | none => some old
    | some cur =>
      (richOf v scr.fmt scr.bpp cur).bind fun rich =>
        overlayAt scr.fmt scr.bpp cur rich (effLimit v.clipFixed scr.w) (effLimit v.clipFixed scr.h)
          c.curX c.curY x y old

/-- per client: the picture has the screen's size and every pixel is either still pending in
`modifiedRegion` or shows what it should -/
def ClientInv (v : Variant) (scr : Screen) (c : Client) : Prop :=
  c.pic.size = scr.w * scr.h ∧
  ∀ x y, x < scr.w → y < scr.h →
    c.modified.mem scr.w x y = true ∨
    c.pic[y * scr.w + x]? = (expectedPx v scr c x y).map (transPx scr.fmt c.tfmt)

/-- well-formed session: well-formed screen, distinct client ids -/
def SessWF (s : Sess) : Prop := s.scr.WF ∧ (s.clients.map (·.id)).Nodup

def SessInv (v : Variant) (s : Sess) : Prop := SessWF s ∧ ∀ c ∈ s.clients, ClientInv v s.scr c

/-- no CopyRect is scheduled for the client (histories without rfbDoCopyRect / rfbScheduleCopyRect:
`Op` has no such operation; CopyRect scheduling is covered by `copy_never_drags_cursor` and the
correspondence run, the general convergence with CopyRect by property C02) -/
def NoCopy (scr : Screen) (c : Client) : Prop :=
  ∀ x y, x < scr.w → y < scr.h → c.copy.mem scr.w x y = false

/-- what the induction over histories carries: `SessInv`, and no client has a copy scheduled (`NoCopy`);
`history_invariant` states the `SessInv` part (`HistInv.sessInv`) -/
def HistInv (v : Variant) (s : Sess) : Prop :=
  SessWF s ∧ ∀ c ∈ s.clients, ClientInv v s.scr c ∧ NoCopy s.scr c

theorem HistInv.sessInv {v : Variant} {s : Sess} (h : HistInv v s) : SessInv v s :=
  ⟨h.1, fun c hc => (h.2 c hc).1⟩

theorem cursorPixel_congr {f : Format} {bpp : Nat} {a b : Cursor} (rich : Array Px) (hw : a.w = b.w)
    (hm : a.mask = b.mask) (ha : a.alpha = b.alpha) (hp : a.premult = b.premult) (u w : Nat) (old : Px) :
    cursorPixel f bpp a rich u w old = cursorPixel f bpp b rich u w old := by
  unfold cursorPixel; rw [hw, hm, ha, hp]

theorem overlayAt_congr {v : Variant} {f : Format} {bpp : Nat} {a b : Cursor}
    (h : SameLook v f bpp (some a) (some b)) (rich : Array Px) (lx ly : Int) (cx cy x y : Nat) (old : Px) :
    overlayAt f bpp a rich lx ly cx cy x y old = overlayAt f bpp b rich lx ly cx cy x y old := by
  obtain ⟨hw, hh, hx, hy, hm, ha, hp, _⟩ := h
  unfold overlayAt
  simp only [hw, hh, hx, hy, cursorPixel_congr rich hw hm ha hp]

theorem expectedPx_congr {v : Variant} {scr scr' : Screen} {c c' : Client} {x y : Nat}
    (hfb : scr'.fb[y * scr.w + x]? = scr.fb[y * scr.w + x]?) (hl : scr'.Like v scr)
    (hs : c'.shape = c.shape) (hx : c'.curX = c.curX) (hy : c'.curY = c.curY) :
    expectedPx v scr' c' x y = expectedPx v scr c x y := by
  obtain ⟨hw, hh, hb, hf, hl⟩ := hl
  unfold expectedPx
  rw [hw, hh, hf, hb, hfb, hs, hx, hy]
  cases hc' : scr'.cursor <;> cases hc : scr.cursor <;> rw [hc', hc] at hl
  · exact hl.elim
  · exact hl.elim
  · simp only [hl.2.2.2.2.2.2.2, overlayAt_congr hl]

theorem overlayAt_outside {f : Format} {bpp : Nat} {cur : Cursor} {rich : Array Px} {lx ly : Int}
    {cx cy x y : Nat} {old : Px} (h : ¬ inCursorBox cur cx cy x y) :
    overlayAt f bpp cur rich lx ly cx cy x y old = some old :=
  if_neg fun h' => h ⟨h'.1, h'.2.1, h'.2.2.2.1, h'.2.2.2.2.1⟩

theorem overlayAt_of_lt {f : Format} {bpp : Nat} {c : Cursor} {rich : Array Px} {limX limY : Int}
    {cx cy x y : Nat} {old : Px} (hx : (x:Int) < limX) (hy : (y:Int) < limY) :
    overlayAt f bpp c rich limX limY cx cy x y old =
      if inCursorBox c cx cy x y then
        cursorPixel f bpp c rich ((x:Int) - ((cx:Int) - c.xhot)).toNat ((y:Int) - ((cy:Int) - c.yhot)).toNat old
      else some old := by
  by_cases hin : inCursorBox c cx cy x y
  · rw [if_pos hin]
    exact if_pos ⟨hin.1, hin.2.1, hx, hin.2.2.1, hin.2.2.2, hy⟩
  · rw [if_neg hin]
    exact overlayAt_outside hin

theorem expectedPx_plain {v : Variant} {scr : Screen} {c : Client} {x y : Nat} (hs : scr.WF)
    (h : c.shape = true ∨ ∀ cur, scr.cursor = some cur → ¬ inCursorBox cur c.curX c.curY x y) :
    expectedPx v scr c x y = scr.fb[y * scr.w + x]? := by
  unfold expectedPx
  cases scr.fb[y * scr.w + x]? with
  | none => rfl
  | some old =>
    rw [Option.bind_some]
    rcases h with h | h
    · rw [if_pos h]
    · split
      · rfl
      · cases hc : scr.cursor with
        | none => rfl
        | some cur =>
          obtain ⟨rich, hr⟩ := richOf_ok v scr.fmt scr.bpp (hs.cur cur hc)
          simp only [hr, Option.bind_some, overlayAt_outside (h cur hc)]

theorem expectedPx_unmarked {v : Variant} {scr : Screen} {c : Client} {x y : Nat} (hs : scr.WF)
    (hx : x < scr.w) (hy : y < scr.h)
    (h : c.shape = true ∨ (Rgn.ofRect scr.w scr.h (cursorBox scr c.curX c.curY)).mem scr.w x y = false) :
    expectedPx v scr c x y = scr.fb[y * scr.w + x]? :=
  expectedPx_plain hs <| h.imp_right fun h cur hc hin => by
    rw [cursorBox_covers hc hx hy hin] at h; cases h

theorem picUpdate_size (W H : Nat) (upd : Rgn) (tr : Px → Px) (fb pic : Array Px) :
    (picUpdate W H upd tr fb pic).size = W * H :=
  Array.size_ofFn

theorem picUpdate_get {W H : Nat} {upd : Rgn} {tr : Px → Px} {fb pic : Array Px} {x y : Nat} (hx : x < W) (hy : y < H)
    (hfb : fb.size = W * H) (hp : pic.size = W * H) :
    (picUpdate W H upd tr fb pic)[y * W + x]? =
      if upd.mem W x y then (fb[y * W + x]?).map tr else pic[y * W + x]? := by
  have hlt := idx_lt hx hy
  unfold picUpdate
  rw [Array.getElem?_ofFn]
  simp only [hlt, dite_true, Nat.mul_add_mod_of_lt hx, lin_div W y x hx]
  split
  · rw [Array.getElem?_eq_getElem (hfb ▸ hlt)]; rfl
  · rw [Array.getElem?_eq_getElem (hp ▸ hlt)]; rfl

theorem picCopy_size (W H : Nat) (rc : Rgn) (dx dy : Int) (pic : Array Px) : (picCopy W H rc dx dy pic).size = W * H :=
  Array.size_ofFn

theorem picCopy_get_out {W H : Nat} {rc : Rgn} {dx dy : Int} {pic : Array Px} {x y : Nat} (hx : x < W) (hy : y < H)
    (hp : pic.size = W * H) (hrc : rc.mem W x y = false) :
    (picCopy W H rc dx dy pic)[y * W + x]? = pic[y * W + x]? := by
  have hlt := idx_lt hx hy
  unfold picCopy
  rw [Array.getElem?_ofFn]
  simp only [hlt, dite_true, Nat.mul_add_mod_of_lt hx, lin_div W y x hx, hrc, Bool.false_eq_true, if_false]
  rw [Array.getElem?_eq_getElem (hp ▸ hlt)]; rfl

/-- without a scheduled copy the region arithmetic of rfbSendFramebufferUpdate reduces to
`modified ∩ requested` -/
theorem noCopy_mems {s : Sess} {c : Client} (hn : NoCopy s.scr c) {x y : Nat} (hx : x < s.scr.w) (hy : y < s.scr.h) :
    (copyLeft s c).mem s.scr.w x y = false ∧ (updCopyRegion s c).mem s.scr.w x y = false ∧
    (upd0 s c).mem s.scr.w x y = (c.modified.mem s.scr.w x y && c.requested.mem s.scr.w x y) := by
  have h1 : (copyLeft s c).mem s.scr.w x y = false := by
    unfold copyLeft; rw [Rgn.mem_sub _ _ hx hy, hn x y hx hy]; rfl
  refine ⟨h1, ?_, ?_⟩
  · unfold updCopyRegion; rw [Rgn.mem_and _ _ hx hy, Rgn.mem_and _ _ hx hy, h1]; rfl
  · unfold upd0; rw [Rgn.mem_and _ _ hx hy, Rgn.mem_or _ _ hx hy, h1, Bool.or_false]

def Client.at (c : Client) (x y : Nat) : Client := { c with curX := x, curY := y }

theorem expectedPx_soft_show {v : Variant} {scr scr2 : Screen} {c : Client} {ux uy x y : Nat} (hs : scr.WF)
    (hsh : c.shape = false) (h : showCursor v scr ux uy = some scr2) (hx : x < scr.w) (hy : y < scr.h) :
    scr2.fb[y * scr.w + x]? = expectedPx v scr (c.at ux uy) x y := by
  unfold expectedPx
  simp only [Client.at, hsh, Bool.false_eq_true, if_false]
  cases hc : scr.cursor with
  | none =>
    rw [show_noCursor h hc]
    cases scr.fb[y * scr.w + x]? <;> rfl
  | some cur =>
    obtain ⟨rich, hr⟩ := richOf_ok v scr.fmt scr.bpp (hs.cur cur hc)
    rw [show_overlay hs h hc hr hx hy]
    simp only [hr, Option.bind_some]

theorem clientAfter_inv {v : Variant} {s : Sess} {c : Client} {scr2 scr3 : Screen} {m : Option (List UInt8)}
    (hs : s.scr.WF) (hci : ClientInv v s.scr c) (hn : NoCopy s.scr c)
    (hb : bracket v s c = some (scr2, scr3, m)) :
    ClientInv v scr3 (clientAfter s c scr2.fb) := by
  obtain ⟨hwf2, hl2, _, _, _, hpaint⟩ := bracket_spec hs hb
  obtain ⟨_, hl3, hfb3⟩ := bracket_after hs hb
  obtain ⟨hpsz, hpix⟩ := hci
  have hfb2sz : scr2.fb.size = s.scr.w * s.scr.h := by rw [hwf2.fbSz, hl2.w, hl2.h]
  refine ⟨by rw [hl3.w, hl3.h]; exact picUpdate_size _ _ _ _ _ _, ?_⟩
  intro x y hx hy
  rw [hl3.w] at hx ⊢; rw [hl3.h] at hy
  -- the expectation after the update, in terms of the screen before it
  have hexp : expectedPx v scr3 (clientAfter s c scr2.fb) x y =
      expectedPx v s.scr (c.at (updCurX s c) (updCurY s c)) x y :=
    expectedPx_congr (by rw [hfb3]) hl3 rfl rfl rfl
  obtain ⟨hcl0, huc0, hu0⟩ := noCopy_mems hn hx hy
  rw [hl3.fmt, hexp]
  simp only [clientAfter, Client.wire]
  rw [picUpdate_get hx hy hfb2sz (picCopy_size _ _ _ _ _ _), picCopy_get_out hx hy hpsz huc0,
    Rgn.mem_sub _ _ hx hy, Rgn.mem_sub _ _ hx hy, Rgn.mem_or _ _ hx hy, Rgn.mem_sub _ _ hx hy, hcl0, huc0, hu0]
  by_cases hu : (updRegion s c).mem s.scr.w x y = true
  · -- sent: the client decodes the screen as show left it
    right
    rw [if_pos hu]
    cases hsh : c.shape with
    | true =>
      rw [hsh, if_pos rfl] at hpaint
      rw [hpaint, expectedPx_plain (c := c.at (updCurX s c) (updCurY s c)) hs (.inl hsh)]
    | false =>
      rw [hsh, if_neg Bool.false_ne_true] at hpaint
      rw [expectedPx_soft_show hs hsh hpaint.1 hx hy]
  · rw [if_neg hu]
    cases hmod : c.modified.mem s.scr.w x y with
    | true =>
      cases hreq : c.requested.mem s.scr.w x y with
      | true => exact absurd (updRegion_covers_modified hx hy hmod hreq) hu
      | false => exact .inl rfl
    | false =>
      -- not sent, not pending: the picture is right already, and neither cursor box reaches the pixel
      right
      rw [(hpix x y hx hy).resolve_left (by rw [hmod]; exact Bool.false_ne_true)]
      cases hmv : softMoved s c with
      | false => simp only [updCurX, updCurY, hmv, Bool.false_eq_true, if_false]; rfl
      | true =>
        have hno : ∀ cx cy, (cx = c.curX ∧ cy = c.curY ∨ cx = s.scr.curX ∧ cy = s.scr.curY) →
            expectedPx v s.scr (c.at cx cy) x y = s.scr.fb[y * s.scr.w + x]? := fun cx cy hc =>
          expectedPx_plain hs <| .inr fun cur hcur hin => hu <| updRegion_covers_boxes hcur hmv hx hy <| by
            rcases hc with ⟨rfl, rfl⟩ | ⟨rfl, rfl⟩
            · exact .inl hin
            · exact .inr hin
        rw [show expectedPx v s.scr c x y = _ from hno _ _ (.inl ⟨rfl, rfl⟩), hno _ _ (.inr ⟨?_, ?_⟩)] <;>
          simp only [updCurX, updCurY, hmv, if_true]

/-- the invariant is carried over to another screen and client record when every pixel that is not
pending afterwards is not pending before either and has the same expectation -/
theorem ClientInv.transfer {v : Variant} {scr scr' : Screen} {c c' : Client} (h : ClientInv v scr c)
    (hw : scr'.w = scr.w) (hh : scr'.h = scr.h) (hf : scr'.fmt = scr.fmt) (hp : c'.pic = c.pic)
    (ht : c'.tfmt = c.tfmt)
    (hpx : ∀ x y, x < scr.w → y < scr.h → c'.modified.mem scr.w x y = false →
      c.modified.mem scr.w x y = false ∧ expectedPx v scr' c' x y = expectedPx v scr c x y) :
    ClientInv v scr' c' := by
  obtain ⟨hsz, hpix⟩ := h
  refine ⟨by rw [hp, hw, hh]; exact hsz, fun x y hx hy => ?_⟩
  rw [hw] at hx ⊢; rw [hh] at hy
  cases hm : c'.modified.mem scr.w x y with
  | true => exact .inl rfl
  | false =>
    obtain ⟨h1, h2⟩ := hpx x y hx hy hm
    rw [hp, hf, ht, h2]
    exact .inr ((hpix x y hx hy).resolve_left (by rw [h1]; exact Bool.false_ne_true))

theorem ClientInv.mono {v : Variant} {scr scr' : Screen} {c c' : Client} (h : ClientInv v scr c)
    (hfb : scr'.fb = scr.fb) (hl : scr'.Like v scr)
    (hs : c'.shape = c.shape) (hx : c'.curX = c.curX) (hy : c'.curY = c.curY) (hp : c'.pic = c.pic)
    (ht : c'.tfmt = c.tfmt)
    (hm : ∀ x y, x < scr.w → y < scr.h → c.modified.mem scr.w x y = true → c'.modified.mem scr.w x y = true) :
    ClientInv v scr' c' :=
  h.transfer hl.w hl.h hl.fmt hp ht fun x y hx' hy' hm' =>
    ⟨Bool.eq_false_iff.mpr fun h1 => Bool.eq_false_iff.mp hm' (hm x y hx' hy' h1),
      expectedPx_congr (by rw [hfb]) hl hs hx hy⟩

theorem ids_map_same (l : List Client) (f : Client → Client) (hf : ∀ c, (f c).id = c.id) :
    (l.map f).map (·.id) = l.map (·.id) := by
  rw [List.map_map]; apply List.map_congr_left; intro c _; exact hf c

theorem ids_map_replace (l : List Client) (cid : Nat) (c' : Client) (hc : c'.id = cid) :
    (l.map fun d => if d.id == cid then c' else d).map (·.id) = l.map (·.id) :=
  ids_map_same l _ fun d => by
    split
    · exact hc.trans (beq_iff_eq.mp ‹_›).symm
    · rfl

theorem mem_replace {l : List Client} {cid : Nat} {c' d : Client}
    (h : d ∈ l.map fun d => if d.id == cid then c' else d) : d = c' ∨ d ∈ l := by
  obtain ⟨d0, hd0, rfl⟩ := List.mem_map.mp h
  split
  · exact .inl rfl
  · exact .inr hd0

theorem sendUpdate_wf {v : Variant} {s s' : Sess} {c : Client} {o : Option UpdObs} (hs : SessWF s)
    (h : sendUpdate v s c = some (s', o)) : SessWF s' ∧ s'.scr.fb = s.scr.fb := by
  refine ⟨?_, sendUpdate_fb hs.1 h⟩
  rcases sendUpdate_cases h with ⟨_, rfl, _⟩ | ⟨_, _, _, rfl⟩ | ⟨_, scr2, scr3, m, obs, _, hS⟩
  · exact hs
  · exact ⟨hs.1, (ids_map_replace s.clients c.id { c with copy := copyLeft s c } rfl).symm ▸ hs.2⟩
  · refine ⟨hS.scr ▸ (bracket_after hs.1 hS.br).1, ?_⟩
    rw [hS.clients]
    split
    · exact hs.2.sublist (List.filter_sublist.map _)
    · exact (ids_map_replace s.clients c.id (clientAfter s c scr2.fb) rfl).symm ▸ hs.2

theorem NoCopy.of_eq {scr scr' : Screen} {d d' : Client} (h : NoCopy scr d) (hw : scr'.w = scr.w)
    (hh : scr'.h = scr.h) (hc : d'.copy = d.copy) : NoCopy scr' d' := by
  intro x y hx hy
  rw [hw] at hx ⊢; rw [hh] at hy; rw [hc]
  exact h x y hx hy

theorem sendUpdate_inv {v : Variant} {s s' : Sess} {c : Client} {o : Option UpdObs} (hi : HistInv v s)
    (hc : c ∈ s.clients) (h : sendUpdate v s c = some (s', o)) : HistInv v s' := by
  obtain ⟨hwf, hci⟩ := hi
  refine ⟨(sendUpdate_wf hwf h).1, ?_⟩
  rcases sendUpdate_cases h with ⟨_, rfl, _⟩ | ⟨_, _, _, rfl⟩ | ⟨_, scr2, scr3, m, obs, _, hS⟩
  · exact hci
  · -- nothing to send: only `copyRegion` has been reduced
    intro d hd
    rcases mem_replace hd with rfl | hd
    · exact ⟨(hci c hc).1, fun x y hx hy => (noCopy_mems (hci c hc).2 hx hy).1⟩
    · exact hci d hd
  · obtain ⟨_, hl3, hfb3⟩ := bracket_after hwf.1 hS.br
    have hby : ∀ d ∈ s.clients, ClientInv v scr3 d ∧ NoCopy scr3 d := fun d hd =>
      ⟨(hci d hd).1.mono hfb3 hl3 rfl rfl rfl rfl rfl fun _ _ _ _ h => h, (hci d hd).2.of_eq hl3.w hl3.h rfl⟩
    intro d hd
    rw [hS.scr]
    rw [hS.clients] at hd
    split at hd
    · exact hby d (List.mem_filter.mp hd).1
    · rcases mem_replace hd with rfl | hd
      · exact ⟨clientAfter_inv hwf.1 (hci c hc).1 (hci c hc).2 hS.br,
          (show NoCopy s.scr (clientAfter s c scr2.fb) from fun x y hx hy => Rgn.mem_empty hx hy).of_eq
            hl3.w hl3.h rfl⟩
      · exact hby d hd

theorem foldl_bind_ind {α β : Type} (Q : β → Prop) {g : α → β → Option β} {L : List α} {acc : Option β} {b' : β}
    (hg : ∀ a x y, Q x → g a x = some y → Q y) (h0 : ∀ b, acc = some b → Q b)
    (h : L.foldl (fun acc a => acc.bind (g a)) acc = some b') : Q b' := by
  induction L generalizing acc with
  | nil => exact h0 _ h
  | cons a L ih =>
    refine ih (fun y hy => ?_) h
    obtain ⟨x, hx, hgx⟩ := Option.bind_eq_some_iff.mp hy
    exact hg a x y (h0 x hx) hgx

/-- invariant rule for one rfbProcessEvents round -/
theorem pump_ind {v : Variant} (P : Sess → Prop)
    (hstep : ∀ s s' c o, P s → c ∈ s.clients → sendUpdate v s c = some (s', o) → P s')
    {s s' : Sess} {obs : List UpdObs} (h0 : P s) (h : pump v s = some (s', obs)) : P s' := by
  refine foldl_bind_ind (fun p => P p.1) (fun c0 p q hp hq => ?_) (fun _ e => Option.some.inj e ▸ h0) h
  obtain ⟨s0, obs0⟩ := p
  simp only [] at hq
  cases hf : s0.clients.find? (fun d => d.id == c0.id) with
  | none => rw [hf] at hq; cases hq; exact hp
  | some c =>
    rw [hf] at hq
    obtain ⟨⟨s1, o⟩, hsu, rfl⟩ := Option.map_eq_some_iff.mp hq
    exact hstep _ _ c o hp (List.mem_of_find?_eq_some hf) hsu

theorem HistInv.map {v : Variant} {s : Sess} (h : HistInv v s) {scr' : Screen} (hwf : scr'.WF)
    {f : Client → Client} (hid : ∀ c, (f c).id = c.id)
    (hf : ∀ c ∈ s.clients, ClientInv v s.scr c → NoCopy s.scr c → ClientInv v scr' (f c) ∧ NoCopy scr' (f c))
    (p fa : Option Nat) : HistInv v ⟨scr', s.clients.map f, p, fa⟩ := by
  refine ⟨⟨hwf, (ids_map_same _ f hid).symm ▸ h.1.2⟩, fun c' hc' => ?_⟩
  obtain ⟨c, hc, rfl⟩ := List.mem_map.mp hc'
  exact hf c hc (h.2 c hc).1 (h.2 c hc).2

theorem ptrEvent_inv {v : Variant} {s : Sess} {id x y b : Nat} (hi : HistInv v s) :
    HistInv v (ptrEvent s id x y b) := by
  have hgo : HistInv v (ptrEvent.go s id x y b) := by
    unfold ptrEvent.go
    by_cases hmv : (x != s.scr.curX || y != s.scr.curY) = true
    · -- neither the screen's pointer position nor `cursorWasMoved` occurs in the invariant
      simp only [hmv, if_true]
      exact hi.map (scr' := { s.scr with curX := x, curY := y }) ⟨hi.1.1.fbSz, hi.1.1.bppPos, hi.1.1.cur⟩
        (fun c => by split <;> split <;> rfl)
        (fun c _ hc hn => by split <;> split <;> exact ⟨hc, hn⟩) _ _
    · simp only [hmv]
      exact hi
  unfold ptrEvent
  cases s.pointerClient with
  | none => exact hgo
  | some p =>
    by_cases hp : (p != id) = true
    · simp only [hp, if_true]; exact hi
    · simp only [hp]; exact hgo

theorem request_inv {v : Variant} {s : Sess} {id : Nat} {incr : Bool} {r : Rect} (hi : HistInv v s) :
    HistInv v (request s id incr r) := by
  refine hi.map hi.1.1 (fun c => by split <;> rfl) (fun c _ hc hn => ?_) _ _
  split
  · refine ⟨hc.mono rfl (.refl _ _) rfl rfl rfl rfl rfl fun x y hx hy h => ?_, fun x y hx hy => ?_⟩ <;>
      cases incr
    · show (Rgn.or _ _ _ _).mem _ x y = true
      rw [Rgn.mem_or _ _ hx hy, h]; rfl
    · exact h
    · show (Rgn.sub _ _ _ _).mem _ x y = false
      rw [Rgn.mem_sub _ _ hx hy, hn x y hx hy]; rfl
    · exact hn x y hx hy
  · exact ⟨hc, hn⟩

/-- the application paints a rectangle and marks it modified -/
theorem draw_inv {v : Variant} {s s' : Sess} {r : Rect} {val : Nat → Nat → Px} (hi : HistInv v s)
    (hr : r.inside s.scr.w s.scr.h = true) (h : draw s r val = some s') : HistInv v s' := by
  simp only [Rect.inside, Bool.and_eq_true, decide_eq_true_eq] at hr
  unfold draw at h
  obtain ⟨fb, hfb, rfl⟩ := Option.map_eq_some_iff.mp h
  refine hi.map ?_ ?_ ?_ _ _
  · exact ⟨(writeBox_frame hfb).1.trans hi.1.1.fbSz, hi.1.1.bppPos, hi.1.1.cur⟩
  · exact fun _ => rfl
  · intro c _ hc hn
    refine ⟨hc.transfer rfl rfl rfl rfl rfl fun x y hx hy hm => ?_, hn.of_eq rfl rfl rfl⟩
    rw [Rgn.mem_or _ _ hx hy, Rgn.mem_ofRect _ hx hy, Bool.or_eq_false_iff] at hm
    refine ⟨hm.1, expectedPx_congr ((writeBox_frame hfb).2 _ fun j hj i hi e => ?_)
      ⟨rfl, rfl, rfl, rfl, SameLook.refl _ _ _ _⟩ rfl rfl rfl⟩
    obtain ⟨e1, e2⟩ := (fbIdx_eq_iff (by omega) hi hx).mp e
    have : r.has x y = true := by
      simp only [Rect.has, Bool.and_eq_true, decide_eq_true_eq]; omega
    exact Bool.false_ne_true (hm.2.symm.trans this)

theorem Cursor.wfb_WF {c : Cursor} (h : c.wfb = true) : c.WF := by
  unfold Cursor.wfb at h
  simp only [Bool.and_eq_true, beq_iff_eq, Bool.or_eq_true] at h
  obtain ⟨⟨⟨⟨h1, h2⟩, h3⟩, h4⟩, h5⟩ := h
  refine ⟨h1, ?_, ?_, ?_, ?_⟩
  · intro r hr; rw [hr] at h2; simpa using h2
  · intro r hr; rw [hr] at h3; simpa using h3
  · intro r hr; rw [hr] at h4; simpa using h4
  · rcases h5 with h | h
    · left; intro e; rw [e] at h; simp at h
    · right; intro e; rw [e] at h; simp at h

/-- rfbSetCursor: the box of the old and of the new cursor are marked for every soft-cursor client,
so a pixel that is not pending afterwards lies under neither -/
theorem setCursor_inv {v : Variant} {s : Sess} {c : Option Cursor} (hi : HistInv v s)
    (hc : ∀ cur, c = some cur → cur.WF) : HistInv v (setCursor s c) := by
  have hwf := hi.1.1
  have hwf' : ({ s.scr with cursor := c } : Screen).WF := ⟨hwf.fbSz, hwf.bppPos, hc⟩
  unfold setCursor
  simp only [redrawSoft, List.map_map]
  refine hi.map hwf' (fun d => by simp only [Function.comp]; split <;> rfl) (fun d _ hd hn => ?_) _ _
  simp only [Function.comp]
  cases hsh : d.shape with
  | true =>
    simp only [hsh, if_true]
    refine ⟨hd.transfer rfl rfl rfl rfl rfl fun x y hx hy hm => ⟨hm, ?_⟩, hn.of_eq rfl rfl rfl⟩
    rw [expectedPx_plain hwf (.inl hsh)]
    exact expectedPx_plain hwf' (.inl rfl)
  | false =>
    simp only [Bool.false_eq_true, if_false]
    refine ⟨hd.transfer rfl rfl rfl rfl rfl fun x y hx hy hm => ?_, hn.of_eq rfl rfl rfl⟩
    rw [Rgn.mem_or _ _ hx hy, Rgn.mem_or _ _ hx hy] at hm
    simp only [Bool.or_eq_false_iff] at hm
    refine ⟨hm.1.1, ?_⟩
    rw [expectedPx_unmarked hwf hx hy (.inr hm.1.2)]
    exact expectedPx_unmarked hwf' hx hy (.inr hm.2)

/-- SetEncodings (repaired code): whichever way the cursor capability changes, every pixel whose
expectation changes is marked modified -/
theorem clientSetEncodings_inv {v : Variant} {scr : Screen} {c : Client} {l : List Enc}
    (hv : v.setencFixed = true) (hs : scr.WF) (h : ClientInv v scr c) :
    ClientInv v scr (clientSetEncodings v scr c l) := by
  refine h.transfer rfl rfl rfl rfl rfl fun x y hx hy hm => ?_
  unfold clientSetEncodings at hm ⊢
  simp only [encFlags_closed, hv, Bool.true_and] at hm ⊢
  -- `modifiedRegion` afterwards contains the one with the cursor box marked (if it is)
  have hm1 : (if (hasShape l || c.shape && !hasShape l) = true then
      Rgn.or scr.w scr.h c.modified (Rgn.ofRect scr.w scr.h (cursorBox scr c.curX c.curY))
      else c.modified).mem scr.w x y = false := by
    split at hm
    · rw [Rgn.mem_or _ _ hx hy, Bool.or_eq_false_iff] at hm; exact hm.1
    · exact hm
  clear hm
  cases hmark : (hasShape l || c.shape && !hasShape l) with
  | false =>
    -- no cursor-shape encoding before or after: the client stays a soft-cursor client
    rw [hmark] at hm1
    simp only [Bool.or_eq_false_iff, Bool.and_eq_false_iff, Bool.not_eq_false'] at hmark
    have hcs : c.shape = false := hmark.2.resolve_right (by rw [hmark.1]; exact Bool.false_ne_true)
    exact ⟨hm1, expectedPx_congr rfl (.refl _ _) (hmark.1.trans hcs.symm) rfl rfl⟩
  | true =>
    rw [hmark, if_pos rfl, Rgn.mem_or _ _ hx hy, Bool.or_eq_false_iff] at hm1
    refine ⟨hm1.1, ?_⟩
    rw [expectedPx_unmarked (c := c) hs hx hy (.inr hm1.2)]
    exact expectedPx_unmarked hs hx hy (.inr hm1.2)

theorem clientSetEncodings_nocopy {v : Variant} {scr : Screen} {c : Client} {l : List Enc} (h : NoCopy scr c) :
    NoCopy scr (clientSetEncodings v scr c l) := by
  intro x y hx hy
  unfold clientSetEncodings
  simp only []
  split
  · exact Rgn.mem_empty hx hy
  · exact h x y hx hy

theorem clientSetEncodings_id (v : Variant) (scr : Screen) (c : Client) (l : List Enc) :
    (clientSetEncodings v scr c l).id = c.id := rfl

theorem newClient_inv {v : Variant} {s : Sess} {id : Nat} {l : List Enc} {t : Option (Format × Nat)}
    (hv : v.setencFixed = true) (hi : HistInv v s)
    (hfresh : s.clients.any (fun c => c.id == id) = false) : HistInv v (newClient v s id l t) := by
  obtain ⟨⟨hwf, hnd⟩, hci⟩ := hi
  unfold newClient
  refine ⟨⟨hwf, ?_⟩, fun c hc => ?_⟩
  · simp only [List.map_cons, List.nodup_cons, clientSetEncodings_id]
    refine ⟨fun hmem => ?_, hnd⟩
    obtain ⟨d, hd, hid⟩ := List.mem_map.mp hmem
    have := List.any_eq_false.mp hfresh d hd
    simp [hid] at this
  · rcases List.mem_cons.mp hc with rfl | hc
    · -- the new client: everything is pending, nothing is scheduled
      exact ⟨clientSetEncodings_inv hv hwf ⟨Array.size_replicate, fun x y hx hy => .inl (Rgn.mem_full hx hy)⟩,
        clientSetEncodings_nocopy fun x y hx hy => Rgn.mem_empty hx hy⟩
    · exact hci c hc

theorem applyOp_inv {v : Variant} {s s' : Sess} {op : Op} (hv : v.setencFixed = true) (hi : HistInv v s)
    (h : applyOp v s op = some s') : HistInv v s' := by
  cases op with
  | client id k t =>
    simp only [applyOp] at h
    split at h <;> cases h
    · exact hi
    · exact newClient_inv hv hi (Bool.eq_false_iff.mpr ‹_›)
  | setenc id k =>
    cases h
    exact hi.map hi.1.1 (fun c => by split <;> rfl) (fun c _ hc hn => by
      split
      · exact ⟨clientSetEncodings_inv hv hi.1.1 hc, clientSetEncodings_nocopy hn⟩
      · exact ⟨hc, hn⟩) _ _
  | ptr id x y b =>
    simp only [applyOp] at h
    split at h <;> cases h
    · exact ptrEvent_inv hi
    · exact hi
  | req id incr r =>
    simp only [applyOp] at h
    split at h <;> cases h
    · exact request_inv hi
    · exact hi
  | draw r val =>
    simp only [applyOp] at h
    split at h
    · exact draw_inv hi ‹_› h
    · cases h; exact hi
  | cursor c =>
    cases c with
    | none => cases h; exact setCursor_inv hi nofun
    | some c =>
      simp only [applyOp] at h
      split at h <;> cases h
      · exact setCursor_inv hi fun cur e => Option.some.inj e ▸ Cursor.wfb_WF ‹_›
      · exact hi
  | failnext id => cases h; exact hi
  | pump =>
    obtain ⟨⟨s1, obs⟩, hp, e⟩ := Option.map_eq_some_iff.mp h
    cases e
    exact pump_ind (HistInv v) (fun _ _ _ _ h1 hc hsu => sendUpdate_inv h1 hc hsu) hi hp

theorem runOps_inv {v : Variant} {s s' : Sess} {ops : List Op} (hv : v.setencFixed = true) (hi : HistInv v s)
    (h : runOps v s ops = some s') : HistInv v s' := by
  induction ops generalizing s with
  | nil => cases h; exact hi
  | cons op ops ih =>
    obtain ⟨s1, h1, h2⟩ := Option.bind_eq_some_iff.mp h
    exact ih (applyOp_inv hv hi h1) h2

/-- a 1×1 cursor with its only mask bit set, pixel value 9, on a 3×2 screen -/
def witnessScreen : Screen :=
  { w := 3, h := 2, bpp := 4, fmt := ⟨255, 255, 255, 0, 8, 16⟩, fb := #[0, 0, 0, 0, 0, 0], under := #[],
    cursor := some { w := 1, h := 1, xhot := 0, yhot := 0, mask := #[0x80], source := none,
                     rich := some #[9], alpha := none, premult := false, foreR := 0, foreG := 0,
                     foreB := 0, backR := 0, backG := 0, backB := 0 },
    curX := 0, curY := 0 }


end VncModel.Cursor
