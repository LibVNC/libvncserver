import VncModel.Cursor.Basic
/-
Loop rules for the checked loops of Basic.lean (`forM?`, the nested `forM2?`, `cell`, `writeBox`).
-/
namespace VncModel.Cursor

theorem forM?_succ {σ : Type} (n : Nat) (f : Nat → σ → Option σ) (s : σ) :
    forM? (n + 1) f s = (forM? n f s).bind (f n) := rfl

theorem bind_ok {α β : Type} {x : Option α} {f : α → Option β} (hx : ∃ a, x = some a)
    (hf : ∀ a, x = some a → ∃ b, f a = some b) : ∃ b, x.bind f = some b := by
  obtain ⟨a, ha⟩ := hx
  obtain ⟨b, hb⟩ := hf a ha
  exact ⟨b, by rw [ha]; exact hb⟩

theorem forM?_ind {σ : Type} (P : Nat → σ → Prop) {n : Nat} {f : Nat → σ → Option σ} {s s' : σ}
    (h0 : P 0 s) (hs : ∀ k, k < n → ∀ a b, P k a → f k a = some b → P (k + 1) b)
    (h : forM? n f s = some s') : P n s' := by
  induction n generalizing s' with
  | zero => cases h; exact h0
  | succ n ih =>
    obtain ⟨m, hm, hf⟩ := Option.bind_eq_some_iff.mp h
    exact hs n (Nat.lt_succ_self n) m s' (ih (fun k hk => hs k (Nat.lt_succ_of_lt hk)) hm) hf

theorem forM?_ok {σ : Type} (P : Nat → σ → Prop) {n : Nat} {f : Nat → σ → Option σ} {s : σ}
    (h0 : P 0 s) (hs : ∀ k, k < n → ∀ a, P k a → ∃ b, f k a = some b ∧ P (k + 1) b) :
    ∃ s', forM? n f s = some s' ∧ P n s' := by
  induction n with
  | zero => exact ⟨s, rfl, h0⟩
  | succ n ih =>
    obtain ⟨m, hm, hp⟩ := ih (fun k hk => hs k (Nat.lt_succ_of_lt hk))
    obtain ⟨b, hb, hpb⟩ := hs n (Nat.lt_succ_self n) m hp
    exact ⟨b, by rw [forM?_succ, hm]; exact hb, hpb⟩

/-- the nested loop `for (j < rows) for (i < cols) s = f j i s` of the bitmap conversions -/
def forM2? {σ : Type} (rows cols : Nat) (f : Nat → Nat → σ → Option σ) (s : σ) : Option σ :=
  forM? rows (fun j s => forM? cols (fun i s => f j i s) s) s

/-- invariant rule for the nested loop: `P j i a` holds when row `j` is about to run cell `i` -/
theorem forM2?_ind {σ : Type} (P : Nat → Nat → σ → Prop) {rows cols : Nat} {f : Nat → Nat → σ → Option σ}
    {s s' : σ} (h : forM2? rows cols f s = some s') (h0 : P 0 0 s)
    (hcell : ∀ j, j < rows → ∀ i, i < cols → ∀ a b, P j i a → f j i a = some b → P j (i + 1) b)
    (hrow : ∀ j, j < rows → ∀ a, P j cols a → P (j + 1) 0 a) : P rows 0 s' :=
  forM?_ind (fun j a => P j 0 a) h0
    (fun j hj _ b ha hab => hrow j hj b (forM?_ind (P j) ha (hcell j hj) hab)) h

def Act.apply (a : Act) (old : Option Px) : Option Px :=
  match a with
  | .skip => old
  | .put v => some v

theorem cell_spec {idx : Nat → Nat → Nat} {g : Nat → Nat → Option Px → Option Act} {j i : Nat}
    {d d' : Array Px} (h : cell idx g j i d = some d') :
    d'.size = d.size ∧ (∀ m, m ≠ idx j i → d'[m]? = d[m]?) ∧
    ∃ act, g j i d[idx j i]? = some act ∧ d'[idx j i]? = act.apply d[idx j i]? := by
  unfold cell at h
  split at h
  · simp at h
  · rename_i hg
    simp at h; subst h
    exact ⟨rfl, fun _ _ => rfl, .skip, hg, rfl⟩
  · rename_i v hg
    split at h
    · rename_i hlt
      simp at h; subst h
      refine ⟨Array.size_set _, fun m hm => Array.getElem?_set_ne _ (Ne.symm hm), .put v, hg, ?_⟩
      simp [Act.apply]
    · simp at h

theorem cell_ok {idx : Nat → Nat → Nat} {g : Nat → Nat → Option Px → Option Act} {j i : Nat}
    {d : Array Px} (hlt : idx j i < d.size) (hg : ∀ v, (g j i (some v)).isSome) :
    ∃ d', cell idx g j i d = some d' := by
  unfold cell
  have h1 : d[idx j i]? = some d[idx j i] := Array.getElem?_eq_getElem hlt
  rw [h1]
  have := hg d[idx j i]
  cases hc : g j i (some d[idx j i]) with
  | none => simp [hc] at this
  | some act =>
    cases act with
    | skip => exact ⟨d, rfl⟩
    | put v => exact ⟨d.set (idx j i) v hlt, by simp [hlt]⟩

def Inj (idx : Nat → Nat → Nat) (rows cols : Nat) : Prop :=
  ∀ j, j < rows → ∀ j', j' < rows → ∀ i, i < cols → ∀ i', i' < cols → idx j i = idx j' i' → j = j' ∧ i = i'

theorem writeBox_frame {idx : Nat → Nat → Nat} {g : Nat → Nat → Option Px → Option Act} {rows cols : Nat}
    {d d' : Array Px} (h : writeBox idx g rows cols d = some d') :
    d'.size = d.size ∧ ∀ m, (∀ j, j < rows → ∀ i, i < cols → idx j i ≠ m) → d'[m]? = d[m]? := by
  refine forM2?_ind
    (fun _ _ (a : Array Px) => a.size = d.size ∧ ∀ m, (∀ j, j < rows → ∀ i, i < cols → idx j i ≠ m) → a[m]? = d[m]?)
    h ⟨rfl, fun _ _ => rfl⟩ (fun j hj i hi a b ⟨hsz, hfr⟩ hab => ?_) (fun _ _ _ ha => ha)
  obtain ⟨h1, h2, _⟩ := cell_spec hab
  exact ⟨h1.trans hsz, fun m hm => (h2 m (hm j hj i hi).symm).trans (hfr m hm)⟩

theorem writeBox_val {idx : Nat → Nat → Nat} {g : Nat → Nat → Option Px → Option Act} {rows cols : Nat}
    {d d' : Array Px} (hinj : Inj idx rows cols) (h : writeBox idx g rows cols d = some d')
    (j : Nat) (hj : j < rows) (i : Nat) (hi : i < cols) :
    ∃ act, g j i d[idx j i]? = some act ∧ d'[idx j i]? = act.apply d[idx j i]? := by
  -- the cells visited so far hold their result, the others still their initial content
  refine (forM2?_ind
    (fun J I (a : Array Px) => ∀ j, j < rows → ∀ i, i < cols →
      (j < J ∨ (j = J ∧ i < I) → ∃ act, g j i d[idx j i]? = some act ∧ a[idx j i]? = act.apply d[idx j i]?) ∧
      (¬ (j < J ∨ (j = J ∧ i < I)) → a[idx j i]? = d[idx j i]?))
    h (fun j _ i _ => ⟨fun hv => by omega, fun _ => rfl⟩) (fun J hJ I hI a b ha hab j hj i hi => ?_)
    (fun J _ a ha j hj i hi => ⟨fun hv => (ha j hj i hi).1 (by omega), fun hv => (ha j hj i hi).2 (by omega)⟩)
    j hj i hi).1 (.inl hj)
  obtain ⟨_, hfr, act, hg, hval⟩ := cell_spec hab
  by_cases hc : j = J ∧ i = I
  · obtain ⟨rfl, rfl⟩ := hc
    have h0 := (ha j hj i hi).2 (by omega)
    exact ⟨fun _ => ⟨act, h0 ▸ hg, h0 ▸ hval⟩, fun hv => absurd (.inr ⟨rfl, Nat.lt_succ_self i⟩) hv⟩
  · rw [hfr _ fun e => hc (hinj j hj J hJ i hi I hI e)]
    exact ⟨fun hv => (ha j hj i hi).1 (by omega), fun hv => (ha j hj i hi).2 (by omega)⟩

theorem writeBox_ok {idx : Nat → Nat → Nat} {g : Nat → Nat → Option Px → Option Act} {rows cols : Nat}
    {d : Array Px} (hidx : ∀ j, j < rows → ∀ i, i < cols → idx j i < d.size)
    (hg : ∀ j, j < rows → ∀ i, i < cols → ∀ v, (g j i (some v)).isSome) :
    ∃ d', writeBox idx g rows cols d = some d' := by
  obtain ⟨d', h, _⟩ := forM?_ok (fun _ (a : Array Px) => a.size = d.size) (n := rows)
    (f := fun j d => forM? cols (fun i d => cell idx g j i d) d) (s := d) rfl
    (by
      intro j hj a ha
      obtain ⟨b, hb, hsz⟩ := forM?_ok (fun _ (x : Array Px) => x.size = d.size) (n := cols)
        (f := fun i d => cell idx g j i d) (s := a) ha
        (by
          intro i hi x hx
          obtain ⟨y, hy⟩ := cell_ok (idx := idx) (g := g) (j := j) (i := i) (d := x)
            (by rw [hx]; exact hidx j hj i hi) (hg j hj i hi)
          exact ⟨y, hy, by rw [(cell_spec hy).1, hx]⟩)
      exact ⟨b, hb, hsz⟩)
  exact ⟨d', h⟩

end VncModel.Cursor
