import VncModel.Cursor.Session
import VncModel.Cursor.ShapeLemmas
/-
Session level of C15: the rectangle marked for redraw, the cursor bracket of
rfbSendFramebufferUpdate, pointer events, SetEncodings, scheduled copies.
-/
namespace VncModel.Cursor
open VncModel.Gen.C15

theorem Rgn.mem_ofFn {W H x y : Nat} (f : Nat → Nat → Bool) (hx : x < W) (hy : y < H) :
    (Rgn.ofFn W H f).mem W x y = f x y := by
  unfold Rgn.mem Rgn.ofFn
  simp [hx, idx_lt hx hy, Nat.mul_add_mod_of_lt hx, lin_div W y x hx]

theorem Rgn.mem_or {W H x y : Nat} (a b : Rgn) (hx : x < W) (hy : y < H) :
    (Rgn.or W H a b).mem W x y = (a.mem W x y || b.mem W x y) := Rgn.mem_ofFn _ hx hy
theorem Rgn.mem_and {W H x y : Nat} (a b : Rgn) (hx : x < W) (hy : y < H) :
    (Rgn.and W H a b).mem W x y = (a.mem W x y && b.mem W x y) := Rgn.mem_ofFn _ hx hy
theorem Rgn.mem_sub {W H x y : Nat} (a b : Rgn) (hx : x < W) (hy : y < H) :
    (Rgn.sub W H a b).mem W x y = (a.mem W x y && !b.mem W x y) := Rgn.mem_ofFn _ hx hy
theorem Rgn.mem_empty {W H x y : Nat} (hx : x < W) (hy : y < H) :
    (Rgn.empty W H).mem W x y = false := Rgn.mem_ofFn _ hx hy
theorem Rgn.mem_full {W H x y : Nat} (hx : x < W) (hy : y < H) :
    (Rgn.full W H).mem W x y = true := Rgn.mem_ofFn _ hx hy
theorem Rgn.mem_ofRect {W H x y : Nat} (r : Option Rect) (hx : x < W) (hy : y < H) :
    (Rgn.ofRect W H r).mem W x y = (match r with | none => false | some r => r.has x y) :=
  Rgn.mem_ofFn _ hx hy

/-- the lower corner coordinate of sraClipRect2 on one axis: raised to `c`, then kept below `c2` -/
def clipLo (x c c2 : Int) : Int :=
  let x := if x < c then c else x
  if x ≥ c2 then c2 - 1 else x

/-- the upper corner coordinate of sraClipRect2 on one axis: raised above `c`, then cut at `c2` -/
def clipHi (x2 c c2 : Int) : Int :=
  let x2 := if x2 ≤ c then c + 1 else x2
  if x2 > c2 then c2 else x2

/-- sraClipRect2 treats the two axes independently -/
theorem clipRect2_eq (x y x2 y2 cx cy cx2 cy2 : Int) :
    clipRect2 x y x2 y2 cx cy cx2 cy2 =
      (decide (clipHi x2 cx cx2 > clipLo x cx cx2) && decide (clipHi y2 cy cy2 > clipLo y cy cy2),
        clipLo x cx cx2, clipLo y cy cy2, clipHi x2 cx cx2, clipHi y2 cy cy2) := rfl

theorem clip_covers {x x2 c c2 p : Int} (h1 : x ≤ p) (h2 : p < x2) (hc : c ≤ p) (hc2 : p < c2) :
    c ≤ clipLo x c c2 ∧ clipLo x c c2 ≤ p ∧ p < clipHi x2 c c2 := by
  unfold clipLo clipHi
  refine ⟨?_, ?_, ?_⟩ <;> simp only [] <;> omega

/-- pixel `(x,y)` of the screen lies inside the (unclipped) cursor bitmap placed with its hot-spot
at `(cx,cy)` -/
def inCursorBox (c : Cursor) (cx cy x y : Nat) : Prop :=
  0 ≤ (x:Int) - ((cx:Int) - c.xhot) ∧ (x:Int) - ((cx:Int) - c.xhot) < c.w ∧
  0 ≤ (y:Int) - ((cy:Int) - c.yhot) ∧ (y:Int) - ((cy:Int) - c.yhot) < c.h

instance (c : Cursor) (cx cy x y : Nat) : Decidable (inCursorBox c cx cy x y) := by
  unfold inCursorBox; infer_instance

theorem cursorBox_covers {s : Screen} {c : Cursor} (hc : s.cursor = some c) {cx cy x y : Nat}
    (hx : x < s.w) (hy : y < s.h) (hin : inCursorBox c cx cy x y) :
    (Rgn.ofRect s.w s.h (cursorBox s cx cy)).mem s.w x y = true := by
  rw [Rgn.mem_ofRect _ hx hy]
  obtain ⟨h1, h2, h3, h4⟩ := hin
  obtain ⟨a1, a2, a3⟩ := clip_covers (x := (cx:Int) - c.xhot) (x2 := (cx:Int) - c.xhot + c.w) (c := 0)
    (c2 := s.w) (p := x) (by omega) (by omega) (by omega) (by omega)
  obtain ⟨b1, b2, b3⟩ := clip_covers (x := (cy:Int) - c.yhot) (x2 := (cy:Int) - c.yhot + c.h) (c := 0)
    (c2 := s.h) (p := y) (by omega) (by omega) (by omega) (by omega)
  unfold cursorBox
  simp only [hc, clipRect2_eq, decide_eq_true (Int.lt_of_le_of_lt a2 a3), decide_eq_true (Int.lt_of_le_of_lt b2 b3),
    Bool.and_self, Rect.has, Bool.and_eq_true, decide_eq_true_eq]
  omega

/-- well-formed session: well-formed screen (the invariant, Invariant.lean, uses `SessWF`, which adds
distinct client ids) -/
def Sess.WF (s : Sess) : Prop := s.scr.WF

/-- **the cursor bracket**: the update is encoded from `scr2` (what rfbShowCursor leaves, for a
soft-cursor client); afterwards the screen is `scr2` with the framebuffer of before, whatever is sent -/
theorem bracket_spec {v : Variant} {s : Sess} {c : Client} {scr2 scr3 : Screen} {m : Option (List UInt8)}
    (hs : s.scr.WF) (h : bracket v s c = some (scr2, scr3, m)) :
    scr2.WF ∧ scr2.Like v s.scr ∧ scr2.curX = s.scr.curX ∧ scr2.curY = s.scr.curY ∧
    scr3 = { scr2 with fb := s.scr.fb } ∧
    (if c.shape then scr2.fb = s.scr.fb
     else showCursor v s.scr (updCurX s c) (updCurY s c) = some scr2 ∧ m = none) := by
  unfold bracket at h
  cases hsh : c.shape with
  | true =>
    simp only [hsh, if_true, Bool.true_and, Option.bind_some] at h ⊢
    obtain ⟨⟨scr2', m'⟩, h2, h⟩ := Option.bind_eq_some_iff.mp h
    cases h
    split at h2
    · obtain ⟨⟨sc, mm⟩, hh, e⟩ := Option.map_eq_some_iff.mp h2
      cases e
      obtain ⟨c', rfl, hwf, hl⟩ := cursorShapeRect_look hs hh
      exact ⟨hwf, ⟨rfl, rfl, rfl, rfl, hl⟩, rfl, rfl, rfl, rfl⟩
    · cases h2
      exact ⟨hs, .refl _ _, rfl, rfl, rfl, rfl⟩
  | false =>
    simp only [hsh, Bool.false_and, Bool.false_eq_true, if_false] at h ⊢
    obtain ⟨scr1, h1, h⟩ := Option.bind_eq_some_iff.mp h
    rw [Option.bind_some, hide_after_show hs h1] at h
    cases h
    obtain ⟨hwf, hl, hx, hy⟩ := show_wf hs h1
    exact ⟨hwf, hl, hx, hy, rfl, h1, rfl⟩

theorem bracket_after {v : Variant} {s : Sess} {c : Client} {scr2 scr3 : Screen} {m : Option (List UInt8)}
    (hs : s.scr.WF) (h : bracket v s c = some (scr2, scr3, m)) :
    scr3.WF ∧ scr3.Like v s.scr ∧ scr3.fb = s.scr.fb := by
  obtain ⟨hwf, hl, _, _, rfl, _⟩ := bracket_spec hs h
  refine ⟨⟨?_, hwf.bppPos, hwf.cur⟩, ⟨hl.w, hl.h, hl.bpp, hl.fmt, hl.look⟩, rfl⟩
  show s.scr.fb.size = scr2.w * scr2.h
  rw [hl.w, hl.h]; exact hs.fbSz

/-- rfbSendFramebufferUpdate got past "nothing to send": the bracket ran, and the client has its new
record — or is gone, if the write failed -/
structure Sent (v : Variant) (s s' : Sess) (c : Client) (obs : UpdObs) (scr2 scr3 : Screen)
    (m : Option (List UInt8)) : Prop where
  br : bracket v s c = some (scr2, scr3, m)
  scr : s'.scr = scr3
  upd : obs.upd = updRegion s c
  painted : obs.painted = scr2.fb
  before : obs.before = s.scr.fb
  after : obs.after = scr3.fb
  shape : obs.shape = m
  res : obs.res = !(s.failArmed == some c.id)
  pos : obs.pos = (if c.posUpd && c.wasMoved then some (cursorPosRect scr2) else none)
  copyRgn : obs.copyRgn = updCopyRegion s c
  clients : s'.clients = (if s.failArmed == some c.id then s.clients.filter (fun d => d.id != c.id)
                          else s.clients.map fun d => if d.id == c.id then clientAfter s c scr2.fb else d)

/-- the three ways rfbUpdateClient/rfbSendFramebufferUpdate can go: not called; called but
"nothing to send" (only `copyRegion` has been reduced by `modifiedRegion`); an update is sent -/
theorem sendUpdate_cases {v : Variant} {s s' : Sess} {c : Client} {o : Option UpdObs}
    (h : sendUpdate v s c = some (s', o)) :
    (updCalled s c = false ∧ s' = s ∧ o = none) ∨
    (updCalled s c = true ∧ updProceeds s c = false ∧ o = none ∧
      s' = { s with clients := s.clients.map fun d => if d.id == c.id then { c with copy := copyLeft s c } else d }) ∨
    (willSend s c = true ∧ ∃ scr2 scr3 m obs, o = some obs ∧ Sent v s s' c obs scr2 scr3 m) := by
  unfold sendUpdate at h
  cases hc : updCalled s c with
  | false =>
    simp only [hc, Bool.not_false, if_true, Option.some.injEq, Prod.mk.injEq] at h
    exact Or.inl ⟨rfl, h.1.symm, h.2.symm⟩
  | true =>
    simp only [hc, Bool.not_true, Bool.false_eq_true, if_false] at h
    cases hp : updProceeds s c with
    | false =>
      simp only [hp, Bool.not_false, if_true, Option.some.injEq, Prod.mk.injEq] at h
      exact Or.inr (Or.inl ⟨rfl, rfl, h.2.symm, h.1.symm⟩)
    | true =>
      simp only [hp, Bool.not_true, Bool.false_eq_true, if_false] at h
      obtain ⟨⟨scr2, scr3, m⟩, hb, h⟩ := Option.map_eq_some_iff.mp h
      refine Or.inr (Or.inr ⟨by simp [willSend, hc, hp], scr2, scr3, m, ?_⟩)
      cases hf : (s.failArmed == some c.id) with
      | true =>
        simp only [hf, if_true, Prod.mk.injEq] at h
        obtain ⟨rfl, rfl⟩ := h
        exact ⟨_, rfl, hb, rfl, rfl, rfl, rfl, rfl, rfl, by rw [hf], rfl, rfl, by simp [hf, removeClient]⟩
      | false =>
        simp only [hf, Bool.false_eq_true, if_false, Prod.mk.injEq] at h
        obtain ⟨rfl, rfl⟩ := h
        exact ⟨_, rfl, hb, rfl, rfl, rfl, rfl, rfl, rfl, by rw [hf], rfl, rfl, by simp [hf]⟩

/-- **the application's framebuffer after an update — sent, not needed, or failed — is
bit-identical to what it was before** -/
theorem sendUpdate_fb {v : Variant} {s s' : Sess} {c : Client} {o : Option UpdObs} (hs : s.scr.WF)
    (h : sendUpdate v s c = some (s', o)) : s'.scr.fb = s.scr.fb := by
  rcases sendUpdate_cases h with ⟨_, rfl, _⟩ | ⟨_, _, _, rfl⟩ | ⟨_, scr2, scr3, m, obs, _, hS⟩
  · rfl
  · rfl
  · rw [hS.scr]; exact (bracket_after hs hS.br).2.2

theorem sendUpdate_soft_ok (v : Variant) {s : Sess} {c : Client} (hs : s.scr.WF) (hsh : c.shape = false) :
    ∃ r, sendUpdate v s c = some r := by
  -- the bracket is show then hide, and hide after show succeeds
  obtain ⟨s1, h1⟩ := show_ok v hs (updCurX s c) (updCurY s c)
  have hr : bracket v s c = some (s1, { s1 with fb := s.scr.fb }, none) := by
    simp only [bracket, hsh, Bool.false_and, Bool.false_eq_true, if_false, h1, Option.bind_some,
      hide_after_show hs h1, Option.map_some]
  unfold sendUpdate
  cases updCalled s c
  · exact ⟨_, rfl⟩
  · cases updProceeds s c
    · exact ⟨_, rfl⟩
    · exact ⟨_, by rw [hr]; rfl⟩

theorem Rgn.mem_offset {W H x y : Nat} (r : Rgn) (dx dy : Int) (hx : x < W) (hy : y < H) :
    (Rgn.offset W H r dx dy).mem W x y =
      (decide (0 ≤ (x : Int) - dx) && decide (0 ≤ (y : Int) - dy) &&
        r.mem W ((x : Int) - dx).toNat ((y : Int) - dy).toNat) := Rgn.mem_ofFn _ hx hy

/-- **the region sent covers the old and the new cursor box** of a soft-cursor client whose pointer
position lags behind the screen's -/
theorem updRegion_covers_boxes {s : Sess} {c : Client} {cur : Cursor} (hcur : s.scr.cursor = some cur)
    (hm : softMoved s c = true) {x y : Nat} (hx : x < s.scr.w) (hy : y < s.scr.h)
    (hin : inCursorBox cur c.curX c.curY x y ∨ inCursorBox cur s.scr.curX s.scr.curY x y) :
    (updRegion s c).mem s.scr.w x y = true := by
  unfold updRegion
  simp only [hm, if_true]
  rw [Rgn.mem_or _ _ hx hy, Rgn.mem_or _ _ hx hy]
  rcases hin with h | h
  · rw [cursorBox_covers hcur hx hy h]; simp
  · rw [cursorBox_covers hcur hx hy h]; simp

theorem updRegion_covers_modified {s : Sess} {c : Client} {x y : Nat} (hx : x < s.scr.w) (hy : y < s.scr.h)
    (h1 : c.modified.mem s.scr.w x y = true) (h2 : c.requested.mem s.scr.w x y = true) :
    (updRegion s c).mem s.scr.w x y = true := by
  have hsub : (Rgn.sub s.scr.w s.scr.h (upd0 s c) (updCopyRegion s c)).mem s.scr.w x y = true := by
    unfold upd0 updCopyRegion copyLeft
    rw [Rgn.mem_sub _ _ hx hy, Rgn.mem_and _ _ hx hy, Rgn.mem_or _ _ hx hy, Rgn.mem_and _ _ hx hy,
      Rgn.mem_and _ _ hx hy, Rgn.mem_sub _ _ hx hy, h1, h2]
    simp
  unfold updRegion
  simp only []
  split
  · rw [Rgn.mem_or _ _ hx hy, Rgn.mem_or _ _ hx hy, hsub]; rfl
  · exact hsub

/-- an accepted PointerEvent that changes the position (rfbDefaultPtrAddEvent): every *other* client
with PointerPos support is flagged, the sender is not -/
theorem ptrEvent_moves {s : Sess} {id x y b : Nat}
    (hacc : s.pointerClient = none ∨ s.pointerClient = some id)
    (hmv : x ≠ s.scr.curX ∨ y ≠ s.scr.curY) :
    (ptrEvent s id x y b).scr.curX = x ∧ (ptrEvent s id x y b).scr.curY = y ∧
    (ptrEvent s id x y b).clients = s.clients.map (fun c =>
      if c.id == id then (if c.posUpd then { c with wasMoved := false } else c)
      else (if c.posUpd then { c with wasMoved := true } else c)) := by
  have hcond : (x != s.scr.curX || y != s.scr.curY) = true := by
    rcases hmv with h | h <;> simp [h]
  have hgo : ptrEvent s id x y b = ptrEvent.go s id x y b := by
    unfold ptrEvent
    rcases hacc with h | h <;> simp [h]
  rw [hgo]
  unfold ptrEvent.go
  simp [hcond]

/-- is a cursor-shape encoding listed? -/
def hasShape (l : List Enc) : Bool := l.contains .xCursor || l.contains .richCursor

/-- reading a list from arbitrary flags: every flag only depends on which encodings occur -/
theorem foldl_encStep (l : List Enc) (f : EncFlags) :
    l.foldl encStep f =
      { shape := f.shape || hasShape l, useRich := f.useRich || l.contains .richCursor,
        posUpd := f.posUpd || l.contains .pointerPos,
        wasMoved := f.wasMoved || (!f.posUpd && l.contains .pointerPos),
        wasChanged := f.wasChanged || hasShape l, useCopyRect := f.useCopyRect || l.contains .copyRect,
        marked := f.marked || (!f.shape && hasShape l) } := by
  induction l generalizing f with
  | nil => simp [hasShape]
  | cons e l ih =>
    rw [List.foldl_cons, ih]
    cases e with
    | pointerPos => cases hp : f.posUpd <;> simp [encStep, hasShape, hp]
    | _ => simp [encStep, hasShape]

/-- the flags after a SetEncodings message depend only on which encodings are listed; position
updates need PointerPos TOGETHER with a cursor-shape encoding -/
theorem encFlags_closed (w0 : Bool) (l : List Enc) :
    encFlags w0 l =
      { shape := hasShape l, useRich := l.contains .richCursor,
        posUpd := l.contains .pointerPos && hasShape l,
        wasMoved := w0 || l.contains .pointerPos, wasChanged := hasShape l,
        useCopyRect := l.contains .copyRect, marked := hasShape l } := by
  unfold encFlags
  rw [foldl_encStep]
  simp

theorem encFlags_perm {l l' : List Enc} (h : l.Perm l') (w0 : Bool) : encFlags w0 l = encFlags w0 l' := by
  have hc : ∀ e : Enc, l.contains e = l'.contains e := fun e => by
    rw [Bool.eq_iff_iff, List.contains_iff_mem, List.contains_iff_mem]
    exact h.mem_iff
  rw [encFlags_closed, encFlags_closed]
  simp only [hasShape, hc]


theorem updCopyRegion_subset {s : Sess} {c : Client} {x y : Nat} (hx : x < s.scr.w) (hy : y < s.scr.h)
    (h : (updCopyRegion s c).mem s.scr.w x y = true) :
    c.copy.mem s.scr.w x y = true ∧ c.modified.mem s.scr.w x y = false := by
  unfold updCopyRegion copyLeft at h
  rw [Rgn.mem_and _ _ hx hy, Rgn.mem_and _ _ hx hy, Rgn.mem_sub _ _ hx hy] at h
  simp only [Bool.and_eq_true, Bool.not_eq_true'] at h
  exact ⟨h.1.1.1, h.1.1.2⟩

/-- rfbScheduleCopyRegion, soft-cursor client with CopyRect: a pixel of the scheduled copy whose
DESTINATION or SOURCE lies under the cursor painted in the client's picture is marked modified -/
theorem scheduleCopy_marks_cursor {scr : Screen} {c : Client} {dst : Rgn} {dx dy : Int} {cur : Cursor}
    (hcr : c.useCopyRect = true) (hsh : c.shape = false) (hcur : scr.cursor = some cur)
    {x y : Nat} (hx : x < scr.w) (hy : y < scr.h)
    (hcopy : (clientScheduleCopy scr c dst dx dy).copy.mem scr.w x y = true)
    (hbox : rawBox cur c.curX c.curY x y = true ∨
            rawBox cur c.curX c.curY ((x : Int) - dx) ((y : Int) - dy) = true) :
    (clientScheduleCopy scr c dst dx dy).modified.mem scr.w x y = true := by
  unfold clientScheduleCopy at hcopy ⊢
  simp only [hcr, hsh, hcur, Bool.not_true, Bool.false_eq_true, if_false] at hcopy ⊢
  generalize (if c.copy.nonempty = true then _ else (c.modified, c.copy) : Rgn × Rgn) = pr at hcopy ⊢
  obtain ⟨m1, cp1⟩ := pr
  simp only [] at hcopy ⊢
  rw [Rgn.mem_or _ _ hx hy, Rgn.mem_or _ _ hx hy, Rgn.mem_ofFn _ hx hy, Rgn.mem_ofFn _ hx hy, hcopy]
  rcases hbox with h | h <;> simp [h]

end VncModel.Cursor
