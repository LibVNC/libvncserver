import VncModel.Cursor.ShowHide
/-
Lemmas about the on-demand cursor conversions and the cursor pseudo-rectangles
(rfbSendCursorShape / rfbSendCursorPos).
-/
namespace VncModel.Cursor
open VncModel.Gen.C15

theorem orByte_size {a a' : Array UInt8} {i : Nat} {b : UInt8} (h : orByte a i b = some a') : a'.size = a.size := by
  unfold orByte at h
  split at h
  · cases h; exact Array.size_set _
  · cases h

/-- rfbMakeXCursorFromRichCursor replaces the source bitmap by what its loop builds and, when
interpolating, the foreground colour; everything else is kept -/
theorem makeXFromRich_some {f : Format} {bpp : Nat} {c c' : Cursor} (h : makeXFromRich f bpp c = some c') :
    ∃ rich src fr fg fb, c.rich = some rich ∧
      forM2? c.h c.w (xFromRichStep f bpp c rich) (Array.replicate (rowBytes c.w * c.h) 0) = some src ∧
      c' = { c with source := some src, foreR := fr, foreG := fg, foreB := fb } ∧
      (xInterp bpp c = false → fr = c.foreR ∧ fg = c.foreG ∧ fb = c.foreB) := by
  unfold makeXFromRich at h
  split at h
  · cases h
  · rename_i rich hr
    obtain ⟨src, hsrc, rfl⟩ := Option.map_eq_some_iff.mp h
    by_cases hi : xInterp bpp c = true
    · exact ⟨rich, src, 0xffff, 0xffff, 0xffff, hr, hsrc, by rw [if_pos hi],
        fun hni => absurd hi (hni ▸ Bool.false_ne_true)⟩
    · exact ⟨rich, src, c.foreR, c.foreG, c.foreB, hr, hsrc, by rw [if_neg hi], fun _ => ⟨rfl, rfl, rfl⟩⟩

theorem xLoop_size {f : Format} {bpp : Nat} {c : Cursor} {rich : Array Px} {rows cols : Nat} {m src : Array UInt8}
    (h : forM2? rows cols (xFromRichStep f bpp c rich) m = some src) : src.size = m.size := by
  refine forM2?_ind (fun _ _ (a : Array UInt8) => a.size = m.size) h rfl (fun j _ i _ a b ha hab => ?_) (fun _ _ _ ha => ha)
  unfold xFromRichStep at hab
  obtain ⟨p, _, hab⟩ := Option.bind_eq_some_iff.mp hab
  split at hab
  · exact (orByte_size hab).trans ha
  · cases hab; exact ha

theorem makeXFromRich_wf {f : Format} {bpp : Nat} {c c' : Cursor} (hc : c.WF)
    (h : makeXFromRich f bpp c = some c') : c'.WF := by
  obtain ⟨rich, src, _, _, _, hr, hloop, rfl, _⟩ := makeXFromRich_some h
  exact ⟨hc.maskSz, hc.richSz, fun _ e => Option.some.inj e ▸ (xLoop_size hloop).trans Array.size_replicate,
    hc.alphaSz, .inr nofun⟩

/-- the conversion at the top of rfbSendCursorShape only adds the missing representation -/
theorem convertFor_spec {v : Variant} {f : Format} {bpp : Nat} {r : Bool} {c0 c : Cursor}
    (h : convertFor v f bpp r c0 = some c) :
    SameLook v f bpp (some c) (some c0) ∧ (c0.WF → c.WF) ∧
    (r = true → c.rich = richOf v f bpp c0 ∧ c.source = c0.source) ∧
    (r = false → c.rich = c0.rich ∧ c.source ≠ none) := by
  unfold convertFor at h
  cases r with
  | true =>
    rw [if_pos rfl] at h
    cases hr : c0.rich with
    | some rr =>
      rw [hr] at h; cases h
      exact ⟨SameLook.refl _ _ _ _, id, fun _ => ⟨by rw [richOf, hr], rfl⟩, nofun⟩
    | none =>
      rw [hr] at h
      obtain ⟨rr, hrr, rfl⟩ := Option.map_eq_some_iff.mp h
      have e : richOf v f bpp c0 = some rr := by rw [richOf, hr]; exact hrr
      exact ⟨⟨rfl, rfl, rfl, rfl, rfl, rfl, rfl, e.symm⟩, fun hc => hc.withRich (makeRichPixels_size hrr),
        fun _ => ⟨e.symm, rfl⟩, nofun⟩
  | false =>
    rw [if_neg Bool.false_ne_true] at h
    cases hsrc : c0.source with
    | some sr =>
      rw [hsrc] at h; cases h
      exact ⟨SameLook.refl _ _ _ _, id, nofun, fun _ => ⟨rfl, by simp [hsrc]⟩⟩
    | none =>
      rw [hsrc] at h
      obtain ⟨rich, src, fr, fg, fb, hr, hloop, rfl, _⟩ := makeXFromRich_some h
      exact ⟨⟨rfl, rfl, rfl, rfl, rfl, rfl, rfl, by rw [richOf, richOf, hr]⟩, fun hc => makeXFromRich_wf hc h, nofun,
        fun _ => ⟨rfl, nofun⟩⟩

theorem tabulate?_getElem {α : Type} {a b : Array α} (h : tabulate? a.size (fun k => a[k]?) = some b) :
    b = a := by
  obtain ⟨hsz, hel⟩ := tabulate?_spec h
  apply Array.ext_getElem?
  intro i
  by_cases hi : i < a.size
  · exact hel i hi
  · rw [Array.getElem?_eq_none (by omega), Array.getElem?_eq_none (by omega)]

theorem rectHeader_length (x y w h enc : Nat) : (rectHeader x y w h enc).length = 12 := rfl

theorem flatMap_pxBytes_length (bpp : Nat) (l : List Px) : (l.flatMap (pxBytes bpp)).length = l.length * bpp := by
  induction l with
  | nil => simp
  | cons a t ih => simp [List.flatMap_cons, ih, pxBytes, Nat.add_mul, Nat.add_comm]

/-- **payload of the cursor rectangle**: RichCursor — the cursor's pixels in order, then its mask
bytes; XCursor — the six colour bytes (high bytes of the 16-bit colours), the source bitmap, the
mask; with the sizes the protocol prescribes -/
theorem shapePayload_exact {w : Wire} {r : Bool} {c : Cursor} {pl : List UInt8} (hc : c.WF)
    (h : shapePayload w r c = some pl) :
    (r = true → ∃ rich, c.rich = some rich ∧
        pl = (rich.toList.map w.tr).flatMap (pxBytes w.bpp) ++ c.mask.toList ∧
        pl.length = c.w * c.h * w.bpp + rowBytes c.w * c.h) ∧
    (r = false → ∃ src, c.source = some src ∧
        pl = [UInt8.ofNat (c.foreR / 256), UInt8.ofNat (c.foreG / 256), UInt8.ofNat (c.foreB / 256),
              UInt8.ofNat (c.backR / 256), UInt8.ofNat (c.backG / 256), UInt8.ofNat (c.backB / 256)]
             ++ src.toList ++ c.mask.toList ∧
        pl.length = sz_rfbXCursorColors + 2 * (rowBytes c.w * c.h)) := by
  unfold shapePayload at h
  obtain ⟨mk, hmk, h⟩ := Option.bind_eq_some_iff.mp h
  cases tabulate?_getElem (hc.maskSz ▸ hmk)
  cases r with
  | true =>
    refine ⟨fun _ => ?_, nofun⟩
    rw [if_pos rfl] at h
    cases hr : c.rich with
    | none => rw [hr] at h; cases h
    | some rich =>
      rw [hr] at h
      obtain ⟨px, hpx, rfl⟩ := Option.map_eq_some_iff.mp h
      cases tabulate?_getElem (hc.richSz rich hr ▸ hpx)
      refine ⟨rich, rfl, rfl, ?_⟩
      rw [List.length_append, flatMap_pxBytes_length, List.length_map, Array.length_toList, Array.length_toList,
        hc.richSz rich hr, hc.maskSz]
  | false =>
    refine ⟨nofun, fun _ => ?_⟩
    rw [if_neg Bool.false_ne_true] at h
    cases hsrc : c.source with
    | none => rw [hsrc] at h; cases h
    | some src =>
      rw [hsrc] at h
      obtain ⟨sb, hsb, rfl⟩ := Option.map_eq_some_iff.mp h
      cases tabulate?_getElem (hc.srcSz src hsrc ▸ hsb)
      refine ⟨src, rfl, rfl, ?_⟩
      simp only [List.length_append, List.length_cons, List.length_nil, Array.length_toList, hc.srcSz src hsrc,
        hc.maskSz, sz_rfbXCursorColors]
      omega

theorem shapeCore_some {v : Variant} {f : Format} {bpp : Nat} {w : Wire} {c0 : Cursor} {r : Bool}
    {c' : Option Cursor} {m : List UInt8} (h : shapeCore v f bpp w (some c0) r = some (c', m)) :
    ∃ c, c' = some c ∧ convertFor v f bpp r c0 = some c ∧
      (((isEmptyCursor c = some true ∨ shapeFits w r c = false) ∧
          m = rectHeader 0 0 0 0 (if r then encRichCursor else encXCursor)) ∨
       (isEmptyCursor c = some false ∧ shapeFits w r c = true ∧ ∃ pl, shapePayload w r c = some pl ∧
          m = rectHeader c.xhot c.yhot c.w c.h (if r then encRichCursor else encXCursor) ++ pl)) := by
  unfold shapeCore at h
  obtain ⟨c, hconv, h⟩ := Option.bind_eq_some_iff.mp h
  obtain ⟨e, hemp, h⟩ := Option.bind_eq_some_iff.mp h
  cases e with
  | true =>
    simp only [Bool.true_or, if_true, Option.some.injEq, Prod.mk.injEq] at h
    exact ⟨c, h.1.symm, hconv, .inl ⟨.inl hemp, h.2.symm⟩⟩
  | false =>
    cases hfit : shapeFits w r c with
    | false =>
      simp only [hfit, Bool.not_false, Bool.or_true, if_true, Option.some.injEq, Prod.mk.injEq] at h
      exact ⟨c, h.1.symm, hconv, .inl ⟨.inr hfit, h.2.symm⟩⟩
    | true =>
      simp only [hfit, Bool.not_true, Bool.or_self, Bool.false_eq_true, if_false] at h
      obtain ⟨pl, hpl, e⟩ := Option.map_eq_some_iff.mp h
      cases e
      exact ⟨c, rfl, hconv, .inr ⟨hemp, hfit, pl, hpl, rfl⟩⟩

theorem shapeCore_none (v : Variant) (f : Format) (bpp : Nat) (w : Wire) (r : Bool) :
    shapeCore v f bpp w none r = some (none, rectHeader 0 0 0 0 (if r then encRichCursor else encXCursor)) := rfl

theorem cursorShapeRect_some {v : Variant} {s s' : Screen} {w : Wire} {r : Bool} {m : List UInt8}
    (h : cursorShapeRect v s w r = some (s', m)) :
    ∃ c', shapeCore v s.fmt s.bpp w s.cursor r = some (c', m) ∧ s' = { s with cursor := c' } := by
  unfold cursorShapeRect at h
  obtain ⟨⟨c', m'⟩, hcore, e⟩ := Option.map_eq_some_iff.mp h
  cases e
  exact ⟨c', hcore, rfl⟩

theorem cursorShapeRect_look {v : Variant} {s s' : Screen} {w : Wire} {r : Bool} {m : List UInt8} (hs : s.WF)
    (h : cursorShapeRect v s w r = some (s', m)) :
    ∃ c', s' = { s with cursor := c' } ∧ s'.WF ∧ SameLook v s.fmt s.bpp c' s.cursor := by
  obtain ⟨c', hcore, rfl⟩ := cursorShapeRect_some h
  refine ⟨c', rfl, ?_⟩
  cases hc : s.cursor with
  | none =>
    rw [hc, shapeCore_none] at hcore
    cases hcore
    exact ⟨⟨hs.fbSz, hs.bppPos, nofun⟩, trivial⟩
  | some c0 =>
    rw [hc] at hcore
    obtain ⟨c, rfl, hconv, _⟩ := shapeCore_some hcore
    obtain ⟨hl, hwf, _⟩ := convertFor_spec hconv
    exact ⟨⟨hs.fbSz, hs.bppPos, fun _ h1 => Option.some.inj h1 ▸ hwf (hs.cur c0 hc)⟩, hl⟩

/-- the cursor rectangle of a cursor up to 64×64 at up to 4 bytes per pixel: header, colours, 8
mask bytes per row, the pixels.  With the regenerated `UPDATE_BUF_SIZE` and header sizes this is below
the update buffer's size, so the `return FALSE; /* FIXME */` path of rfbSendCursorShape is not
reachable for such cursors. -/
theorem shapeBytes_le {w : Wire} {c : Cursor} (r : Bool) (hw : c.w ≤ 64) (hh : c.h ≤ 64) (hb : w.bpp ≤ 4) :
    shapeBytes w r c ≤ sz_rfbFramebufferUpdateRectHeader + sz_rfbXCursorColors + 8 * 64 + 64 * 64 * 4 := by
  unfold shapeBytes
  have h1 : rowBytes c.w ≤ 8 := by unfold rowBytes; omega
  have h2 : rowBytes c.w * c.h ≤ 8 * 64 := Nat.mul_le_mul h1 hh
  have h3 : c.w * c.h * w.bpp ≤ 64 * 64 * 4 := Nat.mul_le_mul (Nat.mul_le_mul hw hh) hb
  cases r <;> simp only [Bool.false_eq_true, if_true, if_false] <;> omega

end VncModel.Cursor
