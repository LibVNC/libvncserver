import VncModel.Cursor.Model
import VncModel.Cursor.Lemmas
/-
`showCursor` / `hideCursor`: every access is in bounds, hide after show restores the framebuffer,
and what show paints is the clipped overlay.  `Screen.Like` is what show leaves unchanged.
-/
namespace VncModel.Cursor

theorem lin_div (W p a : Nat) (ha : a < W) : (p * W + a) / W = p := by
  rw [Nat.add_comm, Nat.add_mul_div_right _ _ (by omega), Nat.div_eq_of_lt ha, Nat.zero_add]

theorem lin_inj {W p q a b : Nat} (ha : a < W) (hb : b < W) (h : p * W + a = q * W + b) :
    p = q ∧ a = b := by
  have h1 := congrArg (· / W) h
  have h2 := congrArg (· % W) h
  simp only [lin_div W _ _ ha, lin_div W _ _ hb, Nat.mul_add_mod_of_lt ha, Nat.mul_add_mod_of_lt hb] at h1 h2
  exact ⟨h1, h2⟩

theorem lin_lt {j rows n i : Nat} (hj : j < rows) (hi : i < n) : j * n + i < rows * n := by
  have : (j + 1) * n ≤ rows * n := Nat.mul_le_mul_right n hj
  rw [Nat.add_mul] at this
  omega

theorem idx_lt {W H x y : Nat} (hx : x < W) (hy : y < H) : y * W + x < W * H :=
  Nat.mul_comm W H ▸ lin_lt hy hx

theorem fbIdx_inj {W x1 y1 rows cols : Nat} (hx : x1 + cols ≤ W) : Inj (fbIdx W x1 y1) rows cols := by
  intro j _ j' _ i hi i' hi' h
  have := lin_inj (W := W) (by omega) (by omega) h
  omega

theorem fbIdx_lt {W H x1 y1 rows cols j i : Nat} (hx : x1 + cols ≤ W) (hy : y1 + rows ≤ H)
    (hj : j < rows) (hi : i < cols) : fbIdx W x1 y1 j i < W * H :=
  idx_lt (by omega) (by omega)

theorem fbIdx_eq_iff {W x1 y1 cols j i x y : Nat} (hx : x1 + cols ≤ W) (hi : i < cols) (hxW : x < W) :
    fbIdx W x1 y1 j i = y * W + x ↔ (y1 + j = y ∧ x1 + i = x) :=
  ⟨lin_inj (by omega) hxW, fun ⟨hy, hx⟩ => hy ▸ hx ▸ rfl⟩

theorem ucIdx_inj (n rows : Nat) : Inj (ucIdx n) rows n :=
  fun _ _ _ _ _ hi _ hi' h => lin_inj hi hi' h

theorem ucIdx_lt {n rows j i : Nat} (hj : j < rows) (hi : i < n) : ucIdx n j i < rows * n :=
  lin_lt hj hi

theorem clipAxis_none {pos hot size : Nat} {lim : Int} (h : clipAxis pos hot size lim = none) (x : Nat) :
    ¬ (0 ≤ (x:Int) - ((pos:Int) - hot) ∧ (x:Int) - ((pos:Int) - hot) < size ∧ (x:Int) < lim) := by
  simp only [clipAxis, ite_eq_left_iff, reduceCtorEq, imp_false, Decidable.not_not] at h
  omega

theorem clipAxis_some {pos hot size : Nat} {lim : Int} {X : Seg} (h : clipAxis pos hot size lim = some X) :
    0 < X.len ∧ (X.start:Int) + X.len ≤ lim ∧ X.off + X.len ≤ size ∧
    (X.start:Int) - X.off = (pos:Int) - hot ∧
    ∀ x : Nat, (X.start ≤ x ∧ x < X.start + X.len) ↔
      (0 ≤ (x:Int) - ((pos:Int) - hot) ∧ (x:Int) - ((pos:Int) - hot) < size ∧ (x:Int) < lim) := by
  simp only [clipAxis, Option.ite_none_left_eq_some, Option.some.injEq] at h
  obtain ⟨hn, rfl⟩ := h
  refine ⟨?_, ?_, ?_, ?_, fun x => ?_⟩ <;> simp only [] <;> omega

theorem seg_coord {X : Seg} {a : Int} {x : Nat} (hal : (X.start:Int) - X.off = a) (hx : X.start ≤ x) :
    ((x:Int) - a).toNat = x - X.start + X.off := by
  omega

theorem effLimit_le (b : Bool) (d : Nat) : effLimit b d ≤ (d : Int) := by
  unfold effLimit; split <;> omega

theorem tabulate?_spec {α : Type} {n : Nat} {f : Nat → Option α} {a : Array α}
    (h : tabulate? n f = some a) : a.size = n ∧ ∀ k, k < n → a[k]? = f k := by
  refine forM?_ind (fun k (acc : Array α) => acc.size = k ∧ ∀ i, i < k → acc[i]? = f i)
    ⟨rfl, fun i hi => by omega⟩ (fun k _ acc b ⟨hsz, hel⟩ hb => ?_) h
  obtain ⟨x, hfk, rfl⟩ := Option.map_eq_some_iff.mp hb
  refine ⟨by simp [hsz], fun i hi => ?_⟩
  rw [Array.getElem?_push, hsz]
  split
  · subst i; exact hfk.symm
  · exact hel i (by omega)

theorem tabulate?_ok {α : Type} {n : Nat} {f : Nat → Option α} (hf : ∀ k, k < n → (f k).isSome) :
    ∃ a, tabulate? n f = some a := by
  obtain ⟨a, h, _⟩ := forM?_ok (fun _ (_ : Array α) => True) (n := n)
    (f := fun k acc => (f k).map acc.push) (s := #[]) trivial
    (fun k hk acc _ => by
      obtain ⟨x, hx⟩ := Option.isSome_iff_exists.mp (hf k hk)
      exact ⟨acc.push x, by rw [hx]; rfl, trivial⟩)
  exact ⟨a, h⟩

structure Cursor.WF (c : Cursor) : Prop where
  maskSz : c.mask.size = rowBytes c.w * c.h
  richSz : ∀ r, c.rich = some r → r.size = c.w * c.h
  srcSz : ∀ sr, c.source = some sr → sr.size = rowBytes c.w * c.h
  alphaSz : ∀ a, c.alpha = some a → a.size = c.w * c.h
  hasPix : c.rich ≠ none ∨ c.source ≠ none

structure Screen.WF (s : Screen) : Prop where
  fbSz : s.fb.size = s.w * s.h
  bppPos : 0 < s.bpp
  cur : ∀ c, s.cursor = some c → c.WF

theorem rowByte_lt {w u : Nat} (hu : u < w) : u / 8 < rowBytes w := by
  unfold rowBytes; omega

theorem coords_lt {w h t : Nat} (ht : t < w * h) : t % w < w ∧ t / w < h := by
  have hw : 0 < w := Nat.pos_of_ne_zero fun h0 => by simp [h0] at ht
  exact ⟨Nat.mod_lt _ hw, (Nat.div_lt_iff_lt_mul hw).mpr (Nat.mul_comm w h ▸ ht)⟩

theorem maskBit_isSome {bits : Array UInt8} {w h u v : Nat} (hsz : bits.size = rowBytes w * h)
    (hu : u < w) (hv : v < h) : (maskBit bits w u v).isSome := by
  unfold maskBit
  rw [Array.getElem?_eq_getElem (hsz ▸ idx_lt (rowByte_lt hu) hv)]
  rfl

theorem makeRichPixels_size {v : Variant} {f : Format} {bpp : Nat} {c : Cursor} {r : Array Px}
    (h : makeRichPixels v f bpp c = some r) : r.size = c.w * c.h := by
  unfold makeRichPixels at h
  split at h
  · cases h
  · exact (tabulate?_spec h).1

theorem makeRichPixels_ok (v : Variant) (f : Format) (bpp : Nat) {c : Cursor} (hc : c.WF)
    (hs : c.source ≠ none) : ∃ r, makeRichPixels v f bpp c = some r := by
  unfold makeRichPixels
  cases hsrc : c.source with
  | none => exact absurd hsrc hs
  | some src =>
    refine tabulate?_ok fun t ht => ?_
    obtain ⟨h1, h2⟩ := coords_lt ht
    rw [Option.isSome_map]
    exact maskBit_isSome (hc.srcSz src hsrc) h1 h2

theorem richOf_size {v : Variant} {f : Format} {bpp : Nat} {c : Cursor} {r : Array Px} (hc : c.WF)
    (h : richOf v f bpp c = some r) : r.size = c.w * c.h := by
  unfold richOf at h
  split at h
  · exact hc.richSz _ (h ▸ ‹_›)
  · exact makeRichPixels_size h

theorem richOf_ok (v : Variant) (f : Format) (bpp : Nat) {c : Cursor} (hc : c.WF) :
    ∃ r, richOf v f bpp c = some r := by
  unfold richOf
  cases hr : c.rich with
  | some r => exact ⟨r, rfl⟩
  | none => exact makeRichPixels_ok v f bpp hc (hc.hasPix.resolve_left (absurd hr))

/-- the cursor as rfbShowCursor leaves it (richSource filled in) is still well-formed -/
theorem Cursor.WF.withRich {c : Cursor} (hc : c.WF) {r : Array Px} (hr : r.size = c.w * c.h) :
    ({ c with rich := some r } : Cursor).WF :=
  { maskSz := hc.maskSz
    richSz := fun _ h => Option.some.inj h ▸ hr
    srcSz := hc.srcSz
    alphaSz := hc.alphaSz
    hasPix := Or.inl (by simp) }

/-- two cursors that paint the same: same geometry, mask, alpha data and pixels -/
def SameLook (v : Variant) (f : Format) (bpp : Nat) : Option Cursor → Option Cursor → Prop
  | none, none => True
  | some a, some b =>
    a.w = b.w ∧ a.h = b.h ∧ a.xhot = b.xhot ∧ a.yhot = b.yhot ∧ a.mask = b.mask ∧ a.alpha = b.alpha ∧
    a.premult = b.premult ∧ richOf v f bpp a = richOf v f bpp b
  | _, _ => False

theorem SameLook.refl (v : Variant) (f : Format) (bpp : Nat) (c : Option Cursor) : SameLook v f bpp c c := by
  cases c <;> simp [SameLook]

/-- `s'` has the geometry and pixel format of `s` and a cursor that paints the same: the two differ
at most in the buffers and in which representations of the cursor are present -/
structure Screen.Like (v : Variant) (s' s : Screen) : Prop where
  w : s'.w = s.w
  h : s'.h = s.h
  bpp : s'.bpp = s.bpp
  fmt : s'.fmt = s.fmt
  look : SameLook v s.fmt s.bpp s'.cursor s.cursor

theorem Screen.Like.refl (v : Variant) (s : Screen) : Screen.Like v s s :=
  ⟨rfl, rfl, rfl, rfl, SameLook.refl _ _ _ _⟩

theorem growUnder_eq (s : Screen) (c : Cursor) :
    growUnder s c = { s with under := (growUnder s c).under } := by
  unfold growUnder; split <;> rfl

theorem growUnder_size (s : Screen) (c : Cursor) (hb : 0 < s.bpp) :
    c.w * c.h ≤ (growUnder s c).under.size := by
  unfold growUnder
  split
  · simp
  · exact Nat.le_of_mul_le_mul_right (Nat.le_of_not_lt ‹_›) hb

inductive ShowCase (v : Variant) (s : Screen) (cx cy : Nat) (s1 : Screen) : Prop where
  | noCursor (h : s.cursor = none) (e : s1 = s)
  | offScreen (c : Cursor) (h : s.cursor = some c)
      (hclip : clipAxis cx c.xhot c.w (effLimit v.clipFixed s.w) = none ∨
               clipAxis cy c.yhot c.h (effLimit v.clipFixed s.h) = none)
      (e : s1 = { s with under := (growUnder s c).under })
  | painted (c : Cursor) (X Y : Seg) (under rich fb : Array Px) (h : s.cursor = some c)
      (hX : clipAxis cx c.xhot c.w (effLimit v.clipFixed s.w) = some X)
      (hY : clipAxis cy c.yhot c.h (effLimit v.clipFixed s.h) = some Y)
      (hsave : writeBox (ucIdx X.len) (fun j i _ => (s.fb[fbIdx s.w X.start Y.start j i]?).map Act.put)
          Y.len X.len (growUnder s c).under = some under)
      (hrich : richOf v s.fmt s.bpp c = some rich)
      (hpaint : writeBox (fbIdx s.w X.start Y.start)
          (paintAct s.fmt s.bpp { c with rich := some rich } rich X Y) Y.len X.len s.fb = some fb)
      (e : s1 = { s with under := under, fb := fb, cursor := some { c with rich := some rich } })

theorem showCursor_cases {v : Variant} {s s1 : Screen} {cx cy : Nat}
    (h : showCursor v s cx cy = some s1) : ShowCase v s cx cy s1 := by
  unfold showCursor at h
  cases hc : s.cursor with
  | none => rw [hc] at h; exact .noCursor hc (Option.some.inj h).symm
  | some c =>
    simp only [hc] at h
    rw [growUnder_eq s c] at h
    cases hX : clipAxis cx c.xhot c.w (effLimit v.clipFixed s.w) with
    | none => rw [hX] at h; exact .offScreen c hc (.inl hX) (Option.some.inj h).symm
    | some X =>
      cases hY : clipAxis cy c.yhot c.h (effLimit v.clipFixed s.h) with
      | none => rw [hX, hY] at h; exact .offScreen c hc (.inr hY) (Option.some.inj h).symm
      | some Y =>
        simp only [hX, hY] at h
        obtain ⟨under, hsave, h⟩ := Option.bind_eq_some_iff.mp h
        obtain ⟨rich, hrich, h⟩ := Option.bind_eq_some_iff.mp h
        obtain ⟨fb, hpaint, h⟩ := Option.bind_eq_some_iff.mp h
        exact .painted c X Y under rich fb hc hX hY hsave hrich hpaint (Option.some.inj h).symm

theorem paintAct_isSome {f : Format} {bpp : Nat} {c : Cursor} {rich : Array Px} {X Y : Seg} {j i : Nat}
    (hc : c.WF) (hr : rich.size = c.w * c.h) (hx : i + X.off < c.w) (hy : j + Y.off < c.h) (old : Px) :
    (paintAct f bpp c rich X Y j i (some old)).isSome := by
  unfold paintAct
  have hri : rich[(j + Y.off) * c.w + (i + X.off)]? = some _ :=
    Array.getElem?_eq_getElem (hr ▸ idx_lt hx hy)
  cases hal : c.alpha with
  | some al =>
    have hai : al[(j + Y.off) * c.w + (i + X.off)]? = some _ :=
      Array.getElem?_eq_getElem (hc.alphaSz al hal ▸ idx_lt hx hy)
    simp only [hai, hri]
    split <;> rfl
  | none =>
    obtain ⟨b, hm⟩ := Option.isSome_iff_exists.mp (maskBit_isSome hc.maskSz hx hy)
    simp only [hm, hri]
    cases b <;> rfl

structure BoxOK (s : Screen) (c : Cursor) (X Y : Seg) : Prop where
  xW : X.start + X.len ≤ s.w
  yH : Y.start + Y.len ≤ s.h
  xc : X.off + X.len ≤ c.w
  yc : Y.off + Y.len ≤ c.h

theorem boxOK_of_clip {v : Variant} {s : Screen} {c : Cursor} {cx cy : Nat} {X Y : Seg}
    (hX : clipAxis cx c.xhot c.w (effLimit v.clipFixed s.w) = some X)
    (hY : clipAxis cy c.yhot c.h (effLimit v.clipFixed s.h) = some Y) : BoxOK s c X Y := by
  obtain ⟨_, h1, h2, _, _⟩ := clipAxis_some hX
  obtain ⟨_, h3, h4, _, _⟩ := clipAxis_some hY
  have := effLimit_le v.clipFixed s.w
  have := effLimit_le v.clipFixed s.h
  exact ⟨by omega, by omega, h2, h4⟩

theorem BoxOK.under_le {s : Screen} {c : Cursor} {X Y : Seg} (hb : BoxOK s c X Y) {n : Nat}
    (hn : c.w * c.h ≤ n) : Y.len * X.len ≤ n :=
  Nat.le_trans (Nat.mul_le_mul (Nat.le_trans (Nat.le_add_left _ _) hb.yc)
    (Nat.le_trans (Nat.le_add_left _ _) hb.xc)) (Nat.mul_comm c.w c.h ▸ hn)

/-- **no out-of-bounds access in rfbShowCursor**: on a well-formed screen the model's show, all of
whose accesses are checked, succeeds — for every variant, cursor, hot-spot and position -/
theorem show_ok (v : Variant) {s : Screen} (hs : s.WF) (cx cy : Nat) :
    ∃ s1, showCursor v s cx cy = some s1 := by
  unfold showCursor
  cases hcur : s.cursor with
  | none => exact ⟨s, rfl⟩
  | some c =>
    have hc := hs.cur c hcur
    simp only []
    rw [growUnder_eq s c]
    cases hX : clipAxis cx c.xhot c.w (effLimit v.clipFixed s.w) with
    | none => exact ⟨_, rfl⟩
    | some X =>
      cases hY : clipAxis cy c.yhot c.h (effLimit v.clipFixed s.h) with
      | none => exact ⟨_, rfl⟩
      | some Y =>
        have hb := boxOK_of_clip hX hY
        -- save, (make the pixels,) paint
        refine bind_ok (writeBox_ok (fun j hj i hi => ?_) fun j hj i hi _ => ?_) fun under _ =>
          bind_ok (richOf_ok v s.fmt s.bpp hc) fun rich hrich =>
          bind_ok (writeBox_ok (fun j hj i hi => hs.fbSz ▸ fbIdx_lt hb.xW hb.yH hj hi) fun j hj i hi old => ?_)
            fun fb _ => ⟨_, rfl⟩
        · exact Nat.lt_of_lt_of_le (ucIdx_lt hj hi) (hb.under_le (growUnder_size s c hs.bppPos))
        · rw [Array.getElem?_eq_getElem (hs.fbSz ▸ fbIdx_lt hb.xW hb.yH hj hi)]; rfl
        · have hr := richOf_size hc hrich
          exact paintAct_isSome (c := { c with rich := some rich }) (hc.withRich hr) hr
            (show i + X.off < c.w by have := hb.xc; omega) (show j + Y.off < c.h by have := hb.yc; omega) old

theorem show_wf {v : Variant} {s s1 : Screen} {cx cy : Nat} (hs : s.WF)
    (h : showCursor v s cx cy = some s1) :
    s1.WF ∧ s1.Like v s ∧ s1.curX = s.curX ∧ s1.curY = s.curY := by
  cases showCursor_cases h with
  | noCursor _ e => subst e; exact ⟨hs, .refl _ _, rfl, rfl⟩
  | offScreen c hc _ e =>
    subst e
    exact ⟨⟨hs.fbSz, hs.bppPos, hs.cur⟩, ⟨rfl, rfl, rfl, rfl, SameLook.refl _ _ _ _⟩, rfl, rfl⟩
  | painted c X Y under rich fb hc hX hY hsave hrich hpaint e =>
    subst e
    have hcw := hs.cur c hc
    refine ⟨⟨(writeBox_frame hpaint).1.trans hs.fbSz, hs.bppPos, fun c' hc' => ?_⟩,
      ⟨rfl, rfl, rfl, rfl, ?_⟩, rfl, rfl⟩
    · exact Option.some.inj hc' ▸ hcw.withRich (richOf_size hcw hrich)
    · rw [hc]
      exact ⟨rfl, rfl, rfl, rfl, rfl, rfl, rfl, hrich.symm ▸ rfl⟩

/-- the array-level core of `hide_show_id`: whatever the paint loop `gp` writes into the box, the
restore loop puts back what the save loop saw, since both use the same box and index maps -/
theorem save_paint_restore {W x1 y1 rows cols : Nat} {fb under under' fb' fb2 : Array Px}
    {gp : Nat → Nat → Option Px → Option Act} (hx : x1 + cols ≤ W)
    (hsave : writeBox (ucIdx cols) (fun j i _ => (fb[fbIdx W x1 y1 j i]?).map Act.put) rows cols under = some under')
    (hpaint : writeBox (fbIdx W x1 y1) gp rows cols fb = some fb')
    (hrest : writeBox (fbIdx W x1 y1) (fun j i _ => (under'[ucIdx cols j i]?).map Act.put) rows cols fb' = some fb2) :
    fb2 = fb := by
  apply Array.ext_getElem?
  intro m
  by_cases hm : ∃ j, j < rows ∧ ∃ i, i < cols ∧ fbIdx W x1 y1 j i = m
  · obtain ⟨j, hj, i, hi, rfl⟩ := hm
    obtain ⟨act, hg, hval⟩ := writeBox_val (fbIdx_inj hx) hrest j hj i hi
    obtain ⟨act2, hg2, hval2⟩ := writeBox_val (ucIdx_inj cols rows) hsave j hj i hi
    obtain ⟨vu, hu, rfl⟩ := Option.map_eq_some_iff.mp hg
    obtain ⟨vf, hf, rfl⟩ := Option.map_eq_some_iff.mp hg2
    rw [hval, hf]
    exact hu.symm.trans hval2
  · have hno : ∀ j, j < rows → ∀ i, i < cols → fbIdx W x1 y1 j i ≠ m :=
      fun j hj i hi e => hm ⟨j, hj, i, hi, e⟩
    rw [(writeBox_frame hrest).2 m hno, (writeBox_frame hpaint).2 m hno]

/-- rfbHideCursor right after rfbShowCursor (same client position): in bounds, and the framebuffer is
that of before the show -/
theorem hide_after_show {v : Variant} {s s1 : Screen} {cx cy : Nat} (hs : s.WF)
    (h : showCursor v s cx cy = some s1) :
    hideCursor v s1 cx cy = some { s1 with fb := s.fb } := by
  cases showCursor_cases h with
  | noCursor hc e =>
    subst e
    show hideCursor v s1 cx cy = some s1
    unfold hideCursor; rw [hc]
  | offScreen c hc hclip e =>
    subst e
    unfold hideCursor
    simp only [hc]
    rcases hclip with hX | hY
    · rw [hX]
    · rw [hY]; split <;> rfl
  | painted c X Y under rich fb hc hX hY hsave hrich hpaint e =>
    subst e
    have hb := boxOK_of_clip hX hY
    obtain ⟨fb2, hrest⟩ := writeBox_ok (idx := fbIdx s.w X.start Y.start)
      (g := fun j i _ => (under[ucIdx X.len j i]?).map Act.put) (d := fb)
      (fun j hj i hi => (writeBox_frame hpaint).1.trans hs.fbSz ▸ fbIdx_lt hb.xW hb.yH hj hi)
      (fun j hj i hi _ => by
        rw [Array.getElem?_eq_getElem (Nat.lt_of_lt_of_le (ucIdx_lt hj hi)
          (hb.under_le ((writeBox_frame hsave).1 ▸ growUnder_size s c hs.bppPos)))]
        rfl)
    simp only [hideCursor, hX, hY, hrest, save_paint_restore hb.xW hsave hpaint hrest, Option.map_some]

theorem paintAct_apply {f : Format} {bpp : Nat} {c : Cursor} {rich : Array Px} {X Y : Seg} {j i : Nat}
    {old : Px} {act : Act} (h : paintAct f bpp c rich X Y j i (some old) = some act) :
    act.apply (some old) = cursorPixel f bpp c rich (i + X.off) (j + Y.off) old := by
  unfold paintAct at h
  unfold cursorPixel
  cases hal : c.alpha with
  | some al =>
    simp only [hal] at h ⊢
    cases ha : al[(j + Y.off) * c.w + (i + X.off)]? with
    | none => simp [ha] at h
    | some a =>
      simp only [ha, Option.bind_some] at h ⊢
      split at h
      · rw [if_pos ‹_›]; cases h; rfl
      · rw [if_neg ‹_›]
        cases hr : rich[(j + Y.off) * c.w + (i + X.off)]? with
        | none => simp [hr] at h
        | some sv => rw [hr] at h; cases h; rfl
  | none =>
    simp only [hal] at h ⊢
    cases hm : maskBit c.mask c.w (i + X.off) (j + Y.off) with
    | none => simp [hm] at h
    | some b =>
      rw [hm] at h
      cases b
      · cases h; rfl
      · obtain ⟨sv, hr, rfl⟩ := Option.map_eq_some_iff.mp h
        simp [hr, Act.apply]

/-- **what rfbShowCursor paints**: every framebuffer pixel `(x,y)` afterwards is the overlay of the
cursor (its pixels as `richOf` yields them) onto the old framebuffer, the hot-spot at `(cx,cy)`,
restricted to coordinates below the variant's limits -/
theorem show_overlay {v : Variant} {s s1 : Screen} {cx cy : Nat} {c : Cursor} {rich : Array Px}
    (hs : s.WF) (h : showCursor v s cx cy = some s1) (hcur : s.cursor = some c)
    (hrich : richOf v s.fmt s.bpp c = some rich) {x y : Nat} (hx : x < s.w) (hy : y < s.h) :
    s1.fb[y * s.w + x]? = (s.fb[y * s.w + x]?).bind
      (overlayAt s.fmt s.bpp c rich (effLimit v.clipFixed s.w) (effLimit v.clipFixed s.h) cx cy x y) := by
  have hlt : y * s.w + x < s.fb.size := hs.fbSz ▸ idx_lt hx hy
  have hold : s.fb[y * s.w + x]? = some s.fb[y * s.w + x] := Array.getElem?_eq_getElem hlt
  rw [hold, Option.bind_some]
  unfold overlayAt
  simp only []
  cases showCursor_cases h with
  | noCursor hc _ => rw [hcur] at hc; cases hc
  | offScreen c' hc' hclip e =>
    cases hcur.symm.trans hc'
    subst e
    rw [hold, if_neg]
    rintro ⟨h1, h2, h3, h4, h5, h6⟩
    rcases hclip with hX | hY
    · exact clipAxis_none hX x ⟨h1, h2, h3⟩
    · exact clipAxis_none hY y ⟨h4, h5, h6⟩
  | painted c' X Y under rich' fb hc' hX hY hsave hrich' hpaint e =>
    cases hcur.symm.trans hc'
    cases hrich.symm.trans hrich'
    subst e
    have hb := boxOK_of_clip hX hY
    obtain ⟨_, _, _, hXa, hXi⟩ := clipAxis_some hX
    obtain ⟨_, _, _, hYa, hYi⟩ := clipAxis_some hY
    by_cases hin : (X.start ≤ x ∧ x < X.start + X.len) ∧ (Y.start ≤ y ∧ y < Y.start + Y.len)
    · -- cell `(y - Y.start, x - X.start)` of the paint loop
      obtain ⟨hxi, hyi⟩ := hin
      have hi : x - X.start < X.len := Nat.sub_lt_left_of_lt_add hxi.1 hxi.2
      have hj : y - Y.start < Y.len := Nat.sub_lt_left_of_lt_add hyi.1 hyi.2
      obtain ⟨act, hg, hval⟩ := writeBox_val (fbIdx_inj hb.xW) hpaint _ hj _ hi
      have hidx : fbIdx s.w X.start Y.start (y - Y.start) (x - X.start) = y * s.w + x :=
        (fbIdx_eq_iff hb.xW hi hx).mpr ⟨Nat.add_sub_cancel' hyi.1, Nat.add_sub_cancel' hxi.1⟩
      rw [hidx, hold] at hg hval
      have hcx := (hXi x).mp hxi
      have hcy := (hYi y).mp hyi
      rw [if_pos ⟨hcx.1, hcx.2.1, hcx.2.2, hcy.1, hcy.2.1, hcy.2.2⟩, seg_coord hXa hxi.1,
        seg_coord hYa hyi.1]
      exact hval.trans (paintAct_apply hg)
    · have hno : ∀ j, j < Y.len → ∀ i, i < X.len → fbIdx s.w X.start Y.start j i ≠ y * s.w + x := by
        intro j hj i hi e
        obtain ⟨rfl, rfl⟩ := (fbIdx_eq_iff hb.xW hi hx).mp e
        exact hin ⟨⟨Nat.le_add_right _ _, Nat.add_lt_add_left hi _⟩, Nat.le_add_right _ _, Nat.add_lt_add_left hj _⟩
      rw [(writeBox_frame hpaint).2 _ hno, hold, if_neg]
      rintro ⟨h1, h2, h3, h4, h5, h6⟩
      exact hin ⟨(hXi x).mpr ⟨h1, h2, h3⟩, (hYi y).mpr ⟨h4, h5, h6⟩⟩

theorem show_noCursor {v : Variant} {s s1 : Screen} {cx cy : Nat} (h : showCursor v s cx cy = some s1)
    (hcur : s.cursor = none) : s1 = s := by
  unfold showCursor at h
  rw [hcur] at h
  exact (Option.some.inj h).symm

end VncModel.Cursor
