import VncModel.Des.Lemmas
/-
DES decryption inverts DES encryption (for the model in Des.lean): the initial and final permutation
are inverse to each other on 64-bit blocks and the Feistel rounds with the reversed key schedule undo
the rounds.  Consequence used by Props/C05.lean: what rfbEncryptAndStorePasswd writes,
rfbDecryptPasswdFromFile reads back.
-/
namespace VncModel.Des

theorem permute_length (t : List Nat) (x : List Bool) : (permute t x).length = t.length := by
  simp [permute]

theorem map_getD_range {α} (x : List α) (d : α) : (List.range x.length).map (fun k => x.getD k d) = x := by
  apply List.ext_getElem
  · simp
  · intro i h1 h2
    simp [List.getD, List.getElem?_eq_getElem h2]

theorem permute_inverse {t1 t2 : List Nat} {x : List Bool} (hb : ∀ i ∈ t1, i - 1 < t2.length)
    (hid : t1.map (fun i => t2.getD (i - 1) 0 - 1) = List.range x.length) :
    permute t1 (permute t2 x) = x := by
  have h : permute t1 (permute t2 x) =
      (t1.map (fun i => t2.getD (i - 1) 0 - 1)).map (fun k => x.getD k false) := by
    unfold permute
    rw [List.map_map]
    apply List.map_congr_left
    intro i hi
    simp [List.getD, List.getElem?_map, List.getElem?_eq_getElem (hb i hi)]
  rw [h, hid, map_getD_range]

theorem ip_fp (x : List Bool) (h : x.length = 64) : permute IP (permute FP x) = x :=
  permute_inverse (by decide +kernel) (by rw [h]; decide +kernel)

theorem fp_ip (x : List Bool) (h : x.length = 64) : permute FP (permute IP x) = x :=
  permute_inverse (by decide +kernel) (by rw [h]; decide +kernel)

/-- the principle of Feistel decryption; nothing is asked of the round function -/
theorem foldl_reverse_undo {σ κ : Type} (step : σ → κ → σ) (swap : σ → σ) (I : σ → Prop)
    (hI : ∀ s k, I s → I (step s k)) (hundo : ∀ s k, I s → step (swap (step s k)) k = swap s)
    (ks : List κ) (s : σ) (h : I s) :
    ks.reverse.foldl step (swap (ks.foldl step s)) = swap s := by
  induction ks generalizing s with
  | nil => rfl
  | cons k ks ih =>
    rw [List.foldl_cons, List.reverse_cons, List.foldl_append, ih _ (hI s k h)]
    exact hundo s k h

theorem xor_cancel (a b : List Bool) (h : a.length = b.length) : xorBits (xorBits a b) b = a := by
  induction a generalizing b with
  | nil => simp [xorBits]
  | cons x xs ih =>
    cases b with
    | nil => simp at h
    | cons y ys =>
      simp only [xorBits, List.zipWith_cons_cons] at *
      rw [ih ys (by simpa using h)]
      cases x <;> cases y <;> rfl

theorem feistel_length (r k : List Bool) : (feistel r k).length = 32 := by
  unfold feistel
  rw [permute_length]
  decide

/-- both halves are 32 bits -/
def Good (s : List Bool × List Bool) : Prop := s.1.length = 32 ∧ s.2.length = 32

theorem round_good (s : List Bool × List Bool) (k : List Bool) (h : Good s) : Good (round s k) := by
  obtain ⟨h1, h2⟩ := h
  refine ⟨h2, ?_⟩
  simp [round, xorBits, List.length_zipWith, h1, feistel_length]

theorem round_swap_round (s : List Bool × List Bool) (k : List Bool) (h : Good s) :
    round (Prod.swap (round s k)) k = Prod.swap s := by
  obtain ⟨h1, _⟩ := h
  simp only [round, Prod.swap]
  rw [xor_cancel s.1 (feistel s.2 k) (by rw [h1, feistel_length])]

theorem rounds_good (ks : List (List Bool)) (s : List Bool × List Bool) (h : Good s) :
    Good (ks.foldl round s) := by
  induction ks generalizing s with
  | nil => exact h
  | cons k ks ih => exact ih _ (round_good s k h)

theorem cryptBlock_inverse (ks : List (List Bool)) (b : List Bool) (h : b.length = 64) :
    cryptBlock ks.reverse (cryptBlock ks b) = b := by
  unfold cryptBlock
  simp only
  have hip : (permute IP b).length = 64 := permute_length IP b
  have hg0 : Good ((permute IP b).take 32, (permute IP b).drop 32) := by
    constructor
    · simp [List.length_take, hip]
    · simp [List.length_drop, hip]
  obtain ⟨hg1, hg2⟩ := rounds_good ks _ hg0
  rw [ip_fp _ (by simp [hg1, hg2]), List.take_left' hg2, List.drop_left' hg2]
  have hun := foldl_reverse_undo round Prod.swap Good round_good round_swap_round ks _ hg0
  simp only [Prod.swap] at hun
  rw [hun]
  simp only [List.take_append_drop]
  exact fp_ip b h

theorem decrypt_encrypt_bits (key b : List Bool) (h : b.length = 64) :
    decryptBlockBits key (encryptBlockBits key b) = b :=
  cryptBlock_inverse (subkeys key) b h

theorem byte_bits_roundtrip (b : UInt8) : byteOfBits (bitsOfByte b) = b := by
  have h : ∀ n, n < 256 → byteOfBits (bitsOfByte (UInt8.ofNat n)) = UInt8.ofNat n := by decide +kernel
  simpa using h b.toNat (UInt8.toNat_lt b)

theorem bits_byte_roundtrip : ∀ a b c d e f g h : Bool,
    bitsOfByte (byteOfBits [a, b, c, d, e, f, g, h]) = [a, b, c, d, e, f, g, h] := by
  decide +kernel

theorem bytesOfBits_bitsOfBytes (bs : List UInt8) : bytesOfBits (bitsOfBytes bs) = bs := by
  induction bs with
  | nil => rfl
  | cons b bs ih =>
    have hb : bitsOfByte b = [b.toNat.testBit 7, b.toNat.testBit 6, b.toNat.testBit 5, b.toNat.testBit 4,
        b.toNat.testBit 3, b.toNat.testBit 2, b.toNat.testBit 1, b.toNat.testBit 0] := rfl
    rw [bitsOfBytes_cons, hb]
    simp only [List.cons_append, List.nil_append, bytesOfBits]
    rw [ih, ← hb, byte_bits_roundtrip]

theorem bitsOfBytes_bytesOfBits (n : Nat) (x : List Bool) (h : x.length = 8 * n) :
    bitsOfBytes (bytesOfBits x) = x ∧ (bytesOfBits x).length = n := by
  induction n generalizing x with
  | zero =>
    have : x = [] := List.eq_nil_of_length_eq_zero (by simpa using h)
    subst this
    exact ⟨rfl, rfl⟩
  | succ n ih =>
    match x, h with
    | a :: b :: c :: d :: e :: f :: g :: hh :: rest, h =>
      have hr : rest.length = 8 * n := by simp at h; omega
      obtain ⟨ih1, ih2⟩ := ih rest hr
      simp only [bytesOfBits]
      constructor
      · rw [bitsOfBytes_cons, bits_byte_roundtrip, ih1]
        rfl
      · simp [ih2]
    | [], h | [_], h | [_, _], h | [_, _, _], h | [_, _, _, _], h | [_, _, _, _, _], h
    | [_, _, _, _, _, _], h | [_, _, _, _, _, _, _], h => exfalso; simp only [List.length] at h; omega

theorem cryptBlock_length (ks : List (List Bool)) (b : List Bool) : (cryptBlock ks b).length = 64 :=
  permute_length FP _

theorem encryptBlock_length (key block : List UInt8) : (encryptBlock key block).length = 8 :=
  (bitsOfBytes_bytesOfBits 8 _ (cryptBlock_length _ _)).2

theorem decryptBlock_encryptBlock (key block : List UInt8) (h : block.length = 8) :
    decryptBlock key (encryptBlock key block) = block := by
  unfold decryptBlock encryptBlock
  rw [(bitsOfBytes_bytesOfBits 8 (encryptBlockBits _ _) (cryptBlock_length _ _)).1]
  rw [decrypt_encrypt_bits _ _ (by rw [bitsOfBytes_length, h])]
  exact bytesOfBits_bitsOfBytes block

theorem ecb_append (f : List UInt8 → List UInt8) (a rest : List UInt8) (h : a.length = 8) :
    ecb f (a ++ rest) = f a ++ ecb f rest := by
  match a, h with
  | [a, b, c, d, e, f', g, hh], _ => rfl

theorem ecb_eight (f : List UInt8 → List UInt8) (l : List UInt8) (h : l.length = 8) : ecb f l = f l := by
  rw [← List.append_nil l, ecb_append f l [] h, List.append_nil]
  exact List.append_nil _

theorem rfbEncryptBytes_length (pw chal : List UInt8) (h : chal.length = 16) :
    (rfbEncryptBytes pw chal).length = 16 := by
  unfold rfbEncryptBytes encryptRfbDes
  rw [← List.take_append_drop 8 chal, ecb_append _ _ _ (by simp [h]), ecb_eight _ _ (by simp [h]),
    List.length_append, encryptBlock_length, encryptBlock_length]

/-- what `rfbEncryptAndStorePasswd` writes, `rfbDecryptPasswdFromFile` reads back (as a C string) -/
theorem decryptPasswdFile_storePasswd (fixedKey pw : List UInt8) :
    decryptPasswdFile fixedKey (storePasswd fixedKey pw) = some (cstr (padKey pw)) := by
  have hp := padKey_length pw
  unfold decryptPasswdFile storePasswd encryptRfbDes decryptRfbDes
  rw [ecb_eight _ _ hp]
  have hl := encryptBlock_length (fixedKey.map reverseByte) (padKey pw)
  rw [if_neg (by omega), List.take_of_length_le (Nat.le_of_eq hl), ecb_eight _ _ hl,
    decryptBlock_encryptBlock _ _ hp]

theorem cstr_padKey (pw : List UInt8) (h : (0 : UInt8) ∉ pw) : cstr (padKey pw) = pw.take 8 := by
  have hnz : ∀ a ∈ pw.take 8, (a ≠ 0) = true := by
    intro a ha
    simpa using fun h0 : a = 0 => h (h0 ▸ List.mem_of_mem_take ha)
  rw [cstr, padKey_eq, List.takeWhile_append_of_pos (by simpa using hnz), List.takeWhile_replicate]
  simp

theorem padKey_cstr_padKey (pw : List UInt8) (h : (0 : UInt8) ∉ pw) : padKey (cstr (padKey pw)) = padKey pw := by
  rw [cstr_padKey pw h, padKey_eq, padKey_eq pw, List.take_take, List.length_take]
  congr 2 <;> omega

theorem rfbEncryptBytes_cstr_padKey (pw chal : List UInt8) (h : (0 : UInt8) ∉ pw) :
    rfbEncryptBytes (cstr (padKey pw)) chal = rfbEncryptBytes pw chal := by
  unfold rfbEncryptBytes
  rw [padKey_cstr_padKey pw h]

end VncModel.Des
