import VncModel.Des.Weak
/-
Facts about the VNC use of DES (which bytes of a password reach the key) and about the keys libgcrypt
refuses.  The DES model itself (tables, round structure) is validated against the compiled C back-end
and OpenSSL on every run.
-/
namespace VncModel.Des
open VncModel.Gen

theorem bitsOfBytes_cons (b : UInt8) (bs : List UInt8) :
    bitsOfBytes (b :: bs) = bitsOfByte b ++ bitsOfBytes bs := List.flatMap_cons

theorem bitsOfBytes_length (bs : List UInt8) : (bitsOfBytes bs).length = 8 * bs.length := by
  induction bs with
  | nil => rfl
  | cons b bs ih =>
    rw [bitsOfBytes_cons, List.length_append, ih]
    simp [bitsOfByte]
    omega

theorem padKey_eq (pw : List UInt8) : padKey pw = pw.take 8 ++ List.replicate (8 - pw.length) 0 := by
  rw [padKey, List.take_append, List.take_replicate, Nat.min_eq_left (Nat.sub_le 8 _)]

theorem padKey_append (pw ext : List UInt8) (h : 8 ≤ pw.length) : padKey (pw ++ ext) = padKey pw := by
  unfold padKey
  rw [List.append_assoc, List.take_append_of_le_length h, List.take_append_of_le_length h]

theorem vncKey_append (pw ext : List UInt8) (h : 8 ≤ pw.length) : vncKey (pw ++ ext) = vncKey pw := by
  unfold vncKey
  rw [padKey_append pw ext h]

theorem rfbEncryptBytes_append (pw ext chal : List UInt8) (h : 8 ≤ pw.length) :
    rfbEncryptBytes (pw ++ ext) chal = rfbEncryptBytes pw chal := by
  unfold rfbEncryptBytes
  rw [padKey_append pw ext h]

theorem padKey_length (pw : List UInt8) : (padKey pw).length = 8 := by
  unfold padKey
  simp [List.length_take]

def distinctCount (l : List (List Bool)) : Nat := l.eraseDups.length

/-- the two 28-bit halves C0, D0 of the key schedule (after PC-1) -/
def keyHalves (key : List UInt8) : List Bool × List Bool :=
  let cd := permute PC1 (bitsOfBytes key)
  (cd.take 28, cd.drop 28)

/- Bit tests on the number a key spells instead of list lookups: the latter are slow in the kernel. -/

theorem testBit_foldl_bits (bs : List Bool) (a i : Nat) :
    (bs.foldl (fun a b => 2 * a + b.toNat) a).testBit i =
      if i < bs.length then bs.getD (bs.length - 1 - i) false else a.testBit (i - bs.length) := by
  induction bs generalizing a with
  | nil => simp
  | cons b bs ih =>
    rw [List.foldl_cons, ih, List.length_cons]
    by_cases h1 : i < bs.length
    · rw [if_pos h1, if_pos (by omega), show bs.length + 1 - 1 - i = (bs.length - 1 - i) + 1 by omega,
        List.getD_cons_succ]
    · rw [if_neg h1]
      by_cases h2 : i = bs.length
      · subst h2
        rw [if_pos (by omega), Nat.sub_self, show bs.length + 1 - 1 - bs.length = 0 by omega,
          List.getD_cons_zero, Nat.testBit_zero]
        cases b <;> simp <;> omega
      · rw [if_neg (by omega), show i - bs.length = (i - (bs.length + 1)) + 1 by omega, Nat.testBit_succ]
        congr 1
        cases b <;> simp <;> omega

theorem getD_eq_testBit (bs : List Bool) (j : Nat) (h : j < bs.length) :
    bs.getD j false = (natOfBits bs).testBit (bs.length - 1 - j) := by
  rw [natOfBits, testBit_foldl_bits, if_pos (by omega)]
  congr 1
  omega

theorem permute_eq_testBit (t : List Nat) (bits : List Bool) (h : ∀ i ∈ t, 1 ≤ i ∧ i ≤ bits.length) :
    permute t bits = t.map (fun i => (natOfBits bits).testBit (bits.length - i)) := by
  apply List.map_congr_left
  intro i hi
  have := h i hi
  rw [getD_eq_testBit bits (i - 1) (by omega)]
  congr 1
  omega

/-- `keyHalves` of the key that spells the 64-bit number `n` -/
def halvesOfNat (n : Nat) : List Bool × List Bool :=
  let cd := PC1.map (fun i => n.testBit (64 - i))
  (cd.take 28, cd.drop 28)

theorem keyHalves_eq_halvesOfNat (k : List UInt8) (h : k.length = 8) :
    keyHalves k = halvesOfNat (natOfBits (bitsOfBytes k)) := by
  have hl : (bitsOfBytes k).length = 64 := by rw [bitsOfBytes_length, h]
  unfold keyHalves halvesOfNat
  rw [permute_eq_testBit PC1 _ (by rw [hl]; decide), hl]

/-- Every key libgcrypt refuses has key-schedule halves that are invariant under rotation by 4 (the
weak keys: by 1, the semi-weak ones: by 2).  The round keys are PC-2 of the halves rotated by the
accumulated shift, so such a key has at most four different round keys. -/
theorem refused_keys_halves_period4 :
    ∀ k ∈ C05.gcryRefusedKeys,
      rotl 4 (keyHalves k).1 = (keyHalves k).1 ∧ rotl 4 (keyHalves k).2 = (keyHalves k).2 := by
  have h : ∀ k ∈ C05.gcryRefusedKeys, k.length = 8 ∧
      rotl 4 (halvesOfNat (natOfBits (bitsOfBytes k))).1 = (halvesOfNat (natOfBits (bitsOfBytes k))).1 ∧
      rotl 4 (halvesOfNat (natOfBits (bitsOfBytes k))).2 = (halvesOfNat (natOfBits (bitsOfBytes k))).2 := by
    decide +kernel
  intro k hk
  rw [keyHalves_eq_halvesOfNat k (h k hk).1]
  exact (h k hk).2

theorem subkeysAux_of_rotl_fixed (ss : List Nat) (c d : List Bool)
    (hc : ∀ s ∈ ss, rotl s c = c) (hd : ∀ s ∈ ss, rotl s d = d) :
    subkeysAux ss c d = List.replicate ss.length (permute PC2 (c ++ d)) := by
  induction ss with
  | nil => rfl
  | cons s ss ih =>
    simp only [subkeysAux, hc s List.mem_cons_self, hd s List.mem_cons_self, List.length_cons,
      List.replicate_succ]
    rw [ih (fun s' h => hc s' (List.mem_cons_of_mem _ h)) (fun s' h => hd s' (List.mem_cons_of_mem _ h))]

theorem rotl_replicate (s n : Nat) (b : Bool) : rotl s (List.replicate n b) = List.replicate n b := by
  simp only [rotl, List.drop_replicate, List.take_replicate, List.replicate_append_replicate]
  congr 1
  omega

/-- the default bit of `permute` is `false` -/
theorem permute_replicate_false (t : List Nat) (n : Nat) :
    permute t (List.replicate n false) = List.replicate t.length false := by
  have h : ∀ i : Nat, (List.replicate n false).getD i false = false := by
    intro i
    simp only [List.getD, List.getElem?_replicate]
    split <;> rfl
  simp only [permute, h, List.map_const']

theorem distinctCount_replicate (n : Nat) (k : List Bool) :
    distinctCount (List.replicate (n + 1) k) = 1 := by
  simp [distinctCount, List.replicate_succ, List.eraseDups_cons]

/-- the key of the empty password (all zero) is a weak key proper: one single round key -/
theorem empty_password_one_subkey : distinctCount (subkeys (bitsOfBytes (vncKey []))) = 1 := by
  have hk : bitsOfBytes (vncKey []) = List.replicate 64 false := by decide
  have hl : PC1.length = 56 := rfl
  simp only [subkeys, hk, permute_replicate_false, hl, List.take_replicate, List.drop_replicate]
  rw [subkeysAux_of_rotl_fixed _ _ _ (fun s _ => rotl_replicate s _ _) (fun s _ => rotl_replicate s _ _)]
  exact distinctCount_replicate 15 _

theorem rotl_length (s : Nat) (l : List Bool) : (rotl s l).length = l.length := by
  simp only [rotl, List.length_append, List.length_drop, List.length_take]
  omega

def subkeysAuxN : List Nat → List Bool → List Bool → List (List Bool)
  | [], _, _ => []
  | s :: ss, c, d =>
    PC2.map (fun i => (natOfBits (rotl s c ++ rotl s d)).testBit (56 - i)) :: subkeysAuxN ss (rotl s c) (rotl s d)

theorem subkeysAux_eq (ss : List Nat) (c d : List Bool) (hc : c.length = 28) (hd : d.length = 28) :
    subkeysAux ss c d = subkeysAuxN ss c d := by
  induction ss generalizing c d with
  | nil => rfl
  | cons s ss ih =>
    have hl : (rotl s c ++ rotl s d).length = 56 := by rw [List.length_append, rotl_length, rotl_length, hc, hd]
    rw [subkeysAux, subkeysAuxN, permute_eq_testBit PC2 _ (by rw [hl]; decide), hl,
      ih _ _ (by rw [rotl_length, hc]) (by rw [rotl_length, hd])]

def subkeysN (key : List Bool) : List (List Bool) :=
  subkeysAuxN shifts (halvesOfNat (natOfBits key)).1 (halvesOfNat (natOfBits key)).2

theorem subkeys_eq (key : List Bool) (h : key.length = 64) : subkeys key = subkeysN key := by
  rw [subkeys, permute_eq_testBit PC1 key (by rw [h]; decide), h]
  exact subkeysAux_eq _ _ _ (by rw [List.length_take, List.length_map]; rfl)
    (by rw [List.length_drop, List.length_map]; rfl)

def encryptBlockN (key block : List UInt8) : List UInt8 :=
  bytesOfBits (cryptBlock (subkeysN (bitsOfBytes key)) (bitsOfBytes block))

theorem rfbEncryptBytes_eq (pw chal : List UInt8) :
    rfbEncryptBytes pw chal = ecb (encryptBlockN (vncKey pw)) chal := by
  have hk : (bitsOfBytes ((padKey pw).map reverseByte)).length = 64 := by
    rw [bitsOfBytes_length, List.length_map, padKey_length]
  have hf : encryptBlock ((padKey pw).map reverseByte) = encryptBlockN (vncKey pw) := by
    funext b
    rw [encryptBlock, encryptBlockBits, subkeys_eq _ hk]
    rfl
  rw [rfbEncryptBytes, encryptRfbDes, hf]

end VncModel.Des
