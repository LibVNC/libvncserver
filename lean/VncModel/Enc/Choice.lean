import VncModel.Enc.Ref
/-!
# Choice-parametrised reference encoders (`encodeWith`)

`encodeWith c P` produces, for EVERY choice `c`, a byte string that the specification decoder maps
back to `P`: a choice that paints `P` is serialised as it is (so every valid encoding of `P` is in
the image), any other is repaired: unrepresentable sub-rectangles are dropped and every cell that
then differs from `P` gets a 1×1 sub-rectangle.
-/
namespace VncModel.Enc
open VncModel.Enc.Spec

def dots (W : Nat) (px : List Pixel) (L : List Nat) : List Subrect :=
  L.map fun i => ⟨px.getD i 0, i % W, i / W, 1, 1⟩

theorem inRect_dot {W i j : Nat} : InRect W (j % W) (j / W) 1 1 i ↔ i = j := by
  unfold InRect
  constructor
  · intro h
    have h1 : i / W = j / W := by omega
    have h2 : i % W = j % W := by omega
    have := Nat.div_add_mod i W
    have := Nat.div_add_mod j W
    rw [h1, h2] at *
    omega
  · intro h; subst h; omega

theorem getD_paint_dots (W H : Nat) (hW : 0 < W) (px : List Pixel) (L : List Nat)
    (hL : ∀ j ∈ L, j < W * H) (cv : Array Pixel) (hs : cv.size = W * H) (i : Nat) (hi : i < W * H) :
    ((dots W px L).foldl (fun cv r => fillRect cv W r.x r.y r.w r.h r.c) cv).getD i 0 =
      if i ∈ L then px.getD i 0 else cv.getD i 0 := by
  induction L generalizing cv with
  | nil => simp [dots]
  | cons j L ih =>
    simp only [dots, List.map_cons, List.foldl_cons]
    have hj := hL j (by simp)
    have hx : j % W + 1 ≤ W := Nat.mod_lt _ hW
    have := ih (fun q hq => hL q (by simp [hq])) (fillRect cv W (j % W) (j / W) 1 1 (px.getD j 0))
      (by rw [size_fillRect]; exact hs)
    simp only [dots] at this
    rw [this, getD_fillRect _ _ _ _ _ _ _ _ _ hx, hs]
    by_cases hiL : i ∈ L
    · simp [hiL]
    · by_cases hij : i = j
      · subst hij
        have : InRect W (i % W) (i / W) 1 1 i := inRect_dot.mpr rfl
        simp [hiL, this, hi]
      · have : ¬ InRect W (j % W) (j / W) 1 1 i := fun h => hij (inRect_dot.mp h)
        simp [hiL, hij, this]

structure RREChoice where
  bg : Pixel
  rs : List Subrect
deriving Repr

def RREChoice.sane (c : RREChoice) (bpp : Nat) (g : Geometry) : List Subrect :=
  c.rs.filter fun r => decide (r.x + r.w ≤ g.w ∧ r.y + r.h ≤ g.h ∧ r.c < 256 ^ bpp)

def RREChoice.misses (c : RREChoice) (bpp : Nat) (g : Geometry) (px : List Pixel) : List Nat :=
  let cv := paintRects g.w g.h (if c.bg < 256 ^ bpp then c.bg else 0) (c.sane bpp g)
  (List.range (g.w * g.h)).filter fun i => cv.getD i 0 != px.getD i 0

def RREChoice.final (c : RREChoice) (bpp : Nat) (g : Geometry) (px : List Pixel) : List Subrect :=
  c.sane bpp g ++ dots g.w px (c.misses bpp g px)

def encodeWithRRE (gb : Nat × Nat × Nat × Nat → Bytes) (c : RREChoice) (bpp : Nat) (g : Geometry)
    (px : List Pixel) : Bytes :=
  serializeRRE gb bpp (if c.bg < 256 ^ bpp then c.bg else 0) (c.final bpp g px)

theorem paint_final (c : RREChoice) (bpp : Nat) (g : Geometry) (px : List Pixel)
    (hlen : px.length = g.w * g.h) :
    (paintRects g.w g.h (if c.bg < 256 ^ bpp then c.bg else 0) (c.final bpp g px)).toList = px := by
  apply toList_eq_of_getD
  · rw [size_paintRects, hlen]
  · intro i hi
    rw [hlen] at hi
    have hW : 0 < g.w := pos_of_lt_mul hi
    unfold RREChoice.final paintRects
    rw [List.foldl_append]
    have := getD_paint_dots g.w g.h hW px (c.misses bpp g px)
      (by intro j hj; simp only [RREChoice.misses, List.mem_filter, List.mem_range] at hj; exact hj.1)
      (paintRects g.w g.h (if c.bg < 256 ^ bpp then c.bg else 0) (c.sane bpp g))
      (size_paintRects _ _ _ _) i hi
    unfold paintRects at this
    rw [this]
    by_cases hm : i ∈ c.misses bpp g px
    · simp [hm]
    · simp only [hm, if_false]
      simp only [RREChoice.misses, List.mem_filter, List.mem_range, hi, true_and, bne_iff_ne, ne_eq,
        Decidable.not_not] at hm
      exact hm

theorem bgOK (bg bpp : Nat) : PixOK bpp (if bg < 256 ^ bpp then bg else 0) := by
  unfold PixOK
  split
  · assumption
  · exact Nat.pow_pos (by decide)

/-- **`decode (encodeWith c P) = P`**, all choices, all pixel arrays (RRE: `geomCodec16`, CoRRE:
`geomCodec8`) -/
theorem decode_encodeWithRREWith {rg : Dec (Nat × Nat × Nat × Nat)} {gb : Nat × Nat × Nat × Nat → Bytes}
    (c : RREChoice) (bpp : Nat) (g : Geometry) (px : List Pixel) (rest : Bytes)
    (hlen : px.length = g.w * g.h) (hpx : ∀ p ∈ px, PixOK bpp p) (hgeom : GeomCodec rg gb g.w g.h)
    (hn : (c.final bpp g px).length < 4294967296) :
    decodeRREWith rg g bpp (encodeWithRRE gb c bpp g px ++ rest) = some (px, rest) := by
  unfold encodeWithRRE
  rw [decodeRREWith_serialize g bpp _ _ rest hn (bgOK c.bg bpp) ?_, paint_final c bpp g px hlen]
  intro r hr
  simp only [RREChoice.final, List.mem_append] at hr
  rcases hr with h | h
  · simp only [RREChoice.sane, List.mem_filter, decide_eq_true_eq] at h
    obtain ⟨_, h1, h2, h3⟩ := h
    exact ⟨fun t => readPixel_pixBytes _ _ _ h3, hgeom _ _ _ _ h1 h2, ⟨h1, h2⟩⟩
  · simp only [dots, List.mem_map] at h
    obtain ⟨j, hj, rfl⟩ := h
    simp only [RREChoice.misses, List.mem_filter, List.mem_range] at hj
    have hj1 := hj.1
    have hW : 0 < g.w := pos_of_lt_mul hj1
    have hx : j % g.w + 1 ≤ g.w := Nat.mod_lt _ hW
    have hy : j / g.w + 1 ≤ g.h := Nat.div_lt_of_lt_mul hj1
    refine ⟨fun t => readPixel_pixBytes _ _ _ ?_, hgeom _ _ _ _ hx hy, ⟨hx, hy⟩⟩
    simp only [List.getD_eq_getElem?_getD]
    rw [List.getElem?_eq_getElem (by omega)]
    exact hpx _ (List.getElem_mem _)

/-- every valid RRE encoding of `P` is an `encodeWith`: a sane choice that paints `P` is sent
unchanged -/
theorem encodeWithRRE_complete (gb : Nat × Nat × Nat × Nat → Bytes) (c : RREChoice) (bpp : Nat)
    (g : Geometry) (px : List Pixel) (hbg : c.bg < 256 ^ bpp)
    (hsane : ∀ r ∈ c.rs, r.x + r.w ≤ g.w ∧ r.y + r.h ≤ g.h ∧ r.c < 256 ^ bpp)
    (hpaint : ∀ i, i < g.w * g.h → (paintRects g.w g.h c.bg c.rs).getD i 0 = px.getD i 0) :
    encodeWithRRE gb c bpp g px = serializeRRE gb bpp c.bg c.rs := by
  have hs : c.sane bpp g = c.rs := by
    unfold RREChoice.sane
    rw [List.filter_eq_self]
    intro r hr; simpa using hsane r hr
  have hm : c.misses bpp g px = [] := by
    unfold RREChoice.misses
    rw [List.filter_eq_nil_iff]
    intro i hi
    simp only [List.mem_range] at hi
    simp [hbg, hs, hpaint i hi]
  unfold encodeWithRRE RREChoice.final
  simp [hbg, hs, hm, dots]

end VncModel.Enc
