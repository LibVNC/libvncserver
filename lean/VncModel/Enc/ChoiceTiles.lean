import VncModel.Enc.Choice
import VncModel.Enc.HextileProofs
import VncModel.Enc.ZRLEProofs
/-!
# `encodeWith` for the tiled encodings (Hextile, ZRLE)

One choice per tile.  A choice that does not describe the tile (or is not representable) is
replaced by the raw tile, so `decode (encodeWith choices P) = P` for ALL choice lists.
-/
namespace VncModel.Enc
open VncModel.Enc.Spec VncModel.Enc.Server

inductive HexChoice where
  | raw
  | solid (bgSpec : Bool) (bg : Pixel)
  | sub (bgSpec fgSpec coloured : Bool) (bg fg : Pixel) (rs : List Subrect)
deriving Repr

def hexSubOK (bpp tw th : Nat) (coloured : Bool) (fg : Pixel) (r : Subrect) : Bool :=
  decide (r.x + r.w ≤ tw ∧ r.y + r.h ≤ th ∧ r.x < 16 ∧ r.y < 16 ∧ 1 ≤ r.w ∧ r.w ≤ 16 ∧ 1 ≤ r.h ∧
    r.h ≤ 16 ∧ (if coloured then r.c < 256 ^ bpp else r.c = fg))

def HexChoice.ok (bpp tw th : Nat) (dst : HexState) (px : List Pixel) : HexChoice → Bool
  | .raw => false
  | .solid bgSpec bg =>
    (if bgSpec then decide (bg < 256 ^ bpp) else decide (dst.bg = some bg)) &&
      decide (px = List.replicate (tw * th) bg)
  | .sub bgSpec fgSpec coloured bg fg rs =>
    (if bgSpec then decide (bg < 256 ^ bpp) else decide (dst.bg = some bg)) &&
    (if fgSpec then decide (fg < 256 ^ bpp) && !coloured else (coloured || decide (dst.fg = some fg))) &&
    decide (rs.length < 256) && rs.all (hexSubOK bpp tw th coloured fg) &&
    decide ((paintRects tw th bg rs).toList = px)

def encodeHexTile (bpp tw th : Nat) (dst : HexState) (c : HexChoice) (px : List Pixel) :
    Bytes × HexState :=
  if c.ok bpp tw th dst px then
    match c with
    | .raw => (u8 1 ++ pixelsBytes bpp px, dst)
    | .solid bgSpec bg =>
      (u8 (if bgSpec then 2 else 0) ++ (if bgSpec then pixBytes bpp bg else []), ⟨some bg, dst.fg⟩)
    | .sub bgSpec fgSpec coloured bg fg rs =>
      (u8 (subFlags bgSpec fgSpec coloured) ++ (if bgSpec then pixBytes bpp bg else []) ++
        (if fgSpec then pixBytes bpp fg else []) ++ u8 rs.length ++
        subrectsBytes (if coloured then pixBytes bpp else fun _ => []) geomHex rs,
       ⟨some bg, if fgSpec then some fg else dst.fg⟩)
  else (u8 1 ++ pixelsBytes bpp px, dst)

theorem encodeHexTile_decodes (bpp tw th : Nat) (dst : HexState) (c : HexChoice) (px : List Pixel)
    (rest : Bytes) (hlen : px.length = tw * th) (hpx : ∀ p ∈ px, PixOK bpp p) :
    decodeHextileTile bpp tw th dst ((encodeHexTile bpp tw th dst c px).1 ++ rest) =
      some ((px, (encodeHexTile bpp tw th dst c px).2), rest) := by
  unfold encodeHexTile
  by_cases hok : c.ok bpp tw th dst px = true
  · simp only [hok, if_true]
    cases c with
    | raw => simp [HexChoice.ok] at hok
    | solid bgSpec bg =>
      simp only [HexChoice.ok, Bool.and_eq_true, decide_eq_true_eq] at hok
      obtain ⟨h1, h2⟩ := hok
      have := decodeHextileTile_solid bpp tw th dst bgSpec bg rest
        (by cases bgSpec <;> simpa [PixOK] using h1)
      rw [h2]; simpa [List.append_assoc] using this
    | sub bgSpec fgSpec coloured bg fg rs =>
      simp only [HexChoice.ok, Bool.and_eq_true, decide_eq_true_eq, List.all_eq_true] at hok
      obtain ⟨⟨⟨⟨h1, h2⟩, h3⟩, h4⟩, h5⟩ := hok
      have := decodeHextileTile_sub bpp tw th dst bgSpec fgSpec coloured bg fg rs rest
        (by cases bgSpec <;> simpa [PixOK] using h1)
        (by
          cases fgSpec with
          | true => simp only [if_true] at h2 ⊢; simpa [PixOK] using h2
          | false =>
            simp only [Bool.false_eq_true, if_false] at h2 ⊢
            intro hc; simpa [hc] using h2)
        h3
        (by
          intro r hr
          have := h4 r hr
          simp only [hexSubOK, decide_eq_true_eq] at this
          obtain ⟨a1, a2, a3, a4, a5, a6, a7, a8, a9⟩ := this
          refine ⟨?_, fun t => readGeomHex_geomHex _ _ (by simp only; omega), ⟨a1, a2⟩⟩
          intro t
          cases coloured with
          | true => simp only [if_true] at a9 ⊢; exact readPixel_pixBytes _ _ _ a9
          | false => simp only [Bool.false_eq_true, if_false] at a9 ⊢; simp [a9])
      rw [h5] at this
      simpa [List.append_assoc] using this
  · simp only [hok, Bool.false_eq_true, if_false]
    simpa [List.append_assoc] using decodeHextileTile_raw bpp tw th dst px rest hlen hpx

/-- a missing choice = raw -/
def encodeHexTiles (bpp W : Nat) (px : Array Pixel) : List TileRect → List HexChoice → HexState → Bytes
  | [], _, _ => []
  | t :: ts, cs, dst =>
    let r := encodeHexTile bpp t.w t.h dst (cs.headD .raw) (extractTile px W t)
    r.1 ++ encodeHexTiles bpp W px ts cs.tail r.2

def encodeWithHextile (cs : List HexChoice) (bpp : Nat) (g : Geometry) (px : List Pixel) : Bytes :=
  encodeHexTiles bpp g.w px.toArray (tileGrid 16 g) cs {}

theorem encodeHexTiles_decodes (bpp W : Nat) (px : List Pixel) (hpx : ∀ p ∈ px, PixOK bpp p) :
    ∀ (tiles : List TileRect) (cs : List HexChoice) (dst : HexState) (rest : Bytes),
      decodeHextileTiles bpp tiles dst (encodeHexTiles bpp W px.toArray tiles cs dst ++ rest) =
        some (tiles.map (extractTile px.toArray W), rest) := by
  intro tiles
  induction tiles with
  | nil => intro cs dst rest; simp [decodeHextileTiles, encodeHexTiles]
  | cons t ts ih =>
    intro cs dst rest
    simp only [encodeHexTiles, decodeHextileTiles, List.append_assoc, List.map_cons]
    rw [encodeHexTile_decodes bpp t.w t.h dst (cs.headD .raw) (extractTile px.toArray W t) _
      (extractTile_length _ _ _) (extractTile_all _ px W t hpx (pixOK_zero bpp))]
    simp only
    rw [ih]
    rfl

inductive ZChoice where
  | raw
  | solid (p : Pixel)
  | plain (rl : List (Pixel × Nat))
  | palRLE (pal : List Pixel) (rl : List (Pixel × Nat))
deriving Repr

instance (cp : CPix) (p : Pixel) : Decidable (CPixOK cp p) := by
  cases cp <;> unfold CPixOK <;> (try unfold PixOK) <;> infer_instance

def ZChoice.ok (cp : CPix) (tw th : Nat) (px : List Pixel) : ZChoice → Bool
  | .raw => false
  | .solid p => decide (px = List.replicate (tw * th) p) && decide (0 < tw * th)
  | .plain rl => decide (expand rl = px) && rl.all fun r => decide (1 ≤ r.2)
  | .palRLE pal rl =>
    decide (expand rl = px) && decide (2 ≤ pal.length ∧ pal.length ≤ 127) &&
      (rl.all fun r => decide (1 ≤ r.2) && pal.contains r.1) && pal.all fun q => decide (CPixOK cp q)

def encodeZTile (cp : CPix) (tw th : Nat) (c : ZChoice) (px : List Pixel) : Bytes :=
  if c.ok cp tw th px then
    match c with
    | .raw => u8 0 ++ px.flatMap (cpixBytes cp)
    | .solid p => u8 1 ++ cpixBytes cp p
    | .plain rl => u8 128 ++ zrleRleBytes cp false [] rl
    | .palRLE pal rl => u8 (128 + pal.length) ++ pal.flatMap (cpixBytes cp) ++ zrleRleBytes cp true pal rl
  else u8 0 ++ px.flatMap (cpixBytes cp)

theorem encodeZTile_decodes (cp : CPix) (tw th : Nat) (c : ZChoice) (px : List Pixel) (rest : Bytes)
    (hlen : px.length = tw * th) (hpx : ∀ p ∈ px, CPixOK cp p) :
    decodeZRLETile cp tw th (encodeZTile cp tw th c px ++ rest) = some (px, rest) := by
  have hraw := decodeZRLETile_raw cp tw th px rest hlen hpx
  unfold encodeZTile
  by_cases hok : c.ok cp tw th px = true
  · simp only [hok, if_true]
    cases c with
    | raw => simp [ZChoice.ok] at hok
    | solid p =>
      simp only [ZChoice.ok, Bool.and_eq_true, decide_eq_true_eq] at hok
      obtain ⟨hok, h0⟩ := hok
      have hp : CPixOK cp p := by
        apply hpx; rw [hok]; simp; omega
      rw [decodeZRLETile_solid cp tw th p rest hp, hok]
    | plain rl =>
      simp only [ZChoice.ok, Bool.and_eq_true, decide_eq_true_eq, List.all_eq_true] at hok
      obtain ⟨h1, h2⟩ := hok
      rw [decodeZRLETile_plainRLE cp tw th [] rl rest
        (fun r hr => ⟨h2 r hr, hpx _ (by
          rw [← h1]; simp only [expand, List.mem_flatMap]
          exact ⟨r, hr, by simp; have := h2 r hr; omega⟩)⟩)
        (by rw [h1]; exact hlen), h1]
    | palRLE pal rl =>
      simp only [ZChoice.ok, Bool.and_eq_true, decide_eq_true_eq, List.all_eq_true] at hok
      obtain ⟨⟨⟨h1, h2⟩, h3⟩, h4⟩ := hok
      rw [decodeZRLETile_palRLE cp tw th pal rl rest h2.1 h2.2 (fun q hq => h4 q hq)
        (fun r hr => by have := h3 r hr; simp at this; exact ⟨this.1, this.2⟩)
        (by rw [h1]; exact hlen), h1]
  · simp only [hok, Bool.false_eq_true, if_false]
    exact hraw

def encodeZTiles (cp : CPix) (W : Nat) (px : Array Pixel) : List TileRect → List ZChoice → Bytes
  | [], _ => []
  | t :: ts, cs => encodeZTile cp t.w t.h (cs.headD .raw) (extractTile px W t) ++ encodeZTiles cp W px ts cs.tail

def encodeWithZRLEData (cs : List ZChoice) (cp : CPix) (g : Geometry) (px : List Pixel) : Bytes :=
  encodeZTiles cp g.w px.toArray (tileGrid 64 g) cs

theorem encodeZTiles_decodes (cp : CPix) (W : Nat) (px : List Pixel) (hpx : ∀ p ∈ px, CPixOK cp p) :
    ∀ (tiles : List TileRect) (cs : List ZChoice) (rest : Bytes),
      decodeZRLETiles cp tiles (encodeZTiles cp W px.toArray tiles cs ++ rest) =
        some (tiles.map (extractTile px.toArray W), rest) := by
  intro tiles
  induction tiles with
  | nil => intro cs rest; simp [decodeZRLETiles, encodeZTiles]
  | cons t ts ih =>
    intro cs rest
    simp only [encodeZTiles, decodeZRLETiles, List.append_assoc, List.map_cons]
    rw [encodeZTile_decodes cp t.w t.h (cs.headD .raw) (extractTile px.toArray W t) _
      (extractTile_length _ _ _) (extractTile_all _ px W t hpx (cpixok_zero cp))]
    simp only
    rw [ih]
    rfl

end VncModel.Enc
