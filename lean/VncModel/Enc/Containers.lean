import VncModel.Enc.Ref
/-!
# Length-prefixed compressed containers and sequences of rectangles on one connection

zlib itself is a parameter: `ZLaw` states the assumed law of a persistent deflate/inflate stream pair
(`deflate(Z_SYNC_FLUSH)` output, fed to the peer's `inflate`, gives back exactly the input and the
two stay in sync).  This is the trusted property of zlib recorded in the evidence.  `LzoLaw` is the
same for the stateless LZO codec of Ultra.
-/
namespace VncModel.Enc.Server
open VncModel.Enc VncModel.Enc.Spec

structure ZLaw (σ τ : Type) where
  /-- `deflate(…, Z_SYNC_FLUSH)` of one chunk on the persistent compressor -/
  deflate : σ → Bytes → Bytes × σ
  /-- `inflate` of one chunk on the persistent decompressor -/
  inflate : τ → Bytes → Option (Bytes × τ)
  Sync : σ → τ → Prop
  law : ∀ s t x, Sync s t → ∃ t', inflate t (deflate s x).1 = some (x, t') ∧ Sync (deflate s x).2 t'
  small : ∀ s x, (deflate s x).1.length < 4294967296

/-- what zlib.c / zrle.c put on the wire after the rectangle header: `nBytes`, compressed data -/
def chunkPayload {σ τ : Type} (Z : ZLaw σ τ) (s : σ) (data : Bytes) : Bytes × σ :=
  ((u32be (Z.deflate s data).1.length ++ (Z.deflate s data).1), (Z.deflate s data).2)

theorem readChunk32_payload (z rest : Bytes) (h : z.length < 4294967296) :
    readChunk32 (u32be z.length ++ z ++ rest) = some (z, rest) := by
  unfold readChunk32
  rw [List.append_assoc, readU32_u32be h]
  simp only
  exact takeN_append z rest

theorem zlibRect_decodes {σ τ : Type} (Z : ZLaw σ τ) (s : σ) (t : τ) (hs : Z.Sync s t)
    (g : Geometry) (bpp : Nat) (px : List Pixel) (rest : Bytes)
    (hlen : px.length = g.w * g.h) (hpx : ∀ p ∈ px, PixOK bpp p) :
    ∃ t', decodeZlib (fun z => (Z.inflate t z).map (·.1)) g bpp
        ((chunkPayload Z s (pixelsBytes bpp px)).1 ++ rest) = some (px, rest) ∧
      Z.inflate t (Z.deflate s (pixelsBytes bpp px)).1 = some (pixelsBytes bpp px, t') ∧
      Z.Sync (chunkPayload Z s (pixelsBytes bpp px)).2 t' := by
  obtain ⟨t', h1, h2⟩ := Z.law s t (pixelsBytes bpp px) hs
  refine ⟨t', ?_, h1, h2⟩
  unfold decodeZlib chunkPayload
  rw [readChunk32_payload _ _ (Z.small s _)]
  simp only [h1, Option.map_some]
  have := readPixels_pixelsBytes bpp px [] hpx
  rw [hlen, List.append_nil] at this
  unfold decodeRaw
  rw [this]

/-- assumed law of the LZO codec: decompressing what `lzo1x_1_compress` produced gives the input -/
structure LzoLaw where
  compress : Bytes → Bytes
  decompress : Bytes → Option Bytes
  law : ∀ x, decompress (compress x) = some x
  small : ∀ x, (compress x).length < 4294967296

/-- what `rfbSendOneRectEncodingUltra` puts after the rectangle header -/
def ultraPayload (L : LzoLaw) (bpp : Nat) (px : List Pixel) : Bytes :=
  u32be (L.compress (pixelsBytes bpp px)).length ++ L.compress (pixelsBytes bpp px)

def serverZlibSeq {σ τ : Type} (Z : ZLaw σ τ) (bpp : Nat) : σ → List (Geometry × List Pixel) → List Bytes
  | _, [] => []
  | s, (_, px) :: more =>
    (chunkPayload Z s (pixelsBytes bpp px)).1 ::
      serverZlibSeq Z bpp (chunkPayload Z s (pixelsBytes bpp px)).2 more

/-- client side: decode the payloads one after the other with ONE persistent inflate stream -/
def clientZlibSeq {σ τ : Type} (Z : ZLaw σ τ) (bpp : Nat) : τ → List (Geometry × Bytes) → Option (List (List Pixel))
  | _, [] => some []
  | t, (g, payload) :: more =>
    match decodeZlib (fun z => (Z.inflate t z).map (·.1)) g bpp payload with
    | some (px, []) =>
      match readChunk32 payload with
      | some (z, _) =>
        match Z.inflate t z with
        | some (_, t') => (clientZlibSeq Z bpp t' more).map (px :: ·)
        | none => none
      | none => none
    | _ => none

/-- **persistent zlib stream**: any number of rectangles (over any number of updates) sent through
one compressor decode, in order, through one decompressor -/
theorem zlibSeq_decodes {σ τ : Type} (Z : ZLaw σ τ) (bpp : Nat) :
    ∀ (rects : List (Geometry × List Pixel)) (s : σ) (t : τ), Z.Sync s t →
      (∀ r ∈ rects, r.2.length = r.1.w * r.1.h ∧ ∀ p ∈ r.2, PixOK bpp p) →
      clientZlibSeq Z bpp t ((rects.map (·.1)).zip (serverZlibSeq Z bpp s rects)) =
        some (rects.map (·.2)) := by
  intro rects
  induction rects with
  | nil => intro s t _ _; simp [clientZlibSeq, serverZlibSeq]
  | cons r more ih =>
    intro s t hs hall
    obtain ⟨g, px⟩ := r
    obtain ⟨hlen, hpx⟩ := hall (g, px) (by simp)
    simp only at hlen hpx
    obtain ⟨t', hdec, hinf, hsync⟩ := zlibRect_decodes Z s t hs g bpp px [] hlen hpx
    rw [List.append_nil] at hdec
    simp only [serverZlibSeq, List.map_cons, List.zip_cons_cons, clientZlibSeq, hdec]
    have hrc : readChunk32 (chunkPayload Z s (pixelsBytes bpp px)).1 =
        some ((Z.deflate s (pixelsBytes bpp px)).1, []) := by
      have := readChunk32_payload (Z.deflate s (pixelsBytes bpp px)).1 [] (Z.small s _)
      rw [List.append_nil] at this
      exact this
    rw [hrc]
    simp only [hinf]
    rw [ih _ t' hsync (fun q hq => hall q (by simp [hq]))]
    rfl

def decodeRectSeq (dec : RectHdr → Dec (List Pixel)) : Nat → Dec (List (RectHdr × List Pixel))
  | 0, bs => some ([], bs)
  | n + 1, bs =>
    match readRectHdr bs with
    | none => none
    | some (h, bs) =>
      match dec h bs with
      | none => none
      | some (px, bs) => (decodeRectSeq dec n bs).map fun (l, r) => ((h, px) :: l, r)

def rectHdrBytes (h : RectHdr) : Bytes := geom16 (h.x, h.y, h.w, h.h) ++ u32be h.enc

theorem readRectHdr_bytes (h : RectHdr) (rest : Bytes)
    (hb : h.x < 65536 ∧ h.y < 65536 ∧ h.w < 65536 ∧ h.h < 65536 ∧ h.enc < 4294967296) :
    readRectHdr (rectHdrBytes h ++ rest) = some (h, rest) := by
  unfold readRectHdr rectHdrBytes
  rw [List.append_assoc, readGeom16_geom16 _ _ (by simp only; omega)]
  simp only
  rw [readU32_u32be hb.2.2.2.2]
  rfl

/-- if every rectangle's payload decodes on its own (whatever follows it), the concatenation of
all rectangles — i.e. the byte stream after the FramebufferUpdate header, wherever `updateBuf` was
flushed — decodes to the list of rectangles -/
theorem decodeRectSeq_concat (dec : RectHdr → Dec (List Pixel)) :
    ∀ (rs : List (RectHdr × Bytes × List Pixel)) (rest : Bytes),
      (∀ r ∈ rs, (r.1.x < 65536 ∧ r.1.y < 65536 ∧ r.1.w < 65536 ∧ r.1.h < 65536 ∧
          r.1.enc < 4294967296) ∧ ∀ t, dec r.1 (r.2.1 ++ t) = some (r.2.2, t)) →
      decodeRectSeq dec rs.length ((rs.flatMap fun r => rectHdrBytes r.1 ++ r.2.1) ++ rest) =
        some (rs.map (fun r => (r.1, r.2.2)), rest) := by
  intro rs
  induction rs with
  | nil => intro rest _; simp [decodeRectSeq]
  | cons r more ih =>
    intro rest h
    obtain ⟨hb, hd⟩ := h r (by simp)
    simp only [List.flatMap_cons, List.length_cons, decodeRectSeq, List.append_assoc, List.map_cons]
    rw [readRectHdr_bytes r.1 _ hb]
    simp only
    rw [hd]
    simp only
    rw [ih rest (fun q hq => h q (by simp [hq]))]
    rfl

end VncModel.Enc.Server
