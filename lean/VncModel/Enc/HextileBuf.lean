import VncModel.Enc.HextileProofs
import VncModel.Enc.UpdateBuf
/-!
# `updateBuf` discipline of the Hextile tile loop

`sendHextiles##bpp` flushes before a tile when `ublen + 1 + (2 + 16*16)*(bpp/8) > UPDATE_BUF_SIZE` and
then writes the tile straight into `updateBuf`.  Here: a tile never needs more than that reserve, so
`ublen ≤ UPDATE_BUF_SIZE` throughout, and the stream is the concatenation of the tiles wherever the
flushes fall.
-/
namespace VncModel.Enc.Server
open VncModel.Enc VncModel.Enc.Spec

theorem subrectsBytes_length (pc : Pixel → Bytes) (gb : Nat × Nat × Nat × Nat → Bytes) (k g : Nat)
    (hpc : ∀ c, (pc c).length = k) (hgb : ∀ q, (gb q).length = g) (rs : List Subrect) :
    (subrectsBytes pc gb rs).length = rs.length * (k + g) := by
  induction rs with
  | nil => simp [subrectsBytes]
  | cons r rs ih =>
    simp only [subrectsBytes, List.flatMap_cons, List.length_append, List.length_cons] at ih ⊢
    rw [ih, hpc, hgb, Nat.succ_mul]; omega

/-- the reserve the C code tests for: flag byte + background + foreground + 256 pixels -/
def hextileReserve (bpp : Nat) : Nat := 1 + (2 + 16 * 16) * bpp

theorem hextileTile_length_le (bpp tw th : Nat) (px : List Pixel) (st : HexSrv)
    (hb : 1 ≤ bpp) (htw : tw ≤ 16) (hth : th ≤ 16) (hlen : px.length = tw * th) :
    (hextileTile bpp tw th px st).1.length ≤ hextileReserve bpp := by
  have harea : tw * th ≤ 256 := by
    calc tw * th ≤ 16 * 16 := Nat.mul_le_mul htw hth
      _ = 256 := by decide
  have hab : tw * th * bpp ≤ 256 * bpp := Nat.mul_le_mul_right _ harea
  unfold hextileReserve
  simp only [hextileTile]
  generalize testColours px = tc
  generalize hnb : (!st.validBg || tc.bg != st.bg) = nb
  have hbgl : (if nb = true then pixBytes bpp tc.bg else []).length ≤ bpp := by
    split <;> simp [pixBytes_length]
  by_cases hs : tc.solid = true
  · simp only [hs, if_true, List.length_append, u8, List.length_cons, List.length_nil]
    omega
  · simp only [hs, Bool.false_eq_true, if_false]
    generalize (if nb = true then ({ st with validBg := true, bg := tc.bg } : HexSrv) else st) = st1
    generalize hnf : (tc.mono && (!st1.validFg || tc.fg != st1.fg)) = nf
    have hfgl : (if nf = true then pixBytes bpp tc.fg else []).length ≤ bpp := by
      split <;> simp [pixBytes_length]
    generalize (if tc.mono = true then (if nf = true then ({ st1 with validFg := true, fg := tc.fg } : HexSrv) else st1)
        else { st1 with validFg := false }) = st2
    cases hse : subrectEncode tw th st2.bg (if tc.mono = true then 2 else bpp + 2) (tw * th * bpp) 1 px.toArray with
    | none =>
      simp only [List.length_append, u8, List.length_cons, List.length_nil, pixelsBytes_length, hlen]
      omega
    | some v =>
      obtain ⟨rs, len⟩ := v
      obtain ⟨_, hl, hlim⟩ := subrectEncode_spec tw th st2.bg _ _ _ px.toArray (by simp [hlen]) rs len hse
      have hsub : (subrectsBytes (if tc.mono = true then fun _ => [] else pixBytes bpp) geomHex rs).length =
          rs.length * ((if tc.mono = true then 0 else bpp) + 2) := by
        apply subrectsBytes_length
        · intro c; cases tc.mono <;> simp [pixBytes_length]
        · intro q; simp [geomHex]
      have hssz : (if tc.mono = true then 2 else bpp + 2) = (if tc.mono = true then 0 else bpp) + 2 := by
        cases tc.mono <;> simp
      rw [hssz] at hl
      simp only [List.length_append, u8, List.length_cons, List.length_nil, hsub]
      rcases Nat.eq_zero_or_pos rs.length with h0 | h0
      · rw [h0]; simp; omega
      · have := hlim h0
        rw [Nat.mul_comm] at hl
        omega

/-- tile loop of `sendHextiles##bpp` on the `updateBuf` model -/
def hexLoopUB (bpp W : Nat) (px : Array Pixel) : List TileRect → HexSrv → UB → UB
  | [], _, u => u
  | t :: ts, st, u =>
    let u0 := if u.ublen + hextileReserve bpp > UBS then u.flush else u
    let r := hextileTile bpp t.w t.h (extractTile px W t) st
    hexLoopUB bpp W px ts r.2 (u0.put r.1)

/-- **Hextile, flush-transparent and within bounds**: the peer receives exactly the tile bytes of
`hextileTiles` (the model `server_hextile_decodes` is about), and `ublen ≤ UPDATE_BUF_SIZE` after
every tile — provided the reserve fits the buffer at all (it does for bpp ≤ 4: 1033 ≤ 32768). -/
theorem hexLoopUB_spec (bpp W : Nat) (px : Array Pixel) (hb : 1 ≤ bpp) (hres : hextileReserve bpp ≤ UBS) :
    ∀ (tiles : List TileRect) (st : HexSrv) (u : UB), u.ublen ≤ UBS →
      (∀ t ∈ tiles, t.w ≤ 16 ∧ t.h ≤ 16) →
      (hexLoopUB bpp W px tiles st u).stream = u.stream ++ hextileTiles bpp W px tiles st ∧
      (hexLoopUB bpp W px tiles st u).ublen ≤ UBS := by
  intro tiles
  induction tiles with
  | nil => intro st u hu _; simp [hexLoopUB, hextileTiles, hu]
  | cons t ts ih =>
    intro st u hu hd
    obtain ⟨h1, h2⟩ := hd t (by simp)
    simp only [hexLoopUB, hextileTiles]
    have hl := hextileTile_length_le bpp t.w t.h (extractTile px W t) st hb h1 h2 (extractTile_length _ _ _)
    have hu0 : (if u.ublen + hextileReserve bpp > UBS then u.flush else u).ublen + hextileReserve bpp ≤ UBS := by
      split
      · simp; exact hres
      · omega
    have hs0 : (if u.ublen + hextileReserve bpp > UBS then u.flush else u).stream = u.stream := by
      split <;> simp
    obtain ⟨e1, e2⟩ := ih (hextileTile bpp t.w t.h (extractTile px W t) st).2
      ((if u.ublen + hextileReserve bpp > UBS then u.flush else u).put
        (hextileTile bpp t.w t.h (extractTile px W t) st).1)
      (by simp only [UB.ublen_put]; omega) (fun q hq => hd q (by simp [hq]))
    refine ⟨?_, e2⟩
    rw [e1, UB.stream_put, hs0, List.append_assoc]

end VncModel.Enc.Server
