import VncModel.Enc.RREProofs
import VncModel.Enc.Tiling
/-! The tile loop of the faithful model of `sendHextiles##bpp` decodes tile by tile.  Encoder and
decoder each carry a background/foreground from tile to tile; the induction over the tiles carries
`HexRel`: whatever the encoder believes valid, the decoder holds. -/
namespace VncModel.Enc.Server
open VncModel.Enc VncModel.Enc.Spec

-- `r` is the result tuple of `testColoursLoop`: `(colour1, colour2, n1, n2, solid, mono)`, started
-- from the loop state `c1 c2 n1 n2` on the remaining pixels `ps`
structure TCPost (ps : List Pixel) (c1 c2 : Pixel) (n1 n2 : Nat)
    (r : Pixel × Pixel × Nat × Nat × Bool × Bool) : Prop where
  n1le : n1 ≤ r.2.2.1
  n2le : n2 ≤ r.2.2.2.1
  c1keep : 0 < n1 → r.1 = c1
  c2keep : 0 < n2 → r.2.1 = c2
  solid_iff : (r.2.2.2.2.1 = true ↔ r.2.2.2.1 = 0)
  solid_all : r.2.2.2.1 = 0 → ∀ p ∈ ps, p = r.1
  mono_all : r.2.2.2.2.2 = true → ∀ p ∈ ps, p = r.1 ∨ p = r.2.1
  c1mem : 0 < r.2.2.1 → 0 < n1 ∨ r.1 ∈ ps
  c2mem : 0 < r.2.2.2.1 → 0 < n2 ∨ r.2.1 ∈ ps
  n1pos : ps ≠ [] → 0 < r.2.2.1

theorem testColoursLoop_post (ps : List Pixel) : ∀ (c1 c2 : Pixel) (n1 n2 : Nat) (solid : Bool),
    (solid = true ↔ n2 = 0) →
    TCPost ps c1 c2 n1 n2 (testColoursLoop ps c1 c2 n1 n2 solid) := by
  induction ps with
  | nil =>
    intro c1 c2 n1 n2 solid hs
    simp only [testColoursLoop]
    exact ⟨Nat.le_refl _, Nat.le_refl _, fun _ => rfl, fun _ => rfl, hs, by simp, by simp,
      fun h => Or.inl h, fun h => Or.inl h, by simp⟩
  | cons p ps ih =>
    intro c1 c2 n1 n2 solid hs
    simp only [testColoursLoop]
    by_cases h1 : p = (if n1 = 0 then p else c1)
    · rw [if_pos h1]
      have := ih (if n1 = 0 then p else c1) c2 (n1 + 1) n2 solid hs
      refine ⟨by have := this.n1le; omega, this.n2le, ?_, this.c2keep, this.solid_iff, ?_, ?_, ?_, ?_,
        fun _ => by have := this.n1le; omega⟩
      · intro hn; rw [this.c1keep (by omega)]; simp; omega
      · intro h0 q hq
        have hc := this.c1keep (by omega)
        rcases List.mem_cons.mp hq with e | e
        · rw [e, hc]; exact h1
        · exact this.solid_all h0 q e
      · intro hm q hq
        have hc := this.c1keep (by omega)
        rcases List.mem_cons.mp hq with e | e
        · left; rw [e, hc]; exact h1
        · exact this.mono_all hm q e
      · intro _
        have hc := this.c1keep (by omega)
        by_cases hn : 0 < n1
        · exact Or.inl hn
        · right; rw [hc]; simp [show n1 = 0 by omega]
      · intro h0
        rcases this.c2mem h0 with e | e
        · exact Or.inl e
        · exact Or.inr (List.mem_cons_of_mem _ e)
    · rw [if_neg h1]
      have hn1 : 0 < n1 := by
        rcases Nat.eq_zero_or_pos n1 with e | e
        · simp [e] at h1
        · exact e
      have hc1 : (if n1 = 0 then p else c1) = c1 := by simp [show n1 ≠ 0 by omega]
      rw [hc1] at h1 ⊢
      by_cases h2 : p = (if n2 = 0 then p else c2)
      · rw [if_pos h2]
        have := ih c1 (if n2 = 0 then p else c2) n1 (n2 + 1) (if n2 = 0 then false else solid)
          (by constructor
              · intro h
                by_cases e : n2 = 0
                · rw [if_pos e] at h; exact absurd h (by decide)
                · rw [if_neg e] at h; exact absurd (hs.mp h) e
              · intro h; omega)
        have hc2 := this.c2keep (by omega)
        refine ⟨this.n1le, by have := this.n2le; omega, this.c1keep, ?_, this.solid_iff, ?_, ?_, ?_, ?_,
          fun _ => by have := this.n1le; omega⟩
        · intro hn; rw [hc2]; simp; omega
        · intro h0; have := this.n2le; omega
        · intro hm q hq
          rcases List.mem_cons.mp hq with e | e
          · right; rw [e, hc2]; exact h2
          · exact this.mono_all hm q e
        · intro h0
          rcases this.c1mem h0 with e | e
          · exact Or.inl e
          · exact Or.inr (List.mem_cons_of_mem _ e)
        · intro _
          by_cases hn : 0 < n2
          · exact Or.inl hn
          · right; rw [hc2]; simp [show n2 = 0 by omega]
      · rw [if_neg h2]
        have hn2 : 0 < n2 := by
          rcases Nat.eq_zero_or_pos n2 with e | e
          · simp [e] at h2
          · exact e
        have hne : n2 ≠ 0 := by omega
        simp only [hne, if_false]
        refine ⟨Nat.le_refl _, Nat.le_refl _, fun _ => rfl, fun _ => rfl, hs, ?_, by simp,
          fun _ => Or.inl hn1, fun _ => Or.inl hn2, fun _ => hn1⟩
        intro h0; simp only at h0; omega

theorem testColours_spec (px : List Pixel) :
    ((testColours px).solid = true → ∀ p ∈ px, p = (testColours px).bg) ∧
    ((testColours px).mono = true → ∀ p ∈ px, p = (testColours px).bg ∨ p = (testColours px).fg) ∧
    ((testColours px).solid = false → (testColours px).bg ∈ px ∧ (testColours px).fg ∈ px) := by
  have post := testColoursLoop_post px 0 0 0 0 true (by simp)
  unfold testColours
  generalize testColoursLoop px 0 0 0 0 true = r at post
  obtain ⟨c1, c2, n1, n2, solid, mono⟩ := r
  simp only at post ⊢
  have hsi : solid = true ↔ n2 = 0 := post.solid_iff
  have hn2 : solid = false → 0 < n2 := fun hs => Nat.pos_of_ne_zero fun e => by simp [hsi.mpr e] at hs
  have hm1 : 0 < n1 → c1 ∈ px := fun h => (post.c1mem h).resolve_left (Nat.lt_irrefl 0)
  have hm2 : 0 < n2 → c2 ∈ px := fun h => (post.c2mem h).resolve_left (Nat.lt_irrefl 0)
  by_cases hgt : n1 > n2
  · simp only [hgt, if_true]
    exact ⟨fun hs => post.solid_all (hsi.mp hs), post.mono_all, fun hs => ⟨hm1 (by omega), hm2 (hn2 hs)⟩⟩
  · simp only [hgt, if_false]
    refine ⟨fun hs p hp => ?_, fun hm p hp => (post.mono_all hm p hp).symm, fun hs => ?_⟩
    · -- solid and `n1 ≤ n2 = 0`: the tile is empty
      have : 0 < n1 := post.n1pos (List.ne_nil_of_mem hp)
      have := hsi.mp hs
      omega
    · have h2 := hn2 hs
      exact ⟨hm2 h2, hm1 (post.n1pos (List.ne_nil_of_mem (hm2 h2)))⟩

theorem decodeHextileTile_raw (bpp tw th : Nat) (dst : HexState) (px : List Pixel) (rest : Bytes)
    (hlen : px.length = tw * th) (hpx : ∀ p ∈ px, PixOK bpp p) :
    decodeHextileTile bpp tw th dst (u8 1 ++ pixelsBytes bpp px ++ rest) = some ((px, dst), rest) := by
  simp only [u8, List.cons_append, List.nil_append, decodeHextileTile]
  have : (UInt8.ofNat 1).toNat % 2 = 1 := by decide
  simp only [this, if_true]
  rw [← hlen, readPixels_pixelsBytes bpp px rest hpx]
  rfl

theorem decodeHextileTile_solid (bpp tw th : Nat) (dst : HexState) (bgSpec : Bool) (bg : Pixel)
    (rest : Bytes) (hbg : if bgSpec then PixOK bpp bg else dst.bg = some bg) :
    decodeHextileTile bpp tw th dst
        (u8 (if bgSpec then 2 else 0) ++ (if bgSpec then pixBytes bpp bg else []) ++ rest) =
      some (((List.replicate (tw * th) bg), ⟨some bg, dst.fg⟩), rest) := by
  cases bgSpec with
  | true =>
    simp only [if_true] at hbg ⊢
    simp only [u8, List.cons_append, List.nil_append, decodeHextileTile]
    simp [optPixel, readPixel_pixBytes _ _ _ hbg]
  | false =>
    simp only [Bool.false_eq_true, if_false] at hbg ⊢
    simp only [u8, List.cons_append, List.nil_append, decodeHextileTile]
    simp [optPixel, hbg]

/-- flag byte of a tile with sub-rectangles -/
def subFlags (bgSpec fgSpec coloured : Bool) : Nat :=
  (if bgSpec then 2 else 0) + 8 + (if coloured then 16 else if fgSpec then 4 else 0)

theorem optPixel_write (present : Bool) (bpp : Nat) (old : Option Pixel) (p : Pixel) (t : Bytes)
    (h : present = true → PixOK bpp p) :
    optPixel present bpp old ((if present then pixBytes bpp p else []) ++ t) =
      some (if present then some p else old, t) := by
  cases present with
  | true => simp [optPixel, readPixel_pixBytes _ _ _ (h rfl)]
  | false => simp [optPixel]

theorem subFlags_bits (bgSpec fgSpec coloured : Bool) :
    (UInt8.ofNat (subFlags bgSpec fgSpec coloured)).toNat % 2 = 0 ∧
    decide ((UInt8.ofNat (subFlags bgSpec fgSpec coloured)).toNat / 2 % 2 = 1) = bgSpec ∧
    decide ((UInt8.ofNat (subFlags bgSpec fgSpec coloured)).toNat / 4 % 2 = 1) = (fgSpec && !coloured) ∧
    (UInt8.ofNat (subFlags bgSpec fgSpec coloured)).toNat / 8 % 2 = 1 ∧
    ((UInt8.ofNat (subFlags bgSpec fgSpec coloured)).toNat / 16 % 2 = 1 ↔ coloured = true) := by
  cases bgSpec <;> cases fgSpec <;> cases coloured <;> decide

theorem decodeHextileTile_sub (bpp tw th : Nat) (dst : HexState) (bgSpec fgSpec coloured : Bool)
    (bg fg : Pixel) (rs : List Subrect) (rest : Bytes)
    (hbg : if bgSpec then PixOK bpp bg else dst.bg = some bg)
    (hfg : if fgSpec then PixOK bpp fg ∧ coloured = false else (coloured = false → dst.fg = some fg))
    (hn : rs.length < 256)
    (hcodec : ∀ r ∈ rs, SubCodec (if coloured then readPixel bpp else fun b => some (fg, b))
      readGeomHex (if coloured then pixBytes bpp else fun _ => []) geomHex tw th r) :
    decodeHextileTile bpp tw th dst
        (u8 (subFlags bgSpec fgSpec coloured) ++ (if bgSpec then pixBytes bpp bg else []) ++
          (if fgSpec then pixBytes bpp fg else []) ++ u8 rs.length ++
          subrectsBytes (if coloured then pixBytes bpp else fun _ => []) geomHex rs ++ rest) =
      some (((paintRects tw th bg rs).toList, ⟨some bg, if fgSpec then some fg else dst.fg⟩), rest) := by
  obtain ⟨e1, e2, e3, e4, e5⟩ := subFlags_bits bgSpec fgSpec coloured
  have hfc : (fgSpec && !coloured) = fgSpec := by
    cases fgSpec with
    | false => rfl
    | true => simp [(show _ ∧ coloured = false from hfg).2]
  have hbg' : (if bgSpec then some bg else dst.bg) = some bg := by
    cases bgSpec with
    | true => rfl
    | false => exact hbg
  simp only [u8, List.cons_append, List.nil_append, List.append_assoc, decodeHextileTile, e1, e2, e3,
    e4, e5, hfc, Nat.zero_ne_one, if_false, if_true]
  rw [optPixel_write bgSpec bpp dst.bg bg _ (fun h => by simpa [h] using hbg), hbg']
  simp only
  rw [optPixel_write fgSpec bpp dst.fg fg _ (fun h => by simp only [h, if_true] at hfg; exact hfg.1)]
  simp only
  have := readU8_u8 hn (subrectsBytes (if coloured then pixBytes bpp else fun _ => []) geomHex rs ++ rest)
  simp only [u8, List.cons_append, List.nil_append] at this
  rw [this]
  have hsub := readSubrects_subrectsBytes rs rest hcodec
  cases coloured with
  | true => simp only [if_true] at hsub ⊢; rw [hsub]; rfl
  | false =>
    have hfg' : (if fgSpec then some fg else dst.fg) = some fg := by
      cases fgSpec with
      | true => rfl
      | false => exact hfg rfl
    simp only [Bool.false_eq_true, if_false, hfg'] at hsub ⊢
    rw [hsub]; rfl

/-- what the decoder has to know about the encoder's `validBg/bg/validFg/fg` -/
def HexRel (st : HexSrv) (dst : HexState) : Prop :=
  (st.validBg = true → dst.bg = some st.bg) ∧ (st.validFg = true → dst.fg = some st.fg)

theorem hextileTile_decodes (bpp tw th : Nat) (px : List Pixel) (st : HexSrv) (dst : HexState)
    (rest : Bytes) (htw : 1 ≤ tw ∧ tw ≤ 16) (hth : 1 ≤ th ∧ th ≤ 16)
    (hlen : px.length = tw * th) (hpx : ∀ p ∈ px, PixOK bpp p) (hrel : HexRel st dst) :
    ∃ dst', decodeHextileTile bpp tw th dst ((hextileTile bpp tw th px st).1 ++ rest) =
        some ((px, dst'), rest) ∧ HexRel (hextileTile bpp tw th px st).2 dst' := by
  obtain ⟨hsolid, hmono, hnsolid⟩ := testColours_spec px
  have harea : 1 ≤ tw * th ∧ tw * th ≤ 256 := by
    constructor
    · exact Nat.mul_le_mul htw.1 hth.1
    · calc tw * th ≤ 16 * 16 := Nat.mul_le_mul htw.2 hth.2
        _ = 256 := by decide
  have hne : px ≠ [] := by intro e; rw [e] at hlen; simp at hlen; omega
  unfold hextileTile
  generalize testColours px = tc at *
  have hbgspec : ∀ nb : Bool, nb = (!st.validBg || tc.bg != st.bg) → PixOK bpp tc.bg →
      (if nb then PixOK bpp tc.bg else dst.bg = some tc.bg) := by
    intro nb hnb hok
    cases nb with
    | true => simpa using hok
    | false =>
      simp only [Bool.false_eq_true, if_false]
      have h' := hnb.symm
      simp only [Bool.or_eq_false_iff, Bool.not_eq_false', bne_eq_false_iff_eq] at h'
      rw [hrel.1 h'.1, h'.2]
  by_cases hs : tc.solid = true
  · have hall := hsolid hs
    have hbgok : PixOK bpp tc.bg := by
      cases px with
      | nil => exact absurd rfl hne
      | cons p ps => rw [← hall p (by simp)]; exact hpx p (by simp)
    have hrep : px = List.replicate (tw * th) tc.bg := by
      rw [List.eq_replicate_iff]; exact ⟨hlen, hall⟩
    simp only [hs, if_true]
    generalize hnb : (!st.validBg || tc.bg != st.bg) = nb
    have := decodeHextileTile_solid bpp tw th dst nb tc.bg rest (hbgspec nb hnb.symm hbgok)
    refine ⟨⟨some tc.bg, dst.fg⟩, ?_, ?_⟩
    · rw [hrep] at *
      simpa [List.append_assoc] using this
    · cases nb with
      | true => exact ⟨fun _ => rfl, hrel.2⟩
      | false =>
        simp only [Bool.or_eq_false_iff, Bool.not_eq_false', bne_eq_false_iff_eq] at hnb
        simp only [Bool.false_eq_true, if_false]
        exact ⟨fun _ => by rw [hnb.2], hrel.2⟩
  · have hs' : tc.solid = false := by simpa using hs
    obtain ⟨hbgmem, hfgmem⟩ := hnsolid hs'
    have hbgok := hpx _ hbgmem
    have hfgok := hpx _ hfgmem
    simp only [hs', Bool.false_eq_true, if_false]
    generalize hnb : (!st.validBg || tc.bg != st.bg) = nb
    have hbg := hbgspec nb hnb.symm hbgok
    generalize hst1 : (if nb = true then ({ st with validBg := true, bg := tc.bg } : HexSrv) else st) = st1
    have hst1bg : st1.bg = tc.bg := by
      subst hst1
      cases nb with
      | true => rfl
      | false =>
        simp only [Bool.or_eq_false_iff, Bool.not_eq_false', bne_eq_false_iff_eq] at hnb
        simp [hnb.2]
    have hst1fg : st1.fg = st.fg ∧ st1.validFg = st.validFg := by subst hst1; cases nb <;> simp
    generalize hnf : (tc.mono && (!st1.validFg || tc.fg != st1.fg)) = nf
    generalize hst2 : (if tc.mono = true then (if nf = true then ({ st1 with validFg := true, fg := tc.fg } : HexSrv) else st1)
        else { st1 with validFg := false }) = st2
    have hst2bg : st2.bg = tc.bg := by subst hst2; cases tc.mono <;> cases nf <;> simp [hst1bg]
    rw [hst2bg]
    cases hse : subrectEncode tw th tc.bg (if tc.mono = true then 2 else bpp + 2) (tw * th * bpp) 1 px.toArray with
    | none =>
      refine ⟨dst, ?_, ?_⟩
      · simpa [List.append_assoc] using decodeHextileTile_raw bpp tw th dst px rest hlen hpx
      · exact ⟨by simp, by simp⟩
    | some v =>
      obtain ⟨rs, len⟩ := v
      obtain ⟨post, _, _⟩ := subrectEncode_spec tw th tc.bg _ _ _ px.toArray (by simp [hlen]) rs len hse
      have hcnt : rs.length < 256 := by
        obtain ⟨q, hq⟩ := List.getElem_of_mem hbgmem
        obtain ⟨hq1, hq2⟩ := hq
        have := post.cnt q (by omega) (by
          simp only [toArray_getD, List.getD_eq_getElem?_getD, List.getElem?_eq_getElem hq1]
          simpa using hq2)
        omega
      have hpaint := paint_eq_input tw th tc.bg px rs hlen post
      have hgeom : ∀ r ∈ rs, ∀ t, readGeomHex (geomHex (r.x, r.y, r.w, r.h) ++ t) = some ((r.x, r.y, r.w, r.h), t) := by
        intro r hr t
        obtain ⟨h1, h2, h3, h4, _, _⟩ := post.wf r hr
        apply readGeomHex_geomHex; simp only; omega
      have hcol : ∀ r ∈ rs, PixOK bpp r.c ∧ r.c ≠ tc.bg ∧ r.c ∈ px := by
        intro r hr
        obtain ⟨_, _, _, _, h5, i, hi, hc⟩ := post.wf r hr
        have : r.c ∈ px := by rw [hc, toArray_getD]; exact getD_mem px i (by omega)
        exact ⟨hpx _ this, h5, this⟩
      have key := decodeHextileTile_sub bpp tw th dst nb nf (!tc.mono) tc.bg tc.fg rs rest hbg
        (by
          cases nf with
          | true =>
            simp only [if_true]
            have : tc.mono = true := by
              cases hm : tc.mono with
              | true => rfl
              | false => simp [hm] at hnf
            exact ⟨hfgok, by simp [this]⟩
          | false =>
            simp only [Bool.false_eq_true, if_false]
            intro hm
            have hm' : tc.mono = true := by simpa using hm
            simp only [hm', Bool.true_and, Bool.or_eq_false_iff, Bool.not_eq_false',
              bne_eq_false_iff_eq] at hnf
            rw [hnf.2, hst1fg.1]
            apply hrel.2
            rw [← hst1fg.2]; exact hnf.1)
        hcnt
        (by
          intro r hr
          obtain ⟨h1, h2, _, _, _, _⟩ := post.wf r hr
          obtain ⟨hok, hne', hmem⟩ := hcol r hr
          cases hm : tc.mono with
          | true =>
            simp only [Bool.not_true, Bool.false_eq_true, if_false]
            refine ⟨?_, hgeom r hr, ⟨h1, h2⟩⟩
            intro t
            rcases hmono hm r.c hmem with e | e
            · exact absurd e hne'
            · simp [e]
          | false =>
            simp only [Bool.not_false, if_true]
            exact ⟨fun t => readPixel_pixBytes _ _ _ hok, hgeom r hr, ⟨h1, h2⟩⟩)
      refine ⟨⟨some tc.bg, if nf = true then some tc.fg else dst.fg⟩, ?_, ?_⟩
      · rw [hpaint] at key
        have hflags : (if nb = true then 2 else 0) + 8 + (if tc.mono = true then if nf = true then 4 else 0 else 16) =
            subFlags nb nf (!tc.mono) := by
          unfold subFlags; cases tc.mono <;> simp
        rw [hflags]
        have hmonoeq : (if tc.mono = true then (fun (_ : Pixel) => ([] : Bytes)) else pixBytes bpp) =
            (if (!tc.mono) = true then pixBytes bpp else fun _ => []) := by
          cases tc.mono <;> simp
        rw [hmonoeq]
        simpa [List.append_assoc] using key
      · subst hst2
        constructor
        · intro _; simp only; rw [hst2bg]
        · intro hv
          cases hm : tc.mono with
          | false => simp [hm] at hv
          | true =>
            simp only [hm, if_true] at hv ⊢
            cases nf with
            | true => simp
            | false =>
              simp only [Bool.false_eq_true, if_false] at hv ⊢
              rw [hst1fg.1]; apply hrel.2; rw [← hst1fg.2]; exact hv

theorem hextileTiles_decodes (bpp W : Nat) (px : List Pixel) (hpx : ∀ p ∈ px, PixOK bpp p) :
    ∀ (tiles : List TileRect) (st : HexSrv) (dst : HexState) (rest : Bytes),
      (∀ t ∈ tiles, 1 ≤ t.w ∧ t.w ≤ 16 ∧ 1 ≤ t.h ∧ t.h ≤ 16) → HexRel st dst →
      decodeHextileTiles bpp tiles dst (hextileTiles bpp W px.toArray tiles st ++ rest) =
        some (tiles.map (extractTile px.toArray W), rest) := by
  intro tiles
  induction tiles with
  | nil => intro st dst rest _ _; simp [decodeHextileTiles, hextileTiles]
  | cons t ts ih =>
    intro st dst rest hd hrel
    obtain ⟨h1, h2, h3, h4⟩ := hd t (by simp)
    simp only [hextileTiles, decodeHextileTiles, List.append_assoc, List.map_cons]
    obtain ⟨dst', hdec, hrel'⟩ := hextileTile_decodes bpp t.w t.h (extractTile px.toArray W t) st dst
      (hextileTiles bpp W px.toArray ts (hextileTile bpp t.w t.h (extractTile px.toArray W t) st).2 ++ rest)
      ⟨h1, h2⟩ ⟨h3, h4⟩ (extractTile_length _ _ _) (extractTile_all _ px W t hpx (pixOK_zero bpp)) hrel
    rw [hdec]
    simp only
    rw [ih _ dst' rest (fun q hq => hd q (by simp [hq])) hrel']
    rfl

end VncModel.Enc.Server
