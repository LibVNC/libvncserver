import VncModel.Enc.TightDecode
/-!
# `Pack24` (tight.c): the TPIXEL reader/writer law for 32-bpp, depth-24, 8-8-8 formats whose channels
are byte-aligned ("Color components assumed to be byte-aligned", tight.c) — either byte order.

Extracting a channel and OR-ing the channels together only need the shifts to be 8 bits apart
(`or3_extract`, `or3_bytes`); byte alignment is what makes the byte swap of a big-endian client mirror
the shifts (`bswap_channels`).
-/
namespace VncModel.Enc.Server
open VncModel.Enc VncModel.Enc.Spec

theorem pow_sep {c b : Nat} (h : c + 8 ≤ b) : 256 * 2 ^ c ≤ 2 ^ b := by
  have : 2 ^ (c + 8) ≤ 2 ^ b := Nat.pow_le_pow_right (by decide) h
  rwa [Nat.pow_add, Nat.mul_comm] at this

theorem shl_shr_mod_of_sep {c a j : Nat} (hc : c < 256) (h : a + 8 ≤ j ∨ j + 8 ≤ a) :
    (c <<< a >>> j) % 256 = 0 := by
  apply Nat.eq_of_testBit_eq
  intro i
  rw [show 256 = 2 ^ 8 from rfl, Nat.testBit_mod_two_pow, Nat.testBit_shiftRight, Nat.testBit_shiftLeft,
    Nat.zero_testBit]
  rcases h with h | h
  · have : c.testBit (j + i - a) = false :=
      Nat.testBit_lt_two_pow (Nat.lt_of_lt_of_le hc (Nat.pow_le_pow_right (n := 2) (by decide) (show 8 ≤ j + i - a by omega)))
    simp [this]
  · by_cases hi : i < 8
    · have : ¬ (a ≤ j + i) := by omega
      simp [this]
    · simp [hi]

theorem or3_extract {r g b a1 a2 a3 : Nat} (hr : r < 256) (hg : g < 256) (hb : b < 256)
    (h12 : a1 + 8 ≤ a2 ∨ a2 + 8 ≤ a1) (h13 : a1 + 8 ≤ a3 ∨ a3 + 8 ≤ a1) (h23 : a2 + 8 ≤ a3 ∨ a3 + 8 ≤ a2) :
    ((r <<< a1 ||| g <<< a2 ||| b <<< a3) >>> a1) % 256 = r ∧
    ((r <<< a1 ||| g <<< a2 ||| b <<< a3) >>> a2) % 256 = g ∧
    ((r <<< a1 ||| g <<< a2 ||| b <<< a3) >>> a3) % 256 = b := by
  have hm : ∀ x y, (x ||| y) % 256 = x % 256 ||| y % 256 := fun x y => Nat.or_mod_two_pow (n := 8)
  simp only [Nat.shiftRight_or_distrib, hm, Nat.shiftLeft_shiftRight, Nat.mod_eq_of_lt hr,
    Nat.mod_eq_of_lt hg, Nat.mod_eq_of_lt hb, shl_shr_mod_of_sep hr h12, shl_shr_mod_of_sep hr h13,
    shl_shr_mod_of_sep hg h12.symm, shl_shr_mod_of_sep hg h23, shl_shr_mod_of_sep hb h13.symm,
    shl_shr_mod_of_sep hb h23.symm, Nat.or_zero, Nat.zero_or, and_self]

theorem or3_sorted (X Y Z a b c : Nat) (hY : Y < 256) (hZ : Z < 256)
    (hab : b + 8 ≤ a) (hbc : c + 8 ≤ b) :
    X <<< a ||| (Y <<< b ||| Z <<< c) = X * 2 ^ a + Y * 2 ^ b + Z * 2 ^ c := by
  have hc := pow_sep hbc
  have hb := pow_sep hab
  have hpc : 0 < 2 ^ c := Nat.pow_pos (by decide)
  have hpb : 0 < 2 ^ b := Nat.pow_pos (by decide)
  have hz : Z * 2 ^ c < 2 ^ b := by
    have : Z * 2 ^ c < 256 * 2 ^ c := Nat.mul_lt_mul_of_pos_right hZ hpc
    omega
  have hy : Y * 2 ^ b + Z * 2 ^ c < 2 ^ a := by
    have : Y * 2 ^ b ≤ 255 * 2 ^ b := Nat.mul_le_mul_right _ (by omega)
    omega
  have h1 : Y <<< b ||| Z <<< c = Y * 2 ^ b + Z * 2 ^ c := by
    rw [Nat.shiftLeft_eq Z c, ← Nat.shiftLeft_add_eq_or_of_lt hz, Nat.shiftLeft_eq]
  rw [h1, ← Nat.shiftLeft_add_eq_or_of_lt hy, Nat.shiftLeft_eq]
  omega

/-- a statement about three (value, position) pairs that is invariant under exchanging neighbours
holds for distinct positions as soon as it holds for descending ones -/
theorem wlog_descending {P : Nat → Nat → Nat → Nat → Nat → Nat → Prop}
    (h12 : ∀ x a y b z c, P x a y b z c → P y b x a z c)
    (h23 : ∀ x a y b z c, P x a y b z c → P x a z c y b)
    (hs : ∀ x a y b z c, b < a → c < b → P x a y b z c)
    (x a y b z c : Nat) (hab : a ≠ b) (hac : a ≠ c) (hbc : b ≠ c) : P x a y b z c := by
  rcases Nat.lt_or_gt_of_ne hab with h1 | h1 <;> rcases Nat.lt_or_gt_of_ne hac with h2 | h2 <;>
    rcases Nat.lt_or_gt_of_ne hbc with h3 | h3
  · exact h12 _ _ _ _ _ _ (h23 _ _ _ _ _ _ (h12 _ _ _ _ _ _ (hs z c y b x a h3 h1)))
  · exact h12 _ _ _ _ _ _ (h23 _ _ _ _ _ _ (hs y b z c x a h3 h2))
  · omega
  · exact h12 _ _ _ _ _ _ (hs y b x a z c h1 h2)
  · exact h23 _ _ _ _ _ _ (h12 _ _ _ _ _ _ (hs z c x a y b h2 h1))
  · omega
  · exact h23 _ _ _ _ _ _ (hs x a z c y b h2 h3)
  · exact hs x a y b z c h1 h3

theorem or3_bytes (r g b a1 a2 a3 : Nat) (hr : r < 256) (hg : g < 256) (hb : b < 256)
    (h12 : a1 + 8 ≤ a2 ∨ a2 + 8 ≤ a1) (h13 : a1 + 8 ≤ a3 ∨ a3 + 8 ≤ a1) (h23 : a2 + 8 ≤ a3 ∨ a3 + 8 ≤ a2) :
    r <<< a1 ||| g <<< a2 ||| b <<< a3 = r * 2 ^ a1 + g * 2 ^ a2 + b * 2 ^ a3 := by
  refine wlog_descending (P := fun r a1 g a2 b a3 => r < 256 → g < 256 → b < 256 →
      (a1 + 8 ≤ a2 ∨ a2 + 8 ≤ a1) → (a1 + 8 ≤ a3 ∨ a3 + 8 ≤ a1) → (a2 + 8 ≤ a3 ∨ a3 + 8 ≤ a2) →
      r <<< a1 ||| g <<< a2 ||| b <<< a3 = r * 2 ^ a1 + g * 2 ^ a2 + b * 2 ^ a3)
    ?_ ?_ ?_ r a1 g a2 b a3 (by omega) (by omega) (by omega) hr hg hb h12 h13 h23
  · intro r a1 g a2 b a3 h hg hr hb s21 s23 s13
    rw [Nat.or_comm (g <<< a2), h hr hg hb s21.symm s13 s23]; omega
  · intro r a1 g a2 b a3 h hr hb hg s13 s12 s32
    rw [Nat.or_assoc, Nat.or_comm (b <<< a3), ← Nat.or_assoc, h hr hg hb s12 s13 s32.symm]; omega
  · intro r a1 g a2 b a3 h21 h32 _ hg hb _ _ _
    rw [Nat.or_assoc]; exact or3_sorted r g b a1 a2 a3 hg hb (by omega) (by omega)

/-- the pixel (as the server's little-endian host reads it from the client-format buffer) whose
channels are `r g b`: channel shift `s` sits at `s` for a little-endian client and at `24 - s` for a
big-endian one -/
def pack24Pixel (f : PixFmt) (r g b : Nat) : Pixel :=
  r * 2 ^ (if f.bigEndian then 24 - f.rShift else f.rShift) +
  g * 2 ^ (if f.bigEndian then 24 - f.gShift else f.gShift) +
  b * 2 ^ (if f.bigEndian then 24 - f.bShift else f.bShift)

theorem bswap4_bytes (d0 d1 d2 d3 : Nat) (h0 : d0 < 256) (h1 : d1 < 256) (h2 : d2 < 256) (h3 : d3 < 256) :
    bswap 4 (d0 + 256 * d1 + 65536 * d2 + 16777216 * d3) = d3 + 256 * d2 + 65536 * d1 + 16777216 * d0 := by
  rw [show d0 + 256 * d1 + 65536 * d2 + 16777216 * d3 = d0 + 256 * (d1 + 256 * (d2 + 256 * (d3 + 256 * 0))) by omega,
    bswap, pixBytes_succ_add _ _ _ h0, pixBytes_succ_add _ _ _ h1, pixBytes_succ_add _ _ _ h2,
    pixBytes_succ_add _ _ _ h3]
  simp only [pixBytes, List.reverse_cons, List.reverse_nil, List.nil_append, List.cons_append, pixOfBytes,
    toNat_ofNat_lt h0, toNat_ofNat_lt h1, toNat_ofNat_lt h2, toNat_ofNat_lt h3]
  omega

def Sh8 (a : Nat) : Prop := a = 0 ∨ a = 8 ∨ a = 16 ∨ a = 24

theorem sh8_iff {a : Nat} : Sh8 a ↔ a % 8 = 0 ∧ a ≤ 24 := by unfold Sh8; omega

/-- with the channels in descending order exactly one of the four bytes is free -/
theorem bswap_channels_sorted (a1 a2 a3 r g b : Nat) (h1 : Sh8 a1) (h2 : Sh8 a2) (h3 : Sh8 a3)
    (h21 : a2 < a1) (h32 : a3 < a2) (hr : r < 256) (hg : g < 256) (hb : b < 256) :
    bswap 4 (r * 2 ^ a1 + g * 2 ^ a2 + b * 2 ^ a3) =
      r * 2 ^ (24 - a1) + g * 2 ^ (24 - a2) + b * 2 ^ (24 - a3) := by
  have h0 : (0 : Nat) < 256 := by decide
  rw [sh8_iff] at h1 h2 h3
  -- the middle channel sits in byte 1 or 2; that fixes one neighbour and leaves two places for the other
  rcases (show a2 = 8 ∨ a2 = 16 by omega) with rfl | rfl
  · obtain rfl : a3 = 0 := by omega
    rcases (show a1 = 16 ∨ a1 = 24 by omega) with rfl | rfl
    · have := bswap4_bytes b g r 0 hb hg hr h0
      rw [show r * 2 ^ 16 + g * 2 ^ 8 + b * 2 ^ 0 = b + 256 * g + 65536 * r + 16777216 * 0 by omega, this]
      omega
    · have := bswap4_bytes b g 0 r hb hg h0 hr
      rw [show r * 2 ^ 24 + g * 2 ^ 8 + b * 2 ^ 0 = b + 256 * g + 65536 * 0 + 16777216 * r by omega, this]
      omega
  · obtain rfl : a1 = 24 := by omega
    rcases (show a3 = 0 ∨ a3 = 8 by omega) with rfl | rfl
    · have := bswap4_bytes b 0 g r hb h0 hg hr
      rw [show r * 2 ^ 24 + g * 2 ^ 16 + b * 2 ^ 0 = b + 256 * 0 + 65536 * g + 16777216 * r by omega, this]
      omega
    · have := bswap4_bytes 0 b g r h0 hb hg hr
      rw [show r * 2 ^ 24 + g * 2 ^ 16 + b * 2 ^ 8 = 0 + 256 * b + 65536 * g + 16777216 * r by omega, this]
      omega

theorem bswap_channels (a1 a2 a3 r g b : Nat) (h1 : Sh8 a1) (h2 : Sh8 a2) (h3 : Sh8 a3)
    (h12 : a1 ≠ a2) (h13 : a1 ≠ a3) (h23 : a2 ≠ a3) (hr : r < 256) (hg : g < 256) (hb : b < 256) :
    bswap 4 (r * 2 ^ a1 + g * 2 ^ a2 + b * 2 ^ a3) =
      r * 2 ^ (24 - a1) + g * 2 ^ (24 - a2) + b * 2 ^ (24 - a3) := by
  refine wlog_descending (P := fun r a1 g a2 b a3 => Sh8 a1 → Sh8 a2 → Sh8 a3 → r < 256 → g < 256 → b < 256 →
      bswap 4 (r * 2 ^ a1 + g * 2 ^ a2 + b * 2 ^ a3) =
        r * 2 ^ (24 - a1) + g * 2 ^ (24 - a2) + b * 2 ^ (24 - a3))
    ?_ ?_ ?_ r a1 g a2 b a3 h12 h13 h23 h1 h2 h3 hr hg hb
  · intro r a1 g a2 b a3 h h2 h1 h3 hg hr hb
    rw [Nat.add_comm (g * 2 ^ a2), h h1 h2 h3 hr hg hb]; omega
  · intro r a1 g a2 b a3 h h1 h3 h2 hr hb hg
    rw [Nat.add_right_comm, h h1 h2 h3 hr hg hb]; omega
  · intro r a1 g a2 b a3 h21 h32 h1 h2 h3 hr hg hb
    exact bswap_channels_sorted a1 a2 a3 r g b h1 h2 h3 h21 h32 hr hg hb

theorem sh8_mirror_sep (be : Bool) {a b : Nat} (ha : Sh8 a) (hb : Sh8 b) (h : a ≠ b) :
    (if be then 24 - a else a) + 8 ≤ (if be then 24 - b else b) ∨
      (if be then 24 - b else b) + 8 ≤ (if be then 24 - a else a) := by
  rw [sh8_iff] at ha hb
  cases be <;> simp only [Bool.false_eq_true, if_false, if_true] <;> omega

/-- **`Pack24` law**: for a 32-bpp, depth-24, 8-8-8 client format with byte-aligned, distinct channel
shifts (either byte order), the three bytes `Pack24` writes for a pixel with channels `r g b` are read
back by the specification's TPIXEL rule as exactly that pixel. -/
theorem tpixLaw_pack24 (f : PixFmt) (hbpp : f.bpp = 32) (hd : f.depth = 24)
    (hrm : f.rMax = 255) (hgm : f.gMax = 255) (hbm : f.bMax = 255)
    (hrs : Sh8 f.rShift) (hgs : Sh8 f.gShift) (hbs : Sh8 f.bShift)
    (h12 : f.rShift ≠ f.gShift) (h13 : f.rShift ≠ f.bShift) (h23 : f.gShift ≠ f.bShift)
    (r g b : Nat) (hr : r < 256) (hg : g < 256) (hb : b < 256) :
    TPixLaw f (pack24Pixel f r g b) := by
  have htp : f.tpix = .rgb f := by simp [PixFmt.tpix, hbpp, hd, hrm, hgm, hbm]
  have hu : usePF24 f = true := by simp [usePF24, hd, hrm, hgm, hbm]
  have s12 := sh8_mirror_sep f.bigEndian hrs hgs h12
  have s13 := sh8_mirror_sep f.bigEndian hrs hbs h13
  have s23 := sh8_mirror_sep f.bigEndian hgs hbs h23
  have hP := or3_bytes r g b _ _ _ hr hg hb s12 s13 s23
  obtain ⟨e1, e2, e3⟩ := or3_extract hr hg hb s12 s13 s23
  refine ⟨fun t => ?_, by simp [tpixBytes, hu, pack24, htp, TPix.size]⟩
  simp only [tpixBytes, hu, if_true, pack24, htp, readTPixel, List.cons_append, List.nil_append,
    toNat_ofNat_mod, pack24Pixel, ← hP, e1, e2, e3]
  rw [hP, or3_bytes r g b f.rShift f.gShift f.bShift hr hg hb (sh8_mirror_sep false hrs hgs h12)
    (sh8_mirror_sep false hrs hbs h13) (sh8_mirror_sep false hgs hbs h23)]
  cases hbe : f.bigEndian with
  | false => simp only [PixFmt.ofValue, hbe, Bool.false_eq_true, if_false]
  | true =>
    have hbytes : f.bytespp = 4 := by simp [PixFmt.bytespp, hbpp]
    simp only [PixFmt.ofValue, hbe, if_true, hbytes]
    rw [bswap_channels f.rShift f.gShift f.bShift r g b hrs hgs hbs h12 h13 h23 hr hg hb]

end VncModel.Enc.Server
