import VncModel.Enc.Server
/-!
Bit packing of palette indices into padded rows (`packRow` of zrle's `ZRLE_ENCODE_TILE`, also used by
Tight's mono rectangles), for every field width `b ∣ 8`.  The row loop carries `nbits` pending bits
in the low end of `byte`; `packRow_fields` is the invariant of that loop, read off the output as
`b`-bit fields.
-/
namespace VncModel.Enc.Server
open VncModel.Enc VncModel.Enc.Spec

theorem shiftRight_mod256 {s b : Nat} (h : s + b ≤ 8) (x : Nat) :
    ((x % 256) >>> s) % 2 ^ b = (x >>> s) % 2 ^ b := by
  have e : 256 = 2 ^ s * 2 ^ (8 - s) := by
    rw [← Nat.pow_add, show s + (8 - s) = 8 by omega]
  rw [Nat.shiftRight_eq_div_pow, Nat.shiftRight_eq_div_pow, e, Nat.mod_mul_right_div_self,
    Nat.mod_mod_of_dvd _ (Nat.pow_dvd_pow 2 (by omega))]

theorem shiftLeft_or_shiftRight {b d : Nat} (hd : d < 2 ^ b) (x : Nat) : (x <<< b ||| d) >>> b = x := by
  rw [Nat.shiftRight_or_distrib, Nat.shiftLeft_shiftRight, Nat.shiftRight_eq_zero _ _ hd, Nat.or_zero]

theorem pushed_low {b d : Nat} (hb : b ≤ 8) (hd : d < 2 ^ b) (x : Nat) :
    ((x <<< b ||| d % 256) % 256) % 2 ^ b = d := by
  have hd8 : d % 256 = d := Nat.mod_eq_of_lt (Nat.lt_of_lt_of_le hd (Nat.pow_le_pow_right (by decide) hb))
  have := shiftRight_mod256 (s := 0) (b := b) (by omega) (x <<< b ||| d)
  simp only [Nat.shiftRight_zero] at this
  rw [hd8, this, Nat.or_mod_two_pow, Nat.shiftLeft_eq, Nat.mul_mod_left, Nat.zero_or, Nat.mod_eq_of_lt hd]

theorem pushed_high {b d t : Nat} (h : b + t + b ≤ 8) (hd : d < 2 ^ b) (x : Nat) :
    (((x <<< b ||| d % 256) % 256) >>> (b + t)) % 2 ^ b = (x >>> t) % 2 ^ b := by
  have hd8 : d % 256 = d := Nat.mod_eq_of_lt (Nat.lt_of_lt_of_le hd (Nat.pow_le_pow_right (n := 2) (by decide) (show b ≤ 8 by omega)))
  rw [hd8, shiftRight_mod256 h, Nat.shiftRight_add, shiftLeft_or_shiftRight hd]

/-- the `bits`-wide field of `row` at bit offset `p`, most significant bit first, as `unpackRow`
reads it -/
def fieldAt (bits : Nat) (row : Bytes) (p : Nat) : Nat :=
  ((row.getD (p / 8) 0).toNat >>> (8 - bits - p % 8)) % 2 ^ bits

theorem fieldAt_cons_add (b : Nat) (a : UInt8) (l : Bytes) (p : Nat) :
    fieldAt b (a :: l) (p + 8) = fieldAt b l p := by
  simp [fieldAt]

theorem fieldAt_head {b p : Nat} (hb : 0 < b) (h : p + b ≤ 8) (x : Nat) (l : Bytes) :
    fieldAt b (UInt8.ofNat x :: l) p = (x >>> (8 - b - p)) % 2 ^ b := by
  have hp : p / 8 = 0 ∧ p % 8 = p := by have := Nat.lt_add_of_pos_right (n := p) hb; omega
  simp only [fieldAt, hp, List.getD_cons_zero, toNat_ofNat_mod]
  exact shiftRight_mod256 (by omega) x

theorem dvd_gap {b p n : Nat} (hp : b ∣ p) (hn : b ∣ n) (h : p < n) : p + b ≤ n := by
  have := Nat.le_of_dvd (by omega) (Nat.dvd_sub hn hp)
  omega

/-- `packRow` started with `nbits` pending bits in `byte`: the pending fields and the new indices are
all found, in order, at consecutive `b`-bit fields of the output -/
theorem packRow_fields {b : Nat} (h8 : b ∣ 8) :
    ∀ (idxs : List Nat) (byte nbits : Nat), b ∣ nbits → nbits < 8 → (∀ x ∈ idxs, x < 2 ^ b) →
      (∀ p, b ∣ p → p < nbits →
        fieldAt b (packRow b idxs byte nbits) p = (byte >>> (nbits - b - p)) % 2 ^ b) ∧
      (∀ i, i < idxs.length → fieldAt b (packRow b idxs byte nbits) (nbits + i * b) = idxs.getD i 0) := by
  have hb : 0 < b := Nat.pos_of_dvd_of_pos h8 (by decide)
  intro idxs
  induction idxs with
  | nil =>
    intro byte nbits hn _ _
    refine ⟨fun p hp hpn => ?_, fun i hi => by simp at hi⟩
    have := dvd_gap hp hn hpn
    have hpos : nbits > 0 := by omega
    simp only [packRow, hpos, if_true]
    rw [fieldAt_head hb (by omega), shiftRight_mod256 (by omega),
      show 8 - b - p = (8 - nbits) + (nbits - b - p) by omega, Nat.shiftRight_add,
      Nat.shiftLeft_shiftRight]
  | cons d is ih =>
    intro byte nbits hn hlt hx
    have hd := hx d (by simp)
    have hx' : ∀ x ∈ is, x < 2 ^ b := fun x h => hx x (by simp [h])
    have hle := dvd_gap hn h8 hlt
    simp only [packRow]
    by_cases hfull : nbits + b ≥ 8
    · simp only [hfull, if_true]
      obtain ⟨_, ih2⟩ := ih ((byte <<< b ||| d % 256) % 256) 0 (Nat.dvd_zero b) (by omega) hx'
      constructor
      · intro p hp hpn
        have := dvd_gap hp hn hpn
        rw [fieldAt_head hb (by omega), show 8 - b - p = b + (nbits - b - p) by omega,
          pushed_high (by omega) hd]
      · intro i hi
        cases i with
        | zero =>
          rw [Nat.zero_mul, Nat.add_zero, fieldAt_head hb (by omega), show 8 - b - nbits = 0 by omega,
            Nat.shiftRight_zero, pushed_low (by omega) hd]
          rfl
        | succ i =>
          rw [show nbits + (i + 1) * b = (0 + i * b) + 8 by rw [Nat.succ_mul]; omega, fieldAt_cons_add,
            ih2 i (by simpa using hi)]
          rfl
    · simp only [hfull, if_false]
      obtain ⟨ih1, ih2⟩ := ih ((byte <<< b ||| d % 256) % 256) (nbits + b)
        (Nat.dvd_add hn (Nat.dvd_refl b)) (by omega) hx'
      constructor
      · intro p hp hpn
        have := dvd_gap hp hn hpn
        rw [ih1 p hp (by omega), show nbits + b - b - p = b + (nbits - b - p) by omega,
          pushed_high (by omega) hd]
      · intro i hi
        cases i with
        | zero =>
          rw [Nat.zero_mul, Nat.add_zero, ih1 nbits hn (by omega), show nbits + b - b - nbits = 0 by omega,
            Nat.shiftRight_zero, pushed_low (by omega) hd]
          rfl
        | succ i =>
          rw [show nbits + (i + 1) * b = nbits + b + i * b by rw [Nat.succ_mul]; omega,
            ih2 i (by simpa using hi)]
          rfl

theorem packRow_length {b : Nat} (h8 : b ∣ 8) :
    ∀ (idxs : List Nat) (byte nbits : Nat), b ∣ nbits → nbits < 8 →
      (packRow b idxs byte nbits).length = (nbits + idxs.length * b + 7) / 8 := by
  intro idxs
  induction idxs with
  | nil =>
    intro byte nbits _ hlt
    by_cases h : nbits > 0
    · simp only [packRow, h, if_true, List.length_cons, List.length_nil]; omega
    · simp only [packRow, h, if_false, List.length_nil]; omega
  | cons d is ih =>
    intro byte nbits hn hlt
    have hle := dvd_gap hn h8 hlt
    simp only [packRow, List.length_cons, Nat.succ_mul]
    by_cases hfull : nbits + b ≥ 8
    · simp only [hfull, if_true, List.length_cons, ih _ 0 (Nat.dvd_zero b) (by omega)]; omega
    · simp only [hfull, if_false, ih _ (nbits + b) (Nat.dvd_add hn (Nat.dvd_refl b)) (by omega)]; omega

theorem pack_digit {b : Nat} (h8 : b ∣ 8) (idxs : List Nat) (s i : Nat)
    (hx : ∀ x ∈ idxs, x < 2 ^ b) (hi : i < idxs.length) :
    ((packRow b idxs s 0).getD (i * b / 8) 0).toNat >>> (8 - b - i * b % 8) % 2 ^ b = idxs.getD i 0 := by
  have := (packRow_fields h8 idxs s 0 (Nat.dvd_zero b) (by omega) hx).2 i hi
  rwa [Nat.zero_add] at this

theorem pack_length {b : Nat} (h8 : b ∣ 8) (idxs : List Nat) (s : Nat) :
    (packRow b idxs s 0).length = (idxs.length * b + 7) / 8 := by
  rw [packRow_length h8 idxs s 0 (Nat.dvd_zero b) (by omega), Nat.zero_add]

theorem unpackRow_packRow {b : Nat} (h8 : b ∣ 8) (idxs : List Nat) (s : Nat)
    (hx : ∀ x ∈ idxs, x < 2 ^ b) :
    unpackRow b idxs.length (packRow b idxs s 0) = idxs := by
  apply List.ext_getElem
  · simp [unpackRow]
  · intro i _ h2
    simp only [unpackRow, List.getElem_map, List.getElem_range]
    rw [pack_digit h8 idxs s i hx h2, List.getD_eq_getElem?_getD, List.getElem?_eq_getElem h2]
    rfl

theorem lookupAll_map_index (pal : List Pixel) (l : List Pixel) (h : ∀ p ∈ l, p ∈ pal) :
    lookupAll pal (l.map (paletteIndex pal)) = some l := by
  induction l with
  | nil => rfl
  | cons p l ih =>
    have hget : pal[paletteIndex pal p]? = some p := by
      rw [paletteIndex, List.getElem?_eq_getElem (List.idxOf_lt_length_of_mem (h p (by simp)))]; simp
    simp only [List.map_cons, lookupAll, hget, ih (fun q hq => h q (by simp [hq]))]
    rfl

theorem decodePackedRows_packRows {b : Nat} (h8 : b ∣ 8) (tw : Nat) (pal : List Pixel)
    (hpal : pal.length ≤ 2 ^ b) : ∀ (th : Nat) (px : List Pixel) (rest : Bytes),
      px.length = tw * th → (∀ p ∈ px, p ∈ pal) →
      decodePackedRows b tw pal th (packRows b tw pal th px ++ rest) = some (px, rest) := by
  intro th
  induction th with
  | zero =>
    intro px rest hlen _
    have : px = [] := List.eq_nil_of_length_eq_zero (by simpa using hlen)
    subst this; rfl
  | succ th ih =>
    intro px rest hlen hmem
    have htake : ((px.take tw).map (paletteIndex pal)).length = tw := by
      rw [List.length_map, List.length_take, hlen, Nat.mul_succ]; omega
    have hidx : ∀ x ∈ (px.take tw).map (paletteIndex pal), x < 2 ^ b := by
      intro x hx
      obtain ⟨p, hp, rfl⟩ := List.mem_map.mp hx
      exact Nat.lt_of_lt_of_le (List.idxOf_lt_length_of_mem (hmem p (List.mem_of_mem_take hp))) hpal
    have hrowlen := pack_length h8 ((px.take tw).map (paletteIndex pal)) 0
    have hun := unpackRow_packRow h8 ((px.take tw).map (paletteIndex pal)) 0 hidx
    rw [htake] at hrowlen hun
    simp only [packRows, decodePackedRows, List.append_assoc]
    rw [← hrowlen, takeN_append]
    simp only
    rw [hun, lookupAll_map_index pal (px.take tw) (fun p hp => hmem p (List.mem_of_mem_take hp))]
    simp only
    rw [ih (px.drop tw) rest (by rw [List.length_drop, hlen, Nat.mul_succ]; omega)
      (fun p hp => hmem p (List.mem_of_mem_drop hp))]
    simp

theorem packRows_length {b : Nat} (h8 : b ∣ 8) (w : Nat) (pal : List Pixel) :
    ∀ (h : Nat) (px : List Pixel), px.length = w * h →
      (packRows b w pal h px).length = (w * b + 7) / 8 * h := by
  intro h
  induction h with
  | zero => intro px _; simp [packRows]
  | succ h ih =>
    intro px hl
    have htake : (px.take w).length = w := by rw [List.length_take, hl, Nat.mul_succ]; omega
    simp only [packRows, List.length_append]
    rw [pack_length h8, List.length_map, htake,
      ih (px.drop w) (by rw [List.length_drop, hl, Nat.mul_succ]; omega), Nat.mul_succ]
    omega

/-- the C table `bitsPerPackedPixel` against the specification's rule `packedBits` -/
theorem bits_table_eq : ∀ s, s < 17 → 2 ≤ s → bitsPerPackedPixel s = packedBits s ∧
    packedBits s ∣ 8 ∧ s ≤ 2 ^ packedBits s := by decide

theorem packRows_decodes (size tw th : Nat) (pal px : List Pixel) (rest : Bytes) (h2 : 2 ≤ size)
    (h16 : size ≤ 16) (hpl : pal.length = size) (hlen : px.length = tw * th) (hmem : ∀ p ∈ px, p ∈ pal) :
    decodePackedRows (packedBits size) tw pal th
      (packRows (bitsPerPackedPixel size) tw pal th px ++ rest) = some (px, rest) := by
  obtain ⟨hbits, h8, hsz⟩ := bits_table_eq size (by omega) h2
  rw [hbits]
  exact decodePackedRows_packRows h8 tw pal (by omega) th px rest hlen hmem

end VncModel.Enc.Server
