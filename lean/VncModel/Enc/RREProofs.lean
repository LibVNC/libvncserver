import VncModel.Enc.SubrectProofs
/-! `decode (server RRE / CoRRE output) = input` for the faithful models, generic in the geometry
codec (`GeomCodec`). -/
namespace VncModel.Enc.Server
open VncModel.Enc VncModel.Enc.Spec

theorem getBgColour8_mem (px : List Pixel) : getBgColour8 px = 0 ∨ getBgColour8 px ∈ px := by
  unfold getBgColour8
  refine foldl_inv _ (fun _ (st : Array Nat × Nat × Pixel) => st.2.2 = 0 ∨ st.2.2 ∈ px) px _ (Or.inl rfl) (fun _ k st hk h => ?_)
  simp only
  split
  · exact Or.inr hk
  · exact h

theorem getBgColour_ok (bpp : Nat) (px : List Pixel) (h : ∀ p ∈ px, PixOK bpp p) :
    PixOK bpp (getBgColour bpp px) := by
  unfold getBgColour
  split
  · rcases getBgColour8_mem px with h0 | h0
    · rw [h0]; exact pixOK_zero _
    · exact h _ h0
  · cases px with
    | nil => exact pixOK_zero _
    | cons p ps => exact h p (by simp)

theorem toArray_getD (px : List Pixel) (i : Nat) : px.toArray.getD i 0 = px.getD i 0 := by
  simp [Array.getD_eq_getD_getElem?, List.getD_eq_getElem?_getD]

theorem getD_mem (px : List Pixel) (i : Nat) (h : i < px.length) : px.getD i 0 ∈ px := by
  simp [List.getD_eq_getElem?_getD, h]

theorem paint_eq_input (w h : Nat) (bg : Pixel) (px : List Pixel) (rs : List Subrect)
    (hlen : px.length = w * h)
    (post : LoopPost w h bg (fun i => px.toArray.getD i 0) rs) :
    (paintRects w h bg rs).toList = px := by
  apply toList_eq_of_getD
  · rw [size_paintRects, hlen]
  · intro i hi
    rw [post.paint i (by omega), toArray_getD]

theorem subcodec_of_post {rg : Dec (Nat × Nat × Nat × Nat)} {gb : Nat × Nat × Nat × Nat → Bytes}
    (bpp w h : Nat) (bg : Pixel) (px : List Pixel) (rs : List Subrect)
    (hlen : px.length = w * h) (hpx : ∀ p ∈ px, PixOK bpp p) (hgeom : GeomCodec rg gb w h)
    (post : LoopPost w h bg (fun i => px.toArray.getD i 0) rs) :
    ∀ r ∈ rs, SubCodec (readPixel bpp) rg (pixBytes bpp) gb w h r := by
  intro r hr
  obtain ⟨h1, h2, _, _, _, i, hi, hc⟩ := post.wf r hr
  refine ⟨fun t => readPixel_pixBytes _ _ _ ?_, hgeom r.x r.y r.w r.h h1 h2, ⟨h1, h2⟩⟩
  rw [hc, toArray_getD]; exact hpx _ (getD_mem px i (by omega))

/-- number of sub-rectangles of a successful encode fits the 32-bit `nSubrects` field -/
theorem rre_count_bound (w h bpp gsz : Nat) (rs : List Subrect) (len : Nat)
    (hw : w < 65536) (hh : h < 65536) (hb : 1 ≤ bpp)
    (hl : len = bpp + (bpp + gsz) * rs.length) (hlim : 0 < rs.length → len ≤ w * h * bpp) :
    rs.length < 4294967296 := by
  rcases Nat.eq_zero_or_pos rs.length with h0 | h0
  · omega
  · have h1 := hlim h0
    have h2 : w * h < 65536 * 65536 := by
      calc w * h ≤ 65535 * h := Nat.mul_le_mul_right _ (by omega)
        _ ≤ 65535 * 65535 := Nat.mul_le_mul_left _ (by omega)
        _ < 65536 * 65536 := by decide
    have h3 : bpp * rs.length ≤ (bpp + gsz) * rs.length := Nat.mul_le_mul_right _ (by omega)
    have h4 : bpp * rs.length ≤ bpp * (w * h) := by rw [Nat.mul_comm bpp (w * h)]; omega
    have := Nat.le_of_mul_le_mul_left h4 hb
    omega

/-- `serverRRE`: `gsz = 8`, `geom16`; `serverCoRRE`: `gsz = 4`, `geom8` -/
theorem rreEncode_decodes {rg : Dec (Nat × Nat × Nat × Nat)} {gb : Nat × Nat × Nat × Nat → Bytes}
    (gsz bpp : Nat) (g : Geometry) (px : List Pixel) (rest bytes : Bytes)
    (hb : 1 ≤ bpp) (hlen : px.length = g.w * g.h) (hpx : ∀ p ∈ px, PixOK bpp p)
    (hw : g.w < 65536) (hh : g.h < 65536) (hgeom : GeomCodec rg gb g.w g.h)
    (hres : (rreEncode gsz bpp g px).map (fun (bg, rs) => serializeRRE gb bpp bg rs) = some bytes) :
    decodeRREWith rg g bpp (bytes ++ rest) = some (px, rest) := by
  unfold rreEncode at hres
  cases hse : subrectEncode g.w g.h (getBgColour bpp px) (bpp + gsz) (g.w * g.h * bpp) bpp px.toArray with
  | none => simp [hse] at hres
  | some v =>
    obtain ⟨rs, len⟩ := v
    simp only [hse, Option.map_some, Option.some.injEq] at hres
    subst hres
    obtain ⟨post, hl, hlim⟩ := subrectEncode_spec g.w g.h _ _ _ _ px.toArray (by simp [hlen]) rs len hse
    rw [decodeRREWith_serialize g bpp _ rs rest
      (rre_count_bound g.w g.h bpp gsz rs len hw hh hb hl hlim) (getBgColour_ok bpp px hpx)
      (subcodec_of_post bpp g.w g.h _ px rs hlen hpx hgeom post),
      paint_eq_input g.w g.h _ px rs hlen post]

end VncModel.Enc.Server
