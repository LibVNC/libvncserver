import VncModel.Enc.Basic
/-! Serialisers (the inverse direction of the spec decoders) and `decode ∘ serialise = id` lemmas:
RRE / CoRRE / Hextile sub-rectangle lists.  Everything here is independent of how an encoder
chooses its sub-rectangles. -/
namespace VncModel.Enc
open VncModel.Enc.Spec

theorem size_paintRects (W H : Nat) (bg : Pixel) (rs : List Subrect) :
    (paintRects W H bg rs).size = W * H := by
  unfold paintRects
  generalize hcv : Array.replicate (W * H) bg = cv
  have hs : cv.size = W * H := by subst hcv; simp
  clear hcv
  induction rs generalizing cv with
  | nil => simpa using hs
  | cons r rs ih => simp only [List.foldl_cons]; apply ih; simp [size_fillRect, hs]

theorem paintRects_append (W H : Nat) (bg : Pixel) (rs : List Subrect) (r : Subrect) :
    paintRects W H bg (rs ++ [r]) = fillRect (paintRects W H bg rs) W r.x r.y r.w r.h r.c := by
  simp [paintRects, List.foldl_append]

theorem getD_paintRects_append (W H : Nat) (bg : Pixel) (rs : List Subrect) (r : Subrect) (i : Nat)
    (d : Pixel) (hx : r.x + r.w ≤ W) :
    (paintRects W H bg (rs ++ [r])).getD i d =
      if InRect W r.x r.y r.w r.h i ∧ i < W * H then r.c else (paintRects W H bg rs).getD i d := by
  rw [paintRects_append, getD_fillRect _ _ _ _ _ _ _ _ _ hx, size_paintRects]

theorem getD_paintRects_nil (W H : Nat) (bg d : Pixel) (i : Nat) (h : i < W * H) :
    (paintRects W H bg []).getD i d = bg := by
  simp [paintRects, Array.getD_eq_getD_getElem?, h]

theorem toList_eq_of_getD (a : Array Pixel) (l : List Pixel) (hs : a.size = l.length)
    (h : ∀ i, i < l.length → a.getD i 0 = l.getD i 0) : a.toList = l := by
  apply List.ext_getElem
  · simpa using hs
  · intro i h1 h2
    have := h i h2
    simp only [Array.getD_eq_getD_getElem?, List.getD_eq_getElem?_getD] at this
    have e1 : a[i]? = some a[i] := by simp at h1; simp [h1]
    have e2 : l[i]? = some l[i] := by simp [h2]
    rw [e1, e2] at this
    simpa using this

def geom16 (g : Nat × Nat × Nat × Nat) : Bytes :=
  u16be g.1 ++ u16be g.2.1 ++ u16be g.2.2.1 ++ u16be g.2.2.2
def geom8 (g : Nat × Nat × Nat × Nat) : Bytes :=
  [UInt8.ofNat g.1, UInt8.ofNat g.2.1, UInt8.ofNat g.2.2.1, UInt8.ofNat g.2.2.2]
/-- Hextile: `rfbHextilePackXY`, `rfbHextilePackWH` -/
def geomHex (g : Nat × Nat × Nat × Nat) : Bytes :=
  [UInt8.ofNat (g.1 * 16 + g.2.1), UInt8.ofNat ((g.2.2.1 - 1) * 16 + (g.2.2.2 - 1))]

theorem readGeom16_geom16 (g : Nat × Nat × Nat × Nat) (r : Bytes)
    (h : g.1 < 65536 ∧ g.2.1 < 65536 ∧ g.2.2.1 < 65536 ∧ g.2.2.2 < 65536) :
    readGeom16 (geom16 g ++ r) = some (g, r) := by
  obtain ⟨x, y, w, hh⟩ := g
  simp only at h
  simp [geom16, u16be, readGeom16]
  omega

theorem readGeom8_geom8 (g : Nat × Nat × Nat × Nat) (r : Bytes)
    (h : g.1 < 256 ∧ g.2.1 < 256 ∧ g.2.2.1 < 256 ∧ g.2.2.2 < 256) :
    readGeom8 (geom8 g ++ r) = some (g, r) := by
  obtain ⟨x, y, w, hh⟩ := g
  simp only at h
  simp [geom8, readGeom8]
  omega

theorem readGeomHex_geomHex (g : Nat × Nat × Nat × Nat) (r : Bytes)
    (h : g.1 < 16 ∧ g.2.1 < 16 ∧ 1 ≤ g.2.2.1 ∧ g.2.2.1 ≤ 16 ∧ 1 ≤ g.2.2.2 ∧ g.2.2.2 ≤ 16) :
    readGeomHex (geomHex g ++ r) = some (g, r) := by
  obtain ⟨x, y, w, hh⟩ := g
  simp only at h
  simp [geomHex, readGeomHex]
  omega

/-- a geometry reader/writer pair that is faithful on every sub-rectangle inside a `W × H` area -/
def GeomCodec (rg : Dec (Nat × Nat × Nat × Nat)) (gb : Nat × Nat × Nat × Nat → Bytes) (W H : Nat) : Prop :=
  ∀ x y w h, x + w ≤ W → y + h ≤ H → ∀ t, rg (gb (x, y, w, h) ++ t) = some ((x, y, w, h), t)

theorem geomCodec16 {W H : Nat} (hW : W < 65536) (hH : H < 65536) : GeomCodec readGeom16 geom16 W H :=
  fun _ _ _ _ hx hy t => readGeom16_geom16 _ t (by simp only; omega)

theorem geomCodec8 {W H : Nat} (hW : W < 256) (hH : H < 256) : GeomCodec readGeom8 geom8 W H :=
  fun _ _ _ _ hx hy t => readGeom8_geom8 _ t (by simp only; omega)

def subrectsBytes (pc : Pixel → Bytes) (gb : Nat × Nat × Nat × Nat → Bytes) (rs : List Subrect) : Bytes :=
  rs.flatMap fun r => pc r.c ++ gb (r.x, r.y, r.w, r.h)

/-- reader/writer pair law, restricted to the sub-rectangles at hand -/
structure SubCodec (rc : Dec Pixel) (rg : Dec (Nat × Nat × Nat × Nat)) (pc : Pixel → Bytes)
    (gb : Nat × Nat × Nat × Nat → Bytes) (W H : Nat) (r : Subrect) : Prop where
  colour : ∀ t, rc (pc r.c ++ t) = some (r.c, t)
  geom : ∀ t, rg (gb (r.x, r.y, r.w, r.h) ++ t) = some ((r.x, r.y, r.w, r.h), t)
  inb : r.x + r.w ≤ W ∧ r.y + r.h ≤ H

theorem readSubrects_subrectsBytes {rc : Dec Pixel} {rg : Dec (Nat × Nat × Nat × Nat)}
    {pc : Pixel → Bytes} {gb : Nat × Nat × Nat × Nat → Bytes} {W H : Nat} (rs : List Subrect)
    (rest : Bytes) (h : ∀ r ∈ rs, SubCodec rc rg pc gb W H r) :
    readSubrects rc rg W H rs.length (subrectsBytes pc gb rs ++ rest) = some (rs, rest) := by
  induction rs with
  | nil => simp [readSubrects, subrectsBytes]
  | cons r rs ih =>
    have hr := h r (by simp)
    have hrs : ∀ q ∈ rs, SubCodec rc rg pc gb W H q := fun q hq => h q (by simp [hq])
    have := ih hrs
    simp only [subrectsBytes] at this
    simp only [subrectsBytes, List.flatMap_cons, List.length_cons, readSubrects, List.append_assoc]
    rw [hr.colour]; dsimp only
    rw [hr.geom]; dsimp only
    simp [hr.inb, this]

def serializeRRE (gb : Nat × Nat × Nat × Nat → Bytes) (bpp : Nat) (bg : Pixel) (rs : List Subrect) :
    Bytes :=
  u32be rs.length ++ pixBytes bpp bg ++ subrectsBytes (pixBytes bpp) gb rs

theorem decodeRREWith_serialize {rg : Dec (Nat × Nat × Nat × Nat)}
    {gb : Nat × Nat × Nat × Nat → Bytes} (g : Geometry) (bpp : Nat) (bg : Pixel)
    (rs : List Subrect) (rest : Bytes) (hn : rs.length < 4294967296) (hbg : PixOK bpp bg)
    (h : ∀ r ∈ rs, SubCodec (readPixel bpp) rg (pixBytes bpp) gb g.w g.h r) :
    decodeRREWith rg g bpp (serializeRRE gb bpp bg rs ++ rest) =
      some ((paintRects g.w g.h bg rs).toList, rest) := by
  simp only [decodeRREWith, serializeRRE, List.append_assoc]
  rw [readU32_u32be hn]; dsimp only
  rw [readPixel_pixBytes _ _ _ hbg]; dsimp only
  rw [readSubrects_subrectsBytes rs rest h]
  rfl

end VncModel.Enc
