import VncModel.Enc.Containers
/-!
# The zlib streams of a connection persist

* `streams_persist`: several independent streams (Tight has four, Zlib and ZRLE one each): whatever
  the interleaving of chunks on the streams, a decoder that keeps ONE inflate state per stream for the
  whole connection recovers every chunk — i.e. the decoder's state for a stream is determined by all
  bytes sent on that stream so far, and the encoder must never restart a stream on its own.
* `zlibSession`: model of the Zlib encoder's connection-level state in rfbserver.c / zlib.c:
  `compStreamInited`, `compStream`, `zlibCompressLevel`.  SetEncodings only stores the level; the level
  is used when the stream is created lazily by the first non-tiny rectangle and never again.
  `zlib_session_decodes`: for EVERY sequence of SetEncodings (any levels, any other encodings in
  between) and rectangles, one persistent decoder stream decodes every Zlib rectangle.
-/
namespace VncModel.Enc.Server
open VncModel.Enc VncModel.Enc.Spec

def updFn {α : Type} (f : Nat → α) (i : Nat) (v : α) : Nat → α := fun j => if j = i then v else f j

/-- server: chunk `data` goes through stream `i` -/
def srvRun {σ τ : Type} (Z : ZLaw σ τ) : (Nat → σ) → List (Nat × Bytes) → List (Nat × Bytes)
  | _, [] => []
  | ss, (i, d) :: more => (i, (Z.deflate (ss i) d).1) :: srvRun Z (updFn ss i (Z.deflate (ss i) d).2) more

/-- client: one persistent inflate state per stream -/
def cliRun {σ τ : Type} (Z : ZLaw σ τ) : (Nat → τ) → List (Nat × Bytes) → Option (List Bytes)
  | _, [] => some []
  | ts, (i, z) :: more =>
    match Z.inflate (ts i) z with
    | none => none
    | some (d, t') => (cliRun Z (updFn ts i t') more).map (d :: ·)

theorem streams_persist {σ τ : Type} (Z : ZLaw σ τ) : ∀ (evs : List (Nat × Bytes)) (ss : Nat → σ) (ts : Nat → τ),
    (∀ i, Z.Sync (ss i) (ts i)) → cliRun Z ts (srvRun Z ss evs) = some (evs.map (·.2)) := by
  intro evs
  induction evs with
  | nil => intro ss ts _; rfl
  | cons e more ih =>
    intro ss ts h
    obtain ⟨i, d⟩ := e
    obtain ⟨t', h1, h2⟩ := Z.law (ss i) (ts i) d (h i)
    simp only [srvRun, cliRun, h1, List.map_cons]
    rw [ih (updFn ss i (Z.deflate (ss i) d).2) (updFn ts i t') (by
      intro j; unfold updFn; by_cases hj : j = i
      · simp [hj, h2]
      · simp [hj, h j])]
    rfl

/-- a compressor that can be created at any level; every fresh compressor is in sync with a fresh
decompressor (the level only influences how well it compresses) -/
structure ZInit (σ τ : Type) extends ZLaw σ τ where
  init : Nat → σ
  tinit : τ
  fresh : ∀ lvl, Sync (init lvl) tinit

structure ZlibConn (σ : Type) where
  stream : Option σ      -- `none` = `compStreamInited == FALSE`
  level : Nat            -- `cl->zlibCompressLevel`

inductive ZlibEv where
  | setLevel (n : Nat)                  -- SetEncodings with a CompressLevel pseudo-encoding
  | other                               -- any other message / rectangles in other encodings
  | rect (g : Geometry) (px : List Pixel)   -- a non-tiny Zlib rectangle

/-- rfbserver.c (SetEncodings) + zlib.c (`rfbSendOneRectEncodingZlib`): output = payloads of the Zlib
rectangles -/
def zlibSession {σ τ : Type} (Z : ZInit σ τ) (bpp : Nat) : ZlibConn σ → List ZlibEv → List (Geometry × Bytes)
  | _, [] => []
  | c, .setLevel n :: more => zlibSession Z bpp { c with level := n } more
  | c, .other :: more => zlibSession Z bpp c more
  | c, .rect g px :: more =>
    let s := match c.stream with
      | some s => s
      | none => Z.init c.level                     -- lazy `deflateInit2(…, zlibCompressLevel, …)`
    let r := chunkPayload Z.toZLaw s (pixelsBytes bpp px)
    (g, r.1) :: zlibSession Z bpp { c with stream := some r.2 } more

def rectsOf : List ZlibEv → List (Geometry × List Pixel)
  | [] => []
  | .rect g px :: more => (g, px) :: rectsOf more
  | _ :: more => rectsOf more

theorem zlibSession_eq_seq {σ τ : Type} (Z : ZInit σ τ) (bpp : Nat) :
    ∀ (evs : List ZlibEv) (s : σ) (lvl : Nat),
      zlibSession Z bpp ⟨some s, lvl⟩ evs =
        ((rectsOf evs).map (·.1)).zip (serverZlibSeq Z.toZLaw bpp s (rectsOf evs)) := by
  intro evs
  induction evs with
  | nil => intro s lvl; rfl
  | cons e more ih =>
    intro s lvl
    cases e with
    | setLevel n => simp only [zlibSession, rectsOf]; exact ih s n
    | other => simp only [zlibSession, rectsOf]; exact ih s lvl
    | rect g px =>
      simp only [zlibSession, rectsOf, List.map_cons, serverZlibSeq, List.zip_cons_cons]
      rw [ih]

/-- **the Zlib stream persists for the connection**: whatever SetEncodings messages (level changes,
other encodings) come between the rectangles, a client with ONE inflate stream decodes every Zlib
rectangle to its pixels -/
theorem zlib_session_decodes {σ τ : Type} (Z : ZInit σ τ) (bpp : Nat) (evs : List ZlibEv) (lvl0 : Nat)
    (h : ∀ r ∈ rectsOf evs, r.2.length = r.1.w * r.1.h ∧ ∀ p ∈ r.2, PixOK bpp p) :
    clientZlibSeq Z.toZLaw bpp Z.tinit (zlibSession Z bpp ⟨none, lvl0⟩ evs) = some ((rectsOf evs).map (·.2)) := by
  -- skip events until the first rectangle creates the stream
  induction evs generalizing lvl0 with
  | nil => rfl
  | cons e more ih =>
    cases e with
    | setLevel n => simp only [zlibSession, rectsOf] at h ⊢; exact ih n h
    | other => simp only [zlibSession, rectsOf] at h ⊢; exact ih lvl0 h
    | rect g px =>
      have key := zlibSeq_decodes Z.toZLaw bpp (rectsOf (.rect g px :: more)) (Z.init lvl0) Z.tinit
        (Z.fresh lvl0) h
      simp only [zlibSession, rectsOf, List.map_cons, serverZlibSeq, List.zip_cons_cons] at key ⊢
      rw [zlibSession_eq_seq]
      exact key

end VncModel.Enc.Server
