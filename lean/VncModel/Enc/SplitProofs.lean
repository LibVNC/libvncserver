import VncModel.Enc.Server
/-!
# The pieces of CoRRE / Zlib / Ultra rectangle splitting tile the rectangle exactly

`cover pieces px py` counts the pieces that contain the point: it is 1 for every point of the
rectangle and 0 for every other point — i.e. the pieces are inside the rectangle, pairwise disjoint,
and cover it.  `ite_sum` is the one step both inductions use: two disjoint indicators add up to the
indicator of the union.
-/
namespace VncModel.Enc.Server
open VncModel.Enc VncModel.Enc.Spec

def InTile (t : TileRect) (px py : Nat) : Prop :=
  t.x ≤ px ∧ px < t.x + t.w ∧ t.y ≤ py ∧ py < t.y + t.h

instance (t : TileRect) (px py : Nat) : Decidable (InTile t px py) := by unfold InTile; infer_instance

def cover (ts : List TileRect) (px py : Nat) : Nat := ts.countP fun t => decide (InTile t px py)

theorem cover_append (a b : List TileRect) (px py : Nat) :
    cover (a ++ b) px py = cover a px py + cover b px py := by simp [cover, List.countP_append]

theorem cover_single (t : TileRect) (px py : Nat) :
    cover [t] px py = if InTile t px py then 1 else 0 := by
  simp only [cover, List.countP_cons, List.countP_nil, Nat.zero_add]
  split <;> simp_all

theorem ite_sum (A B C : Prop) [Decidable A] [Decidable B] [Decidable C] (h : C ↔ (A ∨ B))
    (hd : ¬ (A ∧ B)) : ((if A then 1 else 0) + if B then 1 else 0) = if C then 1 else 0 := by
  by_cases hA : A <;> by_cases hB : B <;> by_cases hC : C <;> simp_all

/-- **CoRRE**: `rfbSendRectEncodingCoRRE`'s pieces tile the rectangle (any position, any size, any
positive `correMaxWidth/Height`; the fuel `w + h < f` is what the recursion needs) -/
theorem correSplit_cover (mw mh : Nat) (hmw : 1 ≤ mw) (hmh : 1 ≤ mh) :
    ∀ (f x y w h px py : Nat), w + h < f →
      cover (correSplit mw mh f x y w h) px py = if InTile ⟨x, y, w, h⟩ px py then 1 else 0 := by
  intro f
  induction f with
  | zero => intro x y w h px py hf; omega
  | succ f ih =>
    intro x y w h px py hf
    simp only [correSplit]
    by_cases hh : h > mh
    · simp only [hh, if_true, cover_append]
      rw [ih x y w mh px py (by omega), ih x (y + mh) w (h - mh) px py (by omega)]
      apply ite_sum <;> (unfold InTile; simp only; omega)
    · simp only [hh, if_false]
      by_cases hw : w > mw
      · simp only [hw, if_true, cover_append]
        rw [ih x y mw h px py (by omega), ih (x + mw) y (w - mw) h px py (by omega)]
        apply ite_sum <;> (unfold InTile; simp only; omega)
      · simp only [hw, if_false, cover_single]

/-- `ZLIB_MAX_SIZE(w) / w ≥ 1`: the row loop of zlib.c / ultra.c always makes progress -/
theorem zlibMaxLines_pos (w : Nat) (hw : 0 < w) : 1 ≤ zlibMaxSize w / w := by
  unfold zlibMaxSize
  split
  · apply Nat.le_div_iff_mul_le hw |>.mpr; omega
  · apply Nat.le_div_iff_mul_le hw |>.mpr; omega

theorem zlibSplit_cover (x w maxLines : Nat) (hm : 1 ≤ maxLines) :
    ∀ (f y rem px py : Nat), rem ≤ f →
      cover (zlibSplit x w maxLines f y rem) px py = if InTile ⟨x, y, w, rem⟩ px py then 1 else 0 := by
  intro f
  induction f with
  | zero =>
    intro y rem px py hf
    have : rem = 0 := by omega
    subst this
    have hn : ¬ InTile ⟨x, y, w, 0⟩ px py := by unfold InTile; simp only; omega
    simp [zlibSplit, cover, hn]
  | succ f ih =>
    intro y rem px py hf
    simp only [zlibSplit]
    by_cases h0 : rem = 0
    · subst h0
      have hn : ¬ InTile ⟨x, y, w, 0⟩ px py := by unfold InTile; simp only; omega
      simp [cover, hn]
    · simp only [h0, if_false]
      have hc : cover (⟨x, y, w, if maxLines < rem then maxLines else rem⟩ ::
          zlibSplit x w maxLines f (y + if maxLines < rem then maxLines else rem)
            (rem - if maxLines < rem then maxLines else rem)) px py =
          cover [⟨x, y, w, if maxLines < rem then maxLines else rem⟩] px py +
          cover (zlibSplit x w maxLines f (y + if maxLines < rem then maxLines else rem)
            (rem - if maxLines < rem then maxLines else rem)) px py := by
        rw [← cover_append]; rfl
      rw [hc, cover_single, ih _ _ px py (by split <;> omega)]
      apply ite_sum <;> (unfold InTile; simp only; split <;> omega)

/-- every piece `rfbSendRectEncodingCoRRE` hands to the small-rectangle encoder is at most
`correMaxWidth × correMaxHeight` -/
theorem correSplit_small (mw mh : Nat) : ∀ (f x y w h : Nat),
    ∀ r ∈ correSplit mw mh f x y w h, r.w ≤ mw ∧ r.h ≤ mh := by
  intro f
  induction f with
  | zero => intro x y w h r hr; simp [correSplit] at hr
  | succ f ih =>
    intro x y w h r hr
    simp only [correSplit] at hr
    split at hr
    · rcases List.mem_append.mp hr with e | e
      · exact ih _ _ _ _ r e
      · exact ih _ _ _ _ r e
    · split at hr
      · rcases List.mem_append.mp hr with e | e
        · exact ih _ _ _ _ r e
        · exact ih _ _ _ _ r e
      · simp at hr; subst hr; simp only; omega

end VncModel.Enc.Server
