import VncModel.Enc.Server
/-! Correctness of the faithful `subrectEncode` model: the sub-rectangles it emits, painted over
the background, reproduce the input array exactly (for every array, size, background). -/
namespace VncModel.Enc.Server
open VncModel.Enc VncModel.Enc.Spec

theorem runLen_le (d : Array Pixel) (base : Nat) (c : Pixel) (f i : Nat) : runLen d base c f i ≤ f := by
  induction f generalizing i with
  | zero => simp [runLen]
  | succ f ih =>
    simp only [runLen]
    split
    · have := ih (i + 1); omega
    · omega

theorem runLen_spec (d : Array Pixel) (base : Nat) (c : Pixel) (f i k : Nat)
    (hk : k < runLen d base c f i) : d.getD (base + (i + k)) 0 = c := by
  induction f generalizing i k with
  | zero => simp [runLen] at hk
  | succ f ih =>
    simp only [runLen] at hk
    split at hk
    · rename_i h0
      cases k with
      | zero => simpa using h0
      | succ k =>
        have := ih (i + 1) k (by omega)
        have e : base + (i + 1 + k) = base + (i + (k + 1)) := by omega
        rw [e] at this; exact this
    · omega

theorem runLen_pos (d : Array Pixel) (base : Nat) (c : Pixel) (f i : Nat)
    (h : d.getD (base + i) 0 = c) : 0 < runLen d base c (f + 1) i := by
  simp [runLen, h]

/-- rows `y … y+n-1`, columns `x … kx` all hold `c` -/
def RowsOK (d : Array Pixel) (w x y : Nat) (c : Pixel) (n kx : Nat) : Prop :=
  ∀ r k, r < n → x ≤ k → k ≤ kx → d.getD ((y + r) * w + k) 0 = c

structure ScanInv (d : Array Pixel) (w x y : Nat) (c : Pixel) (j : Nat) (s : Scan) : Prop where
  rows_eq : y + s.rows = j
  hh_le : s.hh ≤ s.rows
  flag : s.hflag = true → s.hh = s.rows
  pos : 0 < s.rows → x ≤ s.vx ∧ s.vx ≤ s.hx ∧ s.hx < w
  vOK : RowsOK d w x y c s.rows s.vx
  hOK : RowsOK d w x y c s.hh s.hx

theorem min_facts {x i vx hx : Nat} (hix : x ≤ i) (h1 : x ≤ vx) (h2 : vx ≤ hx) :
    x ≤ (if i < vx then i else vx) ∧ (if i < vx then i else vx) ≤ hx ∧ (if i < vx then i else vx) ≤ i ∧
      (if i < vx then i else vx) ≤ vx := by
  split <;> omega

theorem scanRows_inv (d : Array Pixel) (w x y : Nat) (c : Pixel) (hxw : x < w) :
    ∀ (f j : Nat) (s : Scan), ScanInv d w x y c j s →
      ∃ j', ScanInv d w x y c j' (scanRows d w x c f j s) ∧ j' ≤ j + f := by
  intro f
  induction f with
  | zero => intro j s h; exact ⟨j, by simpa [scanRows] using h, by omega⟩
  | succ f ih =>
    intro j s h
    simp only [scanRows]
    by_cases hc : d.getD (j * w + x) 0 = c
    · simp only [hc, ne_eq, not_true_eq_false, if_false]
      have hn1 : 0 < runLen d (j * w) c (w - x) x := by
        have : w - x = (w - x - 1) + 1 := by omega
        rw [this]; exact runLen_pos _ _ _ _ _ hc
      have hn2 := runLen_le d (j * w) c (w - x) x
      have hrun : ∀ k, x ≤ k → k ≤ x + runLen d (j * w) c (w - x) x - 1 →
          d.getD (j * w + k) 0 = c := by
        intro k h1 h2
        have := runLen_spec d (j * w) c (w - x) x (k - x) (by omega)
        have e : x + (k - x) = k := by omega
        rw [e] at this; exact this
      generalize hi : x + runLen d (j * w) c (w - x) x - 1 = i at *
      have hix : x ≤ i := by omega
      have hiw : i < w := by omega
      have hj : j = y + s.rows := h.rows_eq.symm
      have hhle := h.hh_le
      -- the new `hx`, `vx`: all that matters is how they compare with the old ones and with `i`
      have hnew : ∃ hx' vx', (if s.rows = 0 then i else s.hx) = hx' ∧
          (if i < (if s.rows = 0 then i else s.vx) then i else (if s.rows = 0 then i else s.vx)) = vx' ∧
          x ≤ vx' ∧ vx' ≤ hx' ∧ hx' < w ∧ vx' ≤ i ∧ (0 < s.rows → vx' ≤ s.vx ∧ hx' = s.hx) ∧
          (s.rows = 0 → hx' = i) := by
        by_cases h0 : s.rows = 0
        · exact ⟨i, i, by simp only [if_pos h0], by simp only [if_pos h0, ite_self], hix, Nat.le_refl _, hiw,
            Nat.le_refl _, fun hp => by omega, fun _ => rfl⟩
        · have hp := h.pos (by omega)
          have hm := min_facts hix hp.1 hp.2.1
          refine ⟨s.hx, _, by simp only [if_neg h0], rfl, ?_⟩
          simp only [if_neg h0]
          exact ⟨hm.1, hm.2.1, hp.2.2, hm.2.2.1, fun _ => ⟨hm.2.2.2, trivial⟩, fun e => absurd e h0⟩
      obtain ⟨hx', vx', ehx, evx, h1, h2, h3, h4, h5, h6⟩ := hnew
      rw [ehx, evx]
      have key : ∀ (hh' : Nat) (fl : Bool),
          (hh' = s.hh + 1 ∧ fl = true ∧ s.hflag = true ∧ i ≥ hx') ∨ (hh' = s.hh ∧ fl = false) →
          ScanInv d w x y c (j + 1) ⟨hx', vx', hh', fl, s.rows + 1⟩ := by
        intro hh' fl hcase
        refine ⟨by simp only; omega, ?_, ?_, fun _ => ⟨h1, h2, h3⟩, ?_, ?_⟩
        · rcases hcase with ⟨a, _, b, _⟩ | ⟨a, _⟩
          · have := h.flag b; simp only [a]; omega
          · simp only [a]; omega
        · intro hfl
          rcases hcase with ⟨a, _, b, _⟩ | ⟨_, b⟩
          · have := h.flag b; simp only [a]; omega
          · simp [b] at hfl
        · intro r k hr hk1 hk2
          simp only at hr hk2
          by_cases hrl : r < s.rows
          · exact h.vOK r k hrl hk1 (by have := h5 (by omega); omega)
          · rw [show y + r = j by omega]; exact hrun k hk1 (by omega)
        · intro r k hr hk1 hk2
          simp only at hr hk2
          by_cases hrl : r < s.hh
          · exact h.hOK r k hrl hk1 (by have := h5 (by omega); omega)
          · rcases hcase with ⟨a, _, b, c2⟩ | ⟨a, _⟩
            · have := h.flag b
              rw [show y + r = j by omega]; exact hrun k hk1 (by omega)
            · omega
      by_cases hcond : s.hflag = true ∧ i ≥ hx'
      · rw [if_pos hcond]
        obtain ⟨j', hj', hle⟩ := ih (j + 1) _ (key (s.hh + 1) true (Or.inl ⟨rfl, rfl, hcond.1, hcond.2⟩))
        exact ⟨j', hj', by omega⟩
      · rw [if_neg hcond]
        obtain ⟨j', hj', hle⟩ := ih (j + 1) _ (key s.hh false (Or.inr ⟨rfl, rfl⟩))
        exact ⟨j', hj', by omega⟩
    · simp only [hc, ne_eq, not_false_eq_true, if_true]
      exact ⟨j, h, by omega⟩

theorem le_ite {P : Prop} [Decidable P] {n a b : Nat} (ha : n ≤ a) (hb : n ≤ b) :
    n ≤ if P then a else b := by
  split <;> assumption

theorem scanRows_rows_le (d : Array Pixel) (w x : Nat) (c : Pixel) :
    ∀ (f j : Nat) (s : Scan) (n : Nat), n ≤ s.rows → n ≤ (scanRows d w x c f j s).rows := by
  intro f
  induction f with
  | zero => intro j s n h; exact h
  | succ f ih =>
    intro j s n h
    simp only [scanRows, apply_ite Scan.rows]
    exact le_ite h (le_ite (ih _ _ _ (Nat.le_succ_of_le h)) (ih _ _ _ (Nat.le_succ_of_le h)))

theorem scanRows_rows_pos (d : Array Pixel) (w x : Nat) (c : Pixel) (f j : Nat) (s : Scan)
    (hc : d.getD (j * w + x) 0 = c) : s.rows + 1 ≤ (scanRows d w x c (f + 1) j s).rows := by
  simp only [scanRows, hc, ne_eq, not_true_eq_false, if_false, apply_ite Scan.rows]
  exact le_ite (scanRows_rows_le d w x c f _ _ _ (Nat.le_refl _))
    (scanRows_rows_le d w x c f _ _ _ (Nat.le_refl _))

theorem findRect_spec (d : Array Pixel) (w h x y : Nat) (c : Pixel) (hxw : x < w) (hyh : y < h)
    (hc : d.getD (y * w + x) 0 = c) :
    1 ≤ (findRect d w h x y c).1 ∧ 1 ≤ (findRect d w h x y c).2 ∧
    x + (findRect d w h x y c).1 ≤ w ∧ y + (findRect d w h x y c).2 ≤ h ∧
    ∀ dy dx, dy < (findRect d w h x y c).2 → dx < (findRect d w h x y c).1 →
      d.getD ((y + dy) * w + (x + dx)) 0 = c := by
  have h0 : ScanInv d w x y c y ⟨0, 0, 0, true, 0⟩ :=
    ⟨by simp, by simp, by simp, by simp, by intro r k hr; simp at hr, by intro r k hr; simp at hr⟩
  obtain ⟨j', hinv, hj'⟩ := scanRows_inv d w x y c hxw (h - y) y _ h0
  have hrows1 : 1 ≤ (scanRows d w x c (h - y) y ⟨0, 0, 0, true, 0⟩).rows := by
    rw [show h - y = (h - y - 1) + 1 by omega]
    exact scanRows_rows_pos d w x c _ y ⟨0, 0, 0, true, 0⟩ hc
  simp only [findRect]
  generalize scanRows d w x c (h - y) y ⟨0, 0, 0, true, 0⟩ = s at *
  have hpos := hinv.pos (by omega)
  have hjr := hinv.rows_eq
  have hhle := hinv.hh_le
  split
  · rename_i hgt
    have hh1 : 1 ≤ s.hh := by
      rcases Nat.eq_zero_or_pos s.hh with h0 | h0
      · rw [h0] at hgt; simp at hgt
      · exact h0
    refine ⟨by simp, hh1, by simp only; omega, by simp only; omega, ?_⟩
    intro dy dx hdy hdx
    exact hinv.hOK dy (x + dx) hdy (by omega) (by simp only at hdx; omega)
  · refine ⟨by simp, by simp only; omega, by simp only; omega, by simp only; omega, ?_⟩
    intro dy dx hdy hdx
    exact hinv.vOK dy (x + dx) hdy (by omega) (by simp only at hdx; omega)

-- `O` = the input image; `d` = the work array, in which every finished sub-rectangle has been
-- overwritten with `bg`; `p` = next flat position.  `cnt` bounds the number of sub-rectangles: each
-- one was anchored at a distinct position `< p` that is not `q`, a position where the input is `bg`.
structure LoopInv (w h : Nat) (bg : Pixel) (O : Nat → Pixel) (p : Nat) (d : Array Pixel)
    (acc : List Subrect) : Prop where
  size : d.size = w * h
  keep : ∀ i, i < w * h → d.getD i 0 ≠ bg → d.getD i 0 = O i
  done : ∀ i, i < w * h → d.getD i 0 = bg → (paintRects w h bg acc.reverse).getD i 0 = O i
  before : ∀ i, i < p → i < w * h → d.getD i 0 = bg
  wf : ∀ r ∈ acc, r.x + r.w ≤ w ∧ r.y + r.h ≤ h ∧ 1 ≤ r.w ∧ 1 ≤ r.h ∧ r.c ≠ bg ∧ ∃ i, i < w * h ∧ r.c = O i
  cnt : ∀ q, q < w * h → O q = bg → acc.length + (if q < p then 1 else 0) ≤ p

structure LoopPost (w h : Nat) (bg : Pixel) (O : Nat → Pixel) (rs : List Subrect) : Prop where
  paint : ∀ i, i < w * h → (paintRects w h bg rs).getD i 0 = O i
  wf : ∀ r ∈ rs, r.x + r.w ≤ w ∧ r.y + r.h ≤ h ∧ 1 ≤ r.w ∧ 1 ≤ r.h ∧ r.c ≠ bg ∧ ∃ i, i < w * h ∧ r.c = O i
  cnt : ∀ q, q < w * h → O q = bg → rs.length + 1 ≤ w * h

theorem cnt_skip {n p q : Nat} (h : n + (if q < p then 1 else 0) ≤ p) :
    n + (if q < p + 1 then 1 else 0) ≤ p + 1 := by
  split <;> split at h <;> omega

theorem cnt_push {n p q : Nat} (hqp : q ≠ p) (h : n + (if q < p then 1 else 0) ≤ p) :
    n + 1 + (if q < p + 1 then 1 else 0) ≤ p + 1 := by
  split <;> split at h <;> omega

theorem subrectLoop_spec (w h : Nat) (bg : Pixel) (ssz limit : Nat) (O : Nat → Pixel) :
    ∀ (f p : Nat) (d : Array Pixel) (acc : List Subrect) (len : Nat) (rs : List Subrect) (len' : Nat),
      LoopInv w h bg O p d acc → p + f = w * h →
      subrectLoop w h bg ssz limit f p d acc len = some (rs, len') →
      LoopPost w h bg O rs ∧ len' + ssz * acc.length = len + ssz * rs.length ∧
        (acc.length < rs.length → len' ≤ limit) ∧ acc.length ≤ rs.length := by
  intro f
  induction f with
  | zero =>
    intro p d acc len rs len' inv hp hres
    simp only [subrectLoop, Option.some.injEq, Prod.mk.injEq] at hres
    obtain ⟨h1, h2⟩ := hres
    subst h1; subst h2
    refine ⟨⟨?_, ?_, ?_⟩, by simp, by simp, by simp⟩
    · intro i hi
      exact inv.done i hi (inv.before i (by omega) hi)
    · intro r hr; exact inv.wf r (by simpa using hr)
    · intro q hq hO
      have := inv.cnt q hq hO
      have hqp : q < p := by omega
      simp [hqp] at this
      simp; omega
  | succ f ih =>
    intro p d acc len rs len' inv hp hres
    have hpl : p < w * h := by omega
    have hw : 0 < w := pos_of_lt_mul hpl
    simp only [subrectLoop] at hres
    by_cases hc : d.getD p 0 = bg
    · simp only [hc, if_true] at hres
      have inv' : LoopInv w h bg O (p + 1) d acc := by
        refine ⟨inv.size, inv.keep, inv.done, ?_, inv.wf, ?_⟩
        · intro i hi hi2
          by_cases hip : i < p
          · exact inv.before i hip hi2
          · have : i = p := by omega
            subst this; exact hc
        · intro q hq hO
          exact cnt_skip (inv.cnt q hq hO)
      exact ih (p + 1) d acc len rs len' inv' (by omega) hres
    · simp only [hc, if_false] at hres
      by_cases hlen : len + ssz > limit
      · simp [hlen] at hres
      · simp only [hlen, if_false] at hres
        have hx : p % w < w := Nat.mod_lt _ hw
        have hy : p / w < h := Nat.div_lt_of_lt_mul hpl
        have hpd := (div_mul_add_mod p w).symm
        have hcp : d.getD (p / w * w + p % w) 0 = d.getD p 0 := by rw [← hpd]
        obtain ⟨hr1, hr2, hr3, hr4, hun⟩ := findRect_spec d w h (p % w) (p / w) (d.getD p 0) hx hy hcp
        generalize hfr : findRect d w h (p % w) (p / w) (d.getD p 0) = fr at *
        obtain ⟨rw, rh⟩ := fr
        simp only at hr1 hr2 hr3 hr4 hun hres
        have hcell : ∀ i, InRect w (p % w) (p / w) rw rh i → d.getD i 0 = d.getD p 0 := by
          intro i hi
          unfold InRect at hi
          have := hun (i / w - p / w) (i % w - p % w) (by omega) (by omega)
          have e1 : p / w + (i / w - p / w) = i / w := by omega
          have e2 : p % w + (i % w - p % w) = i % w := by omega
          rw [e1, e2, div_mul_add_mod] at this
          exact this
        have hgd : ∀ i, (fillRect d w (p % w) (p / w) rw rh bg).getD i 0 =
            if InRect w (p % w) (p / w) rw rh i ∧ i < w * h then bg else d.getD i 0 := by
          intro i; rw [getD_fillRect _ _ _ _ _ _ _ _ _ hr3, inv.size]
        have hpin : InRect w (p % w) (p / w) rw rh p := by unfold InRect; omega
        have inv' : LoopInv w h bg O (p + 1) (fillRect d w (p % w) (p / w) rw rh bg)
            (⟨d.getD p 0, p % w, p / w, rw, rh⟩ :: acc) := by
          refine ⟨by rw [size_fillRect]; exact inv.size, ?_, ?_, ?_, ?_, ?_⟩
          · intro i hi hne
            rw [hgd] at hne ⊢
            by_cases hin : InRect w (p % w) (p / w) rw rh i ∧ i < w * h
            · simp [hin] at hne
            · simp only [hin, if_false] at hne ⊢
              exact inv.keep i hi hne
          · intro i hi hbg
            rw [hgd] at hbg
            rw [List.reverse_cons, getD_paintRects_append _ _ _ _ _ _ _ (by simpa using hr3)]
            by_cases hin : InRect w (p % w) (p / w) rw rh i ∧ i < w * h
            · simp only [hin, and_self, if_true]
              have h1 := hcell i hin.1
              have h2 := inv.keep i hi (by rw [h1]; exact hc)
              rw [← h2, h1]
            · simp only [hin, if_false] at hbg ⊢
              exact inv.done i hi hbg
          · intro i hi hi2
            rw [hgd]
            by_cases hin : InRect w (p % w) (p / w) rw rh i ∧ i < w * h
            · simp [hin]
            · simp only [hin, if_false]
              have : i < p := by
                rcases Nat.lt_or_ge i p with h1 | h1
                · exact h1
                · have : i = p := by omega
                  subst this; exact absurd ⟨hpin, hi2⟩ hin
              exact inv.before i this hi2
          · intro r hr
            rcases List.mem_cons.mp hr with h1 | h1
            · subst h1
              exact ⟨hr3, hr4, hr1, hr2, hc, p, hpl, inv.keep p hpl hc⟩
            · exact inv.wf r h1
          · intro q hq hO
            have hqp : q ≠ p := by
              intro e; subst e
              exact hc (by rw [inv.keep q hq hc, hO])
            exact cnt_push hqp (inv.cnt q hq hO)
        obtain ⟨post, hl, hlim, hle⟩ := ih (p + 1) _ _ (len + ssz) rs len' inv' (by omega) hres
        simp only [List.length_cons] at hl hlim hle
        refine ⟨post, ?_, ?_, by omega⟩
        · rw [Nat.mul_succ] at hl; omega
        · intro _
          rcases Nat.lt_or_ge (acc.length + 1) rs.length with h1 | h1
          · exact hlim h1
          · have e : rs.length = acc.length + 1 := by omega
            rw [e, Nat.mul_succ] at hl
            omega

/-- **`subrectEncode` is correct**: whenever it succeeds, painting its sub-rectangles over `bg`
gives back the input array; all sub-rectangles are inside the `w × h` area, non-empty, carry a
colour of the input different from `bg`; if `bg` occurs in the input there are fewer than `w*h` of
them; the reported length is `len0 + ssz * count` and passed the size test. -/
theorem subrectEncode_spec (w h : Nat) (bg : Pixel) (ssz limit len0 : Nat) (d : Array Pixel)
    (hs : d.size = w * h) (rs : List Subrect) (len : Nat)
    (hres : subrectEncode w h bg ssz limit len0 d = some (rs, len)) :
    LoopPost w h bg (fun i => d.getD i 0) rs ∧ len = len0 + ssz * rs.length ∧
      (0 < rs.length → len ≤ limit) := by
  have inv0 : LoopInv w h bg (fun i => d.getD i 0) 0 d [] := by
    refine ⟨hs, fun i _ _ => rfl, ?_, by intro i hi; omega, by intro r hr; simp at hr, by intro q _ _; simp⟩
    intro i hi hbg
    simp only [List.reverse_nil]
    rw [getD_paintRects_nil _ _ _ _ _ hi]; exact hbg.symm
  obtain ⟨post, hl, hlim, _⟩ := subrectLoop_spec w h bg ssz limit _ (w * h) 0 d [] len0 rs len inv0 (by simp) hres
  simp only [List.length_nil, Nat.mul_zero, Nat.add_zero] at hl hlim
  exact ⟨post, hl, hlim⟩

end VncModel.Enc.Server
