import VncModel.Enc.TightProofs
import VncModel.Enc.Containers
import VncModel.Enc.PackProofs
/-! `Spec.decodeTight` of the bytes the Tight model emits for one sub-rectangle gives the pixels. -/
namespace VncModel.Enc.Server
open VncModel.Enc VncModel.Enc.Spec

/-- the real wire bytes of one sub-rectangle for a given zlib (state of the stream it uses) -/
def TightOut.wire {σ τ : Type} (Z : ZLaw σ τ) (s : σ) (o : TightOut) : Bytes × σ :=
  if !o.hasData then (o.header, s)
  else if o.data.length < 12 then (o.header ++ o.data, s)
  else if o.zlevel = 0 then (o.header ++ compactLen o.data.length ++ o.data, s)
  else (o.header ++ compactLen (Z.deflate s o.data).1.length ++ (Z.deflate s o.data).1, (Z.deflate s o.data).2)

/-- reader/writer law for TPIXELs of format `f` on the pixels at hand -/
def TPixLaw (f : PixFmt) (p : Pixel) : Prop :=
  (∀ t, readTPixel f.tpix (tpixBytes f p ++ t) = some (p, t)) ∧ (tpixBytes f p).length = f.tpix.size

theorem readTPixels_flatMap (f : PixFmt) (ps : List Pixel) (t : Bytes) (h : ∀ p ∈ ps, TPixLaw f p) :
    readTPixels f.tpix ps.length (ps.flatMap (tpixBytes f) ++ t) = some (ps, t) := by
  induction ps with
  | nil => simp [readTPixels]
  | cons p ps ih =>
    simp only [List.flatMap_cons, List.length_cons, readTPixels, List.append_assoc]
    rw [(h p (by simp)).1]
    simp only
    rw [ih (fun q hq => h q (by simp [hq]))]
    rfl

theorem flatMap_tpix_length (f : PixFmt) (ps : List Pixel) (h : ∀ p ∈ ps, TPixLaw f p) :
    (ps.flatMap (tpixBytes f)).length = ps.length * f.tpix.size := by
  induction ps with
  | nil => simp
  | cons p ps ih =>
    simp only [List.flatMap_cons, List.length_append, List.length_cons]
    rw [(h p (by simp)).2, ih (fun q hq => h q (by simp [hq])), Nat.succ_mul]; omega

theorem readTightData_short (infl : Bytes → Option Bytes) (data rest : Bytes) (h : data.length < 12) :
    readTightData infl data.length (data ++ rest) = some (data, rest) := by
  unfold readTightData tightMinToCompress
  simp only [h, if_true]
  exact takeN_append data rest

theorem readTightData_long (infl : Bytes → Option Bytes) (data z rest : Bytes) (h : ¬ data.length < 12)
    (hz : z.length < 4194304) (hi : infl z = some data) :
    readTightData infl data.length (compactLen z.length ++ z ++ rest) = some (data, rest) := by
  unfold readTightData tightMinToCompress
  simp only [h, if_false, List.append_assoc]
  rw [readCompactLen_compactLen _ _ hz]
  simp only
  rw [takeN_append z rest]
  simp [hi]

/-- the data block of `TightOut.wire`, whatever branch `CompressData` takes -/
theorem wire_block {σ τ : Type} (Z : ZLaw σ τ) (s : σ) (t : τ) (hs : Z.Sync s t) (o : TightOut)
    (hd : o.hasData = true) (rest : Bytes) (hlen : o.data.length < 4194304)
    (hzl : (Z.deflate s o.data).1.length < 4194304) :
    ∃ blk t', (o.wire Z s).1 = o.header ++ blk ∧
      readTightData (if o.zlevel = 0 then some else fun z => (Z.inflate t z).map (·.1)) o.data.length
        (blk ++ rest) = some (o.data, rest) ∧
      Z.Sync (o.wire Z s).2 t' := by
  unfold TightOut.wire
  simp only [hd, Bool.not_true, Bool.false_eq_true, if_false]
  by_cases h12 : o.data.length < 12
  · simp only [h12, if_true]
    exact ⟨o.data, t, rfl, readTightData_short _ _ _ h12, hs⟩
  · simp only [h12, if_false]
    by_cases hz : o.zlevel = 0
    · simp only [hz, if_true]
      refine ⟨compactLen o.data.length ++ o.data, t, by simp, ?_, hs⟩
      exact readTightData_long some o.data o.data rest h12 hlen rfl
    · simp only [hz, if_false]
      obtain ⟨t', h1, h2⟩ := Z.law s t o.data hs
      refine ⟨compactLen (Z.deflate s o.data).1.length ++ (Z.deflate s o.data).1, t', by simp, ?_, h2⟩
      exact readTightData_long _ o.data _ rest h12 hzl (by simp [h1])

theorem monoIndex_eq (bg fg p : Pixel) (hne : bg ≠ fg) (hp : p = bg ∨ p = fg) :
    (if p = bg then 0 else 1) = paletteIndex [bg, fg] p := by
  unfold paletteIndex
  rcases hp with e | e
  · subst e; simp
  · subst e
    have : ¬ (p = bg) := fun e => hne e.symm
    have h2 : (bg == p) = false := by simpa using hne
    simp [List.idxOf_cons, this, h2]

theorem monoData_eq (w : Nat) (bg fg : Pixel) (hne : bg ≠ fg) : ∀ (h : Nat) (px : List Pixel),
    (∀ p ∈ px, p = bg ∨ p = fg) → monoData w bg h px = packRows 1 w [bg, fg] h px := by
  intro h
  induction h with
  | zero => intro px _; rfl
  | succ h ih =>
    intro px hp
    simp only [monoData, packRows]
    rw [ih (px.drop w) (fun p hq => hp p (List.mem_of_mem_drop hq))]
    congr 2
    apply List.map_congr_left
    intro p hq
    exact monoIndex_eq bg fg p hne (hp p (List.mem_of_mem_take hq))

theorem ceil8_le (w : Nat) (hw : 1 ≤ w) : (w + 7) / 8 ≤ w := by omega

abbrev tightCd : TightCodecs := { allowNoZlib := true }

theorem decodeTight_fill (infl : Nat → Bytes → Option Bytes) (f : PixFmt) (g : Geometry) (p : Pixel)
    (rest : Bytes) (hp : TPixLaw f p) :
    decodeTight tightCd infl f g (u8 0x80 ++ tpixBytes f p ++ rest) =
      some (List.replicate (g.w * g.h) p, rest) := by
  simp [u8, decodeTight, hp.1]

/-- copy filter (full colour): control 0x00 (zlib stream 0) or 0xA0 ("no zlib") -/
theorem decodeTight_copy (infl : Nat → Bytes → Option Bytes) (f : PixFmt) (g : Geometry)
    (lvl : Nat) (blk d rest : Bytes) (px : List Pixel)
    (hrd : readTightData (if lvl = 0 then some else infl 0) (g.w * g.h * f.tpix.size) (blk ++ rest) = some (d, rest))
    (hpx : readTPixels f.tpix (g.w * g.h) d = some (px, [])) :
    decodeTight tightCd infl f g (u8 (if lvl = 0 then 0xA0 else 0x00) ++ blk ++ rest) = some (px, rest) := by
  by_cases h : lvl = 0 <;> simp [h] at hrd <;> simp [u8, decodeTight, h, hrd, hpx]

/-- palette filter with exactly two colours (mono): control 0x50 (stream 1) or 0xE0 -/
theorem decodeTight_mono (infl : Nat → Bytes → Option Bytes) (f : PixFmt) (g : Geometry)
    (lvl : Nat) (bg fg : Pixel) (blk d rest : Bytes) (px : List Pixel)
    (hbg : TPixLaw f bg) (hfg : TPixLaw f fg)
    (hrd : readTightData (if lvl = 0 then some else infl 1) ((g.w + 7) / 8 * g.h) (blk ++ rest) = some (d, rest))
    (hpx : decodePackedRows 1 g.w [bg, fg] g.h d = some (px, [])) :
    decodeTight tightCd infl f g
      (u8 (if lvl = 0 then 0xE0 else 0x50) ++ u8 1 ++ u8 1 ++ tpixBytes f bg ++ tpixBytes f fg ++ blk ++ rest) =
        some (px, rest) := by
  have hp2 : readTPixels f.tpix 2 (tpixBytes f bg ++ (tpixBytes f fg ++ (blk ++ rest))) =
      some ([bg, fg], blk ++ rest) := by
    simp [readTPixels, hbg.1, hfg.1]
  by_cases h : lvl = 0 <;> simp [h] at hrd <;> simp [u8, decodeTight, readU8, h, hp2, hrd, hpx]

/-- palette filter with 3..256 colours (indexed): control 0x60 (stream 2) or 0xE0 -/
theorem decodeTight_indexed (infl : Nat → Bytes → Option Bytes) (f : PixFmt) (g : Geometry)
    (lvl : Nat) (pal : List Pixel) (blk d rest : Bytes) (px : List Pixel)
    (hpal : ∀ p ∈ pal, TPixLaw f p) (hn3 : 3 ≤ pal.length) (hn256 : pal.length ≤ 256)
    (hrd : readTightData (if lvl = 0 then some else infl 2) (g.w * g.h) (blk ++ rest) = some (d, rest))
    (hpx : lookupAll pal (d.map (·.toNat)) = some px) :
    decodeTight tightCd infl f g
      (u8 (if lvl = 0 then 0xE0 else 0x60) ++ u8 1 ++ u8 (pal.length - 1) ++ pal.flatMap (tpixBytes f) ++ blk ++ rest) =
        some (px, rest) := by
  have hp2 := readTPixels_flatMap f pal (blk ++ rest) hpal
  have em : (pal.length - 1) % 256 + 1 = pal.length := by omega
  have hne2 : ¬ (pal.length = 2) := by omega
  by_cases h : lvl = 0 <;> simp [h] at hrd <;> simp [u8, decodeTight, readU8, h, em, hp2, hrd, hpx, hne2]

theorem lookupAll_indices (pal : TPal) (px : List Pixel) (h : ∀ p ∈ px, p ∈ tcolours pal)
    (hl : pal.length ≤ 256) :
    lookupAll (tcolours pal) ((px.map fun p => UInt8.ofNat (tpalIndex pal p)).map (·.toNat)) = some px := by
  have : (px.map fun p => UInt8.ofNat (tpalIndex pal p)).map (·.toNat) = px.map (paletteIndex (tcolours pal)) := by
    rw [List.map_map]
    apply List.map_congr_left
    intro p hp
    have hi : List.idxOf p (tcolours pal) < (tcolours pal).length := List.idxOf_lt_length_of_mem (h p hp)
    simp only [Function.comp, tpalIndex, paletteIndex, tcolours] at hi ⊢
    rw [toNat_ofNat_lt]
    simp only [List.length_map] at hi; omega
  rw [this]
  exact lookupAll_map_index (tcolours pal) px h

/-- a rectangle with a data block: whatever form `CompressData` gives the block, it is read back
and handed to the filter (`hshape`), and the zlib stream stays in sync -/
theorem wire_decodes {σ τ : Type} (Z : ZLaw σ τ) (ss : Nat → σ) (ts : Nat → τ)
    (hsync : ∀ i, Z.Sync (ss i) (ts i)) (f : PixFmt) (g : Geometry) (o : TightOut) (px : List Pixel)
    (rest : Bytes) (hd : o.hasData = true) (hlen : o.data.length < 4194304)
    (hz : ∀ s d, (Z.deflate s d).1.length < 4194304)
    (hshape : ∀ blk, readTightData (if o.zlevel = 0 then some else fun z => (Z.inflate (ts o.stream) z).map (·.1))
        o.data.length (blk ++ rest) = some (o.data, rest) →
      decodeTight tightCd (fun i z => (Z.inflate (ts i) z).map (·.1)) f g (o.header ++ blk ++ rest) =
        some (px, rest)) :
    ∃ t', decodeTight tightCd (fun i z => (Z.inflate (ts i) z).map (·.1)) f g
        ((o.wire Z (ss o.stream)).1 ++ rest) = some (px, rest) ∧
      Z.Sync (o.wire Z (ss o.stream)).2 t' := by
  obtain ⟨blk, t', hw, hrd, hsy⟩ := wire_block Z (ss o.stream) (ts o.stream) (hsync _) o hd rest hlen (hz _ _)
  exact ⟨t', by rw [hw]; exact hshape blk hrd, hsy⟩

/-- **one Tight sub-rectangle** (`SendSubrect` without JPEG, `rfbEncodingTight`): the bytes of the
model — control byte, filter, palette, `CompressData` block in any of its three forms — decode by
`Spec.decodeTight` to the pixels, and the zlib stream it used stays in sync.
`TPixLaw` (reader/writer law of the TPIXEL representation) is a hypothesis here; it is discharged for
the formats without `Pack24` by `Props.C01.tpixel_law_plain`. -/
theorem tightSubrect_decodes {σ τ : Type} (Z : ZLaw σ τ) (f : PixFmt) (lvl0 : Bool) (g : Geometry)
    (px : List Pixel) (rest : Bytes) (ss : Nat → σ) (ts : Nat → τ)
    (hsync : ∀ i, Z.Sync (ss i) (ts i))
    (hlen : px.length = g.w * g.h) (hpos : 0 < g.w * g.h) (harea : g.w * g.h ≤ 65536)
    (htp : ∀ p ∈ px, TPixLaw f p) (hts : f.tpix.size ≤ 4)
    (hz : ∀ s d, (Z.deflate s d).1.length < 4194304) :
    ∃ t', decodeTight tightCd (fun i z => (Z.inflate (ts i) z).map (·.1)) f g
        (((tightSubrect f lvl0 g.w g.h px).wire Z (ss (tightSubrect f lvl0 g.w g.h px).stream)).1 ++ rest) =
          some (px, rest) ∧
      Z.Sync ((tightSubrect f lvl0 g.w g.h px).wire Z (ss (tightSubrect f lvl0 g.w g.h px).stream)).2 t' := by
  obtain ⟨hsolid, hmono, hidx⟩ := fillPalette_spec (f.bpp == 8) (tightMaxColors (tightConfOf lvl0) g.w g.h) px
  have hne : px ≠ [] := by intro e; rw [e] at hlen; simp at hlen; omega
  have hw1 : 1 ≤ g.w := pos_of_lt_mul hpos
  cases hk : fillPalette (f.bpp == 8) (tightMaxColors (tightConfOf lvl0) g.w g.h) px with
  | solid =>
    have ho : tightSubrect f lvl0 g.w g.h px = ⟨u8 0x80 ++ tpixBytes f (px.headD 0), [], 0, 0, false⟩ := by
      simp only [tightSubrect, hk]
    have hall := hsolid hk
    have hhead : px.headD 0 ∈ px := by
      cases px with
      | nil => exact absurd rfl hne
      | cons a l => simp
    have hrep : px = List.replicate (g.w * g.h) (px.headD 0) := by
      rw [List.eq_replicate_iff]; exact ⟨hlen, hall⟩
    rw [ho]
    refine ⟨ts 0, ?_, hsync 0⟩
    simp only [TightOut.wire, Bool.not_false, if_true]
    rw [decodeTight_fill _ f g _ rest (htp _ hhead), ← hrep]
  | mono bg fg =>
    obtain ⟨hbf, hall, hbg, hfg⟩ := hmono bg fg hk
    have hdata : (monoData g.w bg g.h px).length = (g.w + 7) / 8 * g.h := by
      rw [monoData_eq g.w bg fg hbf g.h px hall, packRows_length (b := 1) (by decide) g.w [bg, fg] g.h px hlen,
        Nat.mul_one]
    have hdl : (monoData g.w bg g.h px).length < 4194304 := by
      rw [hdata]
      have := Nat.mul_le_mul_right g.h (ceil8_le g.w hw1)
      omega
    have hdec : decodePackedRows 1 g.w [bg, fg] g.h (monoData g.w bg g.h px) = some (px, []) := by
      have := decodePackedRows_packRows (b := 1) (by decide) g.w [bg, fg] (Nat.le_refl 2) g.h px []
        hlen (by intro p hp; rcases hall p hp with e | e <;> simp [e])
      rwa [List.append_nil, ← monoData_eq g.w bg fg hbf g.h px hall] at this
    simp only [tightSubrect, hk]
    refine wire_decodes Z ss ts hsync f g _ px rest rfl hdl hz (fun blk hrd => ?_)
    simp only at hrd ⊢
    rw [hdata] at hrd
    simpa only [List.append_assoc] using decodeTight_mono _ f g _ bg fg blk _ rest px (htp _ hbg) (htp _ hfg) hrd hdec
  | indexed pal =>
    obtain ⟨hl256, hl3, hcol⟩ := hidx pal hk
    have hdl : (px.map (fun p => UInt8.ofNat (tpalIndex pal p))).length = g.w * g.h := by simp [hlen]
    simp only [tightSubrect, hk]
    refine wire_decodes Z ss ts hsync f g _ px rest rfl (by simp only [hdl]; omega) hz (fun blk hrd => ?_)
    simp only at hrd ⊢
    rw [hdl] at hrd
    have := decodeTight_indexed (fun i z => (Z.inflate (ts i) z).map (·.1)) f g _ (tcolours pal) blk _ rest px
      (fun p hp => htp p ((hcol p).mp hp)) (by simpa [tcolours] using hl3) (by simpa [tcolours] using hl256)
      hrd (lookupAll_indices pal px (fun p hp => (hcol p).mpr hp) hl256)
    simpa [List.append_assoc, tcolours, List.flatMap_map] using this
  | full =>
    have hdl : (px.flatMap (tpixBytes f)).length = g.w * g.h * f.tpix.size := by
      rw [flatMap_tpix_length f px htp, hlen]
    have hpx := readTPixels_flatMap f px [] htp
    rw [hlen, List.append_nil] at hpx
    simp only [tightSubrect, hk]
    refine wire_decodes Z ss ts hsync f g _ px rest rfl
      (by simp only [hdl]; have := Nat.mul_le_mul harea hts; omega) hz (fun blk hrd => ?_)
    simp only at hrd ⊢
    rw [hdl] at hrd
    simpa only [List.append_assoc] using decodeTight_copy _ f g _ blk _ rest px hrd hpx

end VncModel.Enc.Server
