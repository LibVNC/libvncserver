import VncModel.Enc.Tight
/-! Tight without JPEG: the compact length round trip and what `SendSubrect` may rely on after
`FillPalette`.  The count-ordered insertion of `PaletteInsert` only permutes the table, so
`palInsert_spec` speaks of the SET of colours (`tcolours`) and the length. -/
namespace VncModel.Enc.Server
open VncModel.Enc VncModel.Enc.Spec

theorem readCompactLen_compactLen (n : Nat) (t : Bytes) (h : n < 4194304) :
    readCompactLen (compactLen n ++ t) = some (n, t) := by
  unfold compactLen
  by_cases h1 : n ≤ 0x7F
  · simp only [h1, if_true, List.cons_append, List.nil_append, readCompactLen]
    rw [toNat_ofNat_lt (by omega)]
    simp; omega
  · simp only [h1, if_false]
    by_cases h2 : n ≤ 0x3FFF
    · simp only [h2, if_true, List.cons_append, List.nil_append, readCompactLen]
      rw [toNat_ofNat_lt (show n % 128 + 128 < 256 by omega), toNat_ofNat_lt (show n / 128 % 128 < 256 by omega)]
      have a1 : ¬ (n % 128 + 128 < 128) := by omega
      have a2 : n / 128 % 128 < 128 := by omega
      simp only [a1, a2, if_false, if_true]
      simp; omega
    · simp only [h2, if_false, List.cons_append, List.nil_append, readCompactLen]
      rw [toNat_ofNat_lt (show n % 128 + 128 < 256 by omega),
        toNat_ofNat_lt (show n / 128 % 128 + 128 < 256 by omega),
        toNat_ofNat_lt (show n / 16384 % 256 < 256 by omega)]
      have a1 : ¬ (n % 128 + 128 < 128) := by omega
      have a2 : ¬ (n / 128 % 128 + 128 < 128) := by omega
      simp only [a1, a2, if_false]
      simp; omega

theorem splitLess_append (n : Nat) (l : TPal) : (splitLess n l).1 ++ (splitLess n l).2 = l := by
  unfold splitLess
  simp only
  rw [← List.reverse_append, List.takeWhile_append_dropWhile, List.reverse_reverse]

def tcolours (pal : TPal) : List Pixel := pal.map (·.1)

theorem tcolours_append (a b : TPal) : tcolours (a ++ b) = tcolours a ++ tcolours b := by
  simp [tcolours]

theorem mem_tc_append (c : Pixel) (a b : TPal) : c ∈ tcolours (a ++ b) ↔ c ∈ tcolours a ∨ c ∈ tcolours b := by
  simp [tcolours]

theorem mem_tc_single (c r : Pixel) (k : Nat) : c ∈ tcolours [(r, k)] ↔ c = r := by simp [tcolours]

theorem palInsert_spec (m : Nat) (pal pal' : TPal) (rgb : Pixel) (n : Nat)
    (h : palInsert m pal rgb n = some pal') (hl : pal.length ≤ 256) :
    (∀ c, c ∈ tcolours pal' ↔ (c ∈ tcolours pal ∨ c = rgb)) ∧ pal'.length ≤ 256 ∧
      pal.length ≤ pal'.length := by
  unfold palInsert at h
  cases hf : pal.findIdx? (fun e => e.1 == rgb) with
  | some i =>
    simp only [hf, Option.some.injEq] at h
    have hi : i < pal.length := (List.findIdx?_eq_some_iff_findIdx_eq.mp hf).1
    have hpi : (pal[i]).1 = rgb := by
      have := List.findIdx?_eq_some_iff_getElem.mp hf
      obtain ⟨hh, hp, _⟩ := this
      simpa using hp
    have hsplit : pal = pal.take i ++ [(rgb, (pal[i]).2)] ++ pal.drop (i + 1) := by
      have e : (rgb, (pal[i]).2) = pal[i] := by rw [← hpi]
      rw [e, List.append_assoc]; simp
    generalize hcnt : (pal.getD i (0, 0)).2 + n = cnt at h
    have hsp := splitLess_append cnt (pal.take i)
    generalize splitLess cnt (pal.take i) = sp at h hsp
    subst h
    have hlen : (sp.1 ++ [(rgb, cnt)] ++ sp.2 ++ pal.drop (i + 1)).length = pal.length := by
      have h1 := congrArg List.length hsp
      simp only [List.length_append, List.length_cons, List.length_nil, List.length_take,
        List.length_drop] at h1 ⊢
      omega
    refine ⟨?_, by omega, by omega⟩
    intro c
    have h1 : c ∈ tcolours (pal.take i) ↔ (c ∈ tcolours sp.1 ∨ c ∈ tcolours sp.2) := by
      rw [← mem_tc_append, hsp]
    have h2 : c ∈ tcolours pal ↔ ((c ∈ tcolours (pal.take i) ∨ c = rgb) ∨ c ∈ tcolours (pal.drop (i + 1))) := by
      conv => lhs; rw [hsplit]
      rw [mem_tc_append, mem_tc_append, mem_tc_single]
    rw [mem_tc_append, mem_tc_append, mem_tc_append, mem_tc_single, h2, h1]
    simp only [or_assoc, or_comm, or_self_left]
  | none =>
    simp only [hf] at h
    split at h
    · simp at h
    · rename_i hfull
      simp only [Option.some.injEq] at h
      have hsp := splitLess_append n pal
      generalize splitLess n pal = sp at h hsp
      subst h
      have hlen : (sp.1 ++ [(rgb, n)] ++ sp.2).length = pal.length + 1 := by
        have h1 := congrArg List.length hsp
        simp only [List.length_append, List.length_cons, List.length_nil] at h1 ⊢
        omega
      refine ⟨?_, by omega, by omega⟩
      intro c
      have h1 : c ∈ tcolours pal ↔ (c ∈ tcolours sp.1 ∨ c ∈ tcolours sp.2) := by
        rw [← mem_tc_append, hsp]
      rw [mem_tc_append, mem_tc_append, mem_tc_single, h1]
      simp only [or_assoc, or_comm]

theorem three_mem_length (l : List Pixel) (a b c : Pixel) (ha : a ∈ l) (hb : b ∈ l) (hc : c ∈ l)
    (hab : a ≠ b) (hac : a ≠ c) (hbc : b ≠ c) : 3 ≤ l.length := by
  match l with
  | [] => simp at ha
  | [x] => simp at ha hb; exact absurd (ha.trans hb.symm) hab
  | [x, y] =>
    simp at ha hb hc
    rcases ha with rfl | rfl <;> rcases hb with rfl | rfl <;> rcases hc with rfl | rfl <;> simp_all
  | _ :: _ :: _ :: _ => simp

theorem takeWhile_all (q : Pixel → Bool) : ∀ (l : List Pixel), ∀ x ∈ l.takeWhile q, q x = true :=
  fun _ => List.all_eq_true.mp List.all_takeWhile

theorem dropWhile_head (q : Pixel → Bool) : ∀ (l : List Pixel) (a : Pixel) (t : List Pixel),
    l.dropWhile q = a :: t → q a = false := by
  intro l a t h
  have := List.head_dropWhile_not q (l := l) (by simp [h])
  simpa [h] using this

theorem monoScan_spec (c0 c1 : Pixel) : ∀ (ps : List Pixel) (n0 n1 a b : Nat) (rest : List Pixel),
    monoScan c0 c1 ps n0 n1 = (a, b, rest) →
    ∃ pre, ps = pre ++ rest ∧ (∀ p ∈ pre, p = c0 ∨ p = c1) ∧
      (∀ q more, rest = q :: more → q ≠ c0 ∧ q ≠ c1) := by
  intro ps
  induction ps with
  | nil =>
    intro n0 n1 a b rest h
    simp only [monoScan, Prod.mk.injEq] at h
    obtain ⟨_, _, h3⟩ := h
    subst h3
    exact ⟨[], rfl, by simp, by intro q more hq; simp at hq⟩
  | cons p ps ih =>
    intro n0 n1 a b rest h
    simp only [monoScan] at h
    by_cases h0 : p = c0
    · simp only [h0, if_true] at h
      obtain ⟨pre, e, hp, hr⟩ := ih _ _ _ _ _ h
      refine ⟨p :: pre, by simp [e], ?_, hr⟩
      intro q hq
      rcases List.mem_cons.mp hq with e' | e'
      · left; rw [e']; exact h0
      · exact hp q e'
    · simp only [h0, if_false] at h
      by_cases h1 : p = c1
      · simp only [h1, if_true] at h
        obtain ⟨pre, e, hp, hr⟩ := ih _ _ _ _ _ h
        refine ⟨p :: pre, by simp [e], ?_, hr⟩
        intro q hq
        rcases List.mem_cons.mp hq with e' | e'
        · right; rw [e']; exact h1
        · exact hp q e'
      · simp only [h1, if_false, Prod.mk.injEq] at h
        obtain ⟨_, _, h3⟩ := h
        subst h3
        exact ⟨[], rfl, by simp, by intro q more hq; simp at hq; obtain ⟨e1, _⟩ := hq; subst e1; exact ⟨h0, h1⟩⟩

theorem palRuns_spec (m : Nat) : ∀ (ps : List Pixel) (ci : Pixel) (ni : Nat) (pal pal' : TPal),
    palRuns m ps ci ni pal = some pal' → pal.length ≤ 256 →
    (∀ c, c ∈ tcolours pal' ↔ (c ∈ tcolours pal ∨ c = ci ∨ c ∈ ps)) ∧ pal'.length ≤ 256 ∧
      pal.length ≤ pal'.length := by
  intro ps
  induction ps with
  | nil =>
    intro ci ni pal pal' h hl
    simp only [palRuns] at h
    obtain ⟨h1, h2, h3⟩ := palInsert_spec m pal pal' ci ni h hl
    exact ⟨by intro c; rw [h1 c]; simp, h2, h3⟩
  | cons p ps ih =>
    intro ci ni pal pal' h hl
    simp only [palRuns] at h
    by_cases hp : p = ci
    · simp only [hp, if_true] at h
      obtain ⟨h1, h2, h3⟩ := ih ci (ni + 1) pal pal' h hl
      refine ⟨?_, h2, h3⟩
      intro c; rw [h1 c, hp]
      simp only [List.mem_cons, or_self_left]
    · simp only [hp, if_false] at h
      cases hins : palInsert m pal ci ni with
      | none => simp [hins] at h
      | some pal1 =>
        simp only [hins] at h
        obtain ⟨i1, i2, i3⟩ := palInsert_spec m pal pal1 ci ni hins hl
        obtain ⟨h1, h2, h3⟩ := ih p 1 pal1 pal' h i2
        refine ⟨?_, h2, by omega⟩
        intro c; rw [h1 c, i1 c]
        simp only [List.mem_cons, or_assoc]

theorem fillPalette_spec (bpp8 : Bool) (m : Nat) (px : List Pixel) :
    (fillPalette bpp8 m px = .solid → ∀ p ∈ px, p = px.headD 0) ∧
    (∀ bg fg, fillPalette bpp8 m px = .mono bg fg →
      bg ≠ fg ∧ (∀ p ∈ px, p = bg ∨ p = fg) ∧ bg ∈ px ∧ fg ∈ px) ∧
    (∀ pal, fillPalette bpp8 m px = .indexed pal →
      pal.length ≤ 256 ∧ 3 ≤ pal.length ∧ (∀ c, c ∈ tcolours pal ↔ c ∈ px)) := by
  cases px with
  | nil => simp [fillPalette]
  | cons c0 rest =>
    simp only [fillPalette, List.headD_cons]
    have hsplit : rest = rest.takeWhile (· == c0) ++ rest.dropWhile (· == c0) :=
      (List.takeWhile_append_dropWhile).symm
    have htw : ∀ p ∈ rest.takeWhile (· == c0), p = c0 := by
      intro p hp; have := takeWhile_all (· == c0) rest p hp; simpa using this
    cases htail : rest.dropWhile (· == c0) with
    | nil =>
      simp only
      refine ⟨?_, by intro bg fg h; simp at h, by intro pal h; simp at h⟩
      intro _ p hp
      rcases List.mem_cons.mp hp with e | e
      · exact e
      · rw [hsplit, htail, List.append_nil] at e; exact htw p e
    | cons c1 more =>
      simp only
      have hc1 : c1 ≠ c0 := by
        have := dropWhile_head (· == c0) rest c1 more htail
        simpa using this
      have hmemc1 : c1 ∈ rest := by rw [hsplit, htail]; simp
      by_cases hm : m < 2
      · simp [hm]
      · simp only [hm, if_false]
        generalize hms : monoScan c0 c1 more (rest.length - (c1 :: more).length + 1) 0 = r
        obtain ⟨a, b, rr⟩ := r
        obtain ⟨pre, epre, hpre, hrest⟩ := monoScan_spec c0 c1 more _ _ a b rr hms
        have hall : ∀ p ∈ c0 :: rest, p = c0 ∨ p = c1 ∨ p ∈ rr := by
          intro p hp
          rcases List.mem_cons.mp hp with e | e
          · exact Or.inl e
          · rw [hsplit, htail, epre] at e
            simp only [List.mem_append, List.mem_cons] at e
            rcases e with e | e | e | e
            · exact Or.inl (htw p e)
            · exact Or.inr (Or.inl e)
            · rcases hpre p e with e' | e'
              · exact Or.inl e'
              · exact Or.inr (Or.inl e')
            · exact Or.inr (Or.inr e)
        cases rr with
        | nil =>
          simp only
          refine ⟨by split <;> simp, ?_, by intro pal h; split at h <;> simp at h⟩
          intro bg fg h
          have hall' : ∀ p ∈ c0 :: rest, p = c0 ∨ p = c1 := by
            intro p hp; rcases hall p hp with e | e | e
            · exact Or.inl e
            · exact Or.inr e
            · simp at e
          split at h
          · simp only [TightKind.mono.injEq] at h
            obtain ⟨e1, e2⟩ := h; subst e1; subst e2
            exact ⟨fun e => hc1 e.symm, hall', by simp, by simp [hmemc1]⟩
          · simp only [TightKind.mono.injEq] at h
            obtain ⟨e1, e2⟩ := h; subst e1; subst e2
            exact ⟨hc1, fun p hp => (hall' p hp).symm, by simp [hmemc1], by simp⟩
        | cons ci after =>
          simp only
          by_cases h8 : bpp8 = true
          · simp [h8]
          · simp only [h8, Bool.false_eq_true, if_false]
            cases hi1 : palInsert m [] c0 a with
            | none => simp
            | some p1 =>
              simp only
              cases hi2 : palInsert m p1 c1 b with
              | none => simp
              | some p2 =>
                simp only
                cases hi3 : palRuns m after ci 1 p2 with
                | none => simp
                | some p3 =>
                  refine ⟨by simp, by simp, ?_⟩
                  intro pal h
                  simp only [TightKind.indexed.injEq] at h
                  subst h
                  obtain ⟨s1, l1, g1⟩ := palInsert_spec m [] p1 c0 a hi1 (by simp)
                  obtain ⟨s2, l2, g2⟩ := palInsert_spec m p1 p2 c1 b hi2 l1
                  obtain ⟨s3, l3, g3⟩ := palRuns_spec m after ci 1 p2 p3 hi3 l2
                  have hci := hrest ci after rfl
                  have m0 : c0 ∈ tcolours p3 := by rw [s3, s2, s1]; simp
                  have m1 : c1 ∈ tcolours p3 := by rw [s3, s2, s1]; simp
                  have m2 : ci ∈ tcolours p3 := by rw [s3]; simp
                  have hlen3 : 3 ≤ p3.length := by
                    have := three_mem_length (tcolours p3) c0 c1 ci m0 m1 m2 (fun e => hc1 e.symm)
                      (fun e => hci.1 e.symm) (fun e => hci.2 e.symm)
                    simpa [tcolours] using this
                  refine ⟨l3, hlen3, ?_⟩
                  intro c
                  rw [s3 c, s2 c, s1 c]
                  constructor
                  · intro hc
                    rcases hc with ((hc | hc) | hc) | hc | hc
                    · simp [tcolours] at hc
                    · subst hc; exact List.mem_cons_self
                    · subst hc; exact List.mem_cons_of_mem _ hmemc1
                    · subst hc; apply List.mem_cons_of_mem; rw [hsplit, htail, epre]; simp
                    · apply List.mem_cons_of_mem; rw [hsplit, htail, epre]; simp [hc]
                  · intro hc
                    rcases hall c hc with e | e | e
                    · exact Or.inl (Or.inl (Or.inr e))
                    · exact Or.inl (Or.inr e)
                    · rcases List.mem_cons.mp e with e' | e'
                      · exact Or.inr (Or.inl e')
                      · exact Or.inr (Or.inr e')

end VncModel.Enc.Server
