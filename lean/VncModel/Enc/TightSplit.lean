import VncModel.Enc.SplitProofs
/-!
# Tight: how a rectangle is cut into sub-rectangles (`SendRectSimple`, `SendRectEncodingTight`)

* `simpleSplit` = `SendRectSimple`: a grid of pieces at most `TIGHT_MAX_RECT_WIDTH` wide and
  `TIGHT_MAX_RECT_SIZE` pixels big; `simpleSplit_cover`: the pieces tile the rectangle,
  `simpleSplit_small`: each is within the limits `tightSubrect_decodes` needs.
* `TPlan` / `planPieces` = the LastRect path of `SendRectEncodingTight` with the solid-area search
  (`CheckSolidTile`, `FindBestSolidArea`, `ExtendSolidArea`) abstracted to a CHOICE: any tree of
  "send the top n rows now" / "this area is solid: top band, left part, fill, right part, bottom band".
  A declared solid area is checked (`isSolid`); a choice that is not usable falls back to `SendRectSimple`.
  `planPieces_cover`: for EVERY plan the pieces tile the rectangle; `planPieces_fill_solid`: every fill
  piece really is of one colour — so no choice of the search can make the output wrong.
-/
namespace VncModel.Enc.Server
open VncModel.Enc VncModel.Enc.Spec

/-- `for (d = 0; d < total; d += step)` with piece length `min step (total - d)`: (offset, length) -/
def segs (step : Nat) : Nat → Nat → Nat → List (Nat × Nat)
  | 0, _, _ => []
  | f + 1, off, rem =>
    if rem = 0 then [] else
    let n := if step < rem then step else rem
    (off, n) :: segs step f (off + n) (rem - n)

def cover1 (l : List (Nat × Nat)) (v : Nat) : Nat := l.countP fun s => decide (s.1 ≤ v ∧ v < s.1 + s.2)

theorem segs_cover (step : Nat) (hs : 1 ≤ step) : ∀ (f off rem v : Nat), rem ≤ f →
    cover1 (segs step f off rem) v = if off ≤ v ∧ v < off + rem then 1 else 0 := by
  intro f
  induction f with
  | zero =>
    intro off rem v h
    have : rem = 0 := by omega
    subst this
    simp [segs, cover1]
  | succ f ih =>
    intro off rem v h
    simp only [segs]
    by_cases h0 : rem = 0
    · subst h0
      simp [cover1]
    · simp only [h0, if_false]
      generalize hn : (if step < rem then step else rem) = n
      have hn1 : 1 ≤ n ∧ n ≤ rem := by split at hn <;> omega
      have : cover1 ((off, n) :: segs step f (off + n) (rem - n)) v =
          (if off ≤ v ∧ v < off + n then 1 else 0) + cover1 (segs step f (off + n) (rem - n)) v := by
        simp only [cover1, List.countP_cons]
        by_cases hc : off ≤ v ∧ v < off + n <;> simp [hc]
        omega
      rw [this, ih (off + n) (rem - n) v (by omega)]
      apply ite_sum <;> omega

theorem segs_len (step : Nat) (h1s : 1 ≤ step) : ∀ (f off rem : Nat), ∀ s ∈ segs step f off rem, 1 ≤ s.2 ∧ s.2 ≤ step := by
  intro f
  induction f with
  | zero => intro off rem s hs; simp [segs] at hs
  | succ f ih =>
    intro off rem s hs
    simp only [segs] at hs
    split at hs
    · simp at hs
    · rcases List.mem_cons.mp hs with e | e
      · subst e; simp only; split <;> omega
      · exact ih _ _ s e

theorem segs_le_total (step : Nat) : ∀ (f off rem : Nat), ∀ s ∈ segs step f off rem, s.2 ≤ rem := by
  intro f
  induction f with
  | zero => intro off rem s hs; simp [segs] at hs
  | succ f ih =>
    intro off rem s hs
    simp only [segs] at hs
    split at hs
    · simp at hs
    · rcases List.mem_cons.mp hs with e | e
      · subst e; simp only; split <;> omega
      · have := ih _ _ s e; omega

def grid (cols rows : List (Nat × Nat)) : List TileRect :=
  rows.flatMap fun r => cols.map fun c => ⟨c.1, r.1, c.2, r.2⟩

theorem row_cover (cols : List (Nat × Nat)) (r : Nat × Nat) (px py : Nat) :
    cover (cols.map fun c => (⟨c.1, r.1, c.2, r.2⟩ : TileRect)) px py =
      cover1 cols px * (if r.1 ≤ py ∧ py < r.1 + r.2 then 1 else 0) := by
  induction cols with
  | nil => simp [cover, cover1]
  | cons c cols ihc =>
    simp only [cover, cover1, List.map_cons, List.countP_cons, InTile] at ihc ⊢
    rw [ihc]
    by_cases h1 : c.1 ≤ px ∧ px < c.1 + c.2 <;> by_cases h2 : r.1 ≤ py ∧ py < r.1 + r.2 <;>
      simp [h1, h2] <;> omega

theorem grid_cover (cols rows : List (Nat × Nat)) (px py : Nat) :
    cover (grid cols rows) px py = cover1 cols px * cover1 rows py := by
  induction rows with
  | nil => simp [grid, cover, cover1]
  | cons r rows ih =>
    simp only [grid, List.flatMap_cons] at ih ⊢
    rw [cover_append, row_cover, ih]
    simp only [cover1, List.countP_cons]
    by_cases h2 : r.1 ≤ py ∧ py < r.1 + r.2 <;> simp [h2, Nat.mul_add] <;> omega

/-- `TIGHT_MAX_RECT_WIDTH`, `TIGHT_MAX_RECT_SIZE` -/
def tightMaxW : Nat := 2048
def tightMaxSize : Nat := 65536

def simpleSplit (x y w h : Nat) : List TileRect :=
  if w > tightMaxW ∨ w * h > tightMaxSize then
    let mw := if w > tightMaxW then tightMaxW else w
    let mh := tightMaxSize / mw
    grid (segs tightMaxW (w + 1) x w) (segs mh (h + 1) y h)
  else [⟨x, y, w, h⟩]

theorem simpleSplit_cover (x y w h px py : Nat) (hw : 0 < w) :
    cover (simpleSplit x y w h) px py = if InTile ⟨x, y, w, h⟩ px py then 1 else 0 := by
  unfold simpleSplit
  by_cases hbig : w > tightMaxW ∨ w * h > tightMaxSize
  · simp only [hbig, if_true]
    have hmh : 1 ≤ tightMaxSize / (if w > tightMaxW then tightMaxW else w) := by
      unfold tightMaxSize tightMaxW at *
      split
      · decide
      · apply (Nat.le_div_iff_mul_le (by omega)).mpr; omega
    rw [grid_cover, segs_cover tightMaxW (by decide) _ _ _ _ (by omega),
      segs_cover _ hmh _ _ _ _ (by omega)]
    unfold InTile; simp only
    by_cases a : x ≤ px ∧ px < x + w <;> by_cases b : y ≤ py ∧ py < y + h <;> simp [a, b] <;> omega
  · simp only [hbig, if_false, cover_single]

theorem simpleSplit_small (x y w h : Nat) (hw : 0 < w) (hh : 0 < h) :
    ∀ t ∈ simpleSplit x y w h, 1 ≤ t.w ∧ 1 ≤ t.h ∧ t.w ≤ tightMaxW ∧ t.w * t.h ≤ tightMaxSize := by
  intro t ht
  unfold simpleSplit at ht
  by_cases hbig : w > tightMaxW ∨ w * h > tightMaxSize
  · simp only [hbig, if_true, grid, List.mem_flatMap, List.mem_map] at ht
    obtain ⟨r, hr, c, hc, rfl⟩ := ht
    have hmh : 1 ≤ tightMaxSize / (if w > tightMaxW then tightMaxW else w) := by
      unfold tightMaxSize tightMaxW at *
      split
      · decide
      · apply (Nat.le_div_iff_mul_le (by omega)).mpr; omega
    have h1 := segs_len _ (by decide) _ _ _ c hc
    have h2 := segs_len _ hmh _ _ _ r hr
    simp only
    refine ⟨h1.1, h2.1, h1.2, ?_⟩
    -- c.2 ≤ mw: the column pieces are also at most w wide
    have hcw : c.2 ≤ (if w > tightMaxW then tightMaxW else w) := by
      have := segs_le_total _ _ _ _ c hc
      split <;> omega
    calc c.2 * r.2 ≤ (if w > tightMaxW then tightMaxW else w) * (tightMaxSize / (if w > tightMaxW then tightMaxW else w)) :=
          Nat.mul_le_mul hcw h2.2
      _ ≤ tightMaxSize := Nat.mul_div_le _ _
  · simp only [hbig, if_false, List.mem_singleton] at ht
    subst ht
    simp only
    omega

/-- a choice tree for `SendRectEncodingTight` -/
inductive TPlan where
  | simple
  | chunk (n : Nat) (rest : TPlan)
  | solid (xb yb wb hb : Nat) (left right bottom : TPlan)
deriving Repr

inductive TPiece where
  | sub (r : TileRect)          -- handed to `SendSubrect`
  | fill (r : TileRect)         -- `rfbSendTightHeader` + `SendSolidRect` with the pixel at (r.x, r.y)
deriving Repr, DecidableEq

def TPiece.rect : TPiece → TileRect
  | .sub r => r
  | .fill r => r

def isSolid (img : Nat → Nat → Pixel) (r : TileRect) (c : Pixel) : Bool :=
  (List.range r.h).all fun dy => (List.range r.w).all fun dx => img (r.x + dx) (r.y + dy) == c

theorem isSolid_spec (img : Nat → Nat → Pixel) (r : TileRect) (c : Pixel) (h : isSolid img r c = true)
    (px py : Nat) (hin : InTile r px py) : img px py = c := by
  unfold InTile at hin
  simp only [isSolid, List.all_eq_true, List.mem_range, beq_iff_eq] at h
  have := h (py - r.y) (by omega) (px - r.x) (by omega)
  have e1 : r.x + (px - r.x) = px := by omega
  have e2 : r.y + (py - r.y) = py := by omega
  rw [e1, e2] at this; exact this

def solidOK (img : Nat → Nat → Pixel) (x y w h xb yb wb hb : Nat) : Bool :=
  decide (x ≤ xb ∧ xb + wb ≤ x + w ∧ y ≤ yb ∧ yb + hb ≤ y + h ∧ 0 < wb ∧ 0 < hb) &&
    isSolid img ⟨xb, yb, wb, hb⟩ (img xb yb)

/-- the pieces `SendRectEncodingTight` sends for the rectangle under a given choice tree -/
def planPieces (img : Nat → Nat → Pixel) : TPlan → Nat → Nat → Nat → Nat → List TPiece
  | .simple, x, y, w, h => (simpleSplit x y w h).map .sub
  | .chunk n rest, x, y, w, h =>
    if 0 < n ∧ n < h then (simpleSplit x y w n).map .sub ++ planPieces img rest x (y + n) w (h - n)
    else (simpleSplit x y w h).map .sub
  | .solid xb yb wb hb l r b, x, y, w, h =>
    if solidOK img x y w h xb yb wb hb then
      (if yb ≠ y then (simpleSplit x y w (yb - y)).map .sub else []) ++
      (if xb ≠ x then planPieces img l x yb (xb - x) hb else []) ++
      [.fill ⟨xb, yb, wb, hb⟩] ++
      (if xb + wb ≠ x + w then planPieces img r (xb + wb) yb (x + w - (xb + wb)) hb else []) ++
      (if yb + hb ≠ y + h then planPieces img b x (yb + hb) w (y + h - (yb + hb)) else [])
    else (simpleSplit x y w h).map .sub

def pcover (ps : List TPiece) (px py : Nat) : Nat := cover (ps.map TPiece.rect) px py

theorem pcover_append (a b : List TPiece) (px py : Nat) :
    pcover (a ++ b) px py = pcover a px py + pcover b px py := by
  simp [pcover, cover_append]

theorem pcover_sub (l : List TileRect) (px py : Nat) : pcover (l.map .sub) px py = cover l px py := by
  simp [pcover, List.map_map, Function.comp_def, TPiece.rect]

/-- an optional group of pieces: present it covers `v`, absent `v` is the indicator of an empty area -/
theorem pcover_ite {c : Prop} [Decidable c] (L : List TPiece) (px py v : Nat)
    (h1 : c → pcover L px py = v) (h0 : ¬ c → v = 0) :
    pcover (if c then L else []) px py = v := by
  split
  · exact h1 ‹_›
  · rw [h0 ‹_›]; rfl

def ind (x y w h px py : Nat) : Nat := if InTile ⟨x, y, w, h⟩ px py then 1 else 0

theorem ind_empty_w (x y h px py : Nat) : ind x y 0 h px py = 0 := by
  have hn : ¬ InTile ⟨x, y, 0, h⟩ px py := by unfold InTile; simp only; omega
  simp [ind, hn]

theorem ind_empty_h (x y w px py : Nat) : ind x y w 0 px py = 0 := by
  have hn : ¬ InTile ⟨x, y, w, 0⟩ px py := by unfold InTile; simp only; omega
  simp [ind, hn]

theorem ind_vsplit (x y w h n px py : Nat) (hn : n ≤ h) :
    ind x y w n px py + ind x (y + n) w (h - n) px py = ind x y w h px py := by
  unfold ind; apply ite_sum <;> (unfold InTile; simp only; omega)

theorem ind_hsplit (x y w h n px py : Nat) (hn : n ≤ w) :
    ind x y n h px py + ind (x + n) y (w - n) h px py = ind x y w h px py := by
  unfold ind; apply ite_sum <;> (unfold InTile; simp only; omega)

/-- **every choice tiles the rectangle**: whatever the solid-area search decides, the pieces sent
cover every pixel of the rectangle exactly once and nothing else -/
theorem planPieces_cover (img : Nat → Nat → Pixel) : ∀ (p : TPlan) (x y w h px py : Nat),
    0 < w → 0 < h → pcover (planPieces img p x y w h) px py = ind x y w h px py := by
  intro p
  induction p with
  | simple =>
    intro x y w h px py hw hh
    simp only [planPieces, pcover_sub]
    exact simpleSplit_cover x y w h px py hw
  | chunk n rest ih =>
    intro x y w h px py hw hh
    simp only [planPieces]
    split
    · rename_i hc
      rw [pcover_append, pcover_sub, simpleSplit_cover x y w n px py hw, ih x (y + n) w (h - n) px py hw (by omega)]
      exact ind_vsplit x y w h n px py (by omega)
    · rw [pcover_sub]; exact simpleSplit_cover x y w h px py hw
  | solid xb yb wb hb l r b ihl ihr ihb =>
    intro x y w h px py hw hh
    simp only [planPieces]
    split
    · rename_i hok
      simp only [solidOK, Bool.and_eq_true, decide_eq_true_eq] at hok
      obtain ⟨⟨h1, h2, h3, h4, h5, h6⟩, _⟩ := hok
      simp only [pcover_append]
      rw [pcover_ite _ px py (ind x y w (yb - y) px py)
          (fun _ => by rw [pcover_sub]; exact simpleSplit_cover x y w (yb - y) px py hw)
          (fun _ => by rw [show yb - y = 0 by omega]; exact ind_empty_h ..),
        pcover_ite _ px py (ind x yb (xb - x) hb px py)
          (fun _ => ihl x yb (xb - x) hb px py (by omega) h6)
          (fun _ => by rw [show xb - x = 0 by omega]; exact ind_empty_w ..),
        pcover_ite _ px py (ind (xb + wb) yb (x + w - (xb + wb)) hb px py)
          (fun _ => ihr (xb + wb) yb (x + w - (xb + wb)) hb px py (by omega) h6)
          (fun _ => by rw [show x + w - (xb + wb) = 0 by omega]; exact ind_empty_w ..),
        pcover_ite _ px py (ind x (yb + hb) w (y + h - (yb + hb)) px py)
          (fun _ => ihb x (yb + hb) w (y + h - (yb + hb)) px py hw (by omega))
          (fun _ => by rw [show y + h - (yb + hb) = 0 by omega]; exact ind_empty_h ..),
        show pcover [TPiece.fill ⟨xb, yb, wb, hb⟩] px py = ind xb yb wb hb px py by
          simp [pcover, TPiece.rect, cover_single, ind]]
      -- assemble: rows [y,yb) ∪ [yb,yb+hb) ∪ [yb+hb,y+h); middle band = left ∪ fill ∪ right
      have e1 := ind_vsplit x y w h (yb - y) px py (by omega)
      have e2 := ind_vsplit x yb w (h - (yb - y)) hb px py (by omega)
      have e3 := ind_hsplit x yb w hb (xb - x) px py (by omega)
      have e4 := ind_hsplit xb yb (w - (xb - x)) hb wb px py (by omega)
      have a1 : y + (yb - y) = yb := by omega
      have a2 : x + (xb - x) = xb := by omega
      have a3 : h - (yb - y) - hb = y + h - (yb + hb) := by omega
      have a4 : w - (xb - x) - wb = x + w - (xb + wb) := by omega
      rw [a1] at e1
      rw [a3] at e2
      rw [a2] at e3
      rw [a4] at e4
      omega
    · rw [pcover_sub]; exact simpleSplit_cover x y w h px py hw

/-- **every fill piece is of one colour** (the colour of its top-left pixel, which is what
`SendSolidRect` transmits) -/
theorem planPieces_fill_solid (img : Nat → Nat → Pixel) : ∀ (p : TPlan) (x y w h : Nat) (r : TileRect),
    TPiece.fill r ∈ planPieces img p x y w h →
      ∀ px py, InTile r px py → img px py = img r.x r.y := by
  intro p
  induction p with
  | simple => intro x y w h r hr; simp [planPieces] at hr
  | chunk n rest ih =>
    intro x y w h r hr
    simp only [planPieces] at hr
    split at hr
    · rcases List.mem_append.mp hr with e | e
      · simp at e
      · exact ih _ _ _ _ r e
    · simp at hr
  | solid xb yb wb hb l rr b ihl ihr ihb =>
    intro x y w h r hr
    simp only [planPieces] at hr
    split at hr
    · rename_i hok
      simp only [solidOK, Bool.and_eq_true] at hok
      simp only [List.mem_append, List.mem_singleton] at hr
      rcases hr with (((e | e) | e) | e) | e
      · split at e <;> simp at e
      · split at e
        · exact ihl _ _ _ _ r e
        · simp at e
      · simp only [TPiece.fill.injEq] at e
        subst e
        intro px py hin
        exact isSolid_spec img _ _ hok.2 px py hin
      · split at e
        · exact ihr _ _ _ _ r e
        · simp at e
      · split at e
        · exact ihb _ _ _ _ r e
        · simp at e
    · simp at hr

end VncModel.Enc.Server
