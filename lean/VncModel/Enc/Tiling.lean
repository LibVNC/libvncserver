import VncModel.Enc.Server
/-! Cutting a rectangle into tiles (`extractTile` over `tileGrid`) and putting the tiles together
again (`Spec.assemble`) is the identity — shared by Hextile (16) and ZRLE/TRLE (64/16). -/
namespace VncModel.Enc.Server
open VncModel.Enc VncModel.Enc.Spec

theorem idx_lt {a A b n : Nat} (ha : a < A) (hb : b < n) : a * n + b < A * n := by
  have : (a + 1) * n ≤ A * n := Nat.mul_le_mul_right n ha
  rw [Nat.succ_mul] at this; omega

theorem ceil_div_gt {T w x : Nat} (hT : 0 < T) (hx : x < w) : x / T < (w + T - 1) / T := by
  rw [Nat.div_lt_iff_lt_mul hT]
  have := Nat.div_add_mod (w + T - 1) T
  have := Nat.mod_lt (w + T - 1) hT
  rw [Nat.mul_comm]
  omega

theorem mod_lt_tile {T w x : Nat} (hT : 0 < T) (hx : x < w) : x % T < min T (w - (x / T) * T) := by
  have := Nat.div_add_mod x T
  have := Nat.mod_lt x hT
  rw [Nat.mul_comm]
  omega

theorem tileGrid_length (T : Nat) (g : Geometry) :
    (tileGrid T g).length = ((g.h + T - 1) / T) * ((g.w + T - 1) / T) := by
  simp [tileGrid]

theorem extractTile_length (px : Array Pixel) (W : Nat) (t : TileRect) :
    (extractTile px W t).length = t.w * t.h := by simp [extractTile]

theorem assemble_extract (T : Nat) (hT : 0 < T) (g : Geometry) (px : List Pixel)
    (h : px.length = g.w * g.h) :
    assemble T g ((tileGrid T g).map (extractTile px.toArray g.w)) = px := by
  apply List.ext_getElem
  · simp [assemble, h]
  · intro i h1 h2
    have hi : i < g.w * g.h := by rw [← h]; exact h2
    have hx : i % g.w < g.w := Nat.mod_lt _ (pos_of_lt_mul hi)
    have hy : i / g.w < g.h := Nat.div_lt_of_lt_mul hi
    have hk := idx_lt (ceil_div_gt hT hy) (ceil_div_gt (w := g.w) hT hx)
    have ⟨hkd, hkm⟩ := row_index (y := i / g.w / T) (ceil_div_gt (w := g.w) hT hx) rfl
    have hjx := mod_lt_tile hT hx
    have hjy := mod_lt_tile hT hy
    have hj := idx_lt hjy hjx
    have ⟨hjd, hjm⟩ := row_index (y := i / g.w % T) hjx rfl
    simp only [assemble, List.getElem_map, List.getElem_range]
    simp only [Array.getD_eq_getD_getElem?, List.getElem?_toArray, List.getElem?_map, tileGrid,
      List.getElem?_range hk, Option.map_some, Option.getD_some, hkm, hkd, extractTile]
    rw [Nat.mul_comm (min T (g.h - i / g.w / T * T))] at hj
    simp only [List.getElem?_range hj, Option.map_some, Option.getD_some, hjm, hjd]
    rw [div_mul_add_mod, div_mul_add_mod, div_mul_add_mod]
    simp [h2]

theorem tileGrid_dims (T : Nat) (hT : 0 < T) (g : Geometry) :
    ∀ t ∈ tileGrid T g, 1 ≤ t.w ∧ t.w ≤ T ∧ 1 ≤ t.h ∧ t.h ≤ T := by
  intro t ht
  simp only [tileGrid, List.mem_map, List.mem_range] at ht
  obtain ⟨k, hk, rfl⟩ := ht
  have htpr : 0 < (g.w + T - 1) / T := by
    rcases Nat.eq_zero_or_pos ((g.w + T - 1) / T) with e | e
    · rw [e] at hk; simp at hk
    · exact e
  have hkm : k % ((g.w + T - 1) / T) < (g.w + T - 1) / T := Nat.mod_lt _ htpr
  have hkd : k / ((g.w + T - 1) / T) < (g.h + T - 1) / T := by
    apply Nat.div_lt_of_lt_mul; rw [Nat.mul_comm]; exact hk
  have key : ∀ (n a : Nat), a < (n + T - 1) / T → a * T < n := by
    intro n a ha
    have h1 := Nat.div_add_mod (n + T - 1) T
    have h2 := Nat.mod_lt (n + T - 1) hT
    have h3 : (a + 1) * T ≤ ((n + T - 1) / T) * T := Nat.mul_le_mul_right T ha
    rw [Nat.succ_mul, Nat.mul_comm ((n + T - 1) / T)] at h3
    omega
  have h1 := key g.w _ hkm
  have h2 := key g.h _ hkd
  simp only
  omega

/-- a property of all pixels of the rectangle (and of the padding value 0) holds of all pixels of a tile -/
theorem extractTile_all (P : Pixel → Prop) (px : List Pixel) (W : Nat) (t : TileRect)
    (hpx : ∀ p ∈ px, P p) (h0 : P 0) : ∀ p ∈ extractTile px.toArray W t, P p := by
  intro p hp
  simp only [extractTile, List.mem_map, List.mem_range] at hp
  obtain ⟨j, _, rfl⟩ := hp
  simp only [Array.getD_eq_getD_getElem?, List.getElem?_toArray]
  cases h : px[(t.y + j / t.w) * W + (t.x + j % t.w)]? with
  | none => simpa using h0
  | some v => simpa using hpx v (List.mem_of_getElem? h)

end VncModel.Enc.Server
