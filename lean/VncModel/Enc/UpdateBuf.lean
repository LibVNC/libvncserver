import VncModel.Enc.Ref
import VncModel.Gen.C01
/-!
# `cl->updateBuf` / `cl->ublen` flush discipline and the Raw encoder (rfbserver.c)

`UB` = what has already been written to the socket (`sent`) plus the pending part of `updateBuf`
(`buf`, `ublen = buf.length`).  Every encoder only ever *appends* to `buf` or *flushes*
(`rfbSendUpdateBuf`); the client sees `stream = sent ++ buf` once the final flush has happened.
`copyLoop_spec`, `sendRaw_spec` (and `hexLoopUB_spec` in `HextileBuf.lean`): the stream produced by a
sender does not depend on where flushes fall, and `ublen` never exceeds `UPDATE_BUF_SIZE`.
-/
namespace VncModel.Enc.Server
open VncModel.Enc VncModel.Enc.Spec

/-- `UPDATE_BUF_SIZE` (regenerated from rfb.h on every run) -/
abbrev UBS : Nat := VncModel.Gen.C01.UPDATE_BUF_SIZE

structure UB where
  sent : Bytes := []
  buf : Bytes := []
deriving Repr, DecidableEq

namespace UB
def ublen (u : UB) : Nat := u.buf.length
/-- `rfbSendUpdateBuf` -/
def flush (u : UB) : UB := ⟨u.sent ++ u.buf, []⟩
/-- `memcpy(&updateBuf[ublen], bs, n); ublen += n` -/
def put (u : UB) (bs : Bytes) : UB := ⟨u.sent, u.buf ++ bs⟩
/-- everything the peer receives once the buffer is finally flushed -/
def stream (u : UB) : Bytes := u.sent ++ u.buf

@[simp] theorem stream_flush (u : UB) : u.flush.stream = u.stream := by simp [flush, stream]
@[simp] theorem stream_put (u : UB) (bs : Bytes) : (u.put bs).stream = u.stream ++ bs := by
  simp [put, stream]
@[simp] theorem ublen_flush (u : UB) : u.flush.ublen = 0 := by simp [flush, ublen]
@[simp] theorem ublen_put (u : UB) (bs : Bytes) : (u.put bs).ublen = u.ublen + bs.length := by
  simp [put, ublen]
end UB

/-- the copy loop every length-prefixed encoder uses for `afterEncBuf` (rre.c, corre.c, zlib.c,
zrle.c, ultra.c): `bytesToCopy = UPDATE_BUF_SIZE - ublen; clip; memcpy; if (ublen == SIZE) flush` -/
def copyLoop : Nat → Bytes → UB → UB
  | 0, _, u => u
  | f + 1, data, u =>
    if data.isEmpty then u else
    let n := min (UBS - u.ublen) data.length
    let u1 := u.put (data.take n)
    let u2 := if u1.ublen = UBS then u1.flush else u1
    copyLoop f (data.drop n) u2

theorem copyLoop_spec : ∀ (f : Nat) (data : Bytes) (u : UB), u.ublen ≤ UBS →
    data.length + (if u.ublen = UBS then 1 else 0) ≤ f →
    (copyLoop f data u).stream = u.stream ++ data ∧ (copyLoop f data u).ublen ≤ UBS := by
  intro f
  induction f with
  | zero =>
    intro data u hu hf
    have : data = [] := by
      cases data with
      | nil => rfl
      | cons a l => simp at hf
    subst this; simp [copyLoop, hu]
  | succ f ih =>
    intro data u hu hf
    simp only [copyLoop]
    by_cases he : data.isEmpty
    · simp only [he, if_true]
      have : data = [] := by simpa using he
      subst this; simp [hu]
    · simp only [he, Bool.false_eq_true, if_false]
      have hne : 0 < data.length := by
        cases data with
        | nil => simp at he
        | cons a l => simp
      generalize hn : min (UBS - u.ublen) data.length = n
      have hnle : n ≤ data.length := by omega
      have hlen1 : (u.put (data.take n)).ublen = u.ublen + n := by
        simp [List.length_take]; omega
      have hpart : data.take n ++ data.drop n = data := List.take_append_drop n data
      by_cases hfull : (u.put (data.take n)).ublen = UBS
      · simp only [hfull, if_true]
        have := ih (data.drop n) (u.put (data.take n)).flush (by simp) (by
          simp only [List.length_drop, UB.ublen_flush]
          have : UBS ≠ 0 := by decide
          simp only [show (0 = UBS) = False from by simp; omega, if_false]
          by_cases h1 : u.ublen = UBS
          · simp [h1] at hf; omega
          · have : 0 < n := by omega
            omega)
        refine ⟨?_, this.2⟩
        rw [this.1]; simp only [UB.stream_flush, UB.stream_put, List.append_assoc, hpart]
      · simp only [hfull, if_false]
        have hn2 : n = data.length := by omega
        have := ih (data.drop n) (u.put (data.take n)) (by omega) (by
          simp only [List.length_drop, hfull, if_false]; omega)
        refine ⟨?_, this.2⟩
        rw [this.1]; simp only [UB.stream_put, List.append_assoc, hpart]

/-- the `while (TRUE)` loop: `rows` = translated scan lines still to send (each `bpl` bytes),
`nlines` = how many fit.  `none` = "send buffer too small for %d bytes per line", the client is
closed. -/
def rawLoop (bpl : Nat) : Nat → List Bytes → Nat → UB → Option UB
  | 0, _, _, _ => none
  | f + 1, rows, nlines, u =>
    let nl := if nlines > rows.length then rows.length else nlines
    let u1 := u.put (rows.take nl).flatten
    let rest := rows.drop nl
    if rest.isEmpty then some u1
    else
      let u2 := u1.flush
      let nl2 := (UBS - u2.ublen) / bpl
      if nl2 = 0 then none else rawLoop bpl f rest nl2 u2

/-- `rfbSendRectEncodingRaw` for a non-empty rectangle: flush if anything is pending (alignment for
`translateFn`), header, then lines in batches -/
def sendRaw (hdr : Bytes) (bpl : Nat) (rows : List Bytes) (u : UB) : Option UB :=
  let u0 := if u.ublen > 0 then u.flush else u
  let u1 := u0.put hdr
  rawLoop bpl (rows.length + 1) rows ((UBS - u1.ublen) / bpl) u1

theorem rawLoop_spec (bpl : Nat) (hb : 0 < bpl) (hbl : bpl ≤ UBS) :
    ∀ (f : Nat) (rows : List Bytes) (nlines : Nat) (u : UB),
      (∀ r ∈ rows, r.length = bpl) → rows ≠ [] → u.ublen + nlines * bpl ≤ UBS → u.ublen ≤ UBS →
      rows.length + (if nlines = 0 then 1 else 0) ≤ f →
      ∃ u', rawLoop bpl f rows nlines u = some u' ∧ u'.stream = u.stream ++ rows.flatten ∧
        u'.ublen ≤ UBS := by
  intro f
  induction f with
  | zero =>
    intro rows nlines u _ hne _ _ hf
    cases rows with
    | nil => exact absurd rfl hne
    | cons a l => simp at hf
  | succ f ih =>
    intro rows nlines u hrows hne hfit hu hf
    simp only [rawLoop]
    generalize hnl : (if nlines > rows.length then rows.length else nlines) = nl
    have hnl1 : nl ≤ rows.length := by split at hnl <;> omega
    have hnl2 : nl ≤ nlines := by split at hnl <;> omega
    have hflat : ((rows.take nl).flatten).length = nl * bpl := by
      have : ∀ (l : List Bytes), (∀ r ∈ l, r.length = bpl) → l.flatten.length = l.length * bpl := by
        intro l
        induction l with
        | nil => simp
        | cons a l ih2 =>
          intro h
          simp only [List.flatten_cons, List.length_append, List.length_cons]
          rw [h a (by simp), ih2 (fun r hr => h r (by simp [hr])), Nat.succ_mul]; omega
      rw [this _ (fun r hr => hrows r (List.mem_of_mem_take hr)), List.length_take]
      congr 1; omega
    have hmul : nl * bpl ≤ nlines * bpl := Nat.mul_le_mul_right _ hnl2
    have hu1 : (u.put (rows.take nl).flatten).ublen ≤ UBS := by simp [hflat]; omega
    have hsplit : (rows.take nl).flatten ++ (rows.drop nl).flatten = rows.flatten := by
      rw [← List.flatten_append, List.take_append_drop]
    by_cases hrest : (rows.drop nl).isEmpty
    · simp only [hrest, if_true]
      refine ⟨_, rfl, ?_, hu1⟩
      have : rows.drop nl = [] := by simpa using hrest
      rw [← hsplit, this]; simp
    · simp only [hrest, Bool.false_eq_true, if_false, UB.ublen_flush, Nat.sub_zero]
      have hq : 0 < UBS / bpl := Nat.div_pos hbl hb
      have hq0 : UBS / bpl ≠ 0 := by omega
      simp only [hq0, if_false]
      have hdne : rows.drop nl ≠ [] := by simpa using hrest
      have hdl : (rows.drop nl).length = rows.length - nl := by simp
      have hfit2 : (u.put (rows.take nl).flatten).flush.ublen + UBS / bpl * bpl ≤ UBS := by
        simp only [UB.ublen_flush, Nat.zero_add]; exact Nat.div_mul_le_self _ _
      obtain ⟨u', h1, h2, h3⟩ := ih (rows.drop nl) (UBS / bpl) (u.put (rows.take nl).flatten).flush
        (fun r hr => hrows r (List.mem_of_mem_drop hr)) hdne hfit2 (by simp)
        (by
          simp only [hq0, if_false, hdl]
          -- progress: either nl > 0, or this was the one allowed empty batch
          by_cases hz : nlines = 0
          · simp [hz] at hf; omega
          · have : 0 < nl := by
              have : 0 < rows.length := by
                cases rows with
                | nil => exact absurd rfl hne
                | cons a l => simp
              split at hnl <;> omega
            simp [hz] at hf; omega)
      refine ⟨u', h1, ?_, h3⟩
      rw [h2]; simp only [UB.stream_flush, UB.stream_put, List.append_assoc, hsplit]

/-- **Raw, flush-transparent**: whatever is pending in `updateBuf`, the peer receives the rectangle
header followed by all translated lines in order; the buffer never exceeds `UPDATE_BUF_SIZE`.
(The guard `bpl ≤ UPDATE_BUF_SIZE` is real: a wider line makes the server close the client.) -/
theorem sendRaw_spec (hdr : Bytes) (bpl : Nat) (rows : List Bytes) (u : UB)
    (hh : hdr.length = 12) (hb : 0 < bpl) (hbl : bpl ≤ UBS)
    (hrows : ∀ r ∈ rows, r.length = bpl) (hne : rows ≠ []) (hu : u.ublen ≤ UBS) :
    ∃ u', sendRaw hdr bpl rows u = some u' ∧ u'.stream = u.stream ++ hdr ++ rows.flatten ∧
      u'.ublen ≤ UBS := by
  unfold sendRaw
  have h0 : (if u.ublen > 0 then u.flush else u).ublen = 0 := by
    split
    · simp
    · omega
  have hs0 : (if u.ublen > 0 then u.flush else u).stream = u.stream := by split <;> simp
  generalize (if u.ublen > 0 then u.flush else u) = u0 at *
  have hl1 : (u0.put hdr).ublen = 12 := by simp [h0, hh]
  have hU : 12 ≤ UBS := by decide
  obtain ⟨u', h1, h2, h3⟩ := rawLoop_spec bpl hb hbl (rows.length + 1) rows
    ((UBS - (u0.put hdr).ublen) / bpl) (u0.put hdr) hrows hne
    (by rw [hl1]; have := Nat.div_mul_le_self (UBS - 12) bpl; omega) (by omega)
    (by split <;> omega)
  refine ⟨u', h1, ?_, h3⟩
  rw [h2]; simp [hs0]

end VncModel.Enc.Server
