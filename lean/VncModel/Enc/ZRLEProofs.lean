import VncModel.Enc.Tiling
import VncModel.Enc.PackProofs
/-! `decodeZRLETile (zrleTile P) = P` for the faithful model of `ZRLE_ENCODE_TILE`.  One decoder-side
lemma per sub-encoding (arbitrary palettes and run lists, shared with `ChoiceTiles.lean`);
`zrleTile_decodes` then only has to show that the encoder's size estimates pick one of them with a
palette that fits: `PalInv` is the invariant of the first pass. -/
namespace VncModel.Enc.Server
open VncModel.Enc VncModel.Enc.Spec

/-- a pixel is representable as a CPIXEL: the byte that is not transmitted is zero -/
def CPixOK : CPix → Pixel → Prop
  | .full n, p => PixOK n p
  | .lo3, p => p < 16777216
  | .hi3, p => p % 256 = 0 ∧ p < 4294967296

theorem readCPixel_cpixBytes (cp : CPix) (p : Pixel) (t : Bytes) (h : CPixOK cp p) :
    readCPixel cp (cpixBytes cp p ++ t) = some (p, t) := by
  cases cp with
  | full n => exact readPixel_pixBytes n p t h
  | lo3 =>
    have e : (256 : Nat) ^ 3 = 16777216 := by decide
    exact readPixel_pixBytes 3 p t (by unfold PixOK; rw [e]; exact h)
  | hi3 =>
    simp only [CPixOK] at h
    obtain ⟨h1, h2⟩ := h
    have e : (256 : Nat) ^ 3 = 16777216 := by decide
    simp only [readCPixel, cpixBytes]
    rw [readPixel_pixBytes 3 (p / 256) t (by unfold PixOK; rw [e]; delta Pixel at *; omega)]
    simp only [Option.map_some, Option.some.injEq, Prod.mk.injEq, and_true]
    delta Pixel at *
    omega

theorem cpixBytes_length (cp : CPix) (p : Pixel) : (cpixBytes cp p).length = cp.size := by
  cases cp <;> simp [cpixBytes, CPix.size, pixBytes_length]

theorem readCPixels_flatMap (cp : CPix) (ps : List Pixel) (t : Bytes) (h : ∀ p ∈ ps, CPixOK cp p) :
    readCPixels cp ps.length (ps.flatMap (cpixBytes cp) ++ t) = some (ps, t) := by
  induction ps with
  | nil => simp [readCPixels]
  | cons p ps ih =>
    simp only [List.flatMap_cons, List.length_cons, readCPixels, List.append_assoc]
    rw [readCPixel_cpixBytes cp p _ (h p (by simp))]
    simp only
    rw [ih (fun q hq => h q (by simp [hq]))]
    rfl

theorem readRunLen_small {n : Nat} (hn : n < 255) (t : Bytes) :
    readRunLen (UInt8.ofNat n :: t) = some (n + 1, t) := by
  have hne : UInt8.ofNat n ≠ 255 := by
    intro e
    have := congrArg UInt8.toNat e
    rw [toNat_ofNat_lt (by omega)] at this
    simp at this; omega
  simp [readRunLen, hne, toNat_ofNat_lt (show n < 256 by omega)]

theorem readRunLen_runLenBytes : ∀ (f n : Nat) (t : Bytes), n ≤ f * 255 + 254 →
    readRunLen (runLenBytes f n ++ t) = some (n + 1, t) := by
  intro f
  induction f with
  | zero => intro n t h; exact readRunLen_small (by omega) t
  | succ f ih =>
    intro n t h
    simp only [runLenBytes]
    by_cases hge : n ≥ 255
    · simp only [hge, if_true, List.cons_append, readRunLen]
      rw [ih (n - 255) t (by omega)]
      simp; omega
    · simp only [hge, if_false]
      exact readRunLen_small (by omega) t

def expand (rl : List (Pixel × Nat)) : List Pixel := rl.flatMap fun r => List.replicate r.2 r.1

theorem runsOf_spec (px : List Pixel) :
    expand (runsOf px) = px ∧ (∀ r ∈ runsOf px, 1 ≤ r.2 ∧ r.1 ∈ px) := by
  induction px with
  | nil => simp [runsOf, expand]
  | cons p ps ih =>
    obtain ⟨ih1, ih2⟩ := ih
    simp only [runsOf]
    cases hr : runsOf ps with
    | nil =>
      rw [hr] at ih1
      simp only [expand, List.flatMap_nil] at ih1
      subst ih1
      simp [expand]
    | cons q rest =>
      obtain ⟨qc, qn⟩ := q
      rw [hr] at ih1 ih2
      simp only
      by_cases hpq : p = qc
      · subst hpq
        simp only [if_true]
        constructor
        · simp only [expand, List.flatMap_cons] at ih1 ⊢
          rw [← ih1]; simp [List.replicate_succ]
        · intro r hr'
          rcases List.mem_cons.mp hr' with e | e
          · subst e; simp
          · have := ih2 r (by simp [e]); exact ⟨this.1, by simp [this.2]⟩
      · simp only [hpq, if_false]
        constructor
        · simp only [expand, List.flatMap_cons] at ih1 ⊢
          rw [← ih1]; simp
        · intro r hr'
          rcases List.mem_cons.mp hr' with e | e
          · subst e; simp
          · have := ih2 r e; exact ⟨this.1, by simp [this.2]⟩

theorem expand_length_cons (r : Pixel × Nat) (rl : List (Pixel × Nat)) :
    (expand (r :: rl)).length = r.2 + (expand rl).length := by
  simp [expand]

theorem decodePlainRLE_runs (cp : CPix) (pal : List Pixel) :
    ∀ (rl : List (Pixel × Nat)) (f rem : Nat) (t : Bytes),
    (∀ r ∈ rl, 1 ≤ r.2 ∧ CPixOK cp r.1) → (expand rl).length = rem → rem ≤ f →
    decodePlainRLE cp f rem (zrleRleBytes cp false pal rl ++ t) = some (expand rl, t) := by
  intro rl
  induction rl with
  | nil =>
    intro f rem t _ hlen _
    simp only [expand, List.flatMap_nil, List.length_nil] at hlen
    subst hlen
    cases f <;> simp [decodePlainRLE, zrleRleBytes, expand]
  | cons r rl ih =>
    intro f rem t h hlen hf
    obtain ⟨p, len⟩ := r
    obtain ⟨h1, h2⟩ := h (p, len) (by simp)
    simp only at h1 h2
    rw [expand_length_cons] at hlen
    simp only at hlen
    cases f with
    | zero => omega
    | succ f =>
      cases rem with
      | zero => omega
      | succ rem =>
        simp only [zrleRleBytes, Bool.false_eq_true, and_false, if_false, List.append_assoc,
          decodePlainRLE]
        rw [readCPixel_cpixBytes cp p _ h2]
        simp only
        rw [readRunLen_runLenBytes (len - 1) (len - 1) _ (by omega)]
        simp only
        have e1 : len - 1 + 1 = len := by omega
        rw [e1]
        have hgt : ¬ (len > rem + 1) := by omega
        simp only [hgt, if_false]
        rw [ih f (rem + 1 - len) t (fun q hq => h q (by simp [hq])) (by omega) (by omega)]
        simp [expand]

theorem decodePaletteRLE_runs (cp : CPix) (pal : List Pixel) (hpal : pal.length ≤ 127) :
    ∀ (rl : List (Pixel × Nat)) (f rem : Nat) (t : Bytes),
    (∀ r ∈ rl, 1 ≤ r.2 ∧ r.1 ∈ pal) → (expand rl).length = rem → rem ≤ f →
    decodePaletteRLE pal f rem (zrleRleBytes cp true pal rl ++ t) = some (expand rl, t) := by
  intro rl
  induction rl with
  | nil =>
    intro f rem t _ hlen _
    simp only [expand, List.flatMap_nil, List.length_nil] at hlen
    subst hlen
    cases f <;> simp [decodePaletteRLE, zrleRleBytes, expand]
  | cons r rl ih =>
    intro f rem t h hlen hf
    obtain ⟨p, len⟩ := r
    obtain ⟨h1, h2⟩ := h (p, len) (by simp)
    simp only at h1 h2
    rw [expand_length_cons] at hlen
    simp only at hlen
    have hidx : paletteIndex pal p < pal.length := List.idxOf_lt_length_of_mem h2
    have hget : pal[paletteIndex pal p]? = some p := by
      have hidx' : List.idxOf p pal < pal.length := hidx
      show pal[List.idxOf p pal]? = some p
      rw [List.getElem?_eq_getElem hidx']; simp
    have hi127 : paletteIndex pal p < 128 := by omega
    cases f with
    | zero => omega
    | succ f =>
      cases rem with
      | zero => omega
      | succ rem =>
        simp only [zrleRleBytes, and_true]
        by_cases hle : len ≤ 2
        · simp only [hle, if_true, List.append_assoc]
          by_cases h2' : len = 2
          · subst h2'
            simp only [if_true, List.cons_append, List.nil_append, decodePaletteRLE,
              toNat_ofNat_lt (show paletteIndex pal p < 256 by omega), hi127, hget]
            cases f with
            | zero => omega
            | succ f =>
              cases rem with
              | zero => omega
              | succ rem =>
                simp only [decodePaletteRLE, toNat_ofNat_lt (show paletteIndex pal p < 256 by omega),
                  hi127, if_true, hget]
                rw [ih f rem t (fun q hq => h q (by simp [hq])) (by omega) (by omega)]
                simp [expand, List.replicate_succ]
          · have h1' : len = 1 := by omega
            subst h1'
            simp only [h2', if_false, List.nil_append, List.cons_append, decodePaletteRLE,
              toNat_ofNat_lt (show paletteIndex pal p < 256 by omega), hi127, if_true, hget]
            rw [ih f rem t (fun q hq => h q (by simp [hq])) (by omega) (by omega)]
            simp [expand]
        · simp only [hle, if_false, if_true, List.append_assoc, List.cons_append, List.nil_append,
            decodePaletteRLE]
          have hb : (UInt8.ofNat (paletteIndex pal p + 128)).toNat = paletteIndex pal p + 128 :=
            toNat_ofNat_lt (by omega)
          have hnl : ¬ (paletteIndex pal p + 128 < 128) := by omega
          simp only [hb, hnl, if_false, Nat.add_sub_cancel, hget]
          rw [readRunLen_runLenBytes (len - 1) (len - 1) _ (by omega)]
          simp only
          have e1 : len - 1 + 1 = len := by omega
          rw [e1]
          have hgt : ¬ (len > rem + 1) := by omega
          simp only [hgt, if_false]
          rw [ih f (rem + 1 - len) t (fun q hq => h q (by simp [hq])) (by omega) (by omega)]
          simp [expand]

-- `size` is `ph->size`: from 127 on it counts calls, not colours, so it equals `pal.length` (and
-- `pal` holds every colour `seen`) only while `size ≤ 127`; the mode choice tests `size < 128`
structure PalInv (seen pal : List Pixel) (size : Nat) : Prop where
  len_le : pal.length ≤ size
  len_eq : size ≤ 127 → pal.length = size
  all_in : size ≤ 127 → ∀ p ∈ seen, p ∈ pal
  sub : ∀ q ∈ pal, q ∈ seen
  pos : seen ≠ [] → 1 ≤ size

theorem paletteInsert_inv (seen pal : List Pixel) (size : Nat) (p : Pixel)
    (h : PalInv seen pal size) :
    PalInv (seen ++ [p]) (paletteInsert (pal, size) p).1 (paletteInsert (pal, size) p).2 := by
  unfold paletteInsert
  simp only
  by_cases hs : size < 127
  · simp only [hs, if_true]
    by_cases hc : pal.contains p = true
    · simp only [hc, if_true]
      have hm : p ∈ pal := by simpa using hc
      refine ⟨h.len_le, h.len_eq, ?_, ?_, ?_⟩
      · intro hsz q hq
        rcases List.mem_append.mp hq with e | e
        · exact h.all_in hsz q e
        · simp at e; rw [e]; exact hm
      · intro q hq; exact List.mem_append_left _ (h.sub q hq)
      · intro _
        have := h.len_eq (by omega)
        cases pal with
        | nil => simp at hm
        | cons a l => simp at this; omega
    · simp only [hc, Bool.false_eq_true, if_false]
      have hl := h.len_eq (by omega)
      refine ⟨by simp; omega, fun _ => by simp; omega, ?_, ?_, fun _ => by omega⟩
      · intro hsz q hq
        rcases List.mem_append.mp hq with e | e
        · exact List.mem_append_left _ (h.all_in (by omega) q e)
        · exact List.mem_append_right _ e
      · intro q hq
        rcases List.mem_append.mp hq with e | e
        · exact List.mem_append_left _ (h.sub q e)
        · exact List.mem_append_right _ e
  · simp only [hs, if_false]
    refine ⟨by have := h.len_le; omega, fun hh => by omega, fun hh => by omega, ?_, fun _ => by omega⟩
    intro q hq; exact List.mem_append_left _ (h.sub q hq)

theorem zrleStats_inv (rl : List (Pixel × Nat)) :
    PalInv (rl.map (·.1)) (zrleStats rl).2.2.1 (zrleStats rl).2.2.2 := by
  unfold zrleStats
  refine foldl_inv _ (fun pre (st : Nat × Nat × List Pixel × Nat) => PalInv (pre.map (·.1)) st.2.2.1 st.2.2.2) rl (0, 0, [], 0)
    ⟨by simp, by simp, by simp, by simp, by simp⟩ (fun pre r st _ h => ?_)
  have hins := paletteInsert_inv _ st.2.2.1 st.2.2.2 r.1 h
  rw [List.map_append]
  split <;> exact hins

theorem mem_runs_of_mem (px : List Pixel) (p : Pixel) (hp : p ∈ px) : p ∈ (runsOf px).map (·.1) := by
  have h := (runsOf_spec px).1
  rw [← h] at hp
  simp only [expand, List.mem_flatMap] at hp
  obtain ⟨r, hr, hpr⟩ := hp
  have := List.eq_of_mem_replicate hpr
  rw [this]; exact List.mem_map_of_mem hr

theorem decodeZRLETile_raw (cp : CPix) (tw th : Nat) (px : List Pixel) (rest : Bytes)
    (hlen : px.length = tw * th) (hok : ∀ p ∈ px, CPixOK cp p) :
    decodeZRLETile cp tw th (u8 0 ++ px.flatMap (cpixBytes cp) ++ rest) = some (px, rest) := by
  have e0 : (UInt8.ofNat 0).toNat = 0 := by decide
  simp only [u8, List.cons_append, List.nil_append, decodeZRLETile, e0, if_true]
  rw [← hlen]; exact readCPixels_flatMap cp px rest hok

theorem decodeZRLETile_solid (cp : CPix) (tw th : Nat) (p : Pixel) (rest : Bytes) (hp : CPixOK cp p) :
    decodeZRLETile cp tw th (u8 1 ++ cpixBytes cp p ++ rest) =
      some (List.replicate (tw * th) p, rest) := by
  have e1 : (UInt8.ofNat 1).toNat = 1 := by decide
  simp only [u8, List.cons_append, List.nil_append, decodeZRLETile, e1]
  rw [readCPixel_cpixBytes cp p rest hp]
  rfl

theorem decodeZRLETile_packed (cp : CPix) (tw th : Nat) (pal px : List Pixel) (rest : Bytes)
    (h2 : 2 ≤ pal.length) (h16 : pal.length ≤ 16) (hpal : ∀ q ∈ pal, CPixOK cp q)
    (hlen : px.length = tw * th) (hmem : ∀ p ∈ px, p ∈ pal) :
    decodeZRLETile cp tw th (u8 pal.length ++ pal.flatMap (cpixBytes cp) ++
      packRows (bitsPerPackedPixel pal.length) tw pal th px ++ rest) = some (px, rest) := by
  simp only [u8, List.cons_append, List.nil_append, List.append_assoc, decodeZRLETile,
    toNat_ofNat_lt (show pal.length < 256 by omega)]
  have e0 : ¬ pal.length = 0 := by omega
  have e1 : ¬ pal.length = 1 := by omega
  simp only [e0, e1, h16, if_false, if_true]
  rw [readCPixels_flatMap cp pal _ hpal]
  exact packRows_decodes pal.length tw th pal px rest h2 h16 rfl hlen hmem

theorem decodeZRLETile_plainRLE (cp : CPix) (tw th : Nat) (pal : List Pixel) (rl : List (Pixel × Nat))
    (rest : Bytes) (h : ∀ r ∈ rl, 1 ≤ r.2 ∧ CPixOK cp r.1) (hlen : (expand rl).length = tw * th) :
    decodeZRLETile cp tw th (u8 128 ++ zrleRleBytes cp false pal rl ++ rest) = some (expand rl, rest) := by
  have e128 : (UInt8.ofNat 128).toNat = 128 := by decide
  simp only [u8, List.cons_append, List.nil_append, decodeZRLETile, e128, Nat.reduceEqDiff,
    Nat.reduceLeDiff, if_false, if_true]
  exact decodePlainRLE_runs cp pal rl (tw * th) (tw * th) rest h hlen (Nat.le_refl _)

theorem decodeZRLETile_palRLE (cp : CPix) (tw th : Nat) (pal : List Pixel) (rl : List (Pixel × Nat))
    (rest : Bytes) (h2 : 2 ≤ pal.length) (h127 : pal.length ≤ 127) (hpal : ∀ q ∈ pal, CPixOK cp q)
    (h : ∀ r ∈ rl, 1 ≤ r.2 ∧ r.1 ∈ pal) (hlen : (expand rl).length = tw * th) :
    decodeZRLETile cp tw th (u8 (128 + pal.length) ++ pal.flatMap (cpixBytes cp) ++
      zrleRleBytes cp true pal rl ++ rest) = some (expand rl, rest) := by
  simp only [u8, List.cons_append, List.nil_append, List.append_assoc, decodeZRLETile,
    toNat_ofNat_lt (show 128 + pal.length < 256 by omega)]
  have e0 : ¬ 128 + pal.length = 0 := by omega
  have e1 : ¬ 128 + pal.length = 1 := by omega
  have e16 : ¬ 128 + pal.length ≤ 16 := by omega
  have e128 : ¬ 128 + pal.length = 128 := by omega
  have e130 : 128 + pal.length ≥ 130 := by omega
  simp only [e0, e1, e16, e128, e130, if_false, if_true, Nat.add_sub_cancel_left]
  rw [readCPixels_flatMap cp pal _ hpal]
  exact decodePaletteRLE_runs cp pal h127 rl (tw * th) (tw * th) rest h hlen (Nat.le_refl _)

/-- the mode choice of `ZRLE_ENCODE_TILE`, as far as decoding cares: two flags, and a palette is only
used when it fits the mode -/
theorem zrleTile_modes (cp : CPix) (tw th : Nat) (px : List Pixel) (runs singles : Nat) (pal : List Pixel)
    (size : Nat) (hst : zrleStats (runsOf px) = (runs, singles, pal, size)) (hs1 : size ≠ 1) :
    ∃ useRle usePalette : Bool, (usePalette = true → size < 128) ∧
      (usePalette = true → useRle = false → size < 17) ∧
      zrleTile cp tw th px =
        u8 ((if useRle then 128 else 0) + (if usePalette then size else 0)) ++
          (if usePalette then pal else []).flatMap (cpixBytes cp) ++
          (if useRle then zrleRleBytes cp usePalette pal (runsOf px)
           else if usePalette then packRows (bitsPerPackedPixel size) tw pal th px
           else px.flatMap (cpixBytes cp)) := by
  unfold zrleTile
  simp only [hst, hs1, if_false]
  refine ⟨_, _, ?_, ?_, rfl⟩
  · simp only [Bool.or_eq_true, decide_eq_true_eq]
    rintro (h | h) <;> omega
  · simp only [Bool.or_eq_true, decide_eq_true_eq]
    intro hp hr
    rcases hp with h | h
    · exact h.1
    · simp [h] at hr
      exact hr.1
/-- **one ZRLE tile**: whatever sub-encoding the model of `ZRLE_ENCODE_TILE` chooses, the tile
decodes to its pixels -/
theorem zrleTile_decodes (cp : CPix) (tw th : Nat) (px : List Pixel) (rest : Bytes)
    (hlen : px.length = tw * th) (hpos : 0 < tw * th) (hok : ∀ p ∈ px, CPixOK cp p) :
    decodeZRLETile cp tw th (zrleTile cp tw th px ++ rest) = some (px, rest) := by
  have hinv := zrleStats_inv (runsOf px)
  obtain ⟨hexp, hruns⟩ := runsOf_spec px
  have hne : px ≠ [] := by intro e; rw [e] at hlen; simp at hlen; omega
  have hseen_ne : (runsOf px).map (·.1) ≠ [] := by
    cases px with
    | nil => exact absurd rfl hne
    | cons a l =>
      have := mem_runs_of_mem (a :: l) a (by simp)
      intro e; rw [e] at this; simp at this
  have hexplen : (expand (runsOf px)).length = tw * th := by rw [hexp]; exact hlen
  obtain ⟨st, hst⟩ : ∃ st, zrleStats (runsOf px) = st := ⟨_, rfl⟩
  rw [hst] at hinv
  obtain ⟨runs, singles, pal, size⟩ := st
  simp only at hinv
  have hsz1 : 1 ≤ size := hinv.pos hseen_ne
  have hpalmem : size ≤ 127 → ∀ p ∈ px, p ∈ pal := fun hs p hp =>
    hinv.all_in hs p (mem_runs_of_mem px p hp)
  have hpalok : ∀ q ∈ pal, CPixOK cp q := by
    intro q hq
    obtain ⟨r, hr, e⟩ := List.mem_map.mp (hinv.sub q hq)
    rw [← e]; exact hok _ (hruns r hr).2
  by_cases hs1 : size = 1
  · unfold zrleTile
    simp only [hst, hs1, if_true]
    have hl := hinv.len_eq (by omega)
    cases pal with
    | nil => simp [hs1] at hl
    | cons c l =>
      have hall : ∀ p ∈ px, p = c := by
        intro p hp
        have hl0 : l = [] := by simpa [hs1] using hl
        simpa [hl0] using hpalmem (by omega) p hp
      have hrep : px = List.replicate (tw * th) c := List.eq_replicate_iff.mpr ⟨hlen, hall⟩
      rw [List.headD_cons, decodeZRLETile_solid cp tw th c rest (hpalok c (by simp)), ← hrep]
  · obtain ⟨useRle, usePalette, h128, h17, heq⟩ := zrleTile_modes cp tw th px runs singles pal size hst hs1
    rw [heq]
    cases usePalette with
    | true =>
      have hs128 := h128 rfl
      have hl := hinv.len_eq (by omega)
      cases useRle with
      | false =>
        have hs17 := h17 rfl rfl
        have := decodeZRLETile_packed cp tw th pal px rest (by omega) (by omega) hpalok hlen
          (hpalmem (by omega))
        rw [hl] at this
        simpa only [if_true, Bool.false_eq_true, if_false, Nat.zero_add] using this
      | true =>
        have := decodeZRLETile_palRLE cp tw th pal (runsOf px) rest (by omega) (by omega) hpalok
          (fun r hr => ⟨(hruns r hr).1, hpalmem (by omega) _ (hruns r hr).2⟩) hexplen
        rw [hexp, hl] at this
        simpa only [if_true] using this
    | false =>
      cases useRle with
      | true =>
        have := decodeZRLETile_plainRLE cp tw th pal (runsOf px) rest
          (fun r hr => ⟨(hruns r hr).1, hok _ (hruns r hr).2⟩) hexplen
        rw [hexp] at this
        simpa only [Bool.false_eq_true, if_false, Nat.add_zero, List.flatMap_nil, List.append_nil,
          if_true] using this
      | false =>
        simpa only [Bool.false_eq_true, if_false, Nat.add_zero, List.flatMap_nil,
          List.append_nil] using decodeZRLETile_raw cp tw th px rest hlen hok

theorem cpixok_zero (cp : CPix) : CPixOK cp 0 := by
  cases cp with
  | full n => exact pixOK_zero n
  | lo3 => simp [CPixOK]
  | hi3 => simp [CPixOK]

theorem zrleTiles_decodes (cp : CPix) (W : Nat) (px : List Pixel)
    (hpx : ∀ p ∈ px, CPixOK cp p) :
    ∀ (tiles : List TileRect) (rest : Bytes), (∀ t ∈ tiles, 1 ≤ t.w ∧ 1 ≤ t.h) →
      decodeZRLETiles cp tiles (zrleTiles cp W px.toArray tiles ++ rest) =
        some (tiles.map (extractTile px.toArray W), rest) := by
  intro tiles
  induction tiles with
  | nil => intro rest _; simp [decodeZRLETiles, zrleTiles]
  | cons t ts ih =>
    intro rest hd
    obtain ⟨h1, h2⟩ := hd t (by simp)
    simp only [zrleTiles, decodeZRLETiles, List.append_assoc, List.map_cons]
    rw [zrleTile_decodes cp t.w t.h (extractTile px.toArray W t) _ (extractTile_length _ _ _)
      (Nat.mul_pos h1 h2) (extractTile_all _ px W t hpx (cpixok_zero cp))]
    simp only
    rw [ih rest (fun q hq => hd q (by simp [hq]))]
    rfl

theorem serverZRLEData_decodes (cp : CPix) (g : Geometry) (px : List Pixel)
    (rest : Bytes) (hlen : px.length = g.w * g.h) (hpx : ∀ p ∈ px, CPixOK cp p) :
    decodeZRLEData g cp (serverZRLEData cp g px ++ rest) = some (px, rest) := by
  unfold decodeZRLEData serverZRLEData
  rw [zrleTiles_decodes cp g.w px hpx (tileGrid 64 g) rest
    (fun t ht => by have := tileGrid_dims 64 (by decide) g t ht; exact ⟨this.1, this.2.2.1⟩)]
  simp only [Option.map_some]
  rw [assemble_extract 64 (by decide) g px hlen]

end VncModel.Enc.Server
