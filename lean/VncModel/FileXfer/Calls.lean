/-
C19 — every libc wrapper of the model consumes one token of the script and logs the call with its
result, followed by an `envBad` note when the token did not fit; nothing else changes.  `Call` says
that; the outcome principles (`chunk_ind`, …) name the few end states of the handlers with a deep
case nest.
-/
import VncModel.FileXfer.Model

namespace VncModel.FileXfer

@[simp] theorem emit_evs (e) (s : S) : (emit e s).evs = e :: s.evs := rfl
@[simp] theorem emit_calls (e) (s : S) : (emit e s).calls = s.calls := rfl
@[simp] theorem emit_cl (e) (s : S) : (emit e s).cl = s.cl := rfl
@[simp] theorem bumpCalls_cl (s : S) : (bumpCalls s).cl = s.cl := rfl
@[simp] theorem setCl_cl (f) (s : S) : (setCl f s).cl = f s.cl := rfl
@[simp] theorem setCl_calls (f) (s : S) : (setCl f s).calls = s.calls := rfl
@[simp] theorem setNextFd_cl (k) (s : S) : (setNextFd k s).cl = s.cl := rfl
@[simp] theorem twire_cl (w) (s : S) : (twire w s).cl = s.cl := rfl
@[simp] theorem consult_cl (f) (s : S) : (consult f s).2.cl = s.cl := rfl

@[simp] theorem readExact_evs (n) (s : S) : (readExact n s).2.evs = s.evs := by
  unfold readExact; (repeat' split) <;> rfl
@[simp] theorem consult_snd (f) (s : S) : (consult f s).2 = emit (.q (f s.calls)) (bumpCalls s) := rfl
@[simp] theorem translate_snd (cfg p n) (s : S) : (translate cfg p n s).2 = (macroCheck cfg s).2 := by
  unfold translate; simp only []; split <;> rfl

@[simp] theorem popTok_cl (s : S) : (popTok s).2.cl = s.cl := by unfold popTok; split <;> rfl
@[simp] theorem popTok_evs (s : S) : (popTok s).2.evs = s.evs := by unfold popTok; split <;> rfl

/-- `s'` is `s` after one scripted call logged as an event satisfying `P`.  The script and the
descriptor counter are not mentioned: no invariant depends on them. -/
structure Call (P : Ev → Prop) (s s' : S) : Prop where
  cl : s'.cl = s.cl
  evs : ∃ e, P e ∧ (s'.evs = e :: s.evs ∨ ∃ w, s'.evs = .envBad w :: e :: s.evs)

def fsOf (f : FsEffect) (e : Ev) : Prop := ∃ r, e = .fs f r
def xOf (what : String) (n : Nat) (e : Ev) : Prop := ∃ r, e = .x what n r

theorem Call.log {P : Ev → Prop} {e} (h : P e) (s : S) : Call P s (emit e (popTok s).2) :=
  ⟨by simp, e, h, Or.inl (by simp)⟩
theorem Call.misfit {P : Ev → Prop} {e} (h : P e) (w) (s : S) :
    Call P s (emit (.envBad w) (emit e (popTok s).2)) :=
  ⟨by simp, e, h, Or.inr ⟨w, by simp⟩⟩

/-! Every path through a wrapper's parse of the script token ends in `emit (mk r) (popTok s).2` or in
`emit (.envBad w) (emit (mk "?") (popTok s).2)`: the two forms `Call.log` and `Call.misfit` build. -/

theorem doSimple_call (t f) (s : S) :
    Call (fun e => ∃ r, e = if t then .cleanup f r else .fs f r) s (doSimple t f s).2 := by
  unfold doSimple
  simp only []
  (repeat' split) <;> first | exact .log ⟨_, rfl⟩ s | exact .misfit ⟨_, rfl⟩ _ s
theorem doFstat_call (k) (s : S) : Call (fsOf (.fstat k)) s (doFstat k s).2 := by
  unfold doFstat
  simp only []
  (repeat' split) <;> first | exact .log ⟨_, rfl⟩ s | exact .misfit ⟨_, rfl⟩ _ s
theorem doRead_call (k) (s : S) : Call (fsOf (.read k)) s (doRead k s).2 := by
  unfold doRead
  simp only []
  (repeat' split) <;> first | exact .log ⟨_, rfl⟩ s | exact .misfit ⟨_, rfl⟩ _ s
theorem doWrite_call (k n h) (s : S) : Call (fsOf (.write k n h)) s (doWrite k n h s).2 := by
  unfold doWrite
  simp only []
  (repeat' split) <;> first | exact .log ⟨_, rfl⟩ s | exact .misfit ⟨_, rfl⟩ _ s
theorem doStat_call (p) (s : S) : Call (fsOf (.stat p)) s (doStat p s).2 := by
  unfold doStat
  simp only []
  (repeat' split) <;> first | exact .log ⟨_, rfl⟩ s | exact .misfit ⟨_, rfl⟩ _ s
theorem doCompress_call (n) (s : S) : Call (xOf "compress" n) s (doCompress n s).2 := by
  unfold doCompress
  simp only []
  (repeat' split) <;> first | exact .log ⟨_, rfl⟩ s | exact .misfit ⟨_, rfl⟩ _ s
theorem doUncompress_call (n) (s : S) : Call (xOf "uncompress" n) s (doUncompress n s).2 := by
  unfold doUncompress
  simp only []
  (repeat' split) <;> first | exact .log ⟨_, rfl⟩ s | exact .misfit ⟨_, rfl⟩ _ s

def NotedCall {α} (P : Ev → Prop) (note : α → Ev) (s : S) (x : Option α × S) : Prop :=
  ∃ s1, Call P s s1 ∧ x.2 = match x.1 with
    | some a => emit (note a) s1
    | none => s1

theorem doOpendir_call (p) (s : S) :
    NotedCall (fsOf (.opendir p)) (fun _ => .dirOpened) s (doOpendir p s) := by
  unfold doOpendir
  simp only []
  (repeat' split) <;>
    first | exact ⟨_, .log ⟨_, rfl⟩ s, rfl⟩ | exact ⟨_, .misfit ⟨_, rfl⟩ _ s, rfl⟩

/-- a successful open also advances the descriptor counter, which `Call` does not mention -/
theorem doOpen_call (p m) (s : S) : NotedCall (fsOf (.open p m)) .got s (doOpen p m s) := by
  unfold doOpen
  simp only []
  (repeat' split) <;> refine ⟨_, ?_, rfl⟩
  case' isTrue => exact ⟨popTok_cl s, _, ⟨_, rfl⟩, Or.inl (congrArg _ (popTok_evs s))⟩
  all_goals first | exact .log ⟨_, rfl⟩ s | exact .misfit ⟨_, rfl⟩ _ s

theorem NotedCall.cl {α} {P : Ev → Prop} {note : α → Ev} {s : S} {x : Option α × S}
    (h : NotedCall P note s x) : x.2.cl = s.cl := by
  obtain ⟨s1, hc, he⟩ := h
  rw [he]; split <;> exact hc.cl

@[simp] theorem doClose_cl (t k) (s : S) : (doClose t k s).cl = s.cl := by unfold doClose; split <;> rfl
@[simp] theorem doSimple_cl (t e) (s : S) : (doSimple t e s).2.cl = s.cl := (doSimple_call t e s).cl
@[simp] theorem doOpen_cl (p m) (s : S) : (doOpen p m s).2.cl = s.cl := (doOpen_call p m s).cl
@[simp] theorem doFstat_cl (k) (s : S) : (doFstat k s).2.cl = s.cl := (doFstat_call k s).cl
@[simp] theorem doRead_cl (k) (s : S) : (doRead k s).2.cl = s.cl := (doRead_call k s).cl
@[simp] theorem doWrite_cl (k n h) (s : S) : (doWrite k n h s).2.cl = s.cl := (doWrite_call k n h s).cl
@[simp] theorem doOpendir_cl (p) (s : S) : (doOpendir p s).2.cl = s.cl := (doOpendir_call p s).cl
@[simp] theorem doStat_cl (p) (s : S) : (doStat p s).2.cl = s.cl := (doStat_call p s).cl
@[simp] theorem doUncompress_cl (n) (s : S) : (doUncompress n s).2.cl = s.cl := (doUncompress_call n s).cl
@[simp] theorem doCompress_cl (n) (s : S) : (doCompress n s).2.cl = s.cl := (doCompress_call n s).cl

/-- rfbSendFileTransferChunk after its own permission test ends in one of four ways: nothing is done
(test failed, no transfer, not sending, socket closed); the transfer ends (end of file or read error:
message `ct`, close, record cleared); a block is sent as read; a block is sent after compression. -/
theorem chunk_ind (cfg) (s : S) (P : S → Prop) (idle : P (chunkCheck cfg s).2)
    (done : ∀ fd ct, (chunkCheck cfg s).1 = true → (chunkCheck cfg s).2.cl.xf.fd = some fd →
      P (endTransfer (doClose false fd
        (sendMsg cfg ct 0 0 0 (.raw []) (doRead fd (chunkCheck cfg s).2).2).2)))
    (block : ∀ fd cp m pl, (chunkCheck cfg s).1 = true →
      P (sendMsg cfg 5 0 cp m pl (doRead fd (chunkCheck cfg s).2).2).2)
    (zblock : ∀ fd n cp m pl, (chunkCheck cfg s).1 = true →
      P (sendMsg cfg 5 0 cp m pl (doCompress n (doRead fd (chunkCheck cfg s).2).2).2).2) :
    P (chunk cfg s).2 := by
  unfold chunk
  simp only []
  split
  · exact idle
  · rename_i hok
    have hok : (chunkCheck cfg s).1 = true := by simpa using hok
    split
    · exact idle
    · rename_i fd hfd
      split
      · exact idle
      · split
        · exact idle
        · split
          · exact done fd 6 hok hfd
          · exact done fd 7 hok hfd
          · split
            · exact block _ _ _ _ hok
            · split
              · split <;> exact zblock _ _ _ _ _ hok
              · exact zblock _ _ _ _ _ hok

/-- An rfbCommand message ends with nothing further (no payload, unknown command, rename without '*'),
with a name refused by the translation, or with the command run on the translated name(s). -/
theorem ftCommand_ind (cfg) (cp len : Nat) (s : S) (P : S → Prop)
    (early : P (readBuffer cfg len s).2)
    (refused : ∀ n sz, P (translate cfg n sz (readBuffer cfg len s).2).2)
    (refused2 : ∀ a sz c sz', P (translate cfg c sz' (translate cfg a sz (readBuffer cfg len s).2).2).2)
    (mkdir : ∀ b p r, cp = 1 → (readBuffer cfg len s).1 = some b →
      (translate cfg (cstr b) Gen.C19.filename1Size (readBuffer cfg len s).2).1 = some p →
      P (sendMsg cfg 11 4 r len (.raw b) (doSimple false (.mkdir p)
        (translate cfg (cstr b) Gen.C19.filename1Size (readBuffer cfg len s).2).2).2).2)
    (delete : ∀ b p r, cp = 4 → (readBuffer cfg len s).1 = some b →
      (translate cfg (cstr b) Gen.C19.filename1Size (readBuffer cfg len s).2).1 = some p →
      P (sendMsg cfg 11 7 r len (.raw b) (deletePath p
        (translate cfg (cstr b) Gen.C19.filename1Size (readBuffer cfg len s).2).2).2).2)
    (rename : ∀ b x y pa pb r, cp = 5 → (readBuffer cfg len s).1 = some b →
      splitLast 42 (cstr b) = some (x, y) →
      (translate cfg x Gen.C19.filename1Size (readBuffer cfg len s).2).1 = some pa →
      (translate cfg y Gen.C19.filename2Size
        (translate cfg x Gen.C19.filename1Size (readBuffer cfg len s).2).2).1 = some pb →
      P (sendMsg cfg 11 8 r len (.raw b) (doSimple false (.rename pa pb)
        (translate cfg y Gen.C19.filename2Size
          (translate cfg x Gen.C19.filename1Size (readBuffer cfg len s).2).2).2).2).2) :
    P (ftCommand cfg cp len s) := by
  unfold ftCommand
  simp only []
  split
  · exact early
  · rename_i b hb
    split
    · split
      · exact refused _ _
      · exact mkdir b _ _ ‹_› hb ‹_›
    · split
      · split
        · exact refused _ _
        · exact delete b _ _ ‹_› hb ‹_›
      · split
        · split
          · exact early
          · split
            · exact refused _ _
            · split
              · exact refused2 _ _ _ _
              · exact rename b _ _ _ _ _ ‹_› hb ‹_› ‹_› ‹_›
        · exact early

/-- `P` is kept by the steps of the readdir loop; `Q` holds after either ending, both of which close
the handle: after the last entry, or after a report that failed. -/
theorem dirLoop_ind (cfg path) (P Q : S → Prop)
    (stat : ∀ name s, P s → P (doStat (path ++ 47 :: name) s).2)
    (entry : ∀ n pl s, P s → (sendMsg cfg 2 1 0 n pl s).1 = true → P (sendMsg cfg 2 1 0 n pl s).2)
    (last : ∀ s, P s → Q (sendMsg cfg 2 0 0 0 (.raw []) (emit (.fs .closedir "") s)).2)
    (broken : ∀ n pl s, P s → Q (emit (.fs .closedir "") (sendMsg cfg 2 1 0 n pl s).2))
    (names : List Path) (s : S) (h : P s) : Q (dirLoop cfg path names s) := by
  induction names generalizing s with
  | nil => exact last s h
  | cons name rest ih =>
    have h1 := stat name s h
    unfold dirLoop
    simp only []
    (repeat' split) <;> first
      | exact ih _ h1
      | exact ih _ (entry _ _ _ h1 ‹_›)
      | exact broken _ _ _ h1

/-- HandleFileUploadDataRequest: input missing (connection dropped), empty block (the upload is
finished), compressed data (refused), or a block to write. -/
theorem tUploadData_ind (s : S) (P : S → Prop)
    (drop : P (closeClient (readExact 5 s).2))
    (drop' : ∀ n, P (closeClient (readExact n (readExact 5 s).2).2))
    (complete : P (tUploadComplete (readExact 4 (readExact 5 s).2).2))
    (nozip : ∀ n, P (closeUndoneUpload false
      (twire (.tcancel "Server does not support data compression on upload") (readExact n (readExact 5 s).2).2)))
    (write : ∀ n buf, P (tUploadWrite n buf (readExact n (readExact 5 s).2).2)) :
    P (tUploadData s) := by
  unfold tUploadData
  simp only []
  split
  · exact drop
  · split
    · split
      · exact drop' 4
      · exact complete
    · split
      · exact drop' _
      · split
        · exact nozip _
        · exact write _ _

theorem runSession_ind (cfg) (I : S → Prop)
    (input : ∀ b s, I s → I (setCl (fun c => { c with inbuf := c.inbuf ++ b }) s))
    (msg : ∀ s, I s → I (stepMsg cfg s)) (chunk : ∀ s, I s → I (chunkEntry cfg s).2)
    (gone : ∀ s, I s → I (peerGone s)) (reap : ∀ s, I s → I (reapClient s))
    (inputs : List Input) (s : S) (h : I s) : I (runSession cfg s inputs) := by
  have pumped : ∀ fuel s, I s → I (pump cfg fuel s) := by
    intro fuel
    induction fuel with
    | zero => exact fun _ h => h
    | succ n ih =>
      intro s h
      unfold pump
      split
      · exact h
      · exact ih _ (msg s h)
  induction inputs generalizing s with
  | nil => exact h
  | cons i rest ih =>
    refine ih _ ?_
    cases i with
    | bytes b => simp only [sessStep]; split; exact pumped _ _ (input b s h); exact h
    | chunk => exact chunk s h
    | gone => simp only [sessStep]; split; exact gone s h; exact h
    | reap => simp only [sessStep]; split; exact h; exact reap s h

end VncModel.FileXfer
