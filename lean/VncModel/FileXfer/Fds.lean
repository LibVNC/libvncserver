/-
C19 — lemmas: descriptor accounting.  Every descriptor an `open` of the file-transfer code ever
produced (UltraVNC `cl->fileTransfer.fd`, the TightVNC extension's uploadFD / downloadFD) is later
either recorded in the client state or closed (`XInv`), and teardown closes the recorded ones.
Directory handles: `dirDepth` (every successful opendir is closed before its handler returns).
-/
import VncModel.FileXfer.Session

namespace VncModel.FileXfer

/-- descriptor `k` was produced by an `open` in the trace -/
def Got (k : Nat) (s : S) : Prop := Ev.got k ∈ s.evs

def isCloseOf (k : Nat) : Ev → Bool
  | .fs (.close j) _ => j == k
  | .cleanup (.close j) _ => j == k
  | _ => false

/-- a `close(k)` is in the trace (by a handler or by teardown) -/
def Closed (k : Nat) (s : S) : Prop := ∃ e ∈ s.evs, isCloseOf k e = true

/-- `k` is recorded in the client state: the UltraVNC transfer's descriptor or one of the
TightVNC extension's -/
def HeldC (k : Nat) (c : Client) : Prop :=
  c.xf.fd = some k ∨ ∃ t, c.tight = some t ∧ (t.up.fd = some k ∨ t.dn.fd = some k)

/-- the TightVNC client data never records a descriptor without the matching in-progress flag
(the C code sets and clears them together; the close hook relies on it) -/
def TightWf (c : Client) : Prop :=
  ∀ t, c.tight = some t →
    (∀ k, t.up.fd = some k → t.up.inProgress = true) ∧ (∀ k, t.dn.fd = some k → t.dn.inProgress = true)

/-- accounting invariant -/
def XInv (s : S) : Prop :=
  (∀ k, Got k s → HeldC k s.cl ∨ Closed k s) ∧ TightWf s.cl

@[simp] theorem got_emit (k e) (s : S) : Got k (emit e s) ↔ (e = .got k ∨ Got k s) := by
  simp [Got, emit, eq_comm]
@[simp] theorem closed_emit (k e) (s : S) : Closed k (emit e s) ↔ (isCloseOf k e = true ∨ Closed k s) := by
  simp [Closed, emit]

theorem xinv_step {s s' : S} (hx : s'.cl.xf.fd = s.cl.xf.fd) (htt : s'.cl.tight = s.cl.tight)
    (hg : ∀ k, Got k s' → Got k s) (hc : ∀ k, Closed k s → Closed k s') (h : XInv s) : XInv s' := by
  obtain ⟨ha, hw⟩ := h
  refine ⟨fun k hk => ?_, by unfold TightWf; rw [htt]; exact hw⟩
  rcases ha k (hg k hk) with h3 | h3
  · left; unfold HeldC at *; rw [hx, htt]; exact h3
  · right; exact hc k h3

@[simp] theorem xinv_emit (e) (s : S) (hg : ∀ k, e ≠ .got k) (h : XInv s) : XInv (emit e s) :=
  xinv_step (s := s) (s' := emit e s) rfl rfl (fun k hk => by
    rcases (got_emit k e s).mp hk with h1 | h1
    · exact absurd h1 (hg k)
    · exact h1) (fun k hk => (closed_emit k e s).mpr (Or.inr hk)) h

@[simp] theorem xinv_setCl (f) (s : S) (hx : (f s.cl).xf.fd = s.cl.xf.fd) (_hte : (f s.cl).tightExt = s.cl.tightExt)
    (htt : (f s.cl).tight = s.cl.tight) (h : XInv s) : XInv (setCl f s) :=
  xinv_step (s := s) (s' := setCl f s) hx htt (fun _ h => h) (fun _ h => h) h

@[simp] theorem xinv_bumpCalls (s : S) (h : XInv s) : XInv (bumpCalls s) :=
  xinv_step (s := s) (s' := bumpCalls s) rfl rfl (fun _ h => h) (fun _ h => h) h

theorem closed_mono_emit (k e) (s : S) (h : Closed k s) : Closed k (emit e s) :=
  (closed_emit k e s).mpr (Or.inr h)

theorem Call.got {P : Ev → Prop} {s s' : S} (h : Call P s s') (hP : ∀ e, P e → ∀ k, e ≠ .got k) (k) :
    Got k s' ↔ Got k s := by
  obtain ⟨e, he, hs | ⟨w, hs⟩⟩ := h.evs <;> simp [Got, hs, Ne.symm (hP e he k)]
theorem Call.closed_mono {P : Ev → Prop} {s s' : S} (h : Call P s s') (k) (hc : Closed k s) :
    Closed k s' := by
  obtain ⟨c, hm, hc⟩ := hc
  obtain ⟨e, -, hs | ⟨w, hs⟩⟩ := h.evs <;> exact ⟨c, by simp [hs, hm], hc⟩
theorem Call.xinv {P : Ev → Prop} {s s' : S} (h : Call P s s') (hP : ∀ e, P e → ∀ k, e ≠ .got k)
    (hx : XInv s) : XInv s' :=
  xinv_step (by rw [h.cl]) (by rw [h.cl]) (fun k => (h.got hP k).mp) h.closed_mono hx

theorem fsOf_ne_got (f e) (h : fsOf f e) (k) : e ≠ .got k := by obtain ⟨r, rfl⟩ := h; nofun
theorem xOf_ne_got (w n e) (h : xOf w n e) (k) : e ≠ .got k := by obtain ⟨r, rfl⟩ := h; nofun
theorem doSimple_ne_got (t : Bool) (f : FsEffect) (e : Ev) (h : ∃ r, e = if t then Ev.cleanup f r else .fs f r) (k) : e ≠ .got k := by
  obtain ⟨r, rfl⟩ := h; cases t <;> nofun

@[simp] theorem doClose_xinv (t j) (s : S) (h : XInv s) : XInv (doClose t j s) := by
  unfold doClose; split <;> exact xinv_emit _ _ (by intro k; simp) h
@[simp] theorem doSimple_xinv (t e) (s : S) (h : XInv s) : XInv (doSimple t e s).2 :=
  (doSimple_call t e s).xinv (doSimple_ne_got t e) h
@[simp] theorem doFstat_xinv (j) (s : S) (h : XInv s) : XInv (doFstat j s).2 :=
  (doFstat_call j s).xinv (fsOf_ne_got _) h
@[simp] theorem doRead_xinv (j) (s : S) (h : XInv s) : XInv (doRead j s).2 :=
  (doRead_call j s).xinv (fsOf_ne_got _) h
@[simp] theorem doWrite_xinv (j n hh) (s : S) (h : XInv s) : XInv (doWrite j n hh s).2 :=
  (doWrite_call j n hh s).xinv (fsOf_ne_got _) h
@[simp] theorem doStat_xinv (p) (s : S) (h : XInv s) : XInv (doStat p s).2 :=
  (doStat_call p s).xinv (fsOf_ne_got _) h
@[simp] theorem doCompress_xinv (n) (s : S) (h : XInv s) : XInv (doCompress n s).2 :=
  (doCompress_call n s).xinv (xOf_ne_got _ _) h
@[simp] theorem doUncompress_xinv (n) (s : S) (h : XInv s) : XInv (doUncompress n s).2 :=
  (doUncompress_call n s).xinv (xOf_ne_got _ _) h
@[simp] theorem doOpendir_xinv (p) (s : S) (h : XInv s) : XInv (doOpendir p s).2 := by
  obtain ⟨s1, hc, he⟩ := doOpendir_call p s
  have h1 := hc.xinv (fsOf_ne_got _) h
  rw [he]; split
  · exact xinv_emit _ _ (by intro k; simp) h1
  · exact h1

theorem doClose_closed (k t) (s : S) : Closed k (doClose t k s) := by
  unfold doClose; split <;> simp [isCloseOf]
theorem doClose_closed_mono (k t j) (s : S) (h : Closed k s) : Closed k (doClose t j s) := by
  unfold doClose; split <;> exact closed_mono_emit _ _ _ h
theorem doClose_got (k t j) (s : S) : Got k (doClose t j s) ↔ Got k s := by
  unfold doClose; split <;> simp
theorem doSimple_got (k t e) (s : S) : Got k (doSimple t e s).2 ↔ Got k s :=
  (doSimple_call t e s).got (doSimple_ne_got t e) k
theorem doSimple_closed_mono (k t e) (s : S) (h : Closed k s) : Closed k (doSimple t e s).2 :=
  (doSimple_call t e s).closed_mono k h

/-- rewriting the extension's descriptor slots is fine if every forgotten descriptor was closed on
the way from `s0` to `s1` and every new one is recorded or closed -/
theorem xinv_replace_tight {s0 s1 : S} (g : Tight → Tight) (h : XInv s0) (hcl : s1.cl = s0.cl)
    (hg : ∀ k, Got k s1 →
      (∃ t, s0.cl.tight = some t ∧ ((g t).up.fd = some k ∨ (g t).dn.fd = some k)) ∨ Closed k s1 ∨ Got k s0)
    (hc : ∀ k, Closed k s0 → Closed k s1)
    (hold : ∀ t k, s0.cl.tight = some t → (t.up.fd = some k ∨ t.dn.fd = some k) →
      ((g t).up.fd = some k ∨ (g t).dn.fd = some k) ∨ Closed k s1)
    (hwf : ∀ t, s0.cl.tight = some t →
      (∀ k, (g t).up.fd = some k → (g t).up.inProgress = true) ∧
      (∀ k, (g t).dn.fd = some k → (g t).dn.inProgress = true)) :
    XInv (setTight g s1) := by
  obtain ⟨ha, hw⟩ := h
  have htm : ∀ t, s0.cl.tight = some t → (setTight g s1).cl.tight = some (g t) := by
    intro t ht; simp [setTight, setCl, hcl, ht]
  refine ⟨fun k hk => ?_, ?_⟩
  · have hk1 : Got k s1 := hk
    show HeldC k (setTight g s1).cl ∨ Closed k s1
    rcases hg k hk1 with ⟨t, ht, h3⟩ | h3 | h3
    · exact Or.inl (Or.inr ⟨g t, htm t ht, h3⟩)
    · exact Or.inr h3
    · rcases ha k h3 with h4 | h4
      · rcases h4 with h4 | ⟨t, ht, h4⟩
        · left; left
          show s1.cl.xf.fd = some k
          rw [hcl]; exact h4
        · rcases hold t k ht h4 with h5 | h5
          · exact Or.inl (Or.inr ⟨g t, htm t ht, h5⟩)
          · exact Or.inr h5
      · exact Or.inr (hc k h4)
  · intro t2 ht2
    cases ht : s0.cl.tight with
    | none => simp [setTight, setCl, hcl, ht] at ht2
    | some t =>
      rw [htm t ht] at ht2
      cases ht2
      exact hwf t ht

def closeOpt (t : Bool) (fd : Option Nat) (s : S) : S :=
  match fd with
  | some k => doClose t k s
  | none => s
theorem closeOpt_cl (t fd) (s : S) : (closeOpt t fd s).cl = s.cl := by
  unfold closeOpt; split <;> simp
theorem closeOpt_got (k t fd) (s : S) : Got k (closeOpt t fd s) ↔ Got k s := by
  unfold closeOpt; split
  · exact doClose_got _ _ _ _
  · rfl
theorem closeOpt_closed_mono (k t fd) (s : S) (h : Closed k s) : Closed k (closeOpt t fd s) := by
  unfold closeOpt; split
  · exact doClose_closed_mono _ _ _ _ h
  · exact h
theorem closeOpt_closed (k t) (s : S) : Closed k (closeOpt t (some k) s) := doClose_closed _ _ _

@[simp] theorem closeUndoneUpload_xinv (t) (s : S) (h : XInv s) : XInv (closeUndoneUpload t s) := by
  unfold closeUndoneUpload
  cases ht : s.cl.tight with
  | none => simpa [ht] using h
  | some tt =>
    simp only []
    split
    · show XInv (setCl (fun c => { c with tight := some { tt with up := {} } })
        (doSimple t (.unlink tt.up.fName) (closeOpt t tt.up.fd s)).2)
      have e : setCl (fun c => { c with tight := some { tt with up := {} } })
          (doSimple t (.unlink tt.up.fName) (closeOpt t tt.up.fd s)).2
          = setTight (fun t => { t with up := {} }) (doSimple t (.unlink tt.up.fName) (closeOpt t tt.up.fd s)).2 := by
        simp [setTight, setCl, closeOpt_cl, ht]
      have hw := h.2 tt ht
      have hk : ∀ k, tt.up.fd = some k → Closed k (doSimple t (.unlink tt.up.fName) (closeOpt t tt.up.fd s)).2 :=
        fun k hk => by rw [hk]; exact doSimple_closed_mono _ _ _ _ (closeOpt_closed _ _ _)
      rw [e]
      refine xinv_replace_tight (s0 := s) _ h (by simp [closeOpt_cl])
        (fun k hk => Or.inr (Or.inr ((closeOpt_got k t _ s).mp ((doSimple_got k t _ _).mp hk))))
        (fun k hk => doSimple_closed_mono _ _ _ _ (closeOpt_closed_mono _ _ _ _ hk)) ?_ ?_ <;> grind
    · exact h

theorem closeUndoneUpload_upfd (t) (s : S) (h : TightWf s.cl) :
    ∀ t2, (closeUndoneUpload t s).cl.tight = some t2 → t2.up.fd = none := by
  unfold closeUndoneUpload TightWf at *
  cases ht : s.cl.tight with
  | none => simp [ht]
  | some tt =>
    have := h tt ht
    simp only []
    split <;> simp_all
    cases hfd : tt.up.fd <;> simp_all

@[simp] theorem closeUndoneDownload_xinv (t) (s : S) (h : XInv s) : XInv (closeUndoneDownload t s) := by
  unfold closeUndoneDownload
  cases ht : s.cl.tight with
  | none => simpa [ht] using h
  | some tt =>
    simp only []
    split
    · show XInv (setCl (fun c => { c with tight := some { tt with dn := {} } }) (closeOpt t tt.dn.fd s))
      have e : setCl (fun c => { c with tight := some { tt with dn := {} } }) (closeOpt t tt.dn.fd s)
          = setTight (fun t => { t with dn := {} }) (closeOpt t tt.dn.fd s) := by
        simp [setTight, setCl, closeOpt_cl, ht]
      have hw := h.2 tt ht
      have hk : ∀ k, tt.dn.fd = some k → Closed k (closeOpt t tt.dn.fd s) :=
        fun k hk => by rw [hk]; exact closeOpt_closed _ _ _
      rw [e]
      refine xinv_replace_tight (s0 := s) _ h (closeOpt_cl _ _ _)
        (fun k hk => Or.inr (Or.inr ((closeOpt_got k t _ s).mp hk)))
        (fun k => closeOpt_closed_mono k _ _ _) ?_ ?_ <;> grind
    · exact h

theorem closeUndoneDownload_fds (t) (s : S) (h : TightWf s.cl) :
    ∀ t2, (closeUndoneDownload t s).cl.tight = some t2 →
      t2.dn.fd = none ∧ ∀ tt, s.cl.tight = some tt → t2.up = tt.up := by
  unfold closeUndoneDownload TightWf at *
  cases ht : s.cl.tight with
  | none => simp [ht]
  | some tt =>
    have := h tt ht
    simp only []
    split <;> simp_all
    cases hfd : tt.dn.fd <;> simp_all

/-- rfbCloseClient: the extension's close hook has closed what it forgets -/
@[simp] theorem closeClient_xinv (s : S) (h : XInv s) : XInv (closeClient s) := by
  unfold closeClient
  cases ht : s.cl.tight with
  | none =>
    simp only []
    exact xinv_emit _ _ (by intro k; simp) (xinv_setCl _ _ rfl rfl rfl h)
  | some tt =>
    simp only []
    have h1 := closeUndoneUpload_xinv true s h
    have h2 := closeUndoneDownload_xinv true _ h1
    have hu := closeUndoneUpload_upfd true s h.2
    have hd := closeUndoneDownload_fds true _ h1.2
    apply xinv_emit _ _ (by intro k; simp)
    apply xinv_setCl _ _ rfl rfl rfl
    -- forgetting the extension data: both of its descriptor slots are empty
    obtain ⟨ha, hw⟩ := h2
    refine ⟨fun k hk => ?_, fun t2 h2 => by cases h2⟩
    rcases ha k hk with h3 | h3
    · rcases h3 with h3 | ⟨t2, ht2, h3 | h3⟩
      · exact Or.inl (Or.inl h3)
      · exfalso
        obtain ⟨_, hup⟩ := hd t2 ht2
        cases htu : (closeUndoneUpload true s).cl.tight with
        | none =>
          -- the download hook does not create extension data
          unfold closeUndoneDownload at ht2
          simp [htu] at ht2
        | some t1 =>
          have := hup t1 htu
          rw [this, hu t1 htu] at h3
          cases h3
      · exfalso
        rw [(hd t2 ht2).1] at h3
        cases h3
    · exact Or.inr h3
@[simp] theorem macroCheck_xinv (cfg) (s : S) (h : XInv s) : XInv (macroCheck cfg s).2 := by
  unfold macroCheck; ftsplit
@[simp] theorem chunkCheck_xinv (cfg) (s : S) (h : XInv s) : XInv (chunkCheck cfg s).2 := by
  unfold chunkCheck; ftsplit
@[simp] theorem translate_xinv (cfg p n) (s : S) (h : XInv s) : XInv (translate cfg p n s).2 := by
  rw [translate_snd]; exact macroCheck_xinv cfg s h
@[simp] theorem readExact_xinv (n) (s : S) (h : XInv s) : XInv (readExact n s).2 := by
  unfold readExact; ftsplit
@[simp] theorem sendMsg_xinv (cfg ct cp size len pl) (s : S) (h : XInv s) :
    XInv (sendMsg cfg ct cp size len pl s).2 := by
  unfold sendMsg; ftsplit
@[simp] theorem readBuffer_xinv (cfg n) (s : S) (h : XInv s) : XInv (readBuffer cfg n s).2 := by
  unfold readBuffer; ftsplit




theorem doOpen_got (k p m) (s : S) (h : Got k (doOpen p m s).2) : (doOpen p m s).1 = some k ∨ Got k s := by
  obtain ⟨s1, hc, he⟩ := doOpen_call p m s
  rw [he] at h
  split at h
  · rename_i a ha
    rcases (got_emit k _ s1).mp h with h | h
    · left; rw [ha]; cases h; rfl
    · right; exact (hc.got (fsOf_ne_got _) k).mp h
  · right; exact (hc.got (fsOf_ne_got _) k).mp h
theorem doOpen_closed (k p m) (s : S) (h : Closed k s) : Closed k (doOpen p m s).2 := by
  obtain ⟨s1, hc, he⟩ := doOpen_call p m s
  rw [he]; split
  · exact closed_mono_emit _ _ _ (hc.closed_mono k h)
  · exact hc.closed_mono k h
theorem doFstat_got (k j) (s : S) : Got k (doFstat j s).2 ↔ Got k s :=
  (doFstat_call j s).got (fsOf_ne_got _) k
theorem doFstat_closed (k j) (s : S) (h : Closed k s) : Closed k (doFstat j s).2 :=
  (doFstat_call j s).closed_mono k h

theorem openForRead_cl (f) (s : S) : (openForRead f s).2.cl = s.cl := by
  unfold openForRead; simp only []; split
  · exact doOpen_cl _ _ _
  · split
    · exact (doFstat_cl _ _).trans (doOpen_cl _ _ _)
    · exact (doClose_cl _ _ _).trans ((doFstat_cl _ _).trans (doOpen_cl _ _ _))
theorem openForRead_got (k f) (s : S) (h : Got k (openForRead f s).2) :
    (openForRead f s).1.1 = some k ∨ Closed k (openForRead f s).2 ∨ Got k s := by
  unfold openForRead at h ⊢
  simp only [] at h ⊢
  have hopen := doOpen_got k f .rd s
  cases ho : (doOpen f .rd s).1 with
  | none =>
    simp only [ho] at h ⊢
    have := hopen h
    grind
  | some j =>
    simp only [ho] at h ⊢
    -- when fstat fails the descriptor just opened is closed again
    have hc := doClose_closed j false (doFstat j (doOpen f .rd s).2).2
    cases hf : (doFstat j (doOpen f .rd s).2).1 with
    | some n =>
      simp only [hf] at h ⊢
      have := hopen ((doFstat_got k j _).mp h)
      grind
    | none =>
      simp only [hf] at h ⊢
      have := hopen ((doFstat_got k j _).mp ((doClose_got k false j _).mp h))
      grind
theorem openForRead_closed (k f) (s : S) (h : Closed k s) : Closed k (openForRead f s).2 := by
  unfold openForRead; simp only []; split
  · exact doOpen_closed _ _ _ _ h
  · split
    · exact doFstat_closed _ _ _ (doOpen_closed _ _ _ _ h)
    · exact doClose_closed_mono _ _ _ _ (doFstat_closed _ _ _ (doOpen_closed _ _ _ _ h))

/-- the recorded descriptor, closed already, may be overwritten if every descriptor opened on the
way from `s` to `s1` is the one recorded or closed again -/
theorem setXf_xinv {s s1 : S} (f : Client → Client) (h : XInv s)
    (hold : ∀ k, s.cl.xf.fd = some k → Closed k s) (hcl : s1.cl = s.cl)
    (hg : ∀ k, Got k s1 → (f s1.cl).xf.fd = some k ∨ Closed k s1 ∨ Got k s)
    (hc : ∀ k, Closed k s → Closed k s1) (htt : (f s1.cl).tight = s1.cl.tight) : XInv (setCl f s1) := by
  refine ⟨fun k hk => ?_, by unfold TightWf; rw [setCl_cl, htt, hcl]; exact h.2⟩
  show HeldC k (f s1.cl) ∨ Closed k s1
  rcases hg k hk with h1 | h1 | h1
  · exact Or.inl (Or.inl h1)
  · exact Or.inr h1
  · rcases h.1 k h1 with (h2 | h2) | h2
    · exact Or.inr (hc k (hold k h2))
    · exact Or.inl (Or.inr (by rw [htt, hcl]; exact h2))
    · exact Or.inr (hc k h2)

@[simp] theorem closeOld_cl (s : S) : (closeOld s).cl = s.cl := by unfold closeOld; split <;> simp
theorem closeOld_closed (s : S) (k) (hk : (closeOld s).cl.xf.fd = some k) : Closed k (closeOld s) := by
  rw [closeOld_cl] at hk
  unfold closeOld
  rw [hk]
  exact doClose_closed _ _ _

@[simp] theorem sendMsg_xf (cfg ct cp size len pl) (s : S) : (sendMsg cfg ct cp size len pl s).2.cl.xf = s.cl.xf := by
  unfold sendMsg; ftsplit

@[simp] theorem closeXf_xinv (fd) (s : S) (hfd : s.cl.xf.fd = some fd) (h : XInv s) :
    XInv (endTransfer (doClose false fd s)) :=
  setXf_xinv _ (doClose_xinv _ _ _ h) (fun k hk => by
    rw [doClose_cl, hfd] at hk; cases hk; exact doClose_closed _ _ _)
    rfl (fun _ hk => Or.inr (Or.inr hk)) (fun _ hk => hk) rfl

@[simp] theorem closeOld_xinv (s : S) (h : XInv s) : XInv (closeOld s) := by
  unfold closeOld; split
  · exact doClose_xinv _ _ _ h
  · exact h


@[simp] theorem dirLoop_xinv (cfg path) (names : List Path) (s : S) (h : XInv s) : XInv (dirLoop cfg path names s) := by
  refine dirLoop_ind cfg path XInv XInv ?_ ?_ ?_ ?_ names s h <;> intros <;> simp [*]

@[simp] theorem sendDirContent_xinv (cfg len buf) (s : S) (h : XInv s) : XInv (sendDirContent cfg len buf s) := by
  unfold sendDirContent; ftsplit

@[simp] theorem chunk_xinv (cfg) (s : S) (h : XInv s) : XInv (chunk cfg s).2 := by
  refine chunk_ind cfg s XInv ?_ ?_ ?_ ?_ <;> intros <;> simp_all (maxDischargeDepth := 6)

@[simp] theorem packetWrite_xinv (fd size len buf) (s : S) (h : XInv s) : XInv (packetWrite fd size len buf s).2 := by
  unfold packetWrite; simp only []; split
  · exact doWrite_xinv _ _ _ _ h
  · split
    · exact doWrite_xinv _ _ _ _ (doUncompress_xinv _ _ h)
    · exact doUncompress_xinv _ _ h
@[simp] theorem deletePath_xinv (p) (s : S) (h : XInv s) : XInv (deletePath p s).2 := by
  unfold deletePath; simp only []; split
  · exact doStat_xinv _ _ h
  · exact doSimple_xinv _ _ _ (doStat_xinv _ _ h)
  · exact doSimple_xinv _ _ _ (doStat_xinv _ _ h)

/-- the request's open block: old descriptor closed, file opened (and closed again when fstat
fails), result recorded -/
@[simp] theorem requestOpen_xinv (fname) (c : Bool) (s : S) (h : XInv s) :
    XInv (setCl (fun cl => { cl with xf := { cl.xf with fd := (openForRead fname (closeOld s)).1.1, compression := c } })
      (openForRead fname (closeOld s)).2) :=
  setXf_xinv _ (closeOld_xinv s h) (closeOld_closed s) (openForRead_cl _ _)
    (fun k => openForRead_got k fname _) (fun k => openForRead_closed k fname _) rfl

@[simp] theorem ftRequest_xinv (cfg size len) (s : S) (h : XInv s) : XInv (ftRequest cfg size len s) := by
  have h1 := readBuffer_xinv cfg len s h
  unfold ftRequest
  simp only []
  split
  · exact h1
  · split
    · exact translate_xinv _ _ _ _ h1
    · split
      · exact sendMsg_xinv _ _ _ _ _ _ _ (requestOpen_xinv _ _ _ (translate_xinv _ _ _ _ h1))
      · split
        · exact xinv_setCl _ _ rfl rfl rfl
            (sendMsg_xinv _ _ _ _ _ _ _ (requestOpen_xinv _ _ _ (translate_xinv _ _ _ _ h1)))
        · exact closeClient_xinv _ (xinv_setCl _ _ rfl rfl rfl
            (sendMsg_xinv _ _ _ _ _ _ _ (requestOpen_xinv _ _ _ (translate_xinv _ _ _ _ h1))))

@[simp] theorem offerOpen_xinv (fname) (s : S) (h : XInv s) :
    XInv (setCl (fun cl => { cl with xf := { cl.xf with fd := (doOpen fname .wrct (closeOld s)).1 } })
      (doOpen fname .wrct (closeOld s)).2) :=
  setXf_xinv _ (closeOld_xinv s h) (closeOld_closed s) (doOpen_cl _ _ _)
    (fun k hk => (doOpen_got k fname _ _ hk).imp id Or.inr) (fun k => doOpen_closed k fname _ _) rfl

@[simp] theorem ftOffer_xinv (cfg len) (s : S) (h : XInv s) : XInv (ftOffer cfg len s) := by
  have h1 := readBuffer_xinv cfg len s h
  unfold ftOffer
  simp only []
  split
  · exact h1
  · have h2 := readExact_xinv 4 _ h1
    split
    · exact closeClient_xinv _ h2
    · split
      · exact translate_xinv _ _ _ _ h2
      · split
        · exact sendMsg_xinv _ _ _ _ _ _ _ (offerOpen_xinv _ _ (translate_xinv _ _ _ _ h2))
        · exact xinv_setCl _ _ rfl rfl rfl
            (sendMsg_xinv _ _ _ _ _ _ _ (offerOpen_xinv _ _ (translate_xinv _ _ _ _ h2)))

@[simp] theorem ftHeader_xinv (cfg size) (s : S) (h : XInv s) : XInv (ftHeader cfg size s) := by
  unfold ftHeader
  split
  · exact setXf_xinv (s := closeOld s) _ (closeOld_xinv s h) (closeOld_closed s) rfl
      (fun _ hk => Or.inr (Or.inr hk)) (fun _ hk => hk) rfl
  · exact chunk_xinv _ _ (xinv_setCl _ _ rfl rfl rfl h)

@[simp] theorem packetWrite_cl (fd size len buf) (s : S) : (packetWrite fd size len buf s).2.cl = s.cl := by
  unfold packetWrite; simp only []; split
  · exact doWrite_cl _ _ _ _
  · split
    · exact (doWrite_cl _ _ _ _).trans (doUncompress_cl _ _)
    · exact doUncompress_cl _ _

@[simp] theorem ftPacket_xinv (cfg size len) (s : S) (h : XInv s) : XInv (ftPacket cfg size len s) := by
  unfold ftPacket; ftsplit

@[simp] theorem ftEof_xinv (s : S) (h : XInv s) : XInv (ftEof s) :=
  setXf_xinv (s := closeOld s) _ (closeOld_xinv s h) (closeOld_closed s) rfl
    (fun _ hk => Or.inr (Or.inr hk)) (fun _ hk => hk) rfl

@[simp] theorem ftAbort_xinv (cfg cp) (s : S) (h : XInv s) : XInv (ftAbort cfg cp s) := by
  unfold ftAbort; ftsplit

@[simp] theorem ftCommand_xinv (cfg cp len) (s : S) (h : XInv s) : XInv (ftCommand cfg cp len s) := by
  refine ftCommand_ind cfg cp len s XInv ?_ ?_ ?_ ?_ ?_ ?_ <;> intros <;> simp (maxDischargeDepth := 6) [*]

@[simp] theorem processFT_xinv (cfg ct cp size len) (s : S) (h : XInv s) : XInv (processFT cfg ct cp size len s) := by
  unfold processFT; ftsplit


@[simp] theorem xinv_rename (g : Tight → Tight) (s : S) (h : XInv s)
    (hg : ∀ t, (g t).up.fd = t.up.fd ∧ (g t).dn.fd = t.dn.fd ∧
      (g t).up.inProgress = t.up.inProgress ∧ (g t).dn.inProgress = t.dn.inProgress) :
    XInv (setTight g s) :=
  xinv_replace_tight g h rfl (fun _ hk => Or.inr (Or.inr hk)) (fun _ hk => hk)
    (fun t k _ hk => Or.inl (by rw [(hg t).1, (hg t).2.1]; exact hk))
    (fun t ht => by rw [(hg t).1, (hg t).2.1, (hg t).2.2.1, (hg t).2.2.2]; exact h.2 t ht)

@[simp] theorem xinv_setDn_fName (n) (s : S) (h : XInv s) : XInv (setDn (fun d => { d with fName := n }) s) :=
  xinv_rename _ s h fun _ => ⟨rfl, rfl, rfl, rfl⟩
@[simp] theorem xinv_setUp_fName (n) (s : S) (h : XInv s) : XInv (setUp (fun u => { u with fName := n }) s) :=
  xinv_rename _ s h fun _ => ⟨rfl, rfl, rfl, rfl⟩
@[simp] theorem twire_xinv (w) (s : S) (h : XInv s) : XInv (twire w s) :=
  xinv_emit _ _ (by intro k; simp) h

@[simp] theorem tListLoop_xinv (path wf) (names : List Path) (acc) (s : S) (h : XInv s) :
    XInv (tListLoop path wf names acc s).2 := by
  induction names generalizing s acc with
  | nil => unfold tListLoop; exact h
  | cons name rest ih =>
    unfold tListLoop
    simp only []
    split
    · exact ih _ _ h
    · split <;> exact ih _ _ (doStat_xinv _ _ h)
@[simp] theorem tListDir_xinv (flags path) (s : S) (h : XInv s) : XInv (tListDir flags path s) := by
  unfold tListDir; ftsplit
@[simp] theorem tList_xinv (cfg) (s : S) (h : XInv s) : XInv (tList cfg s) := by
  unfold tList; ftsplit
@[simp] theorem tLengthError_xinv (n w) (s : S) (h : XInv s) : XInv (tLengthError n w s) := by
  unfold tLengthError; simp only []; split
  · exact closeClient_xinv _ (readExact_xinv _ _ h)
  · exact twire_xinv _ _ (readExact_xinv _ _ h)

@[simp] theorem tDownloadEnd_xinv (fd w) (s : S) (hfd : ∀ t, s.cl.tight = some t → t.dn.fd = some fd) (h : XInv s) :
    XInv (tDownloadEnd fd w s) := by
  unfold tDownloadEnd
  apply twire_xinv
  have hk := doClose_closed fd false s
  refine xinv_replace_tight (s0 := s) _ h (doClose_cl _ _ _)
    (fun k hk => Or.inr (Or.inr ((doClose_got k false fd s).mp hk)))
    (fun k => doClose_closed_mono k _ _ _) (fun t k ht hk => ?_) (fun t ht => ?_)
  · have := hfd t ht
    grind
  · have := h.2 t ht
    grind

@[simp] theorem tDownloadLoop_xinv (fd fuel) (s : S) (hfd : ∀ t, s.cl.tight = some t → t.dn.fd = some fd)
    (h : XInv s) : XInv (tDownloadLoop fd fuel s) := by
  induction fuel generalizing s with
  | zero => unfold tDownloadLoop; exact h
  | succ n ih =>
    have h1 := doRead_xinv fd s h
    have hfd1 : ∀ t, (doRead fd s).2.cl.tight = some t → t.dn.fd = some fd := by
      intro t ht; rw [doRead_cl] at ht; exact hfd t ht
    unfold tDownloadLoop
    simp only []
    split
    · exact tDownloadEnd_xinv _ _ _ hfd1 h1
    · exact tDownloadEnd_xinv _ _ _ hfd1 h1
    · exact ih _ (by intro t ht; exact hfd1 t ht) (twire_xinv _ _ h1)

@[simp] theorem doOpen_fail_xinv (p m) (s : S) (hn : (doOpen p m s).1 = none) (h : XInv s) : XInv (doOpen p m s).2 := by
  refine xinv_step (s := s) (by rw [doOpen_cl]) (by rw [doOpen_cl]) ?_ (fun k hk => doOpen_closed _ _ _ _ hk) h
  intro k hk
  rcases doOpen_got k p m s hk with h1 | h1
  · rw [hn] at h1; cases h1
  · exact h1

@[simp] theorem tDownloadRun_xinv (path) (s : S) (h : XInv s) : XInv (tDownloadRun path s) := by
  unfold tDownloadRun
  cases ht : s.cl.tight with
  | none => exact h
  | some t =>
    simp only []
    split
    · rename_i hidle
      cases ho : (doOpen path .rd s).1 with
      | none =>
        simp only [ho]
        exact twire_xinv _ _ (doOpen_fail_xinv _ _ _ ho h)
      | some k =>
        simp only [ho]
        apply tDownloadLoop_xinv
        · intro t2 ht2
          simp only [setDn_tight, doOpen_cl, ht, Option.map_some, Option.some.injEq] at ht2
          subst ht2; rfl
        · simp only [Bool.not_eq_true', Option.isNone_iff_eq_none] at hidle
          have hw := h.2 t ht
          refine xinv_replace_tight (s0 := s) _ h (doOpen_cl _ _ _) (fun j hj => ?_)
            (fun j => doOpen_closed j _ _ _) ?_ ?_
          · have := doOpen_got j path .rd s hj
            grind
          · grind
          · grind
    · exact twire_xinv _ _ h

@[simp] theorem tDownloadPath_xinv (path) (s : S) (h : XInv s) : XInv (tDownloadPath path s) := by
  unfold tDownloadPath; ftsplit

@[simp] theorem tDownload_xinv (cfg) (s : S) (h : XInv s) : XInv (tDownload cfg s) := by
  unfold tDownload; ftsplit

/-- HandleFileUpload, first half: the old upload descriptor is closed before the record is reset
(the fix) -/
theorem tUploadReset_xinv (path) (s : S) (h : XInv s) :
    XInv (setUp (fun _ => ({ fd := none, inProgress := false, fName := path } : TSide))
      (closeOpt false (s.cl.tight.bind (·.up.fd)) s)) := by
  refine xinv_replace_tight (s0 := s) _ h (closeOpt_cl _ _ _)
    (fun k hk => Or.inr (Or.inr ((closeOpt_got k false _ s).mp hk)))
    (fun k => closeOpt_closed_mono k _ _ _) (fun t k ht hk => ?_) (fun t ht => ?_)
  · have : t.up.fd = some k → Closed k (closeOpt false (s.cl.tight.bind (·.up.fd)) s) := fun hk => by
      rw [show s.cl.tight.bind (·.up.fd) = some k by simp [ht, hk]]; exact closeOpt_closed _ _ _
    grind
  · have := h.2 t ht
    grind

theorem tUploadOpen_xinv (path) (s : S) (h : XInv s) (hup : ∃ t, s.cl.tight = some t ∧ t.up.fd = none) :
    XInv (match (doOpen path .wrct s).1 with
      | none => twire (.tcancel "Could not create file") (doOpen path .wrct s).2
      | some k => setUp (fun u => { u with fd := some k, inProgress := true }) (doOpen path .wrct s).2) := by
  obtain ⟨t, ht, hfd⟩ := hup
  have hw := h.2 t ht
  split
  · exact twire_xinv _ _ (doOpen_fail_xinv _ _ _ ‹_› h)
  · refine xinv_replace_tight (s0 := s) _ h (doOpen_cl _ _ _) (fun j hj => ?_)
      (fun j => doOpen_closed j _ _ _) ?_ ?_
    · have := doOpen_got j path .wrct s hj
      grind
    · grind
    · grind

@[simp] theorem tUploadPath_xinv (path) (s : S) (hs : ∃ t, s.cl.tight = some t) (h : XInv s) :
    XInv (tUploadPath path s) := by
  obtain ⟨t, ht⟩ := hs
  have := tUploadOpen_xinv path _ (tUploadReset_xinv path s h)
    ⟨_, by rw [setUp_tight, closeOpt_cl, ht]; rfl, rfl⟩
  exact this

@[simp] theorem tUpload_xinv (cfg) (s : S) (hs : ∃ t, s.cl.tight = some t) (h : XInv s) : XInv (tUpload cfg s) := by
  unfold tUpload; ftsplit

@[simp] theorem tUploadComplete_xinv (s : S) (h : XInv s) : XInv (tUploadComplete s) := by
  unfold tUploadComplete
  cases ht : s.cl.tight with
  | none => exact h
  | some t =>
    simp only []
    cases hfd : t.up.fd with
    | none => exact doSimple_xinv _ _ _ h
    | some k =>
      simp only []
      have hw := h.2 t ht
      have hk := doClose_closed k false (doSimple false (.utime t.up.fName) s).2
      refine xinv_replace_tight (s0 := s) _ h (by rw [doClose_cl, doSimple_cl])
        (fun j hj => Or.inr (Or.inr ((doSimple_got j false _ s).mp ((doClose_got j false k _).mp hj))))
        (fun j hj => doClose_closed_mono _ _ _ _ (doSimple_closed_mono _ _ _ _ hj)) ?_ ?_
      · grind
      · grind

@[simp] theorem tUploadWrite_xinv (c b) (s : S) (h : XInv s) : XInv (tUploadWrite c b s) := by
  unfold tUploadWrite; ftsplit

@[simp] theorem tUploadData_xinv (s : S) (h : XInv s) : XInv (tUploadData s) := by
  refine tUploadData_ind s XInv ?_ ?_ ?_ ?_ ?_ <;> intros <;> simp (maxDischargeDepth := 6) [*]

@[simp] theorem tReason_xinv (u) (s : S) (h : XInv s) : XInv (tReason u s) := by
  unfold tReason; ftsplit

@[simp] theorem tMkdir_xinv (cfg) (s : S) (h : XInv s) : XInv (tMkdir cfg s) := by
  unfold tMkdir; ftsplit

@[simp] theorem tightMsg_xinv (cfg ty) (s : S) (h : XInv s) : XInv (tightMsg cfg ty s) := by
  unfold tightMsg; ftsplit

@[simp] theorem stepMsg_xinv (cfg) (s : S) (h : XInv s) : XInv (stepMsg cfg s) := by
  have h0 := xinv_emit .start s (by intro k; simp) h
  unfold stepMsg
  simp only []
  split
  · exact h0
  · split
    · exact xinv_emit _ _ (by intro k; simp) (xinv_setCl _ _ rfl rfl rfl h0)
    · have h1 := readExact_xinv 1 _ h0
      split
      · exact closeClient_xinv _ h1
      · split
        · have h2 := readExact_xinv 11 _ h1
          split
          · exact closeClient_xinv _ h2
          · exact processFT_xinv _ _ _ _ _ _ h2
        · exact tightMsg_xinv _ _ _ h1

@[simp] theorem chunkEntry_xinv (cfg) (s : S) (h : XInv s) : XInv (chunkEntry cfg s).2 :=
  chunk_xinv _ _ (xinv_emit .start s (by intro k; simp) h)

@[simp] theorem peerGone_xinv (s : S) (h : XInv s) : XInv (peerGone s) :=
  closeClient_xinv _ (xinv_setCl _ _ rfl rfl rfl (xinv_emit .start s (by intro k; simp) h))

@[simp] theorem reapClient_xinv (s : S) (h : XInv s) : XInv (reapClient s) := by
  have h0 := xinv_emit .start s (by intro k; simp) h
  unfold reapClient
  split
  · rename_i k hfd
    refine setXf_xinv _ (xinv_emit (.cleanup (.close k) "") _ (by intro j; simp) h0) (fun j hj => ?_) rfl
      (fun _ hk => Or.inr (Or.inr hk)) (fun _ hk => hk) rfl
    have : k = j := by simpa [hfd] using hj
    simp [this, isCloseOf]
  · exact h0

@[simp] theorem runSession_xinv (cfg) (inputs : List Input) (s : S) (h : XInv s) : XInv (runSession cfg s inputs) :=
  runSession_ind cfg XInv (fun _ _ h => xinv_setCl _ _ rfl rfl rfl h) (stepMsg_xinv cfg)
    (chunkEntry_xinv cfg) peerGone_xinv reapClient_xinv inputs s h

theorem teardown_not_held (s : S) (k : Nat) : ¬ HeldC k (reapClient (peerGone s)).cl := by
  unfold reapClient peerGone HeldC
  split <;> simp_all

/-! ### directory handles: every successful opendir is closed before its handler returns -/

def dirDelta : Ev → Int
  | .dirOpened => 1
  | .fs .closedir _ => -1
  | _ => 0

/-- directory handles open according to the trace -/
def dirDepth (evs : List Ev) : Int := (evs.map dirDelta).sum
def DD (s : S) : Int := dirDepth s.evs

@[simp] theorem dd_emit (e) (s : S) : DD (emit e s) = dirDelta e + DD s := by
  simp [DD, dirDepth, emit]
@[simp] theorem dd_setCl (f) (s : S) : DD (setCl f s) = DD s := rfl
@[simp] theorem dd_setNextFd (k) (s : S) : DD (setNextFd k s) = DD s := rfl
@[simp] theorem dd_bumpCalls (s : S) : DD (bumpCalls s) = DD s := rfl
@[simp] theorem dd_setTight (f) (s : S) : DD (setTight f s) = DD s := rfl
@[simp] theorem dd_setUp (f) (s : S) : DD (setUp f s) = DD s := rfl
@[simp] theorem dd_setDn (f) (s : S) : DD (setDn f s) = DD s := rfl
@[simp] theorem dd_endTransfer (s : S) : DD (endTransfer s) = DD s := rfl
@[simp] theorem dd_twire (w) (s : S) : DD (twire w s) = DD s := by simp [twire, dirDelta]

theorem Call.dd {P : Ev → Prop} {s s' : S} (h : Call P s s') (hP : ∀ e, P e → dirDelta e = 0) :
    DD s' = DD s := by
  have hb : ∀ w, dirDelta (.envBad w) = 0 := fun _ => rfl
  obtain ⟨e, he, hs | ⟨w, hs⟩⟩ := h.evs <;> simp [DD, dirDepth, hs, hP e he, hb]
theorem fsOf_dd (f e) (h : fsOf f e) (hf : f ≠ .closedir) : dirDelta e = 0 := by
  obtain ⟨r, rfl⟩ := h; cases f <;> first | rfl | exact absurd rfl hf
theorem xOf_dd (w n e) (h : xOf w n e) : dirDelta e = 0 := by obtain ⟨r, rfl⟩ := h; rfl

@[simp] theorem dd_doClose (t k) (s : S) : DD (doClose t k s) = DD s := by
  unfold doClose; split <;> simp [dirDelta]
@[simp] theorem dd_doSimple (t e) (s : S) (h : e ≠ .closedir) : DD (doSimple t e s).2 = DD s :=
  (doSimple_call t e s).dd (by
    rintro _ ⟨r, rfl⟩
    cases t
    · exact fsOf_dd e _ ⟨r, rfl⟩ h
    · rfl)
@[simp] theorem dd_doFstat (k) (s : S) : DD (doFstat k s).2 = DD s :=
  (doFstat_call k s).dd fun e h => fsOf_dd _ e h nofun
@[simp] theorem dd_doRead (k) (s : S) : DD (doRead k s).2 = DD s :=
  (doRead_call k s).dd fun e h => fsOf_dd _ e h nofun
@[simp] theorem dd_doWrite (k n h) (s : S) : DD (doWrite k n h s).2 = DD s :=
  (doWrite_call k n h s).dd fun e h => fsOf_dd _ e h nofun
@[simp] theorem dd_doStat (p) (s : S) : DD (doStat p s).2 = DD s :=
  (doStat_call p s).dd fun e h => fsOf_dd _ e h nofun
@[simp] theorem dd_doCompress (n) (s : S) : DD (doCompress n s).2 = DD s :=
  (doCompress_call n s).dd (xOf_dd _ _)
@[simp] theorem dd_doUncompress (n) (s : S) : DD (doUncompress n s).2 = DD s :=
  (doUncompress_call n s).dd (xOf_dd _ _)
@[simp] theorem dd_doOpen (p m) (s : S) : DD (doOpen p m s).2 = DD s := by
  obtain ⟨s1, hc, he⟩ := doOpen_call p m s
  have h1 := hc.dd fun e h => fsOf_dd _ e h nofun
  rw [he]; split <;> simp [h1, dirDelta]
theorem dd_doOpendir (p) (s : S) :
    DD (doOpendir p s).2 = DD s + (if (doOpendir p s).1.isSome then 1 else 0) := by
  obtain ⟨s1, hc, he⟩ := doOpendir_call p s
  have h1 := hc.dd fun e h => fsOf_dd _ e h nofun
  rw [he]; split <;> simp_all [dirDelta] <;> omega

@[simp] theorem dd_closeUndoneUpload (t) (s : S) : DD (closeUndoneUpload t s) = DD s := by
  unfold closeUndoneUpload; ftsplit [dirDelta]
@[simp] theorem dd_closeUndoneDownload (t) (s : S) : DD (closeUndoneDownload t s) = DD s := by
  unfold closeUndoneDownload; ftsplit [dirDelta]
@[simp] theorem dd_closeClient (s : S) : DD (closeClient s) = DD s := by unfold closeClient; ftsplit [dirDelta]
@[simp] theorem dd_macroCheck (cfg) (s : S) : DD (macroCheck cfg s).2 = DD s := by unfold macroCheck; ftsplit [dirDelta]
@[simp] theorem dd_chunkCheck (cfg) (s : S) : DD (chunkCheck cfg s).2 = DD s := by unfold chunkCheck; ftsplit [dirDelta]
@[simp] theorem dd_sendMsg (cfg ct cp size len pl) (s : S) : DD (sendMsg cfg ct cp size len pl s).2 = DD s := by
  unfold sendMsg; ftsplit [dirDelta]
@[simp] theorem dd_readExact (n) (s : S) : DD (readExact n s).2 = DD s := by
  unfold DD; rw [readExact_evs]
@[simp] theorem dd_readBuffer (cfg n) (s : S) : DD (readBuffer cfg n s).2 = DD s := by unfold readBuffer; ftsplit [dirDelta]

/-- the readdir loop of rfbSendDirContent closes the handle on every path -/
theorem dd_dirLoop (cfg path) (names : List Path) (s : S) : DD (dirLoop cfg path names s) = DD s - 1 := by
  refine dirLoop_ind cfg path (DD · = DD s) (DD · = DD s - 1) ?_ ?_ ?_ ?_ names s rfl <;> intros <;>
    simp_all [dirDelta] <;> omega
@[simp] theorem dd_sendDirContent (cfg len buf) (s : S) : DD (sendDirContent cfg len buf s) = DD s := by
  have hd := dd_dirLoop cfg
  have ho := dd_doOpendir
  unfold sendDirContent; ftsplit [dirDelta]
  all_goals omega
@[simp] theorem dd_chunk (cfg) (s : S) : DD (chunk cfg s).2 = DD s := by
  refine chunk_ind cfg s (DD · = DD s) ?_ ?_ ?_ ?_ <;> intros <;> simp
@[simp] theorem dd_closeOld (s : S) : DD (closeOld s) = DD s := by
  unfold closeOld; split
  · exact dd_doClose _ _ _
  · rfl
@[simp] theorem dd_openForRead (f) (s : S) : DD (openForRead f s).2 = DD s := by
  unfold openForRead; simp only []; split
  · exact dd_doOpen _ _ _
  · split
    · exact (dd_doFstat _ _).trans (dd_doOpen _ _ _)
    · exact (dd_doClose _ _ _).trans ((dd_doFstat _ _).trans (dd_doOpen _ _ _))
@[simp] theorem dd_ftRequest (cfg size len) (s : S) : DD (ftRequest cfg size len s) = DD s := by
  unfold ftRequest; ftsplit [dirDelta]
@[simp] theorem dd_ftHeader (cfg size) (s : S) : DD (ftHeader cfg size s) = DD s := by
  unfold ftHeader; split
  · exact dd_closeOld s
  · exact dd_chunk cfg _
@[simp] theorem dd_ftOffer (cfg len) (s : S) : DD (ftOffer cfg len s) = DD s := by unfold ftOffer; ftsplit [dirDelta]
@[simp] theorem dd_packetWrite (fd size len buf) (s : S) : DD (packetWrite fd size len buf s).2 = DD s := by
  unfold packetWrite; simp only []; split
  · exact dd_doWrite _ _ _ _
  · split
    · exact (dd_doWrite _ _ _ _).trans (dd_doUncompress _ _)
    · exact dd_doUncompress _ _
@[simp] theorem dd_ftPacket (cfg size len) (s : S) : DD (ftPacket cfg size len s) = DD s := by unfold ftPacket; ftsplit [dirDelta]
@[simp] theorem dd_ftEof (s : S) : DD (ftEof s) = DD s :=
  show DD (endTransfer (closeOld s)) = DD s from dd_closeOld s
@[simp] theorem dd_ftAbort (cfg cp) (s : S) : DD (ftAbort cfg cp s) = DD s := by unfold ftAbort; ftsplit [dirDelta]
@[simp] theorem dd_deletePath (p) (s : S) : DD (deletePath p s).2 = DD s := by
  unfold deletePath; simp only []; split
  · exact dd_doStat _ _
  · exact (dd_doSimple false (.rmdir p) _ nofun).trans (dd_doStat _ _)
  · exact (dd_doSimple false (.unlink p) _ nofun).trans (dd_doStat _ _)
@[simp] theorem dd_ftCommand (cfg cp len) (s : S) : DD (ftCommand cfg cp len s) = DD s := by
  refine ftCommand_ind cfg cp len s (DD · = DD s) ?_ ?_ ?_ ?_ ?_ ?_ <;> intros <;> simp
@[simp] theorem dd_processFT (cfg ct cp size len) (s : S) : DD (processFT cfg ct cp size len s) = DD s := by
  unfold processFT; ftsplit [dirDelta]

@[simp] theorem dd_tListLoop (path wf) (names : List Path) (acc) (s : S) : DD (tListLoop path wf names acc s).2 = DD s := by
  induction names generalizing s acc with
  | nil => unfold tListLoop; rfl
  | cons name rest ih =>
    unfold tListLoop
    simp only []
    split
    · exact ih _ _
    · split <;> exact (ih _ _).trans (dd_doStat _ _)
@[simp] theorem dd_tListDir (flags path) (s : S) : DD (tListDir flags path s) = DD s := by
  have ho := dd_doOpendir
  unfold tListDir; ftsplit [dirDelta]
  all_goals omega
@[simp] theorem dd_tList (cfg) (s : S) : DD (tList cfg s) = DD s := by unfold tList; ftsplit [dirDelta]
@[simp] theorem dd_tLengthError (n w) (s : S) : DD (tLengthError n w s) = DD s := by
  unfold tLengthError; simp only []; split
  · exact (dd_closeClient _).trans (dd_readExact _ _)
  · exact (dd_twire _ _).trans (dd_readExact _ _)
@[simp] theorem dd_tDownloadLoop (fd fuel) (s : S) : DD (tDownloadLoop fd fuel s) = DD s := by
  induction fuel generalizing s with
  | zero => unfold tDownloadLoop; rfl
  | succ n ih => unfold tDownloadLoop tDownloadEnd; ftsplit [dirDelta]
@[simp] theorem dd_tDownloadRun (path) (s : S) : DD (tDownloadRun path s) = DD s := by unfold tDownloadRun; ftsplit [dirDelta]
@[simp] theorem dd_tDownloadPath (path) (s : S) : DD (tDownloadPath path s) = DD s := by unfold tDownloadPath; ftsplit [dirDelta]
@[simp] theorem dd_tDownload (cfg) (s : S) : DD (tDownload cfg s) = DD s := by unfold tDownload; ftsplit [dirDelta]
@[simp] theorem dd_tUploadPath (path) (s : S) : DD (tUploadPath path s) = DD s := by unfold tUploadPath; ftsplit [dirDelta]
@[simp] theorem dd_tUpload (cfg) (s : S) : DD (tUpload cfg s) = DD s := by unfold tUpload; ftsplit [dirDelta]
@[simp] theorem dd_tUploadComplete (s : S) : DD (tUploadComplete s) = DD s := by unfold tUploadComplete; ftsplit [dirDelta]
@[simp] theorem dd_tUploadWrite (c b) (s : S) : DD (tUploadWrite c b s) = DD s := by unfold tUploadWrite; ftsplit [dirDelta]
@[simp] theorem dd_tUploadData (s : S) : DD (tUploadData s) = DD s := by
  refine tUploadData_ind s (DD · = DD s) ?_ ?_ ?_ ?_ ?_ <;> intros <;> simp
@[simp] theorem dd_tReason (u) (s : S) : DD (tReason u s) = DD s := by unfold tReason; ftsplit [dirDelta]
@[simp] theorem dd_tMkdir (cfg) (s : S) : DD (tMkdir cfg s) = DD s := by unfold tMkdir; ftsplit [dirDelta]
@[simp] theorem dd_tightMsg (cfg ty) (s : S) : DD (tightMsg cfg ty s) = DD s := by unfold tightMsg; ftsplit [dirDelta]
@[simp] theorem dd_stepMsg (cfg) (s : S) : DD (stepMsg cfg s) = DD s := by unfold stepMsg; ftsplit [dirDelta]
@[simp] theorem dd_chunkEntry (cfg) (s : S) : DD (chunkEntry cfg s).2 = DD s := by
  unfold chunkEntry; simp [dirDelta]
@[simp] theorem dd_peerGone (s : S) : DD (peerGone s) = DD s := by unfold peerGone; simp [dirDelta]
@[simp] theorem dd_reapClient (s : S) : DD (reapClient s) = DD s := by
  unfold reapClient; split <;> simp [dirDelta]
theorem dd_runSession (cfg) (inputs : List Input) (s : S) : DD (runSession cfg s inputs) = DD s :=
  runSession_ind cfg (DD · = DD s) (fun _ _ h => h) (fun _ h => by simpa using h) (fun _ h => by simpa using h)
    (fun _ h => by simpa using h) (fun _ h => by simpa using h) inputs s rfl

end VncModel.FileXfer
