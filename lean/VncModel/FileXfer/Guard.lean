/-
C19 — lemmas: every effect of the file-transfer model happens under a permission test that has
just succeeded.  `Safe s`: the trace of `s` is guarded; `Hot s`: guarded and the most recent
permission test of this invocation succeeded.  One `Safe`/`Hot` transfer lemma per model function.
-/
import VncModel.FileXfer.Calls

namespace VncModel.FileXfer

/-- result of the most recent permission test of the current invocation (trace newest first) -/
def lastChk : List Ev → Bool
  | [] => false
  | .chk b :: _ => b
  | .start :: _ => false
  | _ :: t => lastChk t

/-- every guarded event (file-system call other than a release, message to the client, zlib call on
transfer data) was emitted while the most recent permission test of its invocation had succeeded -/
def guardedB : List Ev → Bool
  | [] => true
  | e :: t => (!e.isGuarded || lastChk t) && guardedB t

def Safe (s : S) : Prop := guardedB s.evs = true
def Hot (s : S) : Prop := guardedB s.evs = true ∧ lastChk s.evs = true

@[simp, grind →] theorem hot_imp_safe (s : S) : Hot s → Safe s := fun h => h.1

@[simp] theorem safe_setCl (f) (s : S) : Safe (setCl f s) ↔ Safe s := Iff.rfl
@[simp] theorem hot_setCl (f) (s : S) : Hot (setCl f s) ↔ Hot s := Iff.rfl
@[simp, grind =] theorem safe_setNextFd (k) (s : S) : Safe (setNextFd k s) ↔ Safe s := Iff.rfl
@[simp] theorem hot_setNextFd (k) (s : S) : Hot (setNextFd k s) ↔ Hot s := Iff.rfl
@[simp] theorem safe_bumpCalls (s : S) : Safe (bumpCalls s) ↔ Safe s := Iff.rfl
@[simp] theorem hot_bumpCalls (s : S) : Hot (bumpCalls s) ↔ Hot s := Iff.rfl
@[simp, grind =] theorem safe_setTight (f) (s : S) : Safe (setTight f s) ↔ Safe s := Iff.rfl
@[simp] theorem safe_setUp (f) (s : S) : Safe (setUp f s) ↔ Safe s := Iff.rfl
@[simp, grind =] theorem safe_setDn (f) (s : S) : Safe (setDn f s) ↔ Safe s := Iff.rfl
@[simp, grind =] theorem hot_setTight (f) (s : S) : Hot (setTight f s) ↔ Hot s := Iff.rfl
@[simp] theorem hot_setUp (f) (s : S) : Hot (setUp f s) ↔ Hot s := Iff.rfl
@[simp] theorem hot_setDn (f) (s : S) : Hot (setDn f s) ↔ Hot s := Iff.rfl
@[simp] theorem safe_endTransfer (s : S) : Safe (endTransfer s) ↔ Safe s := Iff.rfl
@[simp, grind =] theorem hot_endTransfer (s : S) : Hot (endTransfer s) ↔ Hot s := Iff.rfl

/-! emit: a guarded event needs a hot state; only a permission test or the start of an invocation
changes which test was the most recent one -/
@[simp] theorem safe_emit (e) (s : S) : Safe (emit e s) ↔ match e with
    | .fs f _ => if f.isRelease then Safe s else Hot s
    | .wire _ | .x _ _ _ => Hot s
    | _ => Safe s := by
  cases e <;> simp [Safe, Hot, emit, guardedB, Ev.isGuarded, and_comm]
  split <;> simp [*]
@[simp] theorem hot_emit (e) (s : S) : Hot (emit e s) ↔ match e with
    | .chk b => b = true ∧ Safe s
    | .start => False
    | _ => Hot s := by
  cases e <;> simp [Hot, Safe, emit, guardedB, lastChk, Ev.isGuarded, and_comm]
  exact ⟨fun h => ⟨h.2.1, h.1⟩, fun h => ⟨h.2, h.1, Or.inr h.2⟩⟩
@[simp, grind =] theorem hot_emit_start (s : S) : Hot (emit .start s) ↔ False := by
  simp

/-- The walk through a handler with many uniform branches.  After `unfold f`: `repeat' split` makes one
goal per path through the `match`/`if` nest of `f`, so each goal speaks of a straight-line composition
of callees.  A branch is closed by `simp` with the default simp set, the hypotheses of the branch and
the listed lemmas: every callee has a `@[simp]` transfer lemma for the invariant at hand (an iff such as
`Safe (doStat p s).2 ↔ Hot s`, or an implication such as `XInv s → XInv (sendMsg … s).2`, which `simp`
uses as a conditional rewrite to `True`, hence the discharge depth), so the invariant is pushed from
the result back to the start state, where it is a hypothesis.  If that does not close the branch the
hypotheses of the branch (`¬(!ok) = true`, `(sendMsg …).1 = true`, …) have to be normalised too:
`simp_all` with the same lemmas; what it leaves is left to the caller.  Used only where a handler has
many branches that all go through in this way; small case splits are written out. -/
syntax "ftsplit" (" [" Lean.Parser.Tactic.simpLemma,* "]")? : tactic
macro_rules
  | `(tactic| ftsplit) => `(tactic|
      ((try simp only []); (repeat' split); all_goals (first | (simp (maxDischargeDepth := 12) [*]; done) | (try simp_all (maxDischargeDepth := 12)))))
  | `(tactic| ftsplit [$ls,*]) => `(tactic|
      ((try simp only []); (repeat' split); all_goals (first | (simp (maxDischargeDepth := 12) [$ls,*, *]; done) | (try simp_all (maxDischargeDepth := 12) [$ls,*]))))

@[simp] theorem twire_safe (w) (s : S) : Safe (twire w s) ↔ Hot s := by simp [twire]
@[simp] theorem twire_hot (w) (s : S) : Hot (twire w s) ↔ Hot s := by simp [twire]


@[simp] theorem doClose_safe (t k) (s : S) : Safe (doClose t k s) ↔ Safe s := by
  unfold doClose; split <;> simp [FsEffect.isRelease]
@[simp] theorem doClose_hot (t k) (s : S) : Hot (doClose t k s) ↔ Hot s := by
  unfold doClose; split <;> simp

theorem Call.safe {P : Ev → Prop} {s s' : S} (h : Call P s s') (g : Bool)
    (hP : ∀ e, P e → e.isGuarded = g ∧ ∀ t, lastChk (e :: t) = lastChk t) :
    (Safe s' ↔ if g then Hot s else Safe s) ∧ (Hot s' ↔ Hot s) := by
  obtain ⟨e, he, hs⟩ := h.evs
  obtain ⟨hg, hl⟩ := hP e he
  have hb : ∀ w, (Ev.envBad w).isGuarded = false := fun _ => rfl
  have key : guardedB s'.evs = guardedB (e :: s.evs) ∧ lastChk s'.evs = lastChk s.evs := by
    rcases hs with hs | ⟨w, hs⟩ <;> simp [hs, guardedB, lastChk, hl, hb]
  unfold Safe Hot
  rw [key.1, key.2]
  cases g <;> simp [guardedB, hg, and_comm]

theorem fsOf_guarded (f) (e) (h : fsOf f e) :
    e.isGuarded = !f.isRelease ∧ ∀ t, lastChk (e :: t) = lastChk t := by
  obtain ⟨r, rfl⟩ := h; exact ⟨rfl, fun _ => rfl⟩
theorem xOf_guarded (w n) (e) (h : xOf w n e) :
    e.isGuarded = true ∧ ∀ t, lastChk (e :: t) = lastChk t := by
  obtain ⟨r, rfl⟩ := h; exact ⟨rfl, fun _ => rfl⟩

theorem doSimple_guarded (t : Bool) (f : FsEffect) (e : Ev)
    (h : ∃ r, e = if t then Ev.cleanup f r else .fs f r) :
    e.isGuarded = (!t && !f.isRelease) ∧ ∀ l, lastChk (e :: l) = lastChk l := by
  obtain ⟨r, rfl⟩ := h; cases t <;> exact ⟨rfl, fun _ => rfl⟩

@[simp] theorem doSimple_hot (t e) (s : S) : Hot (doSimple t e s).2 ↔ Hot s :=
  ((doSimple_call t e s).safe _ (doSimple_guarded t e)).2
/-- teardown calls are `cleanup` events: no permission needed -/
@[simp] theorem doSimple_safe_td (e) (s : S) : Safe (doSimple true e s).2 ↔ Safe s := by
  simpa using ((doSimple_call true e s).safe _ (doSimple_guarded true e)).1
@[simp] theorem doSimple_safe (e) (s : S) :
    Safe (doSimple false e s).2 ↔ (if e.isRelease then Safe s else Hot s) := by
  have := ((doSimple_call false e s).safe _ (doSimple_guarded false e)).1
  cases h : e.isRelease <;> simpa [h] using this

@[simp] theorem doFstat_guard (k) (s : S) :
    (Safe (doFstat k s).2 ↔ Hot s) ∧ (Hot (doFstat k s).2 ↔ Hot s) :=
  (doFstat_call k s).safe true (fsOf_guarded _)
@[simp] theorem doRead_guard (k) (s : S) :
    (Safe (doRead k s).2 ↔ Hot s) ∧ (Hot (doRead k s).2 ↔ Hot s) :=
  (doRead_call k s).safe true (fsOf_guarded _)
@[simp] theorem doWrite_guard (k n h) (s : S) :
    (Safe (doWrite k n h s).2 ↔ Hot s) ∧ (Hot (doWrite k n h s).2 ↔ Hot s) :=
  (doWrite_call k n h s).safe true (fsOf_guarded _)
@[simp] theorem doStat_guard (p) (s : S) :
    (Safe (doStat p s).2 ↔ Hot s) ∧ (Hot (doStat p s).2 ↔ Hot s) :=
  (doStat_call p s).safe true (fsOf_guarded _)
@[simp] theorem doCompress_safe (n) (s : S) : Safe (doCompress n s).2 ↔ Hot s :=
  ((doCompress_call n s).safe true (xOf_guarded _ _)).1
@[simp, grind =] theorem doCompress_hot (n) (s : S) : Hot (doCompress n s).2 ↔ Hot s :=
  ((doCompress_call n s).safe true (xOf_guarded _ _)).2
@[simp] theorem doUncompress_guard (n) (s : S) :
    (Safe (doUncompress n s).2 ↔ Hot s) ∧ (Hot (doUncompress n s).2 ↔ Hot s) :=
  (doUncompress_call n s).safe true (xOf_guarded _ _)

@[simp] theorem doOpen_guard (p m) (s : S) :
    (Safe (doOpen p m s).2 ↔ Hot s) ∧ (Hot (doOpen p m s).2 ↔ Hot s) := by
  obtain ⟨s1, hc, he⟩ := doOpen_call p m s
  have := hc.safe true (fsOf_guarded _)
  rw [he]; split <;> simpa using this
@[simp] theorem doOpendir_guard (p) (s : S) :
    (Safe (doOpendir p s).2 ↔ Hot s) ∧ (Hot (doOpendir p s).2 ↔ Hot s) := by
  obtain ⟨s1, hc, he⟩ := doOpendir_call p s
  have := hc.safe true (fsOf_guarded _)
  rw [he]; split <;> simpa using this

@[simp] theorem closeUndoneUpload_hot (t) (s : S) : Hot (closeUndoneUpload t s) ↔ Hot s := by
  unfold closeUndoneUpload; ftsplit
@[simp] theorem closeUndoneUpload_safe_td (s : S) : Safe (closeUndoneUpload true s) ↔ Safe s := by
  unfold closeUndoneUpload; ftsplit
theorem closeUndoneUpload_safe (s : S) (h : Hot s) : Safe (closeUndoneUpload false s) :=
  ((closeUndoneUpload_hot false s).mpr h).1
@[simp] theorem closeUndoneDownload_hot (t) (s : S) : Hot (closeUndoneDownload t s) ↔ Hot s := by
  unfold closeUndoneDownload; ftsplit
@[simp] theorem closeUndoneDownload_safe (t) (s : S) : Safe (closeUndoneDownload t s) ↔ Safe s := by
  unfold closeUndoneDownload; ftsplit
@[simp] theorem closeClient_safe (s : S) : Safe (closeClient s) ↔ Safe s := by
  unfold closeClient; ftsplit
@[simp] theorem closeClient_hot (s : S) : Hot (closeClient s) ↔ Hot s := by
  unfold closeClient; ftsplit
@[simp, grind =] theorem consult_hot (f) (s : S) : Hot (consult f s).2 ↔ Hot s := by
  unfold consult; ftsplit

@[simp] theorem macroCheck_safe (cfg) (s : S) : Safe (macroCheck cfg s).2 ↔ Safe s := by
  unfold macroCheck; ftsplit
@[simp] theorem macroCheck_hot (cfg) (s : S) :
    Hot (macroCheck cfg s).2 ↔ ((macroCheck cfg s).1 = true ∧ Safe s) := by
  unfold macroCheck; ftsplit
@[simp] theorem chunkCheck_safe (cfg) (s : S) : Safe (chunkCheck cfg s).2 ↔ Safe s := by
  unfold chunkCheck; ftsplit
@[simp] theorem chunkCheck_hot (cfg) (s : S) :
    Hot (chunkCheck cfg s).2 ↔ ((chunkCheck cfg s).1 = true ∧ Safe s) := by
  unfold chunkCheck; ftsplit

@[simp] theorem translate_fst (cfg p n) (s : S) (r) :
    (translate cfg p n s).1 = some r ↔ ((macroCheck cfg s).1 = true ∧ translatePure cfg.home p n = some r) := by
  unfold translate; ftsplit

@[simp] theorem sendMsg_safe (cfg ct cp size len pl) (s : S) :
    Safe (sendMsg cfg ct cp size len pl s).2 ↔ Safe s := by
  unfold sendMsg; ftsplit
@[simp] theorem sendMsg_hot (cfg ct cp size len pl) (s : S) :
    Hot (sendMsg cfg ct cp size len pl s).2 ↔ ((macroCheck cfg s).1 = true ∧ Safe s) := by
  unfold sendMsg; ftsplit
@[simp] theorem sendMsg_fst (cfg ct cp size len pl) (s : S) :
    (sendMsg cfg ct cp size len pl s).1 = true ↔
      ((macroCheck cfg s).1 = true ∧ (macroCheck cfg s).2.cl.isOpen = true) := by
  unfold sendMsg; ftsplit

@[simp] theorem readExact_safe (n) (s : S) : Safe (readExact n s).2 ↔ Safe s := by
  unfold Safe; rw [readExact_evs]
@[simp] theorem readExact_hot (n) (s : S) : Hot (readExact n s).2 ↔ Hot s := by
  unfold Hot; rw [readExact_evs]
@[simp] theorem readBuffer_safe (cfg n) (s : S) : Safe (readBuffer cfg n s).2 ↔ Safe s := by
  unfold readBuffer; ftsplit
@[simp] theorem readBuffer_hot (cfg n) (s : S) :
    Hot (readBuffer cfg n s).2 ↔ ((macroCheck cfg s).1 = true ∧ Safe s) := by
  unfold readBuffer; ftsplit
@[simp] theorem readBuffer_fst (cfg n) (s : S) (b) :
    (readBuffer cfg n s).1 = some b ↔
      ((macroCheck cfg s).1 = true ∧ n ≤ Gen.C19.intMax ∧ n ≠ 0 ∧ (readExact n (macroCheck cfg s).2).1 = some b) := by
  unfold readBuffer; grind

/-- the loop runs hot: a report that went through has just passed the permission test again -/
theorem dirLoop_safe (cfg path) (names : List Path) (s : S) (h : Hot s) : Safe (dirLoop cfg path names s) := by
  refine dirLoop_ind cfg path Hot Safe ?_ ?_ ?_ ?_ names s h
  · intro name s h; simpa using h
  · intro n pl s h hok; simp_all
  · intro s h; simp [h]
  · intro n pl s h; simp [FsEffect.isRelease, h]

theorem sendDirContent_safe (cfg len buf) (s : S) (h : Safe s) : Safe (sendDirContent cfg len buf s) := by
  unfold sendDirContent; ftsplit [dirLoop_safe, FsEffect.isRelease]

theorem chunk_safe (cfg) (s : S) (h : Safe s) : Safe (chunk cfg s).2 := by
  refine chunk_ind cfg s Safe ?_ ?_ ?_ ?_ <;> intros <;> simp [*]

@[simp, grind =] theorem closeOld_safe (s : S) : Safe (closeOld s) ↔ Safe s := by
  unfold closeOld; split
  · exact doClose_safe _ _ _
  · exact Iff.rfl
@[simp] theorem closeOld_hot (s : S) : Hot (closeOld s) ↔ Hot s := by
  unfold closeOld; split
  · exact doClose_hot _ _ _
  · exact Iff.rfl

@[simp] theorem openForRead_safe (f) (s : S) : Safe (openForRead f s).2 ↔ Hot s := by
  unfold openForRead; simp only []; split
  · exact (doOpen_guard _ _ _).1
  · split
    · exact (doFstat_guard _ _).1.trans (doOpen_guard _ _ _).2
    · exact (doClose_safe _ _ _).trans ((doFstat_guard _ _).1.trans (doOpen_guard _ _ _).2)
@[simp, grind =] theorem openForRead_hot (f) (s : S) : Hot (openForRead f s).2 ↔ Hot s := by
  unfold openForRead; simp only []; split
  · exact (doOpen_guard _ _ _).2
  · split
    · exact (doFstat_guard _ _).2.trans (doOpen_guard _ _ _).2
    · exact (doClose_hot _ _ _).trans ((doFstat_guard _ _).2.trans (doOpen_guard _ _ _).2)
theorem ftRequest_safe (cfg size len) (s : S) (h : Safe s) : Safe (ftRequest cfg size len s) := by
  unfold ftRequest; ftsplit
theorem ftHeader_safe (cfg size) (s : S) (h : Safe s) : Safe (ftHeader cfg size s) := by
  unfold ftHeader; split
  · show Safe (closeOld s)
    exact (closeOld_safe s).mpr h
  · exact chunk_safe _ _ h
theorem ftOffer_safe (cfg len) (s : S) (h : Safe s) : Safe (ftOffer cfg len s) := by
  unfold ftOffer; ftsplit
@[simp] theorem packetWrite_safe (fd size len buf) (s : S) : Safe (packetWrite fd size len buf s).2 ↔ Hot s := by
  unfold packetWrite; simp only []; split
  · exact (doWrite_guard _ _ _ _).1
  · split
    · exact (doWrite_guard _ _ _ _).1.trans (doUncompress_guard _ _).2
    · exact (doUncompress_guard _ _).1
@[simp, grind =] theorem packetWrite_hot (fd size len buf) (s : S) : Hot (packetWrite fd size len buf s).2 ↔ Hot s := by
  unfold packetWrite; simp only []; split
  · exact (doWrite_guard _ _ _ _).2
  · split
    · exact (doWrite_guard _ _ _ _).2.trans (doUncompress_guard _ _).2
    · exact (doUncompress_guard _ _).2
theorem ftPacket_safe (cfg size len) (s : S) (h : Safe s) : Safe (ftPacket cfg size len s) := by
  unfold ftPacket; ftsplit
theorem ftEof_safe (s : S) (h : Safe s) : Safe (ftEof s) :=
  show Safe (endTransfer (closeOld s)) from (closeOld_safe s).mpr h
theorem ftAbort_safe (cfg cp) (s : S) (h : Safe s) : Safe (ftAbort cfg cp s) := by
  unfold ftAbort; ftsplit
@[simp] theorem deletePath_safe (p) (s : S) : Safe (deletePath p s).2 ↔ Hot s := by
  unfold deletePath; simp only []; split <;> simp [FsEffect.isRelease]
@[simp, grind =] theorem deletePath_hot (p) (s : S) : Hot (deletePath p s).2 ↔ Hot s := by
  unfold deletePath; simp only []; split
  · exact (doStat_guard _ _).2
  · exact (doSimple_hot _ _ _).trans (doStat_guard _ _).2
  · exact (doSimple_hot _ _ _).trans (doStat_guard _ _).2
theorem ftCommand_safe (cfg cp len) (s : S) (h : Safe s) : Safe (ftCommand cfg cp len s) := by
  refine ftCommand_ind cfg cp len s Safe ?_ ?_ ?_ ?_ ?_ ?_ <;> intros <;> simp_all [FsEffect.isRelease]

theorem processFT_safe (cfg ct cp size len) (s : S) (h : Safe s) : Safe (processFT cfg ct cp size len s) := by
  unfold processFT
  ftsplit [sendDirContent_safe, ftRequest_safe, ftHeader_safe, ftOffer_safe, ftPacket_safe, ftEof_safe,
    ftAbort_safe, ftCommand_safe]

/-! ### TightVNC extension: everything runs under the gate's successful test -/
theorem tListLoop_hot (path wf) (names : List Path) (acc) (s : S) : Hot (tListLoop path wf names acc s).2 ↔ Hot s := by
  induction names generalizing s acc with
  | nil => unfold tListLoop; rfl
  | cons name rest ih =>
    unfold tListLoop
    simp only []
    split
    · exact ih _ _
    · split <;> exact (ih _ _).trans (doStat_guard _ _).2
theorem tListDir_safe (flags path) (s : S) (h : Hot s) : Safe (tListDir flags path s) := by
  unfold tListDir; ftsplit [tListLoop_hot, FsEffect.isRelease]
theorem tList_safe (cfg) (s : S) (h : Hot s) : Safe (tList cfg s) := by
  unfold tList; ftsplit [tListDir_safe]
theorem tLengthError_safe (n w) (s : S) (h : Hot s) : Safe (tLengthError n w s) := by
  unfold tLengthError; simp only []; split
  · exact (closeClient_safe _).mpr ((readExact_safe _ _).mpr h.1)
  · exact (twire_safe _ _).mpr ((readExact_hot _ _).mpr h)
theorem tDownloadEnd_safe (fd w) (s : S) (h : Hot s) : Safe (tDownloadEnd fd w s) := by
  unfold tDownloadEnd; ftsplit
theorem tDownloadLoop_safe (fd fuel) (s : S) (h : Hot s) : Safe (tDownloadLoop fd fuel s) := by
  induction fuel generalizing s with
  | zero => unfold tDownloadLoop; exact h.1
  | succ n ih => unfold tDownloadLoop; ftsplit [tDownloadEnd_safe]
theorem tDownloadRun_safe (path) (s : S) (h : Hot s) : Safe (tDownloadRun path s) := by
  unfold tDownloadRun; ftsplit [tDownloadLoop_safe]
theorem tDownloadPath_safe (path) (s : S) (h : Hot s) : Safe (tDownloadPath path s) := by
  unfold tDownloadPath; ftsplit [tDownloadRun_safe]
theorem tDownload_safe (cfg) (s : S) (h : Hot s) : Safe (tDownload cfg s) := by
  unfold tDownload; ftsplit [tDownloadPath_safe, tLengthError_safe]
theorem tUploadPath_safe (path) (s : S) (h : Hot s) : Safe (tUploadPath path s) := by
  unfold tUploadPath; ftsplit
theorem tUpload_safe (cfg) (s : S) (h : Hot s) : Safe (tUpload cfg s) := by
  unfold tUpload; ftsplit [tUploadPath_safe, tLengthError_safe]
theorem tUploadComplete_safe (s : S) (h : Hot s) : Safe (tUploadComplete s) := by
  unfold tUploadComplete; ftsplit [doSimple_safe, FsEffect.isRelease]
theorem tUploadWrite_safe (c b) (s : S) (h : Hot s) : Safe (tUploadWrite c b s) := by
  unfold tUploadWrite; ftsplit [closeUndoneUpload_safe]
theorem tUploadData_safe (s : S) (h : Hot s) : Safe (tUploadData s) := by
  refine tUploadData_ind s Safe ?_ ?_ ?_ ?_ ?_ <;> intros <;>
    simp [*, tUploadComplete_safe, tUploadWrite_safe]
theorem tReason_safe (u) (s : S) (h : Hot s) : Safe (tReason u s) := by
  unfold tReason; ftsplit [closeUndoneUpload_safe]
theorem tMkdir_safe (cfg) (s : S) (h : Hot s) : Safe (tMkdir cfg s) := by
  unfold tMkdir; ftsplit [doSimple_safe, FsEffect.isRelease]
theorem tightMsg_safe (cfg ty) (s : S) (h : Safe s) : Safe (tightMsg cfg ty s) := by
  unfold tightMsg
  ftsplit [tList_safe, tDownload_safe, tUpload_safe, tUploadData_safe, tReason_safe, tMkdir_safe]

theorem stepMsg_safe (cfg) (s : S) (h : Safe s) : Safe (stepMsg cfg s) := by
  unfold stepMsg; ftsplit [processFT_safe, tightMsg_safe]
theorem chunkEntry_safe (cfg) (s : S) (h : Safe s) : Safe (chunkEntry cfg s).2 := by
  unfold chunkEntry; simp_all [chunk_safe]
theorem peerGone_safe (s : S) (h : Safe s) : Safe (peerGone s) := by
  unfold peerGone; simp_all
theorem reapClient_safe (s : S) (h : Safe s) : Safe (reapClient s) := by
  unfold reapClient; split <;> simpa using h

end VncModel.FileXfer
