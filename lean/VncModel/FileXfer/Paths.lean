/-
C19 — lemmas: which paths the file-system calls of the model name.
`PathsFs A s`: every path named by a handler's file-system call in the trace of `s` satisfies `A`.
-/
import VncModel.FileXfer.Quiet

namespace VncModel.FileXfer

def PathsFs (A : Path → Prop) (s : S) : Prop :=
  ∀ e r, Ev.fs e r ∈ s.evs → ∀ p ∈ e.paths, A p

def evPathsOk (A : Path → Prop) : Ev → Prop
  | .fs f _ => ∀ p ∈ f.paths, A p
  | _ => True

theorem pathsFs_cons {A e} {s s' : S} (h : s'.evs = e :: s.evs) :
    PathsFs A s' ↔ (evPathsOk A e ∧ PathsFs A s) := by
  unfold PathsFs
  rw [h]
  cases e <;> simp [evPathsOk, or_imp, forall_and]

@[simp] theorem pathsFs_emit (A e) (s : S) : PathsFs A (emit e s) ↔ (evPathsOk A e ∧ PathsFs A s) :=
  pathsFs_cons rfl

@[simp] theorem pathsFs_setCl (A f) (s : S) : PathsFs A (setCl f s) ↔ PathsFs A s := Iff.rfl
@[simp] theorem pathsFs_setNextFd (A k) (s : S) : PathsFs A (setNextFd k s) ↔ PathsFs A s := Iff.rfl
@[simp] theorem pathsFs_bumpCalls (A) (s : S) : PathsFs A (bumpCalls s) ↔ PathsFs A s := Iff.rfl
@[simp] theorem pathsFs_setTight (A f) (s : S) : PathsFs A (setTight f s) ↔ PathsFs A s := Iff.rfl
@[simp] theorem pathsFs_setUp (A f) (s : S) : PathsFs A (setUp f s) ↔ PathsFs A s := Iff.rfl
@[simp] theorem pathsFs_setDn (A f) (s : S) : PathsFs A (setDn f s) ↔ PathsFs A s := Iff.rfl
@[simp] theorem pathsFs_endTransfer (A) (s : S) : PathsFs A (endTransfer s) ↔ PathsFs A s := Iff.rfl
@[simp] theorem pathsFs_twire (A w) (s : S) : PathsFs A (twire w s) ↔ PathsFs A s := by
  simp [twire, evPathsOk]

theorem Call.paths {A} {P : Ev → Prop} {s s' : S} (h : Call P s s') (Q : Prop)
    (hP : ∀ e, P e → (evPathsOk A e ↔ Q)) : PathsFs A s' ↔ (Q ∧ PathsFs A s) := by
  obtain ⟨e, he, hs | ⟨w, hs⟩⟩ := h.evs
  · rw [pathsFs_cons hs, hP e he]
  · rw [pathsFs_cons (s := emit e s) hs, pathsFs_emit, hP e he]
    simp [evPathsOk]
theorem Call.paths_none {A} {P : Ev → Prop} {s s' : S} (h : Call P s s')
    (hP : ∀ e, P e → evPathsOk A e) : PathsFs A s' ↔ PathsFs A s :=
  (h.paths True fun e he => iff_true_intro (hP e he)).trans (by rw [true_and])
@[simp] theorem doClose_paths (A t k) (s : S) : PathsFs A (doClose t k s) ↔ PathsFs A s := by
  unfold doClose; split <;> simp [evPathsOk, FsEffect.paths]
@[simp] theorem doSimple_paths_td (A e) (s : S) : PathsFs A (doSimple true e s).2 ↔ PathsFs A s :=
  (doSimple_call true e s).paths_none (by rintro _ ⟨r, rfl⟩; trivial)
@[simp] theorem doSimple_paths (A e) (s : S) :
    PathsFs A (doSimple false e s).2 ↔ ((∀ p ∈ e.paths, A p) ∧ PathsFs A s) :=
  (doSimple_call false e s).paths _ (by rintro _ ⟨r, rfl⟩; rfl)
@[simp] theorem doOpen_paths (A p m) (s : S) : PathsFs A (doOpen p m s).2 ↔ (A p ∧ PathsFs A s) := by
  obtain ⟨s1, hc, he⟩ := doOpen_call p m s
  have := hc.paths (A := A) (A p) (by rintro _ ⟨r, rfl⟩; simp [evPathsOk, FsEffect.paths])
  rw [he]; split <;> simpa [evPathsOk] using this
@[simp] theorem doFstat_paths (A k) (s : S) : PathsFs A (doFstat k s).2 ↔ PathsFs A s :=
  (doFstat_call k s).paths_none (by rintro _ ⟨r, rfl⟩; simp [evPathsOk, FsEffect.paths])
@[simp] theorem doRead_paths (A k) (s : S) : PathsFs A (doRead k s).2 ↔ PathsFs A s :=
  (doRead_call k s).paths_none (by rintro _ ⟨r, rfl⟩; simp [evPathsOk, FsEffect.paths])
@[simp] theorem doWrite_paths (A k n h) (s : S) : PathsFs A (doWrite k n h s).2 ↔ PathsFs A s :=
  (doWrite_call k n h s).paths_none (by rintro _ ⟨r, rfl⟩; simp [evPathsOk, FsEffect.paths])
@[simp] theorem doOpendir_paths (A p) (s : S) : PathsFs A (doOpendir p s).2 ↔ (A p ∧ PathsFs A s) := by
  obtain ⟨s1, hc, he⟩ := doOpendir_call p s
  have := hc.paths (A := A) (A p) (by rintro _ ⟨r, rfl⟩; simp [evPathsOk, FsEffect.paths])
  rw [he]; split <;> simpa [evPathsOk] using this
@[simp] theorem doStat_paths (A p) (s : S) : PathsFs A (doStat p s).2 ↔ (A p ∧ PathsFs A s) :=
  (doStat_call p s).paths _ (by rintro _ ⟨r, rfl⟩; simp [evPathsOk, FsEffect.paths])
@[simp] theorem doCompress_paths (A n) (s : S) : PathsFs A (doCompress n s).2 ↔ PathsFs A s :=
  (doCompress_call n s).paths_none (by rintro _ ⟨r, rfl⟩; trivial)
@[simp] theorem doUncompress_paths (A n) (s : S) : PathsFs A (doUncompress n s).2 ↔ PathsFs A s :=
  (doUncompress_call n s).paths_none (by rintro _ ⟨r, rfl⟩; trivial)

@[simp] theorem closeUndoneUpload_paths_td (A) (s : S) : PathsFs A (closeUndoneUpload true s) ↔ PathsFs A s := by
  unfold closeUndoneUpload; ftsplit
@[simp] theorem closeUndoneDownload_paths (A t) (s : S) : PathsFs A (closeUndoneDownload t s) ↔ PathsFs A s := by
  unfold closeUndoneDownload; ftsplit
@[simp] theorem closeClient_paths (A) (s : S) : PathsFs A (closeClient s) ↔ PathsFs A s := by
  unfold closeClient; ftsplit [evPathsOk]
@[simp] theorem macroCheck_paths (A cfg) (s : S) : PathsFs A (macroCheck cfg s).2 ↔ PathsFs A s := by
  unfold macroCheck; ftsplit [evPathsOk]
@[simp] theorem chunkCheck_paths (A cfg) (s : S) : PathsFs A (chunkCheck cfg s).2 ↔ PathsFs A s := by
  unfold chunkCheck; ftsplit [evPathsOk]
@[simp] theorem sendMsg_paths (A cfg ct cp size len pl) (s : S) :
    PathsFs A (sendMsg cfg ct cp size len pl s).2 ↔ PathsFs A s := by
  unfold sendMsg; ftsplit [evPathsOk]
@[simp] theorem readExact_paths (A n) (s : S) : PathsFs A (readExact n s).2 ↔ PathsFs A s := by
  unfold PathsFs; rw [readExact_evs]
@[simp] theorem readBuffer_paths (A cfg n) (s : S) : PathsFs A (readBuffer cfg n s).2 ↔ PathsFs A s := by
  unfold readBuffer; ftsplit

theorem readExact_fst (n) (s : S) (b) (h : (readExact n s).1 = some b) (hn : n ≠ 0) :
    b = s.cl.inbuf.take n := by
  unfold readExact at h
  simp only [hn, if_false] at h
  split at h
  · simp at h
  · split at h <;> simp at h
    exact h.symm

theorem readBuffer_buf (cfg n) (s : S) (b) (h : (readBuffer cfg n s).1 = some b) :
    b = s.cl.inbuf.take n := by
  rw [readBuffer_fst] at h
  obtain ⟨_, _, hn, hb⟩ := h
  have := readExact_fst n _ b hb hn
  simpa using this

/-! ### UltraVNC entry points: only the named path -/
theorem dirLoop_paths (A cfg path) (names : List Path) (s : S) (hA : ∀ name, A (path ++ 47 :: name))
    (h : PathsFs A s) : PathsFs A (dirLoop cfg path names s) := by
  refine dirLoop_ind cfg path (PathsFs A) (PathsFs A) ?_ ?_ ?_ ?_ names s h <;> intros <;>
    simp_all [evPathsOk, FsEffect.paths]

theorem sendDirContent_paths (A cfg len buf) (s : S)
    (hA : ∀ d, translatePure cfg.home (cstr buf) Gen.C19.dirPathSize = some d → A d ∧ ∀ name, A (d ++ 47 :: name))
    (h : PathsFs A s) : PathsFs A (sendDirContent cfg len buf s) := by
  unfold sendDirContent
  ftsplit [evPathsOk, FsEffect.paths]
  all_goals first
    | exact (hA _ (by assumption)).1
    | exact dirLoop_paths A cfg _ _ _ (hA _ (by assumption)).2 (by simp_all)
    | exact hA.1
    | exact dirLoop_paths A cfg _ _ _ hA.2 (by simp_all)

theorem chunk_paths (A cfg) (s : S) (h : PathsFs A s) : PathsFs A (chunk cfg s).2 := by
  refine chunk_ind cfg s (PathsFs A) ?_ ?_ ?_ ?_ <;> intros <;> simpa using h

@[simp] theorem closeOld_paths (A) (s : S) : PathsFs A (closeOld s) ↔ PathsFs A s := by
  unfold closeOld; split
  · exact doClose_paths _ _ _ _
  · exact Iff.rfl
@[simp] theorem openForRead_paths (A f) (s : S) : PathsFs A (openForRead f s).2 ↔ (A f ∧ PathsFs A s) := by
  unfold openForRead; simp only []; split
  · exact doOpen_paths _ _ _ _
  · split
    · exact (doFstat_paths _ _ _).trans (doOpen_paths _ _ _ _)
    · exact (doClose_paths _ _ _ _).trans ((doFstat_paths _ _ _).trans (doOpen_paths _ _ _ _))

theorem ftRequest_paths (A cfg size len) (s : S)
    (hA : ∀ b, (readBuffer cfg len s).1 = some b →
      ∀ p, translatePure cfg.home (cstr b) Gen.C19.filename1Size = some p → A p)
    (h : PathsFs A s) : PathsFs A (ftRequest cfg size len s) := by
  unfold ftRequest; ftsplit
theorem ftHeader_paths (A cfg size) (s : S) (h : PathsFs A s) : PathsFs A (ftHeader cfg size s) := by
  unfold ftHeader; split
  · show PathsFs A (closeOld s)
    exact (closeOld_paths A s).mpr h
  · exact chunk_paths A _ _ h
theorem ftOffer_paths (A cfg len) (s : S)
    (hA : ∀ b, (readBuffer cfg len s).1 = some b →
      ∀ p, translatePure cfg.home (offerName (cstr b)) Gen.C19.filename1Size = some p → A p)
    (h : PathsFs A s) : PathsFs A (ftOffer cfg len s) := by
  unfold ftOffer; ftsplit
@[simp] theorem packetWrite_paths (A fd size len buf) (s : S) :
    PathsFs A (packetWrite fd size len buf s).2 ↔ PathsFs A s := by
  unfold packetWrite; simp only []; split
  · exact doWrite_paths _ _ _ _ _
  · split
    · exact (doWrite_paths _ _ _ _ _).trans (doUncompress_paths _ _ _)
    · exact doUncompress_paths _ _ _
theorem ftPacket_paths (A cfg size len) (s : S) (h : PathsFs A s) : PathsFs A (ftPacket cfg size len s) := by
  unfold ftPacket; ftsplit
theorem ftEof_paths (A) (s : S) (h : PathsFs A s) : PathsFs A (ftEof s) :=
  show PathsFs A (endTransfer (closeOld s)) from (closeOld_paths A s).mpr h
theorem ftAbort_paths (A cfg cp) (s : S) (h : PathsFs A s) : PathsFs A (ftAbort cfg cp s) := by
  unfold ftAbort; ftsplit [evPathsOk]
@[simp] theorem deletePath_paths (A p) (s : S) : PathsFs A (deletePath p s).2 ↔ (A p ∧ PathsFs A s) := by
  unfold deletePath; simp only []; split <;> simp [FsEffect.paths]
theorem ftCommand_paths (A cfg cp len) (s : S)
    (hA1 : cp = 1 ∨ cp = 4 → ∀ b, (readBuffer cfg len s).1 = some b →
      ∀ p, translatePure cfg.home (cstr b) Gen.C19.filename1Size = some p → A p)
    (hA5 : cp = 5 → ∀ b, (readBuffer cfg len s).1 = some b → ∀ x y, splitLast 42 (cstr b) = some (x, y) →
      ∀ pa pb, translatePure cfg.home x Gen.C19.filename1Size = some pa →
        translatePure cfg.home y Gen.C19.filename2Size = some pb → A pa ∧ A pb)
    (h : PathsFs A s) : PathsFs A (ftCommand cfg cp len s) := by
  refine ftCommand_ind cfg cp len s (PathsFs A) ?_ ?_ ?_ ?_ ?_ ?_
  · simpa using h
  · intros; simpa using h
  · intros; simpa using h
  · intro b p r hcp hb hp
    have := hA1 (Or.inl hcp) b hb p ((translate_fst ..).mp hp).2
    simp [FsEffect.paths, this, h]
  · intro b p r hcp hb hp
    have := hA1 (Or.inr hcp) b hb p ((translate_fst ..).mp hp).2
    simp [this, h]
  · intro b x y pa pb r hcp hb hxy hpa hpb
    have := hA5 hcp b hb x y hxy pa pb ((translate_fst ..).mp hpa).2 ((translate_fst ..).mp hpb).2
    simp [FsEffect.paths, this, h]

end VncModel.FileXfer
