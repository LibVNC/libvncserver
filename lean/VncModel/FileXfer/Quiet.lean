/-
C19 — lemmas: a message that is not permitted at entry has no effect.  `Quiet s`: the trace of `s`
contains no file-system call of a handler, no message to the client and no transfer-data processing.
-/
import VncModel.FileXfer.Guard

namespace VncModel.FileXfer

def quietB (evs : List Ev) : Bool := evs.all (fun e => !e.isNoisy)
def Quiet (s : S) : Prop := quietB s.evs = true

@[simp] theorem quiet_setCl (f) (s : S) : Quiet (setCl f s) ↔ Quiet s := Iff.rfl
@[simp] theorem quiet_setNextFd (k) (s : S) : Quiet (setNextFd k s) ↔ Quiet s := Iff.rfl
@[simp] theorem quiet_bumpCalls (s : S) : Quiet (bumpCalls s) ↔ Quiet s := Iff.rfl
@[simp] theorem quiet_setTight (f) (s : S) : Quiet (setTight f s) ↔ Quiet s := Iff.rfl
@[simp] theorem quiet_setUp (f) (s : S) : Quiet (setUp f s) ↔ Quiet s := Iff.rfl
@[simp] theorem quiet_setDn (f) (s : S) : Quiet (setDn f s) ↔ Quiet s := Iff.rfl
@[simp] theorem quiet_endTransfer (s : S) : Quiet (endTransfer s) ↔ Quiet s := Iff.rfl
@[simp] theorem quiet_emit (e) (s : S) : Quiet (emit e s) ↔ (e.isNoisy = false ∧ Quiet s) := by
  simp [Quiet, quietB, emit]

theorem Call.quiet {P : Ev → Prop} {s s' : S} (h : Call P s s') (hP : ∀ e, P e → e.isNoisy = false) :
    Quiet s' ↔ Quiet s := by
  have hb : ∀ w, (Ev.envBad w).isNoisy = false := fun _ => rfl
  obtain ⟨e, he, hs | ⟨w, hs⟩⟩ := h.evs <;> simp [Quiet, quietB, hs, hP e he, hb]

@[simp] theorem doSimple_quiet_td (e) (s : S) : Quiet (doSimple true e s).2 ↔ Quiet s :=
  (doSimple_call true e s).quiet (by rintro _ ⟨r, rfl⟩; rfl)
@[simp] theorem doClose_quiet_td (k) (s : S) : Quiet (doClose true k s) ↔ Quiet s := by
  unfold doClose; simp [Ev.isNoisy]
@[simp] theorem closeUndoneUpload_quiet (s : S) : Quiet (closeUndoneUpload true s) ↔ Quiet s := by
  unfold closeUndoneUpload; ftsplit
@[simp] theorem closeUndoneDownload_quiet (s : S) : Quiet (closeUndoneDownload true s) ↔ Quiet s := by
  unfold closeUndoneDownload; ftsplit
@[simp] theorem closeClient_quiet (s : S) : Quiet (closeClient s) ↔ Quiet s := by
  unfold closeClient; ftsplit [Ev.isNoisy]
@[simp] theorem macroCheck_quiet (cfg) (s : S) : Quiet (macroCheck cfg s).2 ↔ Quiet s := by
  unfold macroCheck; ftsplit [Ev.isNoisy]
@[simp] theorem chunkCheck_quiet (cfg) (s : S) : Quiet (chunkCheck cfg s).2 ↔ Quiet s := by
  unfold chunkCheck; ftsplit [Ev.isNoisy]
@[simp] theorem readExact_quiet (n) (s : S) : Quiet (readExact n s).2 ↔ Quiet s := by
  unfold Quiet; rw [readExact_evs]

theorem closeUndoneUpload_cl (t) (s : S) : ∃ tt, (closeUndoneUpload t s).cl = { s.cl with tight := tt } := by
  unfold closeUndoneUpload
  cases s.cl.tight with
  | none => exact ⟨_, rfl⟩
  | some tt =>
    simp only []
    split
    · refine ⟨some { tt with up := {} }, ?_⟩
      simp only [setCl_cl, doSimple_cl]
      split <;> rfl
    · exact ⟨_, rfl⟩
theorem closeUndoneDownload_cl (t) (s : S) : ∃ tt, (closeUndoneDownload t s).cl = { s.cl with tight := tt } := by
  unfold closeUndoneDownload
  cases s.cl.tight with
  | none => exact ⟨_, rfl⟩
  | some tt =>
    simp only []
    split
    · refine ⟨some { tt with dn := {} }, ?_⟩
      simp only [setCl_cl]
      split <;> rfl
    · exact ⟨_, rfl⟩

/-- rfbCloseClient frees the extension's record and invalidates the socket; the UltraVNC transfer
record (and its descriptor) is left to rfbClientConnectionGone -/
@[simp] theorem closeClient_cl (s : S) : (closeClient s).cl = { s.cl with tight := none, isOpen := false } := by
  unfold closeClient
  split
  · rename_i h; simp [h]
  · obtain ⟨t1, h1⟩ := closeUndoneUpload_cl true s
    obtain ⟨t2, h2⟩ := closeUndoneDownload_cl true (closeUndoneUpload true s)
    simp [h1, h2]

theorem readExact_cl (n) (s : S) : ∃ b, (readExact n s).2.cl = { s.cl with inbuf := b } := by
  unfold readExact
  (repeat' split) <;> exact ⟨_, rfl⟩
@[simp] theorem readExact_xf (n) (s : S) : (readExact n s).2.cl.xf = s.cl.xf := by
  obtain ⟨_, h⟩ := readExact_cl n s; rw [h]
@[simp] theorem readExact_tightExt (n) (s : S) : (readExact n s).2.cl.tightExt = s.cl.tightExt := by
  obtain ⟨_, h⟩ := readExact_cl n s; rw [h]
@[simp] theorem readExact_tight (n) (s : S) : (readExact n s).2.cl.tight = s.cl.tight := by
  obtain ⟨_, h⟩ := readExact_cl n s; rw [h]
@[simp] theorem readExact_calls (n) (s : S) : (readExact n s).2.calls = s.calls := by
  unfold readExact; (repeat' split) <;> rfl

@[simp] theorem chunkCheck_cl (cfg) (s : S) : (chunkCheck cfg s).2.cl = s.cl := by
  unfold chunkCheck; simp only []; (repeat' split) <;> rfl

/-- the test FILEXFER_ALLOWED_OR_CLOSE_AND_RETURN makes with the callback's next answer -/
def entryAllowed (cfg : Cfg) (calls : Nat) : Bool :=
  match cfg.cb with
  | some f => f calls == 1 && cfg.permit
  | none => cfg.permit

theorem macroCheck_fst (cfg) (s : S) : (macroCheck cfg s).1 = entryAllowed cfg s.calls := by
  unfold macroCheck entryAllowed consult; simp only []; (repeat' split) <;> simp_all

theorem macroCheck_cl (cfg) (s : S) : (macroCheck cfg s).2.cl =
    if (macroCheck cfg s).1 then s.cl else { s.cl with tight := none, isOpen := false } := by
  unfold macroCheck; simp only []; (repeat' split) <;> simp_all

@[simp] theorem macroCheck_xf (cfg) (s : S) : (macroCheck cfg s).2.cl.xf = s.cl.xf := by
  rw [macroCheck_cl]; split <;> rfl
@[simp] theorem macroCheck_tightExt (cfg) (s : S) : (macroCheck cfg s).2.cl.tightExt = s.cl.tightExt := by
  rw [macroCheck_cl]; split <;> rfl
@[simp] theorem macroCheck_inbuf (cfg) (s : S) : (macroCheck cfg s).2.cl.inbuf = s.cl.inbuf := by
  rw [macroCheck_cl]; split <;> rfl

theorem macroCheck_denied (cfg) (s : S) (h : entryAllowed cfg s.calls = false) :
    (macroCheck cfg s).2.cl.isOpen = false ∧ (macroCheck cfg s).2.cl.xf = s.cl.xf := by
  rw [macroCheck_cl, macroCheck_fst, h]; exact ⟨rfl, rfl⟩

theorem processFT_denied (cfg ct cp size len) (s : S) (h : entryAllowed cfg s.calls = false) :
    processFT cfg ct cp size len s = (macroCheck cfg s).2 := by
  have := macroCheck_fst cfg s
  unfold processFT
  simp_all

end VncModel.FileXfer
