/-
C19 — lemmas for the session theorems: `NeverAllowed` configurations keep a connection `Idle`
through every entry point; the remembered upload name (`UpOk`) through the UltraVNC entry points
(which never write the extension's record) and through whole sessions.
-/
import VncModel.FileXfer.Tight

namespace VncModel.FileXfer

/-- the chunk sender's own test (flag first, then the callback) -/
def chunkAllowed (cfg : Cfg) (calls : Nat) : Bool :=
  cfg.permit && (match cfg.cb with
    | some f => f calls == 1
    | none => true)

theorem chunkCheck_fst (cfg : Cfg) (s : S) : (chunkCheck cfg s).1 = chunkAllowed cfg s.calls := by
  unfold chunkCheck chunkAllowed consult
  ftsplit

/-- file transfer can never be permitted under this configuration: the flag is off, or there is a
callback that never agrees -/
def NeverAllowed (cfg : Cfg) : Prop :=
  cfg.permit = false ∨ ∃ f, cfg.cb = some f ∧ ∀ n, f n ≠ 1

theorem never_entry (cfg : Cfg) (h : NeverAllowed cfg) (n : Nat) : entryAllowed cfg n = false := by
  unfold entryAllowed
  rcases h with h | ⟨f, hf, hn⟩
  · split <;> simp [h]
  · simp [hf, hn n]

theorem never_chunk (cfg : Cfg) (h : NeverAllowed cfg) (s : S) : (chunkCheck cfg s).1 = false := by
  unfold chunkCheck consult
  rcases h with h | ⟨f, hf, hn⟩
  · simp [h]
  · simp only [hf]; split <;> simp [hn]

/-- a connection on which nothing has happened: no libc call, nothing sent, no transfer open, and
the TightVNC extension is not in use (it has its own gate) -/
def Idle (s : S) : Prop := Quiet s ∧ s.cl.xf.fd = none ∧ s.cl.tightExt = false

/-- without the extension every TightVNC message is an unknown message type -/
theorem tightMsg_noext (cfg ty) (s : S) (h : s.cl.tightExt = false) :
    tightMsg cfg ty s = closeClient (emit (.chk false) s) := by
  unfold tightMsg; simp [h]

theorem stepMsg_never (cfg : Cfg) (hn : NeverAllowed cfg) (s : S) (h : Idle s) : Idle (stepMsg cfg s) := by
  obtain ⟨hq, hfd, ht⟩ := h
  have hd := fun s' => macroCheck_denied cfg s' (never_entry cfg hn _)
  have hp := fun ct cp size len s' => processFT_denied cfg ct cp size len s' (never_entry cfg hn _)
  unfold stepMsg Idle
  ftsplit [Ev.isNoisy, tightMsg_noext]

theorem chunkEntry_never (cfg : Cfg) (hn : NeverAllowed cfg) (s : S) (h : Idle s) : Idle (chunkEntry cfg s).2 := by
  have := never_chunk cfg hn (emit .start s)
  obtain ⟨hq, hfd, ht⟩ := h
  unfold chunkEntry chunk Idle
  simp_all [Ev.isNoisy]
theorem peerGone_never (s : S) (h : Idle s) : Idle (peerGone s) := by
  obtain ⟨hq, hfd, ht⟩ := h
  unfold peerGone Idle
  simp_all [Ev.isNoisy]
theorem reapClient_never (s : S) (h : Idle s) : Idle (reapClient s) := by
  obtain ⟨hq, hfd, ht⟩ := h
  unfold reapClient Idle
  simp_all [Ev.isNoisy]

theorem bs2s_length (p : Path) : (bs2s p).length = p.length := by simp [bs2s]

@[simp] theorem upOk_setCl (root f) (s : S) (ht : (f s.cl).tight = s.cl.tight) :
    UpOk root (setCl f s) ↔ UpOk root s := upOk_of_eq (upName_of_tight ht)
@[simp] theorem upOk_setNextFd (root k) (s : S) : UpOk root (setNextFd k s) ↔ UpOk root s := Iff.rfl
@[simp] theorem upOk_bumpCalls (root) (s : S) : UpOk root (bumpCalls s) ↔ UpOk root s := Iff.rfl
@[simp] theorem upOk_endTransfer (root) (s : S) : UpOk root (endTransfer s) ↔ UpOk root s := Iff.rfl
@[simp] theorem upOk_doFstat (root k) (s : S) : UpOk root (doFstat k s).2 ↔ UpOk root s :=
  upOk_of_eq (upName_of_tight (by simp))
@[simp] theorem upOk_doCompress (root n) (s : S) : UpOk root (doCompress n s).2 ↔ UpOk root s :=
  upOk_of_eq (upName_of_tight (by simp))
@[simp] theorem upOk_doUncompress (root n) (s : S) : UpOk root (doUncompress n s).2 ↔ UpOk root s :=
  upOk_of_eq (upName_of_tight (by simp))

@[simp] theorem macroCheck_upOk (root cfg) (s : S) (h : UpOk root s) : UpOk root (macroCheck cfg s).2 := by
  unfold macroCheck; ftsplit
@[simp] theorem chunkCheck_upOk (root cfg) (s : S) (h : UpOk root s) : UpOk root (chunkCheck cfg s).2 := by
  unfold chunkCheck; ftsplit
@[simp] theorem sendMsg_upOk (root cfg ct cp size len pl) (s : S) (h : UpOk root s) :
    UpOk root (sendMsg cfg ct cp size len pl s).2 := by
  unfold sendMsg; ftsplit
@[simp] theorem readBuffer_upOk (root cfg n) (s : S) (h : UpOk root s) : UpOk root (readBuffer cfg n s).2 := by
  unfold readBuffer; ftsplit
@[simp] theorem dirLoop_upOk (root cfg path) (names : List Path) (s : S) (h : UpOk root s) :
    UpOk root (dirLoop cfg path names s) := by
  refine dirLoop_ind cfg path (UpOk root) (UpOk root) ?_ ?_ ?_ ?_ names s h <;> intros <;>
    simp (maxDischargeDepth := 6) [*]
@[simp] theorem sendDirContent_upOk (root cfg len buf) (s : S) (h : UpOk root s) :
    UpOk root (sendDirContent cfg len buf s) := by
  unfold sendDirContent; ftsplit
@[simp] theorem chunk_upOk (root cfg) (s : S) (h : UpOk root s) : UpOk root (chunk cfg s).2 := by
  refine chunk_ind cfg s (UpOk root) ?_ ?_ ?_ ?_ <;> intros <;> simp (maxDischargeDepth := 6) [*]
@[simp] theorem upOk_closeOld (root) (s : S) : UpOk root (closeOld s) ↔ UpOk root s := by
  unfold closeOld; split
  · exact upOk_doClose _ _ _ _
  · exact Iff.rfl
@[simp] theorem upOk_openForRead (root f) (s : S) : UpOk root (openForRead f s).2 ↔ UpOk root s := by
  unfold openForRead; simp only []; split
  · exact upOk_doOpen _ _ _ _
  · split
    · exact (upOk_doFstat _ _ _).trans (upOk_doOpen _ _ _ _)
    · exact (upOk_doClose _ _ _ _).trans ((upOk_doFstat _ _ _).trans (upOk_doOpen _ _ _ _))
@[simp] theorem upOk_packetWrite (root fd size len buf) (s : S) :
    UpOk root (packetWrite fd size len buf s).2 ↔ UpOk root s := by
  unfold packetWrite; simp only []; split
  · exact upOk_doWrite _ _ _ _ _
  · split
    · exact (upOk_doWrite _ _ _ _ _).trans (upOk_doUncompress _ _ _)
    · exact upOk_doUncompress _ _ _
@[simp] theorem upOk_deletePath (root p) (s : S) : UpOk root (deletePath p s).2 ↔ UpOk root s := by
  unfold deletePath; simp only []; split
  · exact upOk_doStat _ _ _
  · exact (upOk_doSimple _ _ _ _).trans (upOk_doStat _ _ _)
  · exact (upOk_doSimple _ _ _ _).trans (upOk_doStat _ _ _)
@[simp] theorem ftRequest_upOk (root cfg size len) (s : S) (h : UpOk root s) : UpOk root (ftRequest cfg size len s) := by
  unfold ftRequest; ftsplit
@[simp] theorem ftHeader_upOk (root cfg size) (s : S) (h : UpOk root s) : UpOk root (ftHeader cfg size s) := by
  unfold ftHeader; split
  · exact (upOk_setCl root _ (closeOld s) rfl).mpr ((upOk_closeOld root s).mpr h)
  · exact chunk_upOk root cfg _ ((upOk_setCl root _ s rfl).mpr h)
@[simp] theorem ftOffer_upOk (root cfg len) (s : S) (h : UpOk root s) : UpOk root (ftOffer cfg len s) := by
  unfold ftOffer; ftsplit
@[simp] theorem ftPacket_upOk (root cfg size len) (s : S) (h : UpOk root s) : UpOk root (ftPacket cfg size len s) := by
  unfold ftPacket; ftsplit
@[simp] theorem ftEof_upOk (root) (s : S) (h : UpOk root s) : UpOk root (ftEof s) :=
  show UpOk root (endTransfer (closeOld s)) from (upOk_closeOld root s).mpr h
@[simp] theorem ftAbort_upOk (root cfg cp) (s : S) (h : UpOk root s) : UpOk root (ftAbort cfg cp s) := by
  unfold ftAbort; ftsplit
@[simp] theorem ftCommand_upOk (root cfg cp len) (s : S) (h : UpOk root s) : UpOk root (ftCommand cfg cp len s) := by
  refine ftCommand_ind cfg cp len s (UpOk root) ?_ ?_ ?_ ?_ ?_ ?_ <;> intros <;>
    simp (maxDischargeDepth := 6) [*]
@[simp] theorem processFT_upOk (root cfg ct cp size len) (s : S) (h : UpOk root s) :
    UpOk root (processFT cfg ct cp size len s) := by
  unfold processFT; ftsplit

theorem stepMsg_upOk (cfg) (s : S) (h : UpOk cfg.root s) : UpOk cfg.root (stepMsg cfg s) := by
  unfold stepMsg; ftsplit
  exact (upOk_setCl _ _ _ rfl).mpr h
theorem chunkEntry_upOk (root cfg) (s : S) (h : UpOk root s) : UpOk root (chunkEntry cfg s).2 :=
  chunk_upOk root cfg _ h
theorem reapClient_upOk (root) (s : S) (h : UpOk root s) : UpOk root (reapClient s) := by
  unfold reapClient
  split
  · rw [upOk_setCl _ _ _ rfl]; exact h
  · exact h
theorem runSession_upOk (cfg) (inputs : List Input) (s : S) (h : UpOk cfg.root s) :
    UpOk cfg.root (runSession cfg s inputs) :=
  runSession_ind cfg (UpOk cfg.root) (fun _ _ h => by simpa using h) (stepMsg_upOk cfg)
    (chunkEntry_upOk _ cfg) (fun _ _ => upOk_closeClient _ _) (reapClient_upOk _) inputs s h

end VncModel.FileXfer
