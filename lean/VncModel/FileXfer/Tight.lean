/-
C19 — lemmas about the TightVNC 1.3 file-transfer extension: the gate, and confinement of every
path to the extension's root directory (with the ConvertPath fix).
-/
import VncModel.FileXfer.Paths

namespace VncModel.FileXfer

/-- `p` is a path ConvertPath ACCEPTED: the conversion of some client name `q` (so `p = root ++ q`
with `q` starting with '/', free of ".." components and short enough, see `rooted_below`): lexically
below the root (symlink-free file system assumed) -/
def Rooted (root p : Path) : Prop := ∃ q, convertPath root q = some p

theorem rooted_below (root p : Path) (h : Rooted root p) :
    ∃ q, belowRoot q = true ∧ p = root ++ q ∧ q.length + root.length ≤ Gen.C19.PATH_MAX - 1 := by
  obtain ⟨q, hq⟩ := h
  unfold convertPath at hq
  split at hq
  · simp at hq
  · rename_i hc
    simp only [Option.some.injEq] at hq
    simp only [not_or, Bool.not_eq_true', Bool.not_eq_false, Nat.not_lt] at hc
    exact ⟨q, hc.2.2, hq.symm, hc.2.1⟩

/-- a path the extension may hand to libc: the empty string (names no file: ENOENT), a rooted path,
or an entry (other than "." and "..") of a rooted directory, with or without a separating '/' -/
def Confined (root p : Path) : Prop :=
  p = [] ∨ Rooted root p ∨
    ∃ d name, Rooted root d ∧ name ≠ [46, 46] ∧ name ≠ [46] ∧ (p = d ++ 47 :: name ∨ p = d ++ name)

theorem convertPath_rooted (root p r : Path) (h : convertPath root p = some r) : Rooted root r := ⟨p, h⟩

/-- the name of the upload the client record remembers ("" if none) -/
def upName (s : S) : Path :=
  match s.cl.tight with
  | some t => t.up.fName
  | none => []

/-- the upload name the record remembers is empty or a path ConvertPath accepted for an earlier
request (never a client's raw, refused name) -/
def UpOk (root : Path) (s : S) : Prop := upName s = [] ∨ Rooted root (upName s)

theorem upName_of {s : S} {t : Tight} (h : s.cl.tight = some t) : t.up.fName = upName s := by
  simp [upName, h]

theorem confined_upName {root} {s : S} {t : Tight} (hu : UpOk root s) (h : s.cl.tight = some t) :
    Confined root t.up.fName := by
  rw [upName_of h]
  rcases hu with hu | hu
  · exact Or.inl hu
  · exact Or.inr (Or.inl hu)

@[simp] theorem setUp_tight (f) (s : S) :
    (setUp f s).cl.tight = s.cl.tight.map (fun t => { t with up := f t.up }) := rfl
@[simp] theorem setDn_tight (f) (s : S) :
    (setDn f s).cl.tight = s.cl.tight.map (fun t => { t with dn := f t.dn }) := rfl

theorem upOk_of_eq {root} {s s' : S} (h : upName s' = upName s) : UpOk root s' ↔ UpOk root s := by
  unfold UpOk; rw [h]
theorem upName_of_tight {s s' : S} (h : s'.cl.tight = s.cl.tight) : upName s' = upName s := by
  unfold upName; rw [h]

@[simp] theorem upOk_emit (root e) (s : S) : UpOk root (emit e s) ↔ UpOk root s := Iff.rfl
@[simp] theorem upOk_twire (root w) (s : S) : UpOk root (twire w s) ↔ UpOk root s := Iff.rfl
@[simp] theorem upOk_readExact (root n) (s : S) : UpOk root (readExact n s).2 ↔ UpOk root s :=
  upOk_of_eq (upName_of_tight (by simp))
@[simp] theorem upOk_doSimple (root t e) (s : S) : UpOk root (doSimple t e s).2 ↔ UpOk root s :=
  upOk_of_eq (upName_of_tight (by simp))
@[simp] theorem upOk_doClose (root t k) (s : S) : UpOk root (doClose t k s) ↔ UpOk root s :=
  upOk_of_eq (upName_of_tight (by simp))
@[simp] theorem upOk_doOpen (root p m) (s : S) : UpOk root (doOpen p m s).2 ↔ UpOk root s :=
  upOk_of_eq (upName_of_tight (by simp))
@[simp] theorem upOk_doRead (root k) (s : S) : UpOk root (doRead k s).2 ↔ UpOk root s :=
  upOk_of_eq (upName_of_tight (by simp))
@[simp] theorem upOk_doWrite (root k n h) (s : S) : UpOk root (doWrite k n h s).2 ↔ UpOk root s :=
  upOk_of_eq (upName_of_tight (by simp))
@[simp] theorem upOk_doOpendir (root p) (s : S) : UpOk root (doOpendir p s).2 ↔ UpOk root s :=
  upOk_of_eq (upName_of_tight (by simp))
@[simp] theorem upOk_doStat (root p) (s : S) : UpOk root (doStat p s).2 ↔ UpOk root s :=
  upOk_of_eq (upName_of_tight (by simp))
@[simp] theorem upOk_setDn (root f) (s : S) : UpOk root (setDn f s) ↔ UpOk root s := by
  apply upOk_of_eq
  unfold upName
  simp only [setDn_tight]
  cases s.cl.tight <;> rfl
theorem upOk_setUp_keep (root f) (s : S) (hf : ∀ u, (f u).fName = u.fName) :
    UpOk root (setUp f s) ↔ UpOk root s := by
  apply upOk_of_eq
  unfold upName
  simp only [setUp_tight]
  cases s.cl.tight <;> simp [hf]
theorem upOk_setUp_name (root f n) (s : S) (hf : ∀ u, (f u).fName = n) (hn : n = [] ∨ Rooted root n) :
    UpOk root (setUp f s) := by
  unfold UpOk upName
  simp only [setUp_tight]
  cases s.cl.tight <;> simp [hf, hn]

@[simp] theorem upOk_closeClient (root) (s : S) : UpOk root (closeClient s) := by
  left
  simp [upName]
@[simp] theorem upOk_closeUndoneUpload (root t) (s : S) (h : UpOk root s) : UpOk root (closeUndoneUpload t s) := by
  unfold closeUndoneUpload
  ftsplit
  all_goals (left; simp [upName, setCl])
@[simp] theorem upOk_closeUndoneDownload (root t) (s : S) :
    UpOk root (closeUndoneDownload t s) ↔ UpOk root s := by
  apply upOk_of_eq
  unfold closeUndoneDownload
  cases h : s.cl.tight with
  | none => simp
  | some t =>
    simp only []
    split
    · simp only [upName, setCl, h]
    · rfl

/-! the teardown helper when called by a handler (not at teardown): its `unlink` names the remembered upload -/
@[simp] theorem closeUndoneUpload_paths (root) (s : S) (hu : UpOk root s) (h : PathsFs (Confined root) s) :
    PathsFs (Confined root) (closeUndoneUpload false s) := by
  unfold closeUndoneUpload
  ftsplit [FsEffect.paths]
  all_goals exact confined_upName hu (by assumption)

@[simp] theorem tListLoop_paths (root path wf) (names : List Path) (acc) (s : S) (hr : Rooted root path)
    (h : PathsFs (Confined root) s) : PathsFs (Confined root) (tListLoop path wf names acc s).2 := by
  induction names generalizing s acc with
  | nil => unfold tListLoop; exact h
  | cons name rest ih =>
    have hc : ¬(name = [46] ∨ name = [46, 46]) →
        Confined root (path ++ (if path.getLast? = some 47 then [] else [47]) ++ name) := by
      intro hn
      simp only [not_or] at hn
      right; right
      refine ⟨path, name, hr, hn.2, hn.1, ?_⟩
      split <;> simp
    unfold tListLoop
    simp only []
    split
    · exact ih _ _ h
    · have hs : PathsFs (Confined root)
          (doStat (path ++ (if path.getLast? = some 47 then [] else [47]) ++ name) s).2 := by
        rw [doStat_paths]; exact ⟨hc (by assumption), h⟩
      split <;> exact ih _ _ hs
@[simp] theorem upOk_tListLoop (root path wf) (names : List Path) (acc) (s : S) :
    UpOk root (tListLoop path wf names acc s).2 ↔ UpOk root s := by
  induction names generalizing s acc with
  | nil => unfold tListLoop; rfl
  | cons name rest ih =>
    unfold tListLoop
    simp only []
    split
    · exact ih _ _
    · split <;> exact (ih _ _).trans (upOk_doStat _ _ _)

@[simp] theorem tListDir_paths (root flags path) (s : S) (hr : Rooted root path)
    (h : PathsFs (Confined root) s) : PathsFs (Confined root) (tListDir flags path s) := by
  have hc : Confined root path := Or.inr (Or.inl hr)
  unfold tListDir
  simp only []
  split
  · simp [hc, h]
  · simp only [pathsFs_twire, pathsFs_emit, evPathsOk, FsEffect.paths, List.not_mem_nil, false_imp_iff,
      implies_true, true_and]
    exact tListLoop_paths root path _ _ _ _ hr (by simp [hc, h])
@[simp] theorem upOk_tListDir (root flags path) (s : S) : UpOk root (tListDir flags path s) ↔ UpOk root s := by
  unfold tListDir; ftsplit

@[simp] theorem tList_paths (cfg) (s : S) (h : PathsFs (Confined cfg.root) s) : PathsFs (Confined cfg.root) (tList cfg s) := by
  unfold tList
  ftsplit
  exact tListDir_paths _ _ _ _ (convertPath_rooted _ _ _ (by assumption)) (by simp_all)
@[simp] theorem tList_upOk (cfg) (s : S) (h : UpOk cfg.root s) : UpOk cfg.root (tList cfg s) := by
  unfold tList
  ftsplit

@[simp] theorem tLengthError_paths (A n w) (s : S) (h : PathsFs A s) : PathsFs A (tLengthError n w s) := by
  unfold tLengthError; simp only []; split
  · exact (closeClient_paths A _).mpr ((readExact_paths A _ _).mpr h)
  · exact (pathsFs_twire A _ _).mpr ((readExact_paths A _ _).mpr h)
@[simp] theorem tLengthError_upOk (root n w) (s : S) (h : UpOk root s) : UpOk root (tLengthError n w s) := by
  unfold tLengthError; simp only []; split
  · exact upOk_closeClient _ _
  · exact (upOk_twire _ _ _).mpr ((upOk_readExact _ _ _).mpr h)

@[simp] theorem tDownloadLoop_paths (A fd fuel) (s : S) (h : PathsFs A s) : PathsFs A (tDownloadLoop fd fuel s) := by
  induction fuel generalizing s with
  | zero => unfold tDownloadLoop; exact h
  | succ n ih => unfold tDownloadLoop tDownloadEnd; ftsplit
@[simp] theorem upOk_tDownloadLoop (root fd fuel) (s : S) : UpOk root (tDownloadLoop fd fuel s) ↔ UpOk root s := by
  induction fuel generalizing s with
  | zero => unfold tDownloadLoop; rfl
  | succ n ih => unfold tDownloadLoop tDownloadEnd; ftsplit
@[simp] theorem tDownloadRun_paths (A path) (s : S) (ha : A path) (h : PathsFs A s) : PathsFs A (tDownloadRun path s) := by
  unfold tDownloadRun
  ftsplit
@[simp] theorem upOk_tDownloadRun (root path) (s : S) : UpOk root (tDownloadRun path s) ↔ UpOk root s := by
  unfold tDownloadRun; ftsplit
@[simp] theorem tDownloadPath_paths (root path) (s : S) (hr : Rooted root path) (h : PathsFs (Confined root) s) :
    PathsFs (Confined root) (tDownloadPath path s) := by
  have hc : Confined root path := Or.inr (Or.inl hr)
  unfold tDownloadPath
  ftsplit
@[simp] theorem upOk_tDownloadPath (root path) (s : S) : UpOk root (tDownloadPath path s) ↔ UpOk root s := by
  unfold tDownloadPath; ftsplit
@[simp] theorem tDownload_paths (cfg) (s : S) (h : PathsFs (Confined cfg.root) s) :
    PathsFs (Confined cfg.root) (tDownload cfg s) := by
  unfold tDownload
  ftsplit
  exact tDownloadPath_paths _ _ _ (convertPath_rooted _ _ _ (by assumption)) (by simp_all)
@[simp] theorem tDownload_upOk (cfg) (s : S) (h : UpOk cfg.root s) : UpOk cfg.root (tDownload cfg s) := by
  unfold tDownload
  ftsplit

@[simp] theorem tUploadPath_paths (root path) (s : S) (hr : Rooted root path) (h : PathsFs (Confined root) s) :
    PathsFs (Confined root) (tUploadPath path s) := by
  have hc : Confined root path := Or.inr (Or.inl hr)
  unfold tUploadPath
  ftsplit
@[simp] theorem tUploadPath_upOk (root path) (s : S) (hr : Rooted root path) : UpOk root (tUploadPath path s) := by
  unfold tUploadPath
  simp only []
  split
  · simp only [upOk_twire, upOk_doOpen]
    exact upOk_setUp_name root _ path _ (fun _ => rfl) (Or.inr hr)
  · refine (upOk_setUp_keep root _ _ ?_).mpr ?_
    · intro u; rfl
    · rw [upOk_doOpen]
      exact upOk_setUp_name root _ path _ (fun _ => rfl) (Or.inr hr)
@[simp] theorem tUpload_paths (cfg) (s : S) (h : PathsFs (Confined cfg.root) s) :
    PathsFs (Confined cfg.root) (tUpload cfg s) := by
  unfold tUpload
  ftsplit
  exact tUploadPath_paths _ _ _ (convertPath_rooted _ _ _ (by assumption)) (by simp_all)
@[simp] theorem tUpload_upOk (cfg) (s : S) (h : UpOk cfg.root s) : UpOk cfg.root (tUpload cfg s) := by
  unfold tUpload
  ftsplit
  · exact upOk_setUp_name _ _ [] _ (fun _ => rfl) (Or.inl rfl)
  · exact tUploadPath_upOk _ _ _ (convertPath_rooted _ _ _ (by assumption))

@[simp] theorem tUploadComplete_paths (root) (s : S) (hu : UpOk root s) (h : PathsFs (Confined root) s) :
    PathsFs (Confined root) (tUploadComplete s) := by
  unfold tUploadComplete
  ftsplit [FsEffect.paths]
  all_goals exact confined_upName hu (by assumption)
@[simp] theorem tUploadComplete_upOk (root) (s : S) (h : UpOk root s) : UpOk root (tUploadComplete s) := by
  unfold tUploadComplete
  ftsplit
  refine (upOk_setUp_keep root _ _ ?_).mpr ?_
  · intro u; rfl
  · simpa using h

@[simp] theorem tUploadWrite_paths (root c b) (s : S) (hu : UpOk root s) (h : PathsFs (Confined root) s) :
    PathsFs (Confined root) (tUploadWrite c b s) := by
  unfold tUploadWrite
  ftsplit
  all_goals exact closeUndoneUpload_paths root _ (by simpa using hu) (by simp_all)
@[simp] theorem tUploadWrite_upOk (root c b) (s : S) (h : UpOk root s) : UpOk root (tUploadWrite c b s) := by
  unfold tUploadWrite
  ftsplit
  all_goals exact upOk_closeUndoneUpload root false _ (by simpa using h)

@[simp] theorem tUploadData_paths (root) (s : S) (hu : UpOk root s) (h : PathsFs (Confined root) s) :
    PathsFs (Confined root) (tUploadData s) := by
  refine tUploadData_ind s (PathsFs (Confined root)) ?_ ?_ ?_ ?_ ?_ <;> intros <;> simp [*]
@[simp] theorem tUploadData_upOk (root) (s : S) (h : UpOk root s) : UpOk root (tUploadData s) := by
  refine tUploadData_ind s (UpOk root) ?_ ?_ ?_ ?_ ?_ <;> intros <;> simp [*]

@[simp] theorem tReason_paths (root u) (s : S) (hu : UpOk root s) (h : PathsFs (Confined root) s) :
    PathsFs (Confined root) (tReason u s) := by
  unfold tReason
  ftsplit
@[simp] theorem tReason_upOk (root u) (s : S) (h : UpOk root s) : UpOk root (tReason u s) := by
  unfold tReason
  ftsplit

@[simp] theorem tMkdir_paths (cfg) (s : S) (h : PathsFs (Confined cfg.root) s) :
    PathsFs (Confined cfg.root) (tMkdir cfg s) := by
  unfold tMkdir
  ftsplit [FsEffect.paths]
  exact Or.inr (Or.inl (convertPath_rooted _ _ _ (by assumption)))
@[simp] theorem tMkdir_upOk (cfg) (s : S) (h : UpOk cfg.root s) : UpOk cfg.root (tMkdir cfg s) := by
  unfold tMkdir
  ftsplit

@[simp] theorem tightMsg_upOk (cfg ty) (s : S) (hu : UpOk cfg.root s) : UpOk cfg.root (tightMsg cfg ty s) := by
  unfold tightMsg; ftsplit

theorem tightMsg_confined (cfg ty) (s : S) (hu : UpOk cfg.root s) (h : PathsFs (Confined cfg.root) s) :
    PathsFs (Confined cfg.root) (tightMsg cfg ty s) ∧ UpOk cfg.root (tightMsg cfg ty s) := by
  refine ⟨?_, tightMsg_upOk cfg ty s hu⟩
  unfold tightMsg; ftsplit [evPathsOk]

theorem tightMsg_gate (cfg ty) (s : S) (hg : tightAllowed cfg s.cl = false) (hq : Quiet s) :
    Quiet (tightMsg cfg ty s) ∧ (tightMsg cfg ty s).cl.isOpen = false := by
  unfold tightAllowed at hg
  unfold tightMsg
  split
  · simp [hq, Ev.isNoisy]
  · split
    · simp [hq, Ev.isNoisy]
    · simp_all

end VncModel.FileXfer
