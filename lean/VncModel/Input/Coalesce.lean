import VncModel.Input.Lemmas
/-!
Pointer coalescing (`deferPtrUpdateTime > 0`) for one client that may use the pointer (not
view-only, no other client holds a button): what the application sees over ANY interleaving of
PointerEvent messages and `rfbUpdateClient` calls at arbitrary times.  Model of the FIXED code
(fixes/C06-ptr-defer-order.diff): `ptrDeliver` (message side) and `updatePtr` (timer side).
-/
namespace VncModel.Input

/-- what happens to the client, in time order: a PointerEvent message is processed, or the event
loop calls `rfbUpdateClient` at wall-clock time `now` (µs) -/
inductive PEv where
  | msg (mask x y : Nat)
  | upd (now : Nat)
  deriving Repr, DecidableEq

def pstep (cfg : Cfg) (cl : Client) : PEv → Client × List Callback
  | .msg m x y => ptrDeliver cfg cl m x y
  | .upd now => updatePtr cfg now cl

/-- run a schedule; the callbacks in the order the application receives them -/
def prun (cfg : Cfg) : Client → List PEv → Client × List Callback
  | cl, [] => (cl, [])
  | cl, e :: es =>
    let r := pstep cfg cl e
    let r' := prun cfg r.1 es
    (r'.1, r.2 ++ r'.2)

/-- the callback a message stands for: same mask, position mapped back by the client's scale -/
def cbOf (cfg : Cfg) (i : Nat) (sc : Option (Nat × Nat)) : PEv → Option Callback
  | .msg m x y => some (.ptr i m (scaleX cfg sc x) (scaleY cfg sc y))
  | .upd _ => none

/-- everything the client sent, as callbacks, in the order sent -/
def sentCbs (cfg : Cfg) (i : Nat) (sc : Option (Nat × Nat)) (evs : List PEv) : List Callback :=
  evs.filterMap (cbOf cfg i sc)

/-- button mask of the last message of a schedule (`m0` if there is none) -/
def lastMask (m0 : Nat) : List PEv → Nat
  | [] => m0
  | .msg m _ _ :: es => lastMask m es
  | .upd _ :: es => lastMask m0 es

/-- the clock readings of a schedule never go backwards (`t` = last reading so far) -/
def Mono : Nat → List PEv → Prop
  | _, [] => True
  | t, .msg _ _ _ :: es => Mono t es
  | t, .upd n :: es => t ≤ n ∧ Mono n es

def lastTime : Nat → List PEv → Nat
  | t, [] => t
  | t, .msg _ _ _ :: es => lastTime t es
  | _, .upd n :: es => lastTime n es

/-- the deferral timer, if running, was started at a clock reading not after `now` (+1 µs for the
`tv_usec == 0 → 1` adjustment) -/
def TimerOk (cl : Client) (now : Nat) : Prop :=
  cl.startUsec ≠ 0 → cl.startSec * 1000000 + cl.startUsec ≤ now + 1

/-- coalescing invariant: `sent` = everything sent so far (as callbacks), `deliv` = everything
delivered so far -/
structure CI (i : Nat) (sc : Option (Nat × Nat)) (cl : Client) (sent deliv : List Callback) : Prop where
  id : cl.id = i
  scaled : cl.scaled = sc
  rw : cl.viewOnly = false
  sub : deliv.Sublist sent
  pendNone : cl.lastPtr = none → sent = [] ∨ deliv.getLast? = sent.getLast?
  pendSome : ∀ px py, cl.lastPtr = some (px, py) →
    ∃ sd, sent = sd ++ [.ptr i cl.lastPtrButtons px py] ∧ deliv.Sublist sd
  mask : ∀ m x y, sent.getLast? = some (.ptr i m x y) → cl.lastPtrButtons = m

theorem prun_append (cfg : Cfg) (es₁ : List PEv) : ∀ (cl : Client) (es₂ : List PEv),
    prun cfg cl (es₁ ++ es₂) =
      ((prun cfg (prun cfg cl es₁).1 es₂).1, (prun cfg cl es₁).2 ++ (prun cfg (prun cfg cl es₁).1 es₂).2) := by
  induction es₁ with
  | nil => intro cl es₂; simp [prun]
  | cons e es ih => intro cl es₂; simp [prun, ih, List.append_assoc]

theorem sentCbs_append (cfg : Cfg) (i : Nat) (sc : Option (Nat × Nat)) (a b : List PEv) :
    sentCbs cfg i sc (a ++ b) = sentCbs cfg i sc a ++ sentCbs cfg i sc b := by
  simp [sentCbs]

theorem tdiv_bound (d : Int) : Int.tdiv d 1000 * 1000 ≥ d - 999 := by
  have hs : Int.sign 1000 = 1 := rfl
  rw [Int.tdiv_eq_ediv]
  split <;> omega

theorem CI_step (cfg : Cfg) (i : Nat) (sc : Option (Nat × Nat)) (cl : Client)
    (sent deliv : List Callback) (h : CI i sc cl sent deliv) (e : PEv) :
    CI i sc (pstep cfg cl e).1 (sent ++ (cbOf cfg i sc e).toList) (deliv ++ (pstep cfg cl e).2) := by
  obtain ⟨rfl, rfl, hrw, hsub, hpn, hps, hmask⟩ := h
  have hv' : ¬ (cl.viewOnly = true) := by simp [hrw]
  cases e with
  | msg m x y =>
    have hcb : (cbOf cfg cl.id cl.scaled (.msg m x y)).toList = [.ptr cl.id m (sx cfg cl x) (sy cfg cl y)] := by
      simp [cbOf, sx, sy]
    rw [hcb]
    -- whatever the handler does, `lastPtrButtons` becomes the mask of this, the last, message
    have hmask' : ∀ m' x' y', (sent ++ [Callback.ptr cl.id m (sx cfg cl x) (sy cfg cl y)]).getLast? =
        some (.ptr cl.id m' x' y') → m = m' := by
      intro m' x' y' hlast
      simp only [List.getLast?_concat, Option.some.injEq, Callback.ptr.injEq] at hlast
      exact hlast.2.1
    simp only [pstep, ptrDeliver]
    split
    · -- delivered at once
      cases hl : cl.lastPtr with
      | none =>
        refine ⟨rfl, rfl, hrw, List.Sublist.append hsub (List.Sublist.refl _), ?_, ?_, ?_⟩
        · intro _; right; simp
        · intro px py hp; simp at hp
        · exact hmask'
      | some p =>
        obtain ⟨px, py⟩ := p
        obtain ⟨sd, hsent, hsd⟩ := hps px py hl
        refine ⟨rfl, rfl, hrw, ?_, ?_, ?_, ?_⟩
        · rw [hsent, List.append_assoc]
          exact List.Sublist.append hsd (List.Sublist.refl _)
        · intro _; right; simp
        · intro px' py' hp; simp at hp
        · exact hmask'
    · -- coalesced: the new position replaces whatever was pending
      refine ⟨rfl, rfl, hrw, ?_, ?_, ?_, ?_⟩
      · simp only [List.append_nil]
        exact List.Sublist.trans hsub (List.sublist_append_left _ _)
      · intro hp; simp at hp
      · intro px py hp
        simp only [Option.some.injEq, Prod.mk.injEq] at hp
        refine ⟨sent, ?_, by simpa using hsub⟩
        rw [← hp.1, ← hp.2]
      · exact hmask'
  | upd now =>
    have hcb : (cbOf cfg cl.id cl.scaled (.upd now)).toList = [] := rfl
    rw [hcb, List.append_nil]
    simp only [pstep, updatePtr]
    cases hl : cl.lastPtr with
    | none =>
      simp only [List.append_nil]
      exact ⟨rfl, rfl, hrw, hsub, hpn, hps, hmask⟩
    | some p =>
      obtain ⟨px, py⟩ := p
      obtain ⟨sd, hsent, hsd⟩ := hps px py hl
      simp only [if_neg hv']
      split
      · -- timer started
        simp only [List.append_nil]
        refine ⟨rfl, rfl, hrw, hsub, ?_, ?_, hmask⟩
        · intro hp; simp at hp
        · intro px' py' hp
          simp only [Option.some.injEq, Prod.mk.injEq] at hp
          obtain ⟨rfl, rfl⟩ := hp
          exact ⟨sd, hsent, hsd⟩
      · split
        · -- timer fired: the pending (= last) position is delivered
          refine ⟨rfl, rfl, hrw, ?_, ?_, ?_, hmask⟩
          · rw [hsent]; exact List.Sublist.append hsd (List.Sublist.refl _)
          · intro _; right; rw [hsent]; simp
          · intro px' py' hp; simp at hp
        · simp only [List.append_nil]
          exact ⟨rfl, rfl, hrw, hsub, hpn, hps, hmask⟩

theorem CI_run (cfg : Cfg) (i : Nat) (sc : Option (Nat × Nat)) (evs : List PEv) :
    ∀ (cl : Client) (sent deliv : List Callback), CI i sc cl sent deliv →
      CI i sc (prun cfg cl evs).1 (sent ++ sentCbs cfg i sc evs) (deliv ++ (prun cfg cl evs).2) := by
  induction evs with
  | nil => intro cl sent deliv h; simpa [prun, sentCbs] using h
  | cons e es ih =>
    intro cl sent deliv h
    have h2 := ih _ _ _ (CI_step cfg i sc cl sent deliv h e)
    have e1 : sentCbs cfg i sc (e :: es) = (cbOf cfg i sc e).toList ++ sentCbs cfg i sc es := by
      cases e <;> rfl
    simpa [prun, e1, List.append_assoc] using h2

theorem CI_init (cl : Client) (hv : cl.viewOnly = false) (hp : cl.lastPtr = none) :
    CI cl.id cl.scaled cl [] [] :=
  ⟨rfl, rfl, hv, List.Sublist.refl _, fun _ => Or.inl rfl, fun px py h => by simp [hp] at h,
   fun m x y h => by simp at h⟩

theorem CI_prun (cfg : Cfg) (cl : Client) (evs : List PEv) (hv : cl.viewOnly = false)
    (hp : cl.lastPtr = none) :
    CI cl.id cl.scaled (prun cfg cl evs).1 (sentCbs cfg cl.id cl.scaled evs) (prun cfg cl evs).2 := by
  simpa using CI_run cfg cl.id cl.scaled evs cl [] [] (CI_init cl hv hp)

theorem prun_lastPtrButtons (cfg : Cfg) (evs : List PEv) : ∀ (cl : Client),
    (prun cfg cl evs).1.lastPtrButtons = lastMask cl.lastPtrButtons evs := by
  induction evs with
  | nil => intro cl; rfl
  | cons e es ih =>
    intro cl
    rw [prun, ih]
    cases e with
    | msg m x y =>
      show lastMask (ptrDeliver cfg cl m x y).1.lastPtrButtons es = lastMask m es
      fun_cases ptrDeliver cfg cl m x y <;> rfl
    | upd now =>
      show lastMask (updatePtr cfg now cl).1.lastPtrButtons es = lastMask cl.lastPtrButtons es
      fun_cases updatePtr cfg now cl <;> rfl

theorem TimerOk_step (cfg : Cfg) (cl : Client) (t : Nat) (e : PEv) (h : TimerOk cl t)
    (hm : Mono t [e]) : TimerOk (pstep cfg cl e).1 (lastTime t [e]) := by
  cases e with
  | msg m x y =>
    show TimerOk (ptrDeliver cfg cl m x y).1 t
    fun_cases ptrDeliver cfg cl m x y
    · exact fun hh => absurd rfl hh
    · exact h
    · exact h
  | upd now =>
    have hm : t ≤ now := hm.1
    have hkeep : TimerOk cl now := fun hh => Nat.le_trans (h hh) (Nat.succ_le_succ hm)
    show TimerOk (updatePtr cfg now cl).1 now
    fun_cases updatePtr cfg now cl
    · exact hkeep
    · exact hkeep
    · -- the timer is started at `now` (`tv_usec == 0` bumped to 1)
      intro _
      show now / 1000000 * 1000000 + (if now % 1000000 = 0 then 1 else now % 1000000) ≤ now + 1
      split <;> omega
    · exact fun hh => absurd rfl hh
    · exact hkeep

theorem TimerOk_run (cfg : Cfg) (evs : List PEv) : ∀ (cl : Client) (t : Nat),
    TimerOk cl t → Mono t evs → TimerOk (prun cfg cl evs).1 (lastTime t evs) := by
  induction evs with
  | nil => intro cl t h _; exact h
  | cons e es ih =>
    intro cl t h hm
    cases e with
    | msg m x y => exact ih _ t (TimerOk_step cfg cl t (.msg m x y) h trivial) hm
    | upd now => exact ih _ now (TimerOk_step cfg cl t (.upd now) h ⟨hm.1, trivial⟩) hm.2

/-- the first disjunct of `hel` is a clock that went backwards, the second the normal expiry -/
theorem updatePtr_fire (cfg : Cfg) (now : Nat) (cl : Client) (px py : Nat)
    (hv : cl.viewOnly = false) (hp : cl.lastPtr = some (px, py)) (hs : cl.startUsec ≠ 0)
    (hel : now / 1000000 < cl.startSec ∨ elapsedMs now cl > (cfg.deferPtr : Int)) :
    updatePtr cfg now cl =
      ({ cl with startUsec := 0, lastPtr := none }, [.ptr cl.id cl.lastPtrButtons px py]) := by
  simp [updatePtr, hp, hv, hs, hel]

/-- **the timer fires**: a pending position is delivered by the second of any two
`rfbUpdateClient` calls that are at least `deferPtr + 2` ms apart (or earlier), exactly once -/
theorem timer_fires (cfg : Cfg) (cl : Client) (t1 t2 px py : Nat) (hv : cl.viewOnly = false)
    (hp : cl.lastPtr = some (px, py)) (hok : TimerOk cl t1)
    (hgap : t1 + (cfg.deferPtr + 2) * 1000 ≤ t2) :
    (prun cfg cl [.upd t1, .upd t2]).1.lastPtr = none ∧
    (prun cfg cl [.upd t1, .upd t2]).2 = [.ptr cl.id cl.lastPtrButtons px py] := by
  -- a timer started by `t1 + 1 µs` has run for more than `deferPtr` ms at `t2`
  have fire : ∀ (c : Client), c.viewOnly = false → c.lastPtr = some (px, py) → c.startUsec ≠ 0 →
      c.startSec * 1000000 + c.startUsec ≤ t1 + 1 →
      updatePtr cfg t2 c = ({ c with startUsec := 0, lastPtr := none }, [.ptr c.id c.lastPtrButtons px py]) := by
    intro c hcv hcp hcs hct
    refine updatePtr_fire cfg t2 c px py hcv hcp hcs (.inr ?_)
    unfold elapsedMs
    have hb := tdiv_bound (((t2 % 1000000 : Nat) : Int) - (c.startUsec : Int))
    omega
  simp only [prun, pstep, List.append_nil]
  by_cases hs : cl.startUsec = 0
  · -- first call starts the timer, second one fires
    have h1 : updatePtr cfg t1 cl =
        ({ cl with startSec := t1 / 1000000, startUsec := if t1 % 1000000 = 0 then 1 else t1 % 1000000 }, []) := by
      simp [updatePtr, hp, hv, hs]
    rw [h1]
    have hf := fire { cl with startSec := t1 / 1000000, startUsec := if t1 % 1000000 = 0 then 1 else t1 % 1000000 }
      hv hp (by simp only []; split <;> omega) (by simp only []; split <;> omega)
    simp only [] at hf ⊢
    rw [hf]
    simp
  · by_cases hf : (t1 / 1000000 < cl.startSec) ∨ elapsedMs t1 cl > (cfg.deferPtr : Int)
    · -- it fires already at the first call
      rw [updatePtr_fire cfg t1 cl px py hv hp hs hf]
      simp [updatePtr]
    · have h1 : updatePtr cfg t1 cl = (cl, []) := by
        simp [updatePtr, hp, hv, hs, hf]
      rw [h1]
      simp only []
      rw [fire cl hv hp hs (hok hs)]
      simp

end VncModel.Input
