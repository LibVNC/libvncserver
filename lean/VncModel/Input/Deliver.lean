import VncModel.Input.Lemmas
/-! The delivery invariant and its one-message step (helper for Props/C06). -/
namespace VncModel.Input
open VncModel.Gen

/-- client `i` is fully authenticated, connected, allowed to send input, no other client holds a
pointer button, pointer coalescing is off (library default) -/
structure Permitted (s : Server) (i : Nat) (cl : Client) : Prop where
  found : s.find i = some cl
  normal : cl.st = .normal
  isOpen : cl.isOpen = true
  rw : cl.viewOnly = false
  free : s.owner = none ∨ s.owner = some i
  nodefer : s.cfg.deferPtr = 0
  nopending : cl.lastPtr = none

def nextScale (cfg : Cfg) (sc : Option (Nat × Nat)) : Msg → Option (Nat × Nat)
  | .setScale _ s => scaleAfter cfg sc s
  | _ => sc

/-- callbacks the property expects for ONE message -/
def expected1 (cfg : Cfg) (i : Nat) (sc : Option (Nat × Nat)) : Msg → List Callback
  | .key d k => [.kbd i d k]
  | .pointer m x y => [.ptr i m (scaleX cfg sc x) (scaleY cfg sc y)]
  | .cutText t => [.cut i t]
  | _ => []

theorem expected_cons (cfg : Cfg) (i : Nat) (sc : Option (Nat × Nat)) (m : Msg) (ms : List Msg) :
    expected cfg i sc (m :: ms) = expected1 cfg i sc m ++ expected cfg i (nextScale cfg sc m) ms := by
  cases m <;> simp [expected, expected1, nextScale]

theorem expected_eq_flatMap (cfg : Cfg) (i : Nat) (sc : Option (Nat × Nat)) (ms : List Msg)
    (hns : ∀ m ∈ ms, isSetScale m = false) :
    expected cfg i sc ms = ms.flatMap (expected1 cfg i sc) := by
  induction ms with
  | nil => rfl
  | cons m ms ih =>
    have hsc : nextScale cfg sc m = sc := by
      have := hns m List.mem_cons_self
      cases m <;> first | rfl | contradiction
    rw [expected_cons, hsc, List.flatMap_cons, ih fun m' hm' => hns m' (List.mem_cons_of_mem _ hm')]

theorem expected1_none (cfg : Cfg) (i : Nat) (m : Msg) : expected1 cfg i none m = plainCallbacks i m := by
  cases m <;> rfl

theorem isLive_of_permitted {s : Server} {i : Nat} {cl : Client} (h : Permitted s i cl) :
    s.isLive i = true := by
  simp [Server.isLive, h.found, h.isOpen]

theorem handleNormal_benign (s : Server) (i : Nat) (cl : Client) (hp : Permitted s i cl) (m : Msg)
    (hb : Benign s.cfg m) :
    let r := handleNormal s.cfg s.owner cl m
    r.2.2 = expected1 s.cfg i cl.scaled m ∧
    (r.2.1 = none ∨ r.2.1 = some i) ∧
    r.1.st = .normal ∧ r.1.isOpen = true ∧ r.1.viewOnly = false ∧ r.1.lastPtr = none ∧
    r.1.scaled = nextScale s.cfg cl.scaled m := by
  obtain ⟨hf, hn, hop, hrw, hfree, hnd, hnp⟩ := hp
  obtain rfl := find_some_id hf
  generalize s.cfg = cfg at hb hnd ⊢
  generalize s.owner = o at hfree ⊢
  cases m <;> simp only [Benign] at hb
  case setEncodings encs =>
    simp only [handleNormal, expected1, nextScale]
    split <;> simp [hrw, hfree, hn, hop, hnp]
  case setPixelFormat b =>
    simp only [handleNormal]
    split
    · -- a benign pixel format (8 bpp, or 16/32 bpp true colour) is not one the server refuses
      next hc => rcases hb.2 with h | ⟨h | h, h'⟩ <;> omega
    · simp [expected1, nextScale, hrw, hfree, hn, hop, hnp]
  case setScale p s =>
    have hs0 : s ≠ 0 := by omega
    simp [handleNormal, hs0, expected1, nextScale, setScale, hrw, hfree, hn, hop, hnp]
  case pointer mk x y =>
    have h1 : ¬ (o.isSome = true ∧ o ≠ some cl.id) := by
      rcases hfree with h | h <;> simp [h]
    simp only [handleNormal, ptrDeliver, h1, if_false, hrw, hnd, hnp, expected1, nextScale, sx, sy]
    by_cases hm : mk = 0 <;> simp [hm, hn, hop]
  all_goals simp [handleNormal, expected1, nextScale, hrw, hfree, hn, hop, hnp]

/-- **one message**: a benign message of a permitted client is consumed exactly, produces exactly
its expected callbacks, and leaves the client permitted -/
theorem step_benign (orc : Oracles) (s : Server) (i : Nat) (cl : Client) (hp : Permitted s i cl)
    (m : Msg) (hb : Benign s.cfg m) (rest : List UInt8) :
    ∃ s' cl', stepFlat orc s i (encode m ++ rest) = (s', expected1 s.cfg i cl.scaled m, rest) ∧
      Permitted s' i cl' ∧ cl'.scaled = nextScale s.cfg cl.scaled m ∧ s'.cfg = s.cfg := by
  obtain ⟨h1, h2, h3, h4, h5, h6, h7⟩ := handleNormal_benign s i cl hp m hb
  rw [stepFlat_normal orc s i cl _ m rest hp.found hp.normal (parse_encode s.cfg cl.extClip m hb rest)
    (by intro p h; subst h; exact hb)]
  exact ⟨_, _, by rw [h1], {
      found := find_put_self s i cl _ hp.found
        ((handleNormal_id s.cfg s.owner cl m).trans (find_some_id hp.found)) _
      normal := h3, isOpen := h4, rw := h5, free := h2, nodefer := hp.nodefer, nopending := h6 },
    h7, rfl⟩

end VncModel.Input
