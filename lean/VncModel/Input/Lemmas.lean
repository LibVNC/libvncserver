import VncModel.Input.Wire
import VncModel.Input.StreamLemmas
/-! Lemmas behind Props/C06: parser ∘ encoder, client table, handlers, segmentation lifted to connections. -/
namespace VncModel.Input
open VncModel.Gen

theorem be32_enc (n : Nat) (h : n < 4294967296) :
    be32 (UInt8.ofNat (n / 16777216)) (UInt8.ofNat (n / 65536)) (UInt8.ofNat (n / 256)) (UInt8.ofNat n) = n := by
  simp only [be32, UInt8.toNat_ofNat']
  -- as successive quotients by 256 the four bytes are the base-256 digits of `n`
  have e2 : n / 65536 = n / 256 / 256 := by rw [Nat.div_div_eq_div_mul]
  have e3 : n / 16777216 = n / 256 / 256 / 256 := by rw [Nat.div_div_eq_div_mul, Nat.div_div_eq_div_mul]
  rw [e2, e3]
  omega

theorem be16_enc (n : Nat) (h : n < 65536) : be16 (UInt8.ofNat (n / 256)) (UInt8.ofNat n) = n := by
  simp only [be16, UInt8.toNat_ofNat']; omega

theorem toNat_ofNat_lt (n : Nat) (h : n < 256) : (UInt8.ofNat n).toNat = n := by
  simp only [UInt8.toNat_ofNat']; omega

theorem runFlat_read {α : Type} (n : Nat) (k : List UInt8 → Reader α) (b rest : List UInt8)
    (hb : b.length = n) : (Reader.read n k).runFlat (b ++ rest) = (k b).runFlat rest := by
  simp [Reader.runFlat, hb, List.take_left' hb, List.drop_left' hb]

theorem parseNormal_cons (ext : Bool) (t : UInt8) (tl : List UInt8) :
    (parseNormal ext).runFlat (t :: tl) = (normalBody ext t).runFlat tl := by
  simp [parseNormal, Reader.runFlat, byteAt]

/-- where every `parse_*` lemma starts; `hbody` is `rfl`, `normalBody` at a literal type byte evaluates -/
theorem parseNormal_header (ext : Bool) (ty : UInt8) (n : Nat) (k : List UInt8 → Reader Msg)
    (hbody : normalBody ext ty = .read n k) (hdr rest : List UInt8) (h : hdr.length = n) :
    (parseNormal ext).runFlat (ty :: hdr ++ rest) = (k hdr).runFlat rest := by
  rw [List.cons_append, parseNormal_cons, hbody, runFlat_read n k hdr rest h]

theorem readerFor_nil (cl : Client) : (readerFor cl).runFlat [] = none := by
  cases h : cl.st <;> simp [readerFor, h, parseNormal, Reader.runFlat]

theorem parseNormal_len32 (ext : Bool) (ty a b c : UInt8) (k : List UInt8 → Reader Msg)
    (hbody : normalBody ext ty = .read 7 k) (n : Nat) (rest : List UInt8) :
    (parseNormal ext).runFlat ([ty, a, b, c] ++ enc32 n ++ rest) =
      (k ([a, b, c] ++ enc32 n)).runFlat rest :=
  parseNormal_header ext ty 7 k hbody ([a, b, c] ++ enc32 n) rest rfl

theorem be32At_len32 (a b c : UInt8) (n : Nat) (h : n < 4294967296) :
    be32At ([a, b, c] ++ enc32 n) 3 = n := be32_enc n h

theorem parse_key (ext : Bool) (d p1 p2 : UInt8) (k : Nat) (hk : k < 4294967296) (rest : List UInt8) :
    (parseNormal ext).runFlat ([4, d, p1, p2] ++ enc32 k ++ rest) = some (.key d k, rest) := by
  rw [parseNormal_len32 ext 4 d p1 p2 _ rfl, be32At_len32 d p1 p2 k hk]
  rfl

theorem parse_ptr (ext : Bool) (m x y : Nat) (hm : m < 256) (hx : x < 65536) (hy : y < 65536)
    (rest : List UInt8) :
    (parseNormal ext).runFlat ([5, UInt8.ofNat m] ++ enc16 x ++ enc16 y ++ rest) =
      some (.pointer m x y, rest) := by
  have hh := parseNormal_header ext 5 5 _ rfl ([UInt8.ofNat m] ++ enc16 x ++ enc16 y) rest rfl
  refine hh.trans ?_
  simp [Reader.runFlat, enc16, byteAt, be16At, be16_enc x hx, be16_enc y hy, toNat_ofNat_lt m hm]

theorem parse_cut (ext : Bool) (p1 p2 p3 : UInt8) (t rest : List UInt8) (ht : t.length ≤ 1048576) :
    (parseNormal ext).runFlat ([6, p1, p2, p3] ++ enc32 t.length ++ t ++ rest) =
      some (.cutText t, rest) := by
  have hne : ¬ (2147483648 ≤ t.length) := by omega
  have hle : ¬ (1048576 < t.length) := by omega
  rw [List.append_assoc _ t rest, parseNormal_len32 ext 6 p1 p2 p3 _ rfl,
    be32At_len32 p1 p2 p3 _ (by omega)]
  simp only [C06.cutTextMaxAccepted, C06.cutTextExtEscapeMask, ge_iff_le, gt_iff_lt, hne, hle,
    decide_false, Bool.and_false, Bool.false_eq_true, if_false]
  exact runFlat_read _ _ t rest rfl

theorem parse_cut_big (p1 p2 p3 : UInt8) (len : Nat) (rest : List UInt8)
    (h1 : 1048576 < len) (h2 : len < 4294967296) :
    (parseNormal false).runFlat ([6, p1, p2, p3] ++ enc32 len ++ rest) =
      some (.cutTextTooBig len, rest) := by
  rw [parseNormal_len32 false 6 p1 p2 p3 _ rfl, be32At_len32 p1 p2 p3 len h2]
  simp only [C06.cutTextMaxAccepted, gt_iff_lt, h1, Bool.false_and, Bool.false_eq_true, if_false,
    if_true]
  rfl

theorem parse_textChatBad (ext : Bool) (p1 p2 p3 : UInt8) (len : Nat) (rest : List UInt8)
    (h32 : len < 4294967296)
    (hc : ¬ (len = 4294967295 ∨ len = 4294967294 ∨ len = 4294967293))
    (hb : ¬ (0 < len ∧ len < 4096)) :
    (parseNormal ext).runFlat ([11, p1, p2, p3] ++ enc32 len ++ rest) = some (.textChatBad len, rest) := by
  rw [parseNormal_len32 ext 11 p1 p2 p3 _ rfl, be32At_len32 p1 p2 p3 len h32]
  simp only [hc, hb, if_false]
  rfl

theorem runFlat_readEncs (encs : List Nat) (h : ∀ e ∈ encs, e < 4294967296) :
    ∀ (acc : List Nat) (rest : List UInt8),
      (readEncs encs.length acc).runFlat (encs.flatMap enc32 ++ rest) =
        some (.setEncodings (acc.reverse ++ encs), rest) := by
  induction encs with
  | nil => intro acc rest; simp [readEncs, Reader.runFlat]
  | cons e es ih =>
    intro acc rest
    have he : be32At (enc32 e) 0 = e := be32_enc e (h e (by simp))
    rw [List.flatMap_cons, List.append_assoc, List.length_cons, readEncs,
      runFlat_read 4 _ (enc32 e) _ rfl, he, ih (fun x hx => h x (by simp [hx]))]
    simp

/-- parser ∘ encoder = id on well-formed messages; exactly the message's own bytes are consumed -/
theorem parse_encode (cfg : Cfg) (ext : Bool) (m : Msg) (hm : Benign cfg m) (rest : List UInt8) :
    (parseNormal ext).runFlat (encode m ++ rest) = some (m, rest) := by
  cases m <;> simp only [Benign] at hm
  case key d k => exact parse_key ext d 0 0 k hm rest
  case pointer mk x y => exact parse_ptr ext mk x y hm.1 hm.2.1 hm.2.2 rest
  case cutText t => exact parse_cut ext 0 0 0 t rest hm
  case fbUpdateRequest b => exact parseNormal_header ext 3 9 _ rfl b rest hm
  case setPixelFormat b => exact parseNormal_header ext 0 19 _ rfl b rest hm.1
  case setServerInput b => exact parseNormal_header ext 9 3 _ rfl b rest hm
  case setSW b => exact parseNormal_header ext 10 5 _ rfl b rest hm
  case xvp b => exact parseNormal_header ext 250 3 _ rfl b rest hm
  case setEncodings encs =>
    rw [encode]
    have hh := parseNormal_header ext 2 3 _ rfl ([0] ++ enc16 encs.length) (encs.flatMap enc32 ++ rest) rfl
    have hn : be16At ([0] ++ enc16 encs.length) 1 = encs.length := be16_enc _ hm.1
    rw [List.append_assoc _ _ rest]
    refine hh.trans ?_
    rw [hn]
    exact runFlat_readEncs encs hm.2 [] rest
  case setScale p s =>
    rw [encode]
    have hb : (byteAt [UInt8.ofNat s, 0, 0] 0).toNat = s := toNat_ofNat_lt s hm.2
    cases p
    · exact (parseNormal_header ext 8 3 _ rfl [UInt8.ofNat s, 0, 0] rest rfl).trans (by rw [hb]; rfl)
    · exact (parseNormal_header ext 15 3 _ rfl [UInt8.ofNat s, 0, 0] rest rfl).trans (by rw [hb]; rfl)
  case textChatCmd c =>
    rw [encode, parseNormal_len32 ext 11 0 0 0 _ rfl, be32At_len32 0 0 0 c (by omega)]
    simp only [hm, if_true]
    rfl
  case textChat t =>
    rw [encode]
    have hn : ¬ (t.length = 4294967295 ∨ t.length = 4294967294 ∨ t.length = 4294967293) := by omega
    rw [List.append_assoc _ t rest, parseNormal_len32 ext 11 0 0 0 _ rfl,
      be32At_len32 0 0 0 _ (by omega)]
    simp only [hn, hm, and_self, if_false, if_true]
    exact runFlat_read _ _ t rest rfl
  case setDesktopSize b s =>
    rw [encode]
    have hh := parseNormal_header ext 251 7 _ rfl b (s ++ rest) hm.1
    rw [List.append_assoc _ s rest]
    refine hh.trans ?_
    by_cases h0 : (byteAt b 5).toNat = 0
    · obtain rfl : s = [] := List.eq_nil_of_length_eq_zero (by omega)
      simp [h0, Reader.runFlat]
    · simp only [h0, if_false]
      exact runFlat_read _ _ s rest hm.2

/-- the parser needs the type byte, so what it accepts is not empty -/
theorem encode_ne_nil (m : Msg) (cfg : Cfg) (hm : Benign cfg m) : encode m ≠ [] := by
  intro h
  have hp := parse_encode cfg false m hm []
  rw [h] at hp
  simp [parseNormal, Reader.runFlat] at hp

theorem find_some_id {s : Server} {i : Nat} {cl : Client} (h : s.find i = some cl) : cl.id = i := by
  simpa using List.find?_some h

/-- the write-back keeps every id, so the lookup predicate commutes with it (`List.find?_map`) -/
theorem find_putOwner (s : Server) (c : Client) (o : Option Nat) (j : Nat) :
    (s.putOwner c o).find j = (s.find j).map fun d => if d.id == c.id then c else d := by
  have hid : ((fun x : Client => x.id == j) ∘ fun d => if d.id == c.id then c else d) =
      fun x => x.id == j := by
    funext d; by_cases h : d.id = c.id <;> simp [h]
  show (s.clients.map _).find? _ = _
  rw [List.find?_map, hid]; rfl

theorem find_put_self (s : Server) (i : Nat) (cl cl' : Client) (h : s.find i = some cl)
    (hid : cl'.id = i) (o : Option Nat) :
    (s.putOwner cl' o).find i = some cl' := by
  simp [find_putOwner, h, find_some_id h, hid]

theorem find_put_other (s : Server) (c : Client) (j : Nat) (hj : j ≠ c.id) (o : Option Nat) :
    (s.putOwner c o).find j = s.find j := by
  rw [find_putOwner]
  cases h : s.find j with
  | none => rfl
  | some d => simp [find_some_id h, hj]

theorem putOwner_cfg (s : Server) (c : Client) (o : Option Nat) : (s.putOwner c o).cfg = s.cfg := rfl
theorem putOwner_owner (s : Server) (c : Client) (o : Option Nat) : (s.putOwner c o).owner = o := rfl

theorem find_put_close {s : Server} {i : Nat} {cl : Client} (h : s.find i = some cl) (o : Option Nat) :
    (s.putOwner (closeCl cl) o).find i = some (closeCl cl) :=
  find_put_self s i cl (closeCl cl) h (find_some_id h :) o

theorem isLive_put_close {s : Server} {i : Nat} {cl : Client} (h : s.find i = some cl) (o : Option Nat) :
    (s.putOwner (closeCl cl) o).isLive i = false := by
  unfold Server.isLive; rw [find_put_close h]; rfl

theorem stepFlat_some (orc : Oracles) (s : Server) (i : Nat) (cl : Client) (bs : List UInt8)
    (m : Msg) (rest : List UInt8) (hf : s.find i = some cl)
    (hr : (readerFor cl).runFlat bs = some (m, rest)) :
    stepFlat orc s i bs =
      (s.putOwner (handle orc s.cfg s.owner cl m).1 (handle orc s.cfg s.owner cl m).2.1,
       (handle orc s.cfg s.owner cl m).2.2, rest) := by
  simp [stepFlat, hf, hr]

theorem stepFlat_timeout (orc : Oracles) (s : Server) (i : Nat) (cl : Client) (bs : List UInt8)
    (hf : s.find i = some cl) (hr : (readerFor cl).runFlat bs = none) :
    stepFlat orc s i bs = (s.putOwner (closeCl cl) s.owner, [], []) := by
  simp [stepFlat, hf, hr]

theorem processFlat_nil (orc : Oracles) (fuel : Nat) (s : Server) (i : Nat) :
    processFlat orc fuel s i [] = (s, []) := by
  cases fuel <;> simp [processFlat]

/-- one turn of the loop, with the destructuring `let`s of `processFlat` spelt as projections -/
theorem processFlat_succ (orc : Oracles) (fuel : Nat) (s : Server) (i : Nat) (bs : List UInt8)
    (h : (bs.isEmpty || !s.isLive i) = false) :
    processFlat orc (fuel + 1) s i bs =
      ((processFlat orc fuel (stepFlat orc s i bs).1 i (stepFlat orc s i bs).2.2).1,
       (stepFlat orc s i bs).2.1 ++
         (processFlat orc fuel (stepFlat orc s i bs).1 i (stepFlat orc s i bs).2.2).2) := by
  simp only [processFlat, h, Bool.false_eq_true, if_false]

theorem ptrDeliver_id (cfg : Cfg) (cl : Client) (m x y : Nat) :
    (ptrDeliver cfg cl m x y).1.id = cl.id := by
  fun_cases ptrDeliver cfg cl m x y <;> rfl

theorem handleNormal_id (cfg : Cfg) (o : Option Nat) (cl : Client) (m : Msg) :
    (handleNormal cfg o cl m).1.id = cl.id := by
  fun_cases handleNormal cfg o cl m
  -- `rfl`, except SetEncodings (an `if` inside the record) and the pointer exit (through `ptrDeliver`)
  all_goals first | rfl | exact ptrDeliver_id .. | (split <;> rfl)

theorem handleHs_id (orc : Oracles) (cfg : Cfg) (cl : Client) (m : Msg) :
    (handleHs orc cfg cl m).id = cl.id := by
  fun_cases handleHs orc cfg cl m <;> rfl

theorem handleExtClip_id (inf : List UInt8 → Option (List UInt8)) (cfg : Cfg) (cl : Client)
    (p : List UInt8) : (handleExtClip inf cfg cl p).1.id = cl.id := by
  fun_cases handleExtClip inf cfg cl p
  -- `rfl`, except the Caps and Provide exits, which carry an `if` between two records built from `cl`
  all_goals first | rfl | simp +zetaDelta only [apply_ite Client.id, closeCl, ite_self]

theorem handle_id (orc : Oracles) (cfg : Cfg) (o : Option Nat) (cl : Client) (m : Msg) :
    (handle orc cfg o cl m).1.id = cl.id := by
  fun_cases handle orc cfg o cl m
  · exact handleExtClip_id _ cfg cl _
  · exact handleNormal_id cfg o cl m
  · exact handleHs_id orc cfg cl m

theorem handle_normal (orc : Oracles) (cfg : Cfg) (o : Option Nat) (cl : Client) (m : Msg)
    (hn : cl.st = .normal) (hm : ∀ p, m ≠ .cutTextExt p) :
    handle orc cfg o cl m = handleNormal cfg o cl m := by
  fun_cases handle orc cfg o cl m
  · exact absurd rfl (hm _)
  · rfl
  · contradiction

theorem stepFlat_normal (orc : Oracles) (s : Server) (i : Nat) (cl : Client) (bs : List UInt8)
    (m : Msg) (rest : List UInt8) (hf : s.find i = some cl) (hn : cl.st = .normal)
    (hp : (parseNormal cl.extClip).runFlat bs = some (m, rest)) (hm : ∀ p, m ≠ .cutTextExt p) :
    stepFlat orc s i bs =
      (s.putOwner (handleNormal s.cfg s.owner cl m).1 (handleNormal s.cfg s.owner cl m).2.1,
       (handleNormal s.cfg s.owner cl m).2.2, rest) := by
  rw [stepFlat_some orc s i cl bs m rest hf (by simp only [readerFor, hn]; exact hp),
    handle_normal orc _ _ cl m hn hm]

/-- a message whose handler closes the sender -/
theorem stepFlat_closes (orc : Oracles) (s : Server) (i : Nat) (cl : Client) (bs : List UInt8)
    (m : Msg) (rest : List UInt8) (hf : s.find i = some cl) (hn : cl.st = .normal)
    (hp : (parseNormal cl.extClip).runFlat bs = some (m, rest)) (hm : ∀ p, m ≠ .cutTextExt p)
    (hh : handleNormal s.cfg s.owner cl m = (closeCl cl, s.owner, [])) :
    let r := stepFlat orc s i bs
    r.2 = ([], rest) ∧ r.1.find i = some (closeCl cl) ∧ r.1.isLive i = false ∧ r.1.owner = s.owner ∧
    (∀ j, j ≠ i → r.1.find j = s.find j) := by
  rw [stepFlat_normal orc s i cl bs m rest hf hn hp hm, hh]
  exact ⟨rfl, find_put_close hf _, isLive_put_close hf _, rfl,
    fun j hj => find_put_other s (closeCl cl) j (fun e => hj (e.trans (find_some_id hf :))) _⟩

theorem provideLoop_silent (d : Bool) (id flags : Nat) (is : List Nat) (s : List UInt8)
    (h : ∀ i ∈ is, ¬ (i = 0 ∧ d = true)) : (provideLoop d id flags is s).2.2 = [] := by
  induction is generalizing s with
  | nil => rfl
  | cons i is ih =>
    have hi : ¬ (i = 0 ∧ d = true) := h i (List.mem_cons_self ..)
    have ih := fun s => ih s fun j hj => h j (List.mem_cons_of_mem _ hj)
    -- every exit of the loop body yields no callback of its own and at most those of the tail
    simp only [provideLoop, if_neg hi, List.nil_append, apply_ite Prod.snd, ih, ite_self]

theorem provideLoop_nodeliver (id flags : Nat) (is : List Nat) (s : List UInt8) :
    (provideLoop false id flags is s).2.2 = [] :=
  provideLoop_silent false id flags is s fun _ _ h => Bool.noConfusion h.2

theorem provideLoop_notext (d : Bool) (id flags : Nat) (is : List Nat) (h0 : 0 ∉ is)
    (s : List UInt8) : (provideLoop d id flags is s).2.2 = [] :=
  provideLoop_silent d id flags is s fun _ hi h => h0 (h.1 ▸ hi)

/-- the text record, read first, goes to the callback with exactly its bytes, once -/
theorem provideLoop_text_first (id flags : Nat) (is : List Nat) (h0 : 0 ∉ is) (text tail : List UInt8)
    (ht : flags.testBit 0 = true) (h1 : 0 < text.length) (h2 : text.length ≤ 1048576) :
    (provideLoop true id flags (0 :: is) (enc32 text.length ++ text ++ tail)).2.2 =
      [.cutUtf8 id text] := by
  have h32 : text.length < 4294967296 := by omega
  have hnt := provideLoop_notext true id flags is h0 tail
  have hsz : ¬ (text.length > 1048576) := by omega
  have hne : text.length ≠ 0 := by omega
  have hsize : be32At (enc32 text.length ++ text ++ tail) 0 = text.length := be32_enc _ h32
  have hdrop : (enc32 text.length ++ text ++ tail).drop 4 = text ++ tail := by simp [enc32]
  have hlen : ¬ ((enc32 text.length ++ text ++ tail).length < 4) := by simp [enc32]
  simp only [provideLoop, ht, Bool.not_true, Bool.false_eq_true, if_false, hlen, hsize, hsz, hne, hdrop]
  have hge : ¬ (text.length + tail.length < text.length) := by omega
  simp [hnt, hge]

theorem handleExtClip_viewOnly (inf : List UInt8 → Option (List UInt8)) (cfg : Cfg) (cl : Client)
    (p : List UInt8) (hv : cl.viewOnly = true) :
    (handleExtClip inf cfg cl p).2 = [] ∧ (handleExtClip inf cfg cl p).1.viewOnly = true := by
  fun_cases handleExtClip inf cfg cl p
  -- in the Provide branch the loop runs with `deliver = (!true && _)`
  all_goals simp +zetaDelta only [hv, Bool.not_true, Bool.false_and, provideLoop_nodeliver,
    apply_ite Client.viewOnly, closeCl, ite_self, and_self]

theorem handleNormal_viewOnly (cfg : Cfg) (o : Option Nat) (cl : Client) (m : Msg)
    (hv : cl.viewOnly = true) :
    (handleNormal cfg o cl m).2.2 = [] ∧ (handleNormal cfg o cl m).1.viewOnly = true := by
  fun_cases handleNormal cfg o cl m
  -- the exits past `if cl.viewOnly` are contradictory; SetEncodings and SetScale carry an `if` between records
  all_goals first | exact ⟨rfl, hv⟩ | contradiction | simp only [hv, if_true, apply_ite Client.viewOnly, ite_self, and_self]

/-- the handshake never clears the flag (a login only ever raises it) -/
theorem handleHs_viewOnly (orc : Oracles) (cfg : Cfg) (cl : Client) (m : Msg)
    (hv : cl.viewOnly = true) : (handleHs orc cfg cl m).viewOnly = true := by
  fun_cases handleHs orc cfg cl m
  all_goals first | exact hv | simp only [hv, Bool.true_or]

/-- a view-only client never causes a callback and stays view-only, whatever it sends -/
theorem handle_viewOnly (orc : Oracles) (cfg : Cfg) (o : Option Nat) (cl : Client) (m : Msg)
    (hv : cl.viewOnly = true) :
    (handle orc cfg o cl m).2.2 = [] ∧ (handle orc cfg o cl m).1.viewOnly = true := by
  fun_cases handle orc cfg o cl m
  · exact handleExtClip_viewOnly _ cfg cl _ hv
  · exact handleNormal_viewOnly cfg o cl m hv
  · exact ⟨rfl, handleHs_viewOnly orc cfg cl m hv⟩

theorem stepFlat_viewOnly (orc : Oracles) (s : Server) (i : Nat) (bs : List UInt8)
    (hv : ∀ cl, s.find i = some cl → cl.viewOnly = true) :
    (stepFlat orc s i bs).2.1 = [] ∧
    ∀ cl, (stepFlat orc s i bs).1.find i = some cl → cl.viewOnly = true := by
  fun_cases stepFlat orc s i bs
  case case1 => exact ⟨rfl, hv⟩
  case case2 cl hf _ =>
    refine ⟨rfl, fun c hc => ?_⟩
    rw [find_put_close hf] at hc
    exact Option.some.inj hc ▸ hv cl hf
  case case3 cl hf m rest _ r =>
    have hcb := handle_viewOnly orc s.cfg s.owner cl m (hv cl hf)
    refine ⟨hcb.1, fun c hc => ?_⟩
    rw [find_put_self s i cl _ hf ((handle_id orc s.cfg s.owner cl m).trans (find_some_id hf))] at hc
    exact Option.some.inj hc ▸ hcb.2

theorem runFlat_length {α : Type} (r : Reader α) : ∀ (bs : List UInt8) (a : α) (rest : List UInt8),
    r.runFlat bs = some (a, rest) → rest.length ≤ bs.length := by
  induction r with
  | done a =>
    intro bs a' rest h
    simp only [Reader.runFlat, Option.some.injEq, Prod.mk.injEq] at h
    rw [h.2]; exact Nat.le_refl _
  | read n k ih =>
    intro bs a rest h
    simp only [Reader.runFlat] at h
    split at h
    · have := ih _ _ _ _ h
      simp only [List.length_drop] at this
      omega
    · simp at h

theorem readerFor_consumes (cl : Client) (bs : List UInt8) (m : Msg) (rest : List UInt8)
    (h : (readerFor cl).runFlat bs = some (m, rest)) : rest.length < bs.length := by
  have key : ∀ (n : Nat) (k : List UInt8 → Reader Msg), 0 < n →
      (Reader.read n k).runFlat bs = some (m, rest) → rest.length < bs.length := by
    intro n k hn h
    simp only [Reader.runFlat] at h
    split at h
    · have := runFlat_length _ _ _ _ h
      simp only [List.length_drop] at this
      omega
    · simp at h
  cases hst : cl.st <;> simp only [readerFor, hst, parseNormal] at h <;>
    exact key _ _ (by decide) h

theorem stepFlat_consumes (orc : Oracles) (s : Server) (i : Nat) (bs : List UInt8)
    (hl : s.isLive i = true) : (stepFlat orc s i bs).2.2.length ≤ bs.length - 1 := by
  fun_cases stepFlat orc s i bs
  case case1 hf => simp [Server.isLive, hf] at hl
  case case2 => exact Nat.zero_le _
  case case3 cl _ m rest hr _ => exact Nat.le_sub_one_of_lt (readerFor_consumes cl bs m rest hr)

theorem stepChunks_flat (orc : Oracles) (s : Server) (i : Nat) (arr : List UInt8)
    (pend : List (List UInt8)) :
    (fun r => (r.1, r.2.1, flat r.2.2.1 r.2.2.2)) (stepChunks orc s i arr pend) =
      stepFlat orc s i (flat arr pend) := by
  unfold stepChunks stepFlat
  cases hf : s.find i with
  | none => rfl
  | some cl =>
    -- the flat run is the run over the segments with its rest flattened (`Reader.runChunks_flat`)
    simp only [← Reader.runChunks_flat (readerFor cl) arr pend]
    rcases (readerFor cl).runChunks arr pend with _ | ⟨m, arr', pend'⟩ <;> rfl

theorem processChunks_flat (orc : Oracles) : ∀ (fuel : Nat) (s : Server) (i : Nat)
    (arr : List UInt8) (pend : List (List UInt8)),
    processChunks orc fuel s i arr pend = processFlat orc fuel s i (flat arr pend) := by
  intro fuel
  induction fuel with
  | zero => intros; rfl
  | succ n ih =>
    intro s i arr pend
    simp only [processChunks, processFlat, ← stepChunks_flat orc s i arr pend, ih]

end VncModel.Input
