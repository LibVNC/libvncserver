import VncModel.Leaf.EquivRegion
import VncModel.Leaf.EquivUpdate
import VncModel.Leaf.EquivScale
import VncModel.Leaf.EquivWire
import VncModel.Leaf.EquivWs
/-
All T1 proof obligations (docs/T1.md): the Lean definitions REGENERATED from the C sources by
tools/c2lean.py (`VncModel.Gen.Leaf`) equal the hand-written model definitions.

Property checks import only the file of their own subsystem, so that a change in one C function
breaks exactly the properties whose proofs rest on it:

  Leaf/EquivRegion.lean   C11 (C02, C15 indirectly)   sraClipRect, sraClipRect2, sraRgnCreateRect guard
  Leaf/EquivUpdate.lean   C02                          rfbMarkRectAsModified clip, rectSwapIfLEAndClip tail,
                                                       rfbRedrawAfterHideCursor rectangle
  Leaf/EquivScale.lean    C17                          ScaleX, ScaleY, pad4
  Leaf/EquivWire.lean     C03                          rectangle counts (CoRRE/Ultra/Zlib), rfbNumCodedRectsTight
  Leaf/EquivWs.lean       C09                          hybiRemaining
  Leaf/EquivTranslate.lean C10                         rfbChannelFitsPixel   (NOT imported here: it is
                                                       built only through Props/C10.lean)

This file only exists so that `lake build VncModel.Leaf.Equiv` checks the five imported ones at once.
-/
