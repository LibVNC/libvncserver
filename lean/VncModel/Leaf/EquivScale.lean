import VncModel.Gen.Leaf
import VncModel.Scale.Model
/-
T1 proof obligations for `src/libvncserver/scale.c` (consumer: C17).

`VncModel.Gen.Leaf.{ScaleX, ScaleY, pad4}` are REGENERATED from the current C source on every run by
tools/c2lean.py (docs/T1.md); the theorems say they are the hand-written model functions of
`VncModel/Scale/Model.lean` on the arguments the model is defined for:

  ScaleX(from,to,x) / ScaleY, `from != to`, both non-NULL   = Scale.scaleN x from->width to->width
        for x, widths ≥ 0 (the model is over Nat) and a quotient that fits `int`
        (the C code converts the int64_t quotient back to `int`: hypothesis `… < 2^31`)
  ScaleX / ScaleY with `from == to` (or a NULL screen)      = identity
  pad4                                                       = Scale.pad4   for values ≥ 0

The pointer tests `from==to`, `from==NULL`, `to==NULL` are Bool parameters of the generated
definitions (`same`, `fromNull`, `toNull`).  Reverting fix A of C17 (floating point instead of
integer arithmetic) makes the function untranslatable; changing the operand order, the divisor or
the early-exit condition changes the generated text: either way these theorems stop compiling.
-/
namespace VncModel.Leaf
open VncModel

private theorem wrap32_id (q : Int) (h0 : 0 ≤ q) (h1 : q < 2147483648) :
    (q + 2147483648) % 4294967296 - 2147483648 = q := by omega

private theorem tdiv_cast (a b c : Nat) : Int.tdiv ((a : Int) * (b : Int)) (c : Int) = ((a * b / c : Nat) : Int) := by
  rw [Int.tdiv_eq_ediv_of_nonneg (Int.mul_nonneg (Int.natCast_nonneg a) (Int.natCast_nonneg b))]
  rw [← Int.natCast_mul, ← Int.natCast_ediv]

theorem ScaleX_eq (x fw tw : Nat) (hq : x * tw / fw < 2147483648) :
    Gen.Leaf.ScaleX x false false false tw fw = (Scale.scaleN x fw tw : Nat) := by
  unfold Gen.Leaf.ScaleX Scale.scaleN
  rw [if_neg (by simp), tdiv_cast]
  exact wrap32_id _ (Int.natCast_nonneg _) (by omega)

/-- same generated body as `ScaleX`; breaks when either function changes -/
theorem ScaleY_eq (y fh th : Nat) (hq : y * th / fh < 2147483648) :
    Gen.Leaf.ScaleY y false false false th fh = (Scale.scaleN y fh th : Nat) :=
  ScaleX_eq y fh th hq

/-- the shortcut: same screen (or a NULL screen) ⇒ identity, as the `same` branch of `Scale.corr` assumes -/
theorem ScaleX_same (x tw fw : Int) (fromNull toNull : Bool) :
    Gen.Leaf.ScaleX x true fromNull toNull tw fw = x := by
  simp [Gen.Leaf.ScaleX]

theorem ScaleY_same (y th fh : Int) (fromNull toNull : Bool) :
    Gen.Leaf.ScaleY y true fromNull toNull th fh = y :=
  ScaleX_same y th fh fromNull toNull

theorem pad4_eq (v : Nat) : Gen.Leaf.pad4 v = (Scale.pad4 v : Nat) := by
  simp only [Gen.Leaf.pad4, Scale.pad4]
  split <;> split <;> omega

example : Gen.Leaf.ScaleX 98 false false false 1 49 = 2 := by decide
example : Gen.Leaf.ScaleX 7 false false false 800 400 = 14 := by decide
example : Gen.Leaf.pad4 13 = 16 := by decide
example : (98 : Nat) * 1 / 49 < 2147483648 := by decide

end VncModel.Leaf
