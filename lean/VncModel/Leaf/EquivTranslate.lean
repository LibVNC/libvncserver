import VncModel.Gen.Leaf
import VncModel.Translate.Model
/-
T1 proof obligation for `src/libvncserver/translate.c` (consumer: C10).

`VncModel.Gen.Leaf.rfbChannelFitsPixel` is REGENERATED from the current C source on every run by
tools/c2lean.py (docs/T1.md); the theorem says it is the hand-written `Translate.channelFits` that
`setTranslate`, `reject_iff` and `accepted_client_shifts_defined` (Props/C10.lean) are about, for
every 16-bit maximum, every 8-bit shift and every bits-per-pixel value up to 32 (the function is
only called after the bpp validation).  Changing the comparison (`<` to `<=`), the direction of a
shift, dropping a conjunct or the 64-bit widening changes the generated text and this file stops
compiling.

Not translatable with the present subset (reported to the integrator): the scaling expression of
`rfbInitOneRGBTableOUT` (an array store inside a loop), the `PF_EQ` macro and the bpp validation of
`rfbSetTranslateFunction` (conditions that guard call statements `rfbErr(...)`/`rfbCloseClient`).
-/
namespace VncModel.Leaf
open VncModel

theorem rfbChannelFitsPixel_eq (max shift bpp : Nat) (hm : max < 65536) (hb : bpp ≤ 32) :
    Gen.Leaf.rfbChannelFitsPixel max shift bpp = Translate.channelFits max shift bpp := by
  unfold Gen.Leaf.rfbChannelFitsPixel Translate.channelFits
  by_cases hs : shift < bpp
  · have h1 : max * 2 ^ shift < 18446744073709551616 := by
      have h31 : 2 ^ shift ≤ 2 ^ 31 := Nat.pow_le_pow_right (by decide) (by omega)
      have e31 : (2 : Nat) ^ 31 = 2147483648 := by decide
      have : max * 2 ^ shift ≤ 65535 * 2147483648 := Nat.mul_le_mul (by omega) (by omega)
      omega
    have hs' : ((shift : Int) < (bpp : Int)) := by omega
    simp only [Int.toNat_natCast, hs, hs', decide_true, Bool.true_and]
    have e : ((max : Int) * 2 ^ shift) % 18446744073709551616 / 2 ^ bpp
        = ((max * 2 ^ shift % 18446744073709551616 / 2 ^ bpp : Nat) : Int) := by
      rw [Int.natCast_ediv, Int.natCast_emod, Int.natCast_mul, Int.natCast_pow, Int.natCast_pow]
      rfl
    rw [Bool.eq_iff_iff]
    simp only [decide_eq_true_eq, beq_iff_eq]
    rw [e, Nat.mod_eq_of_lt h1, Nat.shiftLeft_eq, Nat.shiftRight_eq_div_pow]
    omega
  · have hs' : ¬ ((shift : Int) < (bpp : Int)) := by omega
    simp [hs, hs']

example : Gen.Leaf.rfbChannelFitsPixel 255 24 32 = true := by decide
example : Gen.Leaf.rfbChannelFitsPixel 255 25 32 = false := by decide
example : Gen.Leaf.rfbChannelFitsPixel 1 32 32 = false := by decide
example : Gen.Leaf.rfbChannelFitsPixel 31 11 16 = true := by decide

end VncModel.Leaf
