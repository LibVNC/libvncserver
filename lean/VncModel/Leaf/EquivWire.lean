import VncModel.Gen.Leaf
import VncModel.Wire.Plan
/-
T1 proof obligations for the rectangle-count arithmetic of `rfbSendFramebufferUpdate`
(rfbserver.c) and `rfbNumCodedRectsTight` (tight.c)  (consumer: C03).

`VncModel.Gen.Leaf.{rectCount_CoRRE, rectCount_Ultra, rectCount_Zlib, rfbNumCodedRectsTight}` are
REGENERATED from the current C source on every run by tools/c2lean.py (docs/T1.md) - the first
three are the statements after the `rfbScaledCorrection` call in the body of the counting loop of
the respective encoding (clang expands `ZLIB_MAX_SIZE(w)` / `ULTRA_MAX_SIZE(w)`), i.e. the new value
of `nUpdateRegionRects` as a function of its old value and of the rectangle.  The theorems say that
they add exactly the hand-written count of `VncModel/Wire/Plan.lean` (`correCount`, `linesCount`,
`tightCount`), for the arguments those are defined for: `w h : Nat`, `h ≥ 1`, for CoRRE and Tight
also `w ≥ 1` (region rectangles are non-empty; guard documented in Plan.lean).  The numeric limits in the generated text are literals
(macro-expanded); the model uses the T0 constants of `VncModel.Gen.C03`, so a changed constant
breaks these theorems, too.
-/
namespace VncModel.Leaf
open VncModel VncModel.Wire VncModel.Gen.C03

private theorem tdiv_nat (a b : Nat) : Int.tdiv (a : Int) (b : Int) = ((a / b : Nat) : Int) := by
  rw [Int.tdiv_eq_ediv_of_nonneg (Int.natCast_nonneg a), Int.natCast_ediv]

private theorem pred_nat (h : Nat) (h1 : 1 ≤ h) : (h : Int) - 1 = ((h - 1 : Nat) : Int) := by omega

private theorem maxSize_nat (w : Nat) :
    (if (w : Int) * 2 > 128 * 256 then (w : Int) * 2 else 128 * 256) = ((maxSize 32768 w : Nat) : Int) := by
  unfold maxSize
  by_cases c : w * 2 > 32768
  · rw [if_pos (by omega), if_pos c]; omega
  · rw [if_neg (by omega), if_neg c]; omega

theorem rectCount_Zlib_eq (n w h : Nat) (hh : 1 ≤ h) :
    Gen.Leaf.rectCount_Zlib n w h = ((n + linesCount ZLIB_MAX_RECT_SIZE w h : Nat) : Int) := by
  unfold Gen.Leaf.rectCount_Zlib linesCount maxLines ZLIB_MAX_RECT_SIZE
  simp only [pred_nat h hh, maxSize_nat, tdiv_nat]
  omega

theorem rectCount_Ultra_eq (n w h : Nat) (hh : 1 ≤ h) :
    Gen.Leaf.rectCount_Ultra n w h = ((n + linesCount ULTRA_MAX_RECT_SIZE w h : Nat) : Int) := by
  unfold Gen.Leaf.rectCount_Ultra linesCount maxLines ULTRA_MAX_RECT_SIZE
  simp only [pred_nat h hh, maxSize_nat, tdiv_nat]
  omega

theorem rectCount_CoRRE_eq (n w h mw mh : Nat) (hw : 1 ≤ w) (hh : 1 ≤ h) :
    Gen.Leaf.rectCount_CoRRE n w h mw mh = ((n + correCount mw mh w h : Nat) : Int) := by
  unfold Gen.Leaf.rectCount_CoRRE correCount
  simp only [pred_nat h hh, pred_nat w hw, tdiv_nat]
  rw [Int.natCast_add, Int.natCast_mul, Int.natCast_add, Int.natCast_add]
  rfl

theorem rfbNumCodedRectsTight_eq (x y : Int) (w h : Nat) (hw : 1 ≤ w) (hh : 1 ≤ h) (lastRect : Bool) :
    Gen.Leaf.rfbNumCodedRectsTight x y w h lastRect = ((tightCount lastRect w h : Nat) : Int) := by
  unfold Gen.Leaf.rfbNumCodedRectsTight tightCount MIN_SPLIT_RECT_SIZE TIGHT_MAX_RECT_WIDTH
    TIGHT_MAX_RECT_SIZE
  have e1 : ((w : Int) * (h : Int) ≥ 4096) ↔ (w * h ≥ 4096) := by
    rw [← Int.natCast_mul]; omega
  have e2 : ((w : Int) * (h : Int) > 65536) ↔ (w * h > 65536) := by
    rw [← Int.natCast_mul]; omega
  have e3 : ((w : Int) > 2048) ↔ (w > 2048) := by omega
  have e4 : (if w > 2048 then (2048 : Int) else (w : Int))
      = ((if w > 2048 then 2048 else w : Nat) : Int) := by
    by_cases c : w > 2048
    · rw [if_pos c, if_pos c]; rfl
    · rw [if_neg c, if_neg c]
  simp only [e1, e2, e3, e4, pred_nat h hh, pred_nat w hw]
  have t1 : Int.tdiv (65536 : Int) ((if w > 2048 then 2048 else w : Nat) : Int)
      = ((65536 / (if w > 2048 then 2048 else w) : Nat) : Int) := tdiv_nat 65536 _
  have t2 : Int.tdiv ((w - 1 : Nat) : Int) (2048 : Int) = (((w - 1) / 2048 : Nat) : Int) :=
    tdiv_nat (w - 1) 2048
  rw [t1, t2, tdiv_nat]
  split
  · rfl
  · split
    · rw [Int.natCast_mul, Int.natCast_add, Int.natCast_add]; rfl
    · rfl

example : Gen.Leaf.rectCount_Zlib 3 100 400 = 3 + 2 := by decide
example : Gen.Leaf.rectCount_CoRRE 0 100 50 48 48 = 3 * 2 := by decide
example : Gen.Leaf.rfbNumCodedRectsTight 0 0 3000 100 false = 2 * 4 := by decide
example : Gen.Leaf.rfbNumCodedRectsTight 0 0 64 64 true = 0 := by decide

end VncModel.Leaf
