import VncModel.Gen.Leaf
import VncModel.Ws.Decoder
/-
T1 proof obligation for `src/libvncserver/ws_decode.c` (consumer: C09).

`VncModel.Gen.Leaf.hybiRemaining` is REGENERATED from the current C source on every run by
tools/c2lean.py (docs/T1.md): `payloadLen - nReadPayload` in uint64_t arithmetic.  The theorem says
it is `Ws.Ctx.remaining` of the hand-written decoder model for every state whose `nReadPayload`
fits the C type (`uint64_t`).
-/
namespace VncModel.Leaf
open VncModel

theorem hybiRemaining_eq (c : Ws.Ctx) (h : c.nReadPayload ≤ 2 ^ 64) :
    Gen.Leaf.hybiRemaining c.payloadLen c.nReadPayload = (c.remaining : Nat) := by
  unfold Gen.Leaf.hybiRemaining Ws.Ctx.remaining
  omega

example : Gen.Leaf.hybiRemaining 10 3 = 7 := by decide
example : Gen.Leaf.hybiRemaining 3 10 = 18446744073709551609 := by decide

end VncModel.Leaf
