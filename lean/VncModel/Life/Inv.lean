import VncModel.Life.Model
/-!
The invariant `Inv v w`: a listed record is `LiveOk`, an unlisted one `DeadOk v`, every screen's
`refs` equals `owners`, nothing is lost (`Counters v`).  One invariant for every `Variant`: each
guarantee is stated under exactly the fix it needs, so that the statement for the fixed code and the
"at most once" statement for the code as found are both corollaries.
-/
namespace VncModel.Life

@[simp] theorem emit_conns (w : World) (e : Event) : (emit w e).conns = w.conns := rfl
@[simp] theorem emit_list (w : World) (e : Event) : (emit w e).list = w.list := rfl
@[simp] theorem emit_screens (w : World) (e : Event) : (emit w e).screens = w.screens := rfl
@[simp] theorem emit_nbLost (w : World) (e : Event) : (emit w e).nbLost = w.nbLost := rfl
@[simp] theorem emit_recLost (w : World) (e : Event) : (emit w e).recLost = w.recLost := rfl
@[simp] theorem emit_shutLeft (w : World) (e : Event) : (emit w e).shutLeft = w.shutLeft := rfl
@[simp] theorem emit_wsLostHs (w : World) (e : Event) : (emit w e).wsLostHs = w.wsLostHs := rfl
@[simp] theorem emit_wsLostGone (w : World) (e : Event) : (emit w e).wsLostGone = w.wsLostGone := rfl
@[simp] theorem emit_extLost (w : World) (e : Event) : (emit w e).extLost = w.extLost := rfl
@[simp] theorem emit_stray (w : World) (e : Event) : (emit w e).stray = w.stray := rfl
@[simp] theorem emit_extOn (w : World) (e : Event) : (emit w e).extOn = w.extOn := rfl
@[simp] theorem emit_extDataLost (w : World) (e : Event) : (emit w e).extDataLost = w.extDataLost := rfl
@[simp] theorem emit_extNodeLost (w : World) (e : Event) : (emit w e).extNodeLost = w.extNodeLost := rfl
@[simp] theorem emit_ptrOwner (w : World) (e : Event) : (emit w e).ptrOwner = w.ptrOwner := rfl
@[simp] theorem emit_pwOn (w : World) (e : Event) : (emit w e).pwOn = w.pwOn := rfl

@[simp] theorem modConn_list (w : World) (i : Nat) (f : Conn → Conn) : (modConn w i f).list = w.list := rfl
@[simp] theorem modConn_screens (w : World) (i : Nat) (f : Conn → Conn) : (modConn w i f).screens = w.screens := rfl
@[simp] theorem modConn_nbLost (w : World) (i : Nat) (f : Conn → Conn) : (modConn w i f).nbLost = w.nbLost := rfl
@[simp] theorem modConn_recLost (w : World) (i : Nat) (f : Conn → Conn) : (modConn w i f).recLost = w.recLost := rfl
@[simp] theorem modConn_shutLeft (w : World) (i : Nat) (f : Conn → Conn) : (modConn w i f).shutLeft = w.shutLeft := rfl
@[simp] theorem modConn_wsLostHs (w : World) (i : Nat) (f : Conn → Conn) : (modConn w i f).wsLostHs = w.wsLostHs := rfl
@[simp] theorem modConn_wsLostGone (w : World) (i : Nat) (f : Conn → Conn) : (modConn w i f).wsLostGone = w.wsLostGone := rfl
@[simp] theorem modConn_extLost (w : World) (i : Nat) (f : Conn → Conn) : (modConn w i f).extLost = w.extLost := rfl
@[simp] theorem modConn_stray (w : World) (i : Nat) (f : Conn → Conn) : (modConn w i f).stray = w.stray := rfl
@[simp] theorem modConn_extOn (w : World) (i : Nat) (f : Conn → Conn) : (modConn w i f).extOn = w.extOn := rfl
@[simp] theorem modConn_extDataLost (w : World) (i : Nat) (f : Conn → Conn) : (modConn w i f).extDataLost = w.extDataLost := rfl
@[simp] theorem modConn_extNodeLost (w : World) (i : Nat) (f : Conn → Conn) : (modConn w i f).extNodeLost = w.extNodeLost := rfl
@[simp] theorem modConn_ptrOwner (w : World) (i : Nat) (f : Conn → Conn) : (modConn w i f).ptrOwner = w.ptrOwner := rfl
@[simp] theorem modConn_pwOn (w : World) (i : Nat) (f : Conn → Conn) : (modConn w i f).pwOn = w.pwOn := rfl
@[simp] theorem modConn_length (w : World) (i : Nat) (f : Conn → Conn) :
    (modConn w i f).conns.length = w.conns.length := by simp [modConn]

theorem modConn_get (w : World) (i : Nat) (f : Conn → Conn) (j : Nat) :
    (modConn w i f).conns[j]? = (fun a => if i = j then f a else a) <$> w.conns[j]? := by
  simp [modConn, List.getElem?_modify]

theorem modConn_get_self (w : World) (i : Nat) (f : Conn → Conn) (c : Conn) (h : w.conns[i]? = some c) :
    (modConn w i f).conns[i]? = some (f c) := by simp [modConn_get, h]

theorem modConn_get_ne (w : World) (i j : Nat) (f : Conn → Conn) (h : i ≠ j) :
    (modConn w i f).conns[j]? = w.conns[j]? := by
  rw [modConn_get]; cases w.conns[j]? <;> simp [h]

theorem upd_eq_some {o : Option Conn} {i j : Nat} {f : Conn → Conn} {c : Conn}
    (h : (fun a => if i = j then f a else a) <$> o = some c) :
    ∃ c0, o = some c0 ∧ ((i = j ∧ c = f c0) ∨ (i ≠ j ∧ c = c0)) := by
  cases o with
  | none => cases h
  | some c0 =>
    refine ⟨c0, rfl, ?_⟩
    by_cases hij : i = j
    · exact Or.inl ⟨hij, by simpa [hij] using h.symm⟩
    · exact Or.inr ⟨hij, by simpa [hij] using h.symm⟩

theorem countP_modify {α} (p : α → Bool) (l : List α) (i : Nat) (f : α → α) (c : α)
    (h : l[i]? = some c) :
    (l.modify i f).countP p + (if p c then 1 else 0) = l.countP p + (if p (f c) then 1 else 0) := by
  induction l generalizing i with
  | nil => simp at h
  | cons a t ih =>
    cases i with
    | zero =>
      simp at h; subst h
      simp [List.countP_cons]; omega
    | succ i =>
      simp at h
      have := ih i h
      simp [List.countP_cons]; omega

theorem modify_none {α} (l : List α) (i : Nat) (f : α → α) (h : l[i]? = none) : l.modify i f = l :=
  List.modify_eq_self (List.getElem?_eq_none_iff.1 h)

/-- does the record hold a reference on the screen of dimensions `d`? -/
def owns (d : Nat × Nat) (c : Conn) : Bool := c.refHeld && c.scr == d

def owners (w : World) (d : Nat × Nat) : Nat := w.conns.countP (owns d)

theorem owners_modConn (w : World) (i : Nat) (f : Conn → Conn) (c : Conn) (d : Nat × Nat)
    (h : w.conns[i]? = some c) :
    owners (modConn w i f) d + (if owns d c then 1 else 0) = owners w d + (if owns d (f c) then 1 else 0) := by
  simpa [owners, modConn] using countP_modify (owns d) w.conns i f c h

theorem owners_modConn_same (w : World) (i : Nat) (f : Conn → Conn) (d : Nat × Nat)
    (hf : ∀ c, w.conns[i]? = some c → (f c).refHeld = c.refHeld ∧ (f c).scr = c.scr) :
    owners (modConn w i f) d = owners w d := by
  cases h : w.conns[i]? with
  | none => simp [owners, modConn, modify_none _ _ _ h]
  | some c =>
    have := owners_modConn w i f c d h
    have h2 : owns d (f c) = owns d c := by simp [owns, (hf c h).1, (hf c h).2]
    rw [h2] at this
    omega

/-- a record reachable through the client list -/
def LiveOk (c : Conn) : Prop :=
  c.goneCalls = 0 ∧ c.freed = false ∧ c.refHeld = true ∧
  (c.sockOpen = true → c.closeCalls = 0) ∧
  (c.sockOpen = false → c.closeCalls = 1 ∧ c.wspath = false ∧ c.extData = false)

/-- completely torn down: the gone callback ran once (if the application ever saw the client),
the record is freed, nothing it acquired is left -/
def TornDown (c : Conn) : Prop :=
  c.goneCalls = (if c.hooked then 1 else 0) ∧ c.freed = true ∧ c.refHeld = false ∧ c.res = {} ∧
  c.wsctx = false ∧ c.wspath = false ∧ c.ftFd = false ∧ c.exts = 0 ∧ c.extData = false

/-- a record no longer (or never) reachable through the client list: its socket has been closed
exactly once; it is either completely torn down or — only without the `nbFree` fix — the dropped
record of the `rfbSetNonBlocking` failure path -/
def DeadOk (v : Variant) (c : Conn) : Prop :=
  c.closeCalls = 1 ∧ c.sockOpen = false ∧
  (TornDown c ∨ (v.nbFree = false ∧ c.freed = false ∧ c.hooked = false ∧ c.goneCalls = 0 ∧
     c.refHeld = true ∧ c.scr = (128, 96) ∧ c.res = {} ∧ c.wsctx = false ∧ c.wspath = false ∧
     c.ftFd = false ∧ c.exts = 0 ∧ c.extData = false))

/-- nothing is lost for good, each counter under the fix that guarantees it -/
def Counters (v : Variant) (w : World) : Prop :=
  (v.nbFree = true → w.nbLost = 0) ∧
  (v.closedToo = true → w.recLost = 0 ∧ w.shutLeft = 0) ∧
  (v.goneWspath = true → w.wsLostGone = 0) ∧
  (v.wsOnePath = true → w.wsLostHs = 0) ∧
  (v.ftClose = true → w.stray = 0) ∧
  (v.extFree = true → w.extLost = 0) ∧
  (v.goneExtClose = true → w.extDataLost = 0) ∧
  (v.disableFree = true → w.extNodeLost = 0)

structure Inv (v : Variant) (w : World) : Prop where
  nodup : w.list.Nodup
  bound : ∀ i, i ∈ w.list → i < w.conns.length
  live : ∀ (i : Nat) (c : Conn), w.conns[i]? = some c → i ∈ w.list → LiveOk c
  dead : ∀ (i : Nat) (c : Conn), w.conns[i]? = some c → i ∉ w.list → DeadOk v c
  counters : Counters v w
  refs : ∀ s, s ∈ w.screens → s.refs = owners w (s.w, s.h)
  scr : ∀ (i : Nat) (c : Conn), w.conns[i]? = some c → c.refHeld = true → hasScreen w.screens c.scr = true
  main : hasScreen w.screens (128, 96) = true
  ptr : ∀ (i : Nat), w.ptrOwner = some i → i ∈ w.list

theorem inv_init (v : Variant) : Inv v World.init := by
  refine ⟨by simp [World.init], by simp [World.init], ?_, ?_, ?_, ?_, ?_, by simp [World.init, hasScreen], by simp [World.init]⟩
  · intro i c h; simp [World.init] at h
  · intro i c h; simp [World.init] at h
  · simp [Counters, World.init]
  · intro s hs; simp [World.init] at hs; subst hs; simp [owners, World.init]
  · intro i c h; simp [World.init] at h

theorem inv_emit {v : Variant} {w : World} (h : Inv v w) (e : Event) : Inv v (emit w e) :=
  ⟨h.nodup, h.bound, h.live, h.dead, h.counters, h.refs, h.scr, h.main, h.ptr⟩

theorem inv_of_same {v : Variant} {w w' : World} (h : Inv v w) (hc : w'.conns = w.conns)
    (hl : w'.list = w.list) (hs : w'.screens = w.screens) (hk : Counters v w')
    (hp : w'.ptrOwner = w.ptrOwner := by rfl) : Inv v w' := by
  refine ⟨by rw [hl]; exact h.nodup, by rw [hl, hc]; exact h.bound, ?_, ?_, hk, ?_, ?_, by rw [hs]; exact h.main,
    by rw [hp, hl]; exact h.ptr⟩
  · intro i c; rw [hc, hl]; exact h.live i c
  · intro i c; rw [hc, hl]; exact h.dead i c
  · intro s; rw [hs]; intro hm; simp only [owners, hc]; exact h.refs s hm
  · intro i c; rw [hc, hs]; exact h.scr i c

theorem inv_modConn {v : Variant} {w : World} (h : Inv v w) (i : Nat) (f : Conn → Conn)
    (hl : ∀ c, w.conns[i]? = some c → i ∈ w.list → LiveOk c → LiveOk (f c))
    (hd : ∀ c, w.conns[i]? = some c → i ∉ w.list → DeadOk v c → DeadOk v (f c))
    (hr : ∀ c, w.conns[i]? = some c → (f c).refHeld = c.refHeld ∧ (f c).scr = c.scr) :
    Inv v (modConn w i f) := by
  refine ⟨h.nodup, ?_, ?_, ?_, h.counters, ?_, ?_, h.main, h.ptr⟩
  · intro j hj; simpa using h.bound j hj
  · intro j c hc hj
    rw [modConn_get] at hc
    obtain ⟨c0, hw, ⟨rfl, rfl⟩ | ⟨_, rfl⟩⟩ := upd_eq_some hc
    · exact hl c0 hw hj (h.live i c0 hw hj)
    · exact h.live j c hw hj
  · intro j c hc hj
    rw [modConn_get] at hc
    obtain ⟨c0, hw, ⟨rfl, rfl⟩ | ⟨_, rfl⟩⟩ := upd_eq_some hc
    · exact hd c0 hw hj (h.dead i c0 hw hj)
    · exact h.dead j c hw hj
  · intro s hs
    rw [owners_modConn_same w i f _ hr]
    exact h.refs s hs
  · intro j c hc href
    rw [modConn_get] at hc
    obtain ⟨c0, hw, ⟨rfl, rfl⟩ | ⟨_, rfl⟩⟩ := upd_eq_some hc
    · rw [(hr c0 hw).2]; exact h.scr i c0 hw (by rw [← (hr c0 hw).1]; exact href)
    · exact h.scr j c hw href

/-- updates of fields the invariant does not talk about (protocol state, scheduling, callbacks) -/
def ProtoOnly (f : Conn → Conn) : Prop :=
  ∀ c, (f c).hooked = c.hooked ∧ (f c).sockOpen = c.sockOpen ∧ (f c).closeCalls = c.closeCalls ∧
    (f c).goneCalls = c.goneCalls ∧ (f c).freed = c.freed ∧ (f c).refHeld = c.refHeld ∧
    (f c).scr = c.scr ∧ (f c).res = c.res ∧ (f c).wsctx = c.wsctx ∧ (f c).wspath = c.wspath ∧
    (f c).ftFd = c.ftFd ∧ (f c).exts = c.exts ∧ (f c).extData = c.extData

theorem inv_modConn_proto {v : Variant} {w : World} (h : Inv v w) (i : Nat) (f : Conn → Conn)
    (hf : ProtoOnly f) : Inv v (modConn w i f) := by
  apply inv_modConn h i f
  · intro c _ _ hc
    obtain ⟨_, h2, h3, h4, h5, h6, _, _, _, h10, _, _, h13⟩ := hf c
    simpa [LiveOk, h2, h3, h4, h5, h6, h10, h13] using hc
  · intro c _ _ hc
    obtain ⟨h1, h2, h3, h4, h5, h6, h7, h8, h9, h10, h11, h12, h13⟩ := hf c
    simpa [DeadOk, TornDown, h1, h2, h3, h4, h5, h6, h7, h8, h9, h10, h11, h12, h13] using hc
  · intro c _
    exact ⟨(hf c).2.2.2.2.2.1, (hf c).2.2.2.2.2.2.1⟩

/-- updates of what a live client holds (compression state, buffers, wsctx, descriptor, extension
list, the `hooked` mark): everything but the life-cycle fields -/
def HoldingsOnly (f : Conn → Conn) : Prop :=
  ∀ c, (f c).sockOpen = c.sockOpen ∧ (f c).closeCalls = c.closeCalls ∧
    (f c).goneCalls = c.goneCalls ∧ (f c).freed = c.freed ∧ (f c).refHeld = c.refHeld ∧
    (f c).scr = c.scr

/-- such an update of a listed client; on a closed one `wspath` and `extData` must stay as they are,
because `LiveOk` says a closed record has neither -/
theorem inv_modConn_live {v : Variant} {w : World} (h : Inv v w) (i : Nat) (f : Conn → Conn)
    (hi : i ∈ w.list) (hf : HoldingsOnly f)
    (hclosed : ∀ c, c.sockOpen = false → (f c).wspath = c.wspath ∧ (f c).extData = c.extData) :
    Inv v (modConn w i f) := by
  apply inv_modConn h i f
  · intro c _ _ hc
    obtain ⟨h1, h2, h3, h4, h5, _⟩ := hf c
    obtain ⟨l1, l2, l3, l4, l5⟩ := hc
    unfold LiveOk
    rw [h1, h2, h3, h4, h5]
    refine ⟨l1, l2, l3, l4, fun hs => ?_⟩
    obtain ⟨c1, c2, c3⟩ := l5 hs
    exact ⟨c1, by rw [(hclosed c hs).1]; exact c2, by rw [(hclosed c hs).2]; exact c3⟩
  · intro c _ hn; exact absurd hi hn
  · intro c _; obtain ⟨_, _, _, _, h5, h6⟩ := hf c; exact ⟨h5, h6⟩

end VncModel.Life
