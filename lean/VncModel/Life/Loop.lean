import VncModel.Life.Scale

/-! Message processing (`procMsg_cases`, `inv_procMsg`), the event loop, shutdown and cleanup
preserve the invariant; hence every operation does (`inv_step`) and every history (`inv_run`).
`sweep_all_gone`: with the `closedToo` fix a sweep whose step unlinks the client it visits empties
the list — the reason the `recLost` / `shutLeft` counters stay 0 in `inv_shutdown` / `inv_cleanup`. -/
namespace VncModel.Life

theorem listed_of_open {v : Variant} {w : World} (h : Inv v w) (i : Nat) (ho : isOpen w i = true) :
    i ∈ w.list := by
  obtain ⟨c, hc, hs⟩ := (isOpen_iff w i).mp ho
  by_cases hi : i ∈ w.list
  · exact hi
  · have := (h.dead i c hc hi).2.1
    rw [this] at hs; cases hs

theorem inv_openFt {v : Variant} {w : World} (h : Inv v w) (i : Nat) (hi : i ∈ w.list) :
    Inv v (openFt v w i) := by
  unfold openFt
  cases hc : w.conns[i]? with
  | none => exact h
  | some c =>
    simp only
    have h1 : Inv v (if (c.ftFd && !v.ftClose) = true then { w with stray := w.stray + 1 } else w) := by
      split
      · rename_i hcond
        refine inv_of_same h rfl rfl rfl ?_
        have := h.counters
        simp_all +contextual [Counters]
      · exact h
    exact inv_modConn_live h1 i _ (by split <;> exact hi) (by intro c; simp) (by intro c; simp)

theorem inv_closeOthers {v : Variant} {w : World} (h : Inv v w) (i : Nat) (l : List Nat) :
    Inv v (closeOthers w i l) := by
  induction l generalizing w with
  | nil => exact h
  | cons j rest ih =>
    unfold closeOthers
    apply ih
    cases w.conns[j]? with
    | none => exact h
    | some c =>
      simp only
      split
      · exact inv_closeClient h j
      · exact h

@[simp] theorem closeOthers_list (w : World) (i : Nat) (l : List Nat) :
    (closeOthers w i l).list = w.list := by
  induction l generalizing w with
  | nil => rfl
  | cons j rest ih =>
    unfold closeOthers
    rw [ih]
    cases w.conns[j]? with
    | none => rfl
    | some c => simp only; split <;> simp

@[simp] theorem openFt_list (v : Variant) (w : World) (i : Nat) : (openFt v w i).list = w.list := by
  unfold openFt
  cases w.conns[i]? with
  | none => rfl
  | some c => simp only [modConn_list]; split <;> rfl

theorem liveOpen_of {v : Variant} {w : World} (h : Inv v w) (i : Nat) (ho : isOpen w i = true) :
    LiveOpen v w i := ⟨h, listed_of_open h i ho, ho⟩

theorem inv_disableExt {v : Variant} {w : World} (h : Inv v w) (i : Nat) (hi : i ∈ w.list) :
    Inv v (disableExt v w i) := by
  unfold disableExt
  cases hc : w.conns[i]? with
  | none => exact h
  | some c =>
    simp only
    split
    · have h1 : Inv v (modConn w i fun c => { c with exts := c.exts - 1, extData := false, ext1On := false }) := by
        apply inv_modConn h
        · intro c _ _ hl
          exact ⟨hl.1, hl.2.1, hl.2.2.1, hl.2.2.2.1, fun hs => ⟨(hl.2.2.2.2 hs).1, (hl.2.2.2.2 hs).2.1, rfl⟩⟩
        · intro c _ hn; exact absurd hi hn
        · intro c _; simp
      refine inv_of_same h1 rfl rfl rfl ?_
      have := h.counters
      simp_all +contextual [Counters]
    · exact h

theorem inv_extInit {v : Variant} {w : World} (h : Inv v w) (i : Nat) (hi : i ∈ w.list) :
    Inv v (extInit v w i) := by
  unfold extInit
  cases w.conns[i]? with
  | none => exact h
  | some c =>
    simp only
    split
    · split
      · exact inv_disableExt (inv_emit (inv_emit h _) _) i hi
      · exact inv_emit h _
    · exact h

theorem inv_enableExt {v : Variant} {w : World} (h : Inv v w) (i : Nat) (ho : isOpen w i = true) :
    Inv v (enableExt w i) := by
  unfold enableExt
  cases hc : w.conns[i]? with
  | none => exact h
  | some c =>
    simp only
    split
    · exact h
    · exact inv_emit (liveOpen_modConn (liveOpen_of h i ho) _ (by intro c; simp)).1 _

@[simp] theorem disableExt_list (v : Variant) (w : World) (i : Nat) : (disableExt v w i).list = w.list := by
  unfold disableExt
  cases w.conns[i]? with
  | none => rfl
  | some c => simp only; split <;> rfl

@[simp] theorem extInit_list (v : Variant) (w : World) (i : Nat) : (extInit v w i).list = w.list := by
  unfold extInit
  cases w.conns[i]? with
  | none => rfl
  | some c =>
    simp only
    split
    · split <;> simp
    · rfl

theorem inv_setPtr {v : Variant} {w : World} (h : Inv v w) (o : Option Nat)
    (ho : ∀ j, o = some j → j ∈ w.list) : Inv v { w with ptrOwner := o } :=
  ⟨h.nodup, h.bound, h.live, h.dead, h.counters, h.refs, h.scr, h.main, ho⟩

theorem inv_msgEffect {v : Variant} {w : World} (h : Inv v w) (i : Nat) (m : Msg) (hi : i ∈ w.list) :
    Inv v (msgEffect v w i m) := by
  cases m with
  | ver => exact inv_modConn_proto h i _ (by intro c; simp)
  | sec => exact inv_modConn_proto h i _ (by intro c; simp)
  | auth ok =>
    simp only [msgEffect]
    split
    · exact inv_modConn_proto h i _ (by intro c; simp)
    · exact inv_closeClient h i
  | init sh =>
    simp only [msgEffect]
    have h0 : Inv v (extInit v w i) := inv_extInit h i hi
    have h1 := inv_modConn_proto h0 i (fun c => { c with st := .normal }) (by intro c; simp)
    split
    · exact h1
    · exact inv_closeOthers h1 i _
  | enc => exact h
  | req => exact h
  | scale k =>
    simp only [msgEffect]
    split
    · exact inv_closeClient h i
    · exact inv_setScale h i k hi
  | pf => exact h
  | key =>
    simp only [msgEffect]
    have h1 := inv_emit h (.kbd i)
    cases hc : (emit w (.kbd i)).conns[i]? with
    | none => simpa [hc] using h1
    | some c =>
      simp only
      split
      · exact inv_closeClient h1 i
      · exact h1
  | ptr down =>
    simp only [msgEffect]
    have hset : Inv v { w with ptrOwner := if down = true then some i else none } := by
      apply inv_setPtr h
      intro j hj
      split at hj
      · cases hj; exact hi
      · cases hj
    cases w.ptrOwner with
    | none => exact hset
    | some j => simp only; split; exact h; exact hset
  | junk => exact inv_closeClient h i
  | part => exact inv_closeClient h i
  | ft => exact inv_openFt h i hi
  | ftgo => exact inv_modConn_live h i _ hi (by intro c; simp) (by intro c; simp)
  | eof => exact inv_closeClient h i

theorem msgEffect_list (v : Variant) (w : World) (i : Nat) (m : Msg) :
    (msgEffect v w i m).list = w.list := by
  cases m with
  | auth ok => simp only [msgEffect]; split <;> simp
  | init sh =>
    simp only [msgEffect]
    have h0 : (extInit v w i).list = w.list := extInit_list v w i
    split
    · rw [modConn_list]; exact h0
    · rw [closeOthers_list, modConn_list]; exact h0
  | scale k => simp only [msgEffect]; split <;> simp
  | key =>
    simp only [msgEffect]
    cases (emit w (.kbd i)).conns[i]? with
    | none => rfl
    | some c => simp only; split <;> simp
  | ptr down =>
    simp only [msgEffect]
    cases w.ptrOwner with
    | none => rfl
    | some j => simp only; split <;> rfl
  | ver => simp [msgEffect]
  | sec => simp [msgEffect]
  | enc => rfl
  | req => rfl
  | pf => rfl
  | junk => simp [msgEffect]
  | part => simp [msgEffect]
  | ft => simp [msgEffect]
  | ftgo => simp [msgEffect]
  | eof => simp [msgEffect]

/-- what processing one message amounts to: nothing (no record, empty inbox); or, once the message
is off the inbox, `rfbCloseClient` after an I/O failure — preceded by the part of a scale or
file-transfer request that comes before the failing write — or the message's effect -/
theorem procMsg_cases (v : Variant) (w : World) (i : Nat) (x : Fail) (r : Res) :
    ∃ w', procMsg v w i x r = w' ∧ (w' = w ∨
      ∃ m rest w1, w1 = modConn w i (fun c => { c with inbox := rest }) ∧
        (w' = closeClient w1 i ∨ (∃ k, w' = closeClient (setScale w1 i k) i) ∨
         w' = closeClient (openFt v w1 i) i ∨
         (x = .none ∧ w' = msgEffect v (modConn w1 i fun c => { c with res := r }) i m))) := by
  refine ⟨_, rfl, ?_⟩
  unfold procMsg
  cases w.conns[i]? with
  | none => exact Or.inl rfl
  | some c =>
    simp only
    cases c.inbox with
    | nil => exact Or.inl rfl
    | cons m rest =>
      simp only
      refine Or.inr ⟨m, rest, _, rfl, ?_⟩
      have hx' : (if (x == Fail.none && !c.peerOpen && msgWrites m) = true then Fail.wr else x) = .none →
          x = .none := by
        split
        · intro h; cases h
        · exact id
      generalize (if (x == Fail.none && !c.peerOpen && msgWrites m) = true then Fail.wr else x) = x' at hx'
      cases x' with
      | rd => exact Or.inl rfl
      | wr =>
        cases m with
        | scale k =>
          simp only
          split
          · exact Or.inl rfl
          · exact Or.inr (Or.inl ⟨k, rfl⟩)
        | ft => exact Or.inr (Or.inr (Or.inl rfl))
        | _ => exact Or.inl rfl
      | none => exact Or.inr (Or.inr (Or.inr ⟨hx' rfl, rfl⟩))

theorem inv_procMsg {v : Variant} {w : World} (h : Inv v w) (i : Nat) (x : Fail) (r : Res)
    (hi : i ∈ w.list) : Inv v (procMsg v w i x r) := by
  obtain ⟨w', hp, rfl | ⟨m, rest, w1, rfl, hw'⟩⟩ := procMsg_cases v w i x r <;> rw [hp]
  · exact h
  · have h1 := inv_modConn_proto h i (fun c => { c with inbox := rest }) (by intro c; simp)
    have hi1 : i ∈ (modConn w i fun c => { c with inbox := rest }).list := hi
    rcases hw' with rfl | ⟨k, rfl⟩ | rfl | ⟨_, rfl⟩
    · exact inv_closeClient h1 i
    · exact inv_closeClient (inv_setScale h1 i k hi1) i
    · exact inv_closeClient (inv_openFt h1 i hi1) i
    · exact inv_msgEffect (inv_modConn_live h1 i _ hi1 (by intro c; simp) (by intro c; simp)) i m hi

theorem procMsg_list (v : Variant) (w : World) (i : Nat) (x : Fail) (r : Res) :
    (procMsg v w i x r).list = w.list := by
  obtain ⟨w', hp, rfl | ⟨m, rest, w1, rfl, rfl | ⟨k, rfl⟩ | rfl | ⟨_, rfl⟩⟩⟩ := procMsg_cases v w i x r <;>
    rw [hp] <;> simp [msgEffect_list]

theorem ready_open (w : World) (i : Nat) (h : ready w i = true) : isOpen w i = true := by
  unfold ready at h
  unfold isOpen
  cases hc : w.conns[i]? with
  | none => simp [hc] at h
  | some c => simp [hc] at h; simp [h.1.1]

theorem inv_checkFds {v : Variant} {w : World} (h : Inv v w) (xs : Ann) (rs : ResAnn) (l : List Nat) :
    Inv v (checkFds v w xs rs l).1 := by
  induction l generalizing w xs with
  | nil => exact h
  | cons i rest ih =>
    unfold checkFds
    split
    · rename_i hr
      apply ih
      exact inv_procMsg h i _ _ (listed_of_open h i (ready_open w i hr))
    · split
      · exact ih (inv_closeClient h i) _
      · exact ih h xs

theorem inv_reap {v : Variant} {w : World} (h : Inv v w) (l : List Nat) : Inv v (reap v w l) := by
  induction l generalizing w with
  | nil => exact h
  | cons i rest ih =>
    unfold reap
    split
    · rename_i hc
      apply ih
      simp only [Bool.and_eq_true, List.contains_iff_mem] at hc
      exact inv_gone h i hc.1
    · exact ih h

theorem inv_processEvents {v : Variant} {w : World} (h : Inv v w) (xs : Ann) (rs : ResAnn) :
    Inv v (processEvents v w xs rs).1 := by
  unfold processEvents
  exact inv_reap (inv_checkFds h xs rs w.list) _

theorem inv_pump {v : Variant} (xs : Ann) (rs : ResAnn) (n : Nat) {w : World} (h : Inv v w) :
    Inv v (pump v xs rs n w) := by
  induction n generalizing w xs with
  | zero => exact h
  | succ n ih =>
    unfold pump
    split
    · exact ih _ (inv_processEvents h xs rs)
    · exact h

theorem inv_sweep {v : Variant} (f : World → Nat → World)
    (hf : ∀ w i, Inv v w → Inv v (f w i)) {w : World} (wDec : World) (h : Inv v w) (l : List Nat) :
    Inv v (sweep v f w wDec l) := by
  induction l generalizing w wDec with
  | nil => exact h
  | cons i rest ih =>
    unfold sweep
    split
    · exact ih wDec h
    · exact ih w (hf w i h)

theorem inv_shutOne {v : Variant} (w : World) (i : Nat) (h : Inv v w) : Inv v (shutOne v w i) := by
  unfold shutOne
  split
  · rename_i hc
    have h1 : Inv v (if isOpen w i = true then closeClient w i else w) := by
      split
      · exact inv_closeClient h i
      · exact h
    exact inv_gone h1 i (by split <;> simpa using hc)
  · exact h

theorem inv_cleanOne {v : Variant} (w : World) (i : Nat) (h : Inv v w) : Inv v (cleanOne v w i) := by
  unfold cleanOne
  split
  · rename_i hc
    exact inv_gone h i (by simpa using hc)
  · exact h

theorem shutOne_list {v : Variant} (w : World) (i : Nat) (h : Inv v w) :
    (shutOne v w i).list = w.list.erase i := by
  unfold shutOne
  split
  · rename_i hc
    have hi : i ∈ w.list := by simpa using hc
    rw [gone_list v _ i (by split <;> simpa using h.bound i hi)]
    split <;> simp
  · rename_i hc
    have hi : i ∉ w.list := by simpa using hc
    exact (List.erase_of_not_mem hi).symm

theorem cleanOne_list {v : Variant} (w : World) (i : Nat) (h : Inv v w) :
    (cleanOne v w i).list = w.list.erase i := by
  unfold cleanOne
  split
  · rename_i hc
    have hi : i ∈ w.list := by simpa using hc
    exact gone_list v _ i (h.bound i hi)
  · rename_i hc
    have hi : i ∉ w.list := by simpa using hc
    exact (List.erase_of_not_mem hi).symm

theorem sweep_removes {v : Variant} (hv : v.closedToo = true) (f : World → Nat → World)
    (hf : ∀ w i, Inv v w → Inv v (f w i))
    (hl : ∀ w i, Inv v w → (f w i).list = w.list.erase i)
    {w : World} (wDec : World) (h : Inv v w) (l : List Nat) :
    ∀ x, x ∈ (sweep v f w wDec l).list → x ∈ w.list ∧ x ∉ l := by
  induction l generalizing w wDec with
  | nil => intro x hx; exact ⟨hx, by simp⟩
  | cons i rest ih =>
    intro x hx
    unfold sweep at hx
    simp only [hv, Bool.not_true, Bool.false_and, Bool.false_eq_true, if_false] at hx
    have := ih w (hf w i h) x hx
    rw [hl w i h] at this
    have hm := (h.nodup.mem_erase_iff).mp this.1
    exact ⟨hm.2, by simp [hm.1, this.2]⟩

theorem sweep_all_gone {v : Variant} (hv : v.closedToo = true) (f : World → Nat → World)
    (hf : ∀ w i, Inv v w → Inv v (f w i))
    (hl : ∀ w i, Inv v w → (f w i).list = w.list.erase i)
    {w : World} (h : Inv v w) : (sweep v f w w w.list).list = [] := by
  rw [List.eq_nil_iff_forall_not_mem]
  intro x hx
  have := sweep_removes hv f hf hl w h w.list x hx
  exact this.2 this.1

theorem shutdown_eq (v : Variant) (w : World) :
    shutdown v w = { sweep v (shutOne v) w w w.list with
      shutLeft := (sweep v (shutOne v) w w w.list).shutLeft + (sweep v (shutOne v) w w w.list).list.length } := rfl

theorem cleanup_eq (v : Variant) (w : World) :
    cleanup v w = { sweep v (cleanOne v) w w w.list with
      cleaned := true
      recLost := (sweep v (cleanOne v) w w w.list).recLost + (sweep v (cleanOne v) w w w.list).list.length } := rfl

theorem inv_shutdown {v : Variant} {w : World} (h : Inv v w) : Inv v (shutdown v w) := by
  rw [shutdown_eq]
  have h1 := inv_sweep (shutOne v) (fun w i => inv_shutOne w i) w h w.list
  refine inv_of_same h1 rfl rfl rfl ?_
  have hk := h1.counters
  have hnil := fun hv => sweep_all_gone hv (shutOne v) (fun w i => inv_shutOne w i) (fun w i => shutOne_list w i) h
  simp_all +contextual [Counters]

theorem inv_cleanup {v : Variant} {w : World} (h : Inv v w) : Inv v (cleanup v w) := by
  rw [cleanup_eq]
  have h1 := inv_sweep (cleanOne v) (fun w i => inv_cleanOne w i) w h w.list
  refine inv_of_same h1 rfl rfl rfl ?_
  have hk := h1.counters
  have hnil := fun hv => sweep_all_gone hv (cleanOne v) (fun w i => inv_cleanOne w i) (fun w i => cleanOne_list w i) h
  simp_all +contextual [Counters]

theorem inv_enqueue {v : Variant} {w : World} (h : Inv v w) (i : Nat) (m : Msg) :
    Inv v (enqueue w i m) := by
  unfold enqueue
  apply inv_modConn_proto h
  intro c; by_cases hp : c.peerOpen = true <;> simp [hp]

theorem inv_step {v : Variant} {w : World} (h : Inv v w) (op : Op) : Inv v (step v w op) := by
  cases op with
  | conn hk ws nb x => exact inv_accept h hk ws nb x
  | send i m xs rs => exact inv_pump xs rs _ (inv_enqueue h i m)
  | closePeer i xs rs =>
    exact inv_pump xs rs _ (inv_modConn_proto (inv_enqueue h i .eof) i _ (by intro c; simp))
  | pump xs rs => exact inv_pump xs rs _ h
  | appClose i => simp only [step]; split; exact inv_closeClient h i; exact h
  | start i =>
    simp only [step]; split
    · exact inv_modConn_proto h i _ (by intro c; simp)
    · exact h
  | refuse i =>
    simp only [step]; split
    · rename_i hk
      have hopen : i ∈ w.list := by
        unfold appKnows at hk
        cases hc : w.conns[i]? with
        | none => simp [hc] at hk
        | some c =>
          simp [hc] at hk
          by_cases hi : i ∈ w.list
          · exact hi
          · have hd := h.dead i c hc hi
            rcases hd.2.2 with ht | hn
            · have := ht.1; rw [hk.1, hk.2] at this; cases this
            · rw [hn.2.2.1] at hk; cases hk.1
      exact inv_gone (inv_closeClient h i) i (by simpa using hopen)
    · exact h
  | kbdClose i => exact inv_modConn_proto h i _ (by intro c; simp)
  | goneKick i k => exact inv_modConn_proto h i _ (by intro c; simp)
  | ext => exact inv_of_same h rfl rfl rfl h.counters
  | pw => exact inv_of_same h rfl rfl rfl h.counters
  | extRefuse i => exact inv_modConn_proto h i _ (by intro c; simp)
  | extDrop i =>
    simp only [step]; split
    · rename_i hk
      simp only [Bool.and_eq_true] at hk
      exact inv_disableExt (inv_emit h _) i (listed_of_open h i hk.1.2)
    · exact h
  | extAdd i =>
    simp only [step]; split
    · rename_i hk
      simp only [Bool.and_eq_true] at hk
      exact inv_enableExt h i hk.2
    · exact h
  | shutdown => exact inv_shutdown h
  | cleanup => exact inv_cleanup h

theorem inv_run {v : Variant} {w : World} (h : Inv v w) (ops : List Op) : Inv v (run v w ops) := by
  induction ops generalizing w with
  | nil => exact h
  | cons op rest ih => exact ih (inv_step h op)

end VncModel.Life
