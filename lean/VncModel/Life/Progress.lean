import VncModel.Life.Loop

/-! Progress (closed clients are reaped; shutdown / cleanup leave nobody behind) and isolation
(a step of one connection leaves every other record alone, or closes it exactly once). -/
namespace VncModel.Life

/-- untouched, or what `rfbCloseClient` makes of it (`closeRec`: closed once if its socket was open —
a record that is already closed only loses extension data it could not have any more) -/
def SameOrClosed (c c' : Conn) : Prop := c' = c ∨ c' = closeRec c

def Undisturbed (w w' : World) (j : Nat) : Prop :=
  ∀ c, w.conns[j]? = some c → ∃ c', w'.conns[j]? = some c' ∧ SameOrClosed c c'

theorem SameOrClosed.refl (c : Conn) : SameOrClosed c c := Or.inl rfl

theorem closeRec_idem (c : Conn) : closeRec (closeRec c) = closeRec c := by
  unfold closeRec
  cases hs : c.sockOpen <;> simp

/-- closing is counted at most once however often the record is handed to `rfbCloseClient` -/
theorem closeRec_calls (c : Conn) :
    (closeRec c).closeCalls = c.closeCalls + (if c.sockOpen then 1 else 0) ∧ (closeRec c).sockOpen = false ∨
    (closeRec c).closeCalls = c.closeCalls ∧ c.sockOpen = false := by
  unfold closeRec
  cases hs : c.sockOpen <;> simp

theorem SameOrClosed.trans {a b c : Conn} (h1 : SameOrClosed a b) (h2 : SameOrClosed b c) :
    SameOrClosed a c := by
  rcases h1 with rfl | rfl
  · exact h2
  · rcases h2 with rfl | rfl
    · exact Or.inr rfl
    · exact Or.inr (closeRec_idem a)

theorem Undisturbed.refl (w : World) (j : Nat) : Undisturbed w w j :=
  fun c hc => ⟨c, hc, SameOrClosed.refl c⟩

theorem Undisturbed.trans {w1 w2 w3 : World} {j : Nat} (h1 : Undisturbed w1 w2 j)
    (h2 : Undisturbed w2 w3 j) : Undisturbed w1 w3 j := by
  intro c hc
  obtain ⟨c', hc', hs⟩ := h1 c hc
  obtain ⟨c'', hc'', hs'⟩ := h2 c' hc'
  exact ⟨c'', hc'', hs.trans hs'⟩

theorem undisturbed_of_eq {w w' : World} {j : Nat} (h : w'.conns[j]? = w.conns[j]?) :
    Undisturbed w w' j := fun c hc => ⟨c, by rw [h]; exact hc, SameOrClosed.refl c⟩

theorem closeClient_undisturbed (w : World) (i j : Nat) : Undisturbed w (closeClient w i) j := by
  by_cases hij : i = j
  · subst hij
    intro c hc
    exact ⟨closeRec c, closeClient_get_self w i c hc, Or.inr rfl⟩
  · exact undisturbed_of_eq (closeClient_get_ne w i j hij)

theorem gone_undisturbed (v : Variant) (w : World) (i j : Nat) (h : i ≠ j) :
    Undisturbed w (gone v w i) j := by
  cases hc : w.conns[i]? with
  | none => simpa [gone, hc] using Undisturbed.refl w j
  | some c =>
    have h1 : Undisturbed w (goneCore v w i c) j := by
      apply undisturbed_of_eq
      rw [goneCore_get]
      cases w.conns[j]? <;> simp [h]
    obtain ⟨w', hw', hgone⟩ := gone_cases v w i c hc
    have hk : Undisturbed w w' j := by
      rcases hw' with rfl | ⟨_, k, rfl⟩
      · exact h1
      · exact h1.trans (closeClient_undisturbed _ k j)
    rcases hgone with hgone | hgone <;> rw [hgone] <;> exact hk

theorem gone_isolated (v : Variant) (w : World) (i j : Nat) (h : i ≠ j) (c : Conn)
    (hc : w.conns[i]? = some c) (hk : c.goneKick = none) :
    (gone v w i).conns[j]? = w.conns[j]? := by
  have : (goneCore v w i c).conns[j]? = w.conns[j]? := by
    rw [goneCore_get]
    cases w.conns[j]? <;> simp [h]
  obtain ⟨w', hw', hgone⟩ := gone_cases v w i c hc
  rcases hw' with rfl | ⟨hne, _⟩
  · rcases hgone with hgone | hgone <;> rw [hgone] <;> exact this
  · exact absurd hk hne

theorem closeOthers_undisturbed (w : World) (i j : Nat) (l : List Nat) :
    Undisturbed w (closeOthers w i l) j := by
  induction l generalizing w with
  | nil => exact Undisturbed.refl w j
  | cons k rest ih =>
    unfold closeOthers
    refine Undisturbed.trans ?_ (ih _)
    cases w.conns[k]? with
    | none => exact Undisturbed.refl w j
    | some c =>
      simp only
      split
      · exact closeClient_undisturbed w k j
      · exact Undisturbed.refl w j

theorem setScale_isolated (w : World) (i k j : Nat) (h : i ≠ j) :
    (setScale w i k).conns[j]? = w.conns[j]? := by
  unfold setScale
  simp only
  split
  · rfl
  · cases w.conns[i]? with
    | none => rfl
    | some c => simp only; rw [modConn_get_ne _ _ _ _ h]

theorem openFt_isolated (v : Variant) (w : World) (i j : Nat) (h : i ≠ j) :
    (openFt v w i).conns[j]? = w.conns[j]? := by
  unfold openFt
  cases w.conns[i]? with
  | none => rfl
  | some c => simp only; rw [modConn_get_ne _ _ _ _ h]; split <;> rfl

theorem disableExt_isolated (v : Variant) (w : World) (i j : Nat) (h : i ≠ j) :
    (disableExt v w i).conns[j]? = w.conns[j]? := by
  unfold disableExt
  cases w.conns[i]? with
  | none => rfl
  | some c =>
    simp only
    split
    · exact modConn_get_ne _ _ _ _ h
    · rfl

theorem extInit_isolated (v : Variant) (w : World) (i j : Nat) (h : i ≠ j) :
    (extInit v w i).conns[j]? = w.conns[j]? := by
  unfold extInit
  cases w.conns[i]? with
  | none => rfl
  | some c =>
    simp only
    split
    · split
      · exact disableExt_isolated v _ i j h
      · rfl
    · rfl

/-- apart from a non-shared ClientInit a message of connection `i` does not touch any other record -/
theorem msgEffect_isolated (v : Variant) (w : World) (i j : Nat) (m : Msg) (h : i ≠ j)
    (hm : ∀ sh, m = .init sh → sh = true) :
    (msgEffect v w i m).conns[j]? = w.conns[j]? := by
  cases m with
  | init sh =>
    have := hm sh rfl; subst this
    simp only [msgEffect, if_true]
    rw [modConn_get_ne _ _ _ _ h, extInit_isolated v w i j h]
  | scale k =>
    simp only [msgEffect]
    split
    · exact closeClient_get_ne w i j h
    · exact setScale_isolated w i k j h
  | key =>
    simp only [msgEffect]
    cases (emit w (.kbd i)).conns[i]? with
    | none => rfl
    | some c =>
      simp only
      split
      · exact closeClient_get_ne _ i j h
      · rfl
  | ft => exact openFt_isolated v w i j h
  | ftgo => exact modConn_get_ne _ _ _ _ h
  | auth ok =>
    simp only [msgEffect]
    split
    · exact modConn_get_ne _ _ _ _ h
    · exact closeClient_get_ne w i j h
  | ptr down =>
    simp only [msgEffect]
    cases w.ptrOwner with
    | none => rfl
    | some k => simp only; split <;> rfl
  | ver => exact modConn_get_ne _ _ _ _ h
  | sec => exact modConn_get_ne _ _ _ _ h
  | enc => rfl
  | req => rfl
  | pf => rfl
  | junk => exact closeClient_get_ne w i j h
  | part => exact closeClient_get_ne w i j h
  | eof => exact closeClient_get_ne w i j h

theorem msgEffect_undisturbed (v : Variant) (w : World) (i j : Nat) (m : Msg) (h : i ≠ j) :
    Undisturbed w (msgEffect v w i m) j := by
  by_cases hm : m = .init false
  · subst hm
    have h1 : Undisturbed w (modConn (extInit v w i) i fun c => { c with st := .normal }) j :=
      undisturbed_of_eq (by rw [modConn_get_ne _ _ _ _ h, extInit_isolated v w i j h])
    exact h1.trans (closeOthers_undisturbed _ i j _)
  · exact undisturbed_of_eq (msgEffect_isolated v w i j m h
      (fun sh hsh => by cases sh; exact absurd hsh hm; rfl))

theorem procMsg_at_other (v : Variant) (w : World) (i j : Nat) (x : Fail) (r : Res) (h : i ≠ j) :
    (procMsg v w i x r).conns[j]? = w.conns[j]? ∨
    (x = .none ∧ ∃ w1 m, w1.conns[j]? = w.conns[j]? ∧ procMsg v w i x r = msgEffect v w1 i m) := by
  have hm : ∀ f, (modConn w i f).conns[j]? = w.conns[j]? := fun f => modConn_get_ne _ _ _ _ h
  obtain ⟨w', hp, rfl | ⟨m, rest, w1, rfl, rfl | ⟨k, rfl⟩ | rfl | ⟨hn, rfl⟩⟩⟩ := procMsg_cases v w i x r <;>
    rw [hp]
  · exact Or.inl rfl
  · exact Or.inl (by rw [closeClient_get_ne _ i j h, hm])
  · exact Or.inl (by rw [closeClient_get_ne _ i j h, setScale_isolated _ i k j h, hm])
  · exact Or.inl (by rw [closeClient_get_ne _ i j h, openFt_isolated v _ i j h, hm])
  · exact Or.inr ⟨hn, _, m, by rw [modConn_get_ne _ _ _ _ h, hm], rfl⟩

theorem procMsg_undisturbed (v : Variant) (w : World) (i j : Nat) (x : Fail) (r : Res) (h : i ≠ j) :
    Undisturbed w (procMsg v w i x r) j := by
  rcases procMsg_at_other v w i j x r h with he | ⟨_, w1, m, h1, hp⟩
  · exact undisturbed_of_eq he
  · rw [hp]; exact (undisturbed_of_eq h1).trans (msgEffect_undisturbed v w1 i j m h)

theorem procMsg_failed_isolated (v : Variant) (w : World) (i j : Nat) (x : Fail) (r : Res)
    (h : i ≠ j) (hx : x ≠ .none) : (procMsg v w i x r).conns[j]? = w.conns[j]? := by
  rcases procMsg_at_other v w i j x r h with he | ⟨hn, _⟩
  · exact he
  · exact absurd hn hx

theorem bail_undisturbed (v : Variant) (w0 w : World) (i j : Nat) (hne : i ≠ j)
    (h : Undisturbed w0 w j) : Undisturbed w0 (bail v w i) j := by
  unfold bail
  exact h.trans ((closeClient_undisturbed w _ j).trans (gone_undisturbed v _ _ j hne))

theorem modConn_undisturbed (w0 w : World) (i j : Nat) (f : Conn → Conn) (hne : i ≠ j)
    (h : Undisturbed w0 w j) : Undisturbed w0 (modConn w i f) j :=
  h.trans (undisturbed_of_eq (modConn_get_ne _ _ _ _ hne))

theorem hookStage_undisturbed (v : Variant) (w0 w : World) (i j : Nat) (hk : Hook) (hne : i ≠ j)
    (h : Undisturbed w0 w j) : Undisturbed w0 (hookStage v w i hk) j := by
  unfold hookStage
  have h1 : Undisturbed w0 (emit (modConn w i fun c => { c with hooked := true }) (.hook i hk)) j :=
    modConn_undisturbed w0 w i j _ hne h
  cases hk with
  | accept => exact h1
  | hold => exact modConn_undisturbed w0 _ i j _ hne h1
  | refuse => exact bail_undisturbed v w0 _ i j hne h1

theorem acceptHook_undisturbed (v : Variant) (w0 w : World) (i j : Nat) (hk : Hook) (hne : i ≠ j)
    (h : Undisturbed w0 w j) : Undisturbed w0 (acceptHook v w i hk) j := by
  unfold acceptHook
  apply hookStage_undisturbed v w0 _ i j hk hne
  split
  · exact modConn_undisturbed w0 w i j _ hne h
  · exact h

theorem acceptVersion_undisturbed (v : Variant) (w0 w : World) (i j : Nat) (hk : Hook) (ws : Nat)
    (x : Fail) (hne : i ≠ j) (h : Undisturbed w0 w j) :
    Undisturbed w0 (acceptVersion v w i hk ws x) j := by
  unfold acceptVersion
  have h2 : Undisturbed w0 (if ws > 0 then modConn w i (fun c => { c with wsctx := true }) else w) j := by
    split
    · exact modConn_undisturbed w0 w i j _ hne h
    · exact h
  simp only
  split
  · exact bail_undisturbed v w0 _ i j hne h2
  · exact acceptHook_undisturbed v w0 _ i j hk hne h2

theorem accept_undisturbed (v : Variant) (w : World) (hk : Hook) (ws : Nat) (nb : Bool) (x : Fail)
    (j : Nat) (hj : j < w.conns.length) :
    Undisturbed w (accept v w hk ws nb x) j := by
  have hne : w.conns.length ≠ j := by omega
  have happ : ∀ (c0 : Conn) (w' : World), w'.conns = w.conns ++ [c0] → Undisturbed w w' j := by
    intro c0 w' hw'
    apply undisturbed_of_eq
    rw [hw', List.getElem?_append_left hj]
  unfold accept
  simp only
  split
  · unfold nbFail; exact happ _ _ rfl
  · have h1 : Undisturbed w (wsStage v (spawn (emit w (.new w.conns.length))) w.conns.length ws) j := by
      have hs : Undisturbed w (spawn (emit w (.new w.conns.length))) j := happ {} _ rfl
      unfold wsStage
      split
      · exact modConn_undisturbed w _ _ j _ hne hs
      · exact hs
    split
    · exact bail_undisturbed v w _ _ j hne h1
    · exact acceptVersion_undisturbed v w _ _ j hk ws x hne h1

theorem isOpen_closeClient_le (w : World) (k i : Nat) (h : isOpen (closeClient w k) i = true) :
    isOpen w i = true := by
  cases hk : w.conns[k]? with
  | none => simpa [closeClient, hk] using h
  | some ck =>
    obtain ⟨c', hc', hs'⟩ := (isOpen_iff _ i).mp h
    rw [closeClient_conns w k ck hk, modConn_get] at hc'
    obtain ⟨c0, hw, ⟨rfl, rfl⟩ | ⟨_, rfl⟩⟩ := upd_eq_some hc'
    · unfold closeRec at hs'
      split at hs' <;> simp_all
    · exact (isOpen_iff w i).mpr ⟨c', hw, hs'⟩

theorem isOpen_gone_le (v : Variant) (w : World) (j i : Nat) (h : isOpen (gone v w j) i = true) :
    isOpen w i = true := by
  cases hc : w.conns[j]? with
  | none => simpa [gone, hc] using h
  | some c =>
    have hcore : isOpen (goneCore v w j c) i = true → isOpen w i = true := by
      intro hi
      obtain ⟨c', hc', hs'⟩ := (isOpen_iff _ i).mp hi
      rw [goneCore_get] at hc'
      obtain ⟨c0, hw, ⟨rfl, rfl⟩ | ⟨_, rfl⟩⟩ := upd_eq_some hc'
      · simp [goneRec] at hs'
      · exact (isOpen_iff w i).mpr ⟨c', hw, hs'⟩
    obtain ⟨w', hw', hgone⟩ := gone_cases v w j c hc
    have hk : isOpen w' i = true → isOpen w i = true := by
      rcases hw' with rfl | ⟨_, k, rfl⟩
      · exact hcore
      · exact fun hk => hcore (isOpen_closeClient_le _ k i hk)
    rcases hgone with hgone | hgone <;> rw [hgone] at h <;> exact hk h

theorem reap_list_sub {v : Variant} {w : World} (h : Inv v w) (l : List Nat) :
    ∀ x, x ∈ (reap v w l).list → x ∈ w.list := by
  induction l generalizing w with
  | nil => intro x hx; exact hx
  | cons i rest ih =>
    intro x hx
    unfold reap at hx
    split at hx
    · rename_i hc
      simp only [Bool.and_eq_true, List.contains_iff_mem] at hc
      have := ih (inv_gone h i hc.1) x hx
      rw [gone_list v w i (h.bound i hc.1)] at this
      exact List.mem_of_mem_erase this
    · exact ih h x hx

theorem reap_complete {v : Variant} {w : World} (h : Inv v w) (l : List Nat) (i : Nat)
    (hi : i ∈ l) (hc : isOpen w i = false) : i ∉ (reap v w l).list := by
  induction l generalizing w with
  | nil => cases hi
  | cons j rest ih =>
    have hir : ¬ j = i → i ∈ rest := fun hji =>
      (List.mem_cons.mp hi).resolve_left (fun e => hji e.symm)
    unfold reap
    split
    · rename_i hg
      simp only [Bool.and_eq_true, List.contains_iff_mem] at hg
      have hinv := inv_gone h j hg.1
      by_cases hji : j = i
      · subst hji
        intro hm
        have := reap_list_sub hinv rest _ hm
        rw [gone_list v w j (h.bound j hg.1)] at this
        exact (h.nodup.mem_erase_iff.mp this).1 rfl
      · apply ih hinv (hir hji)
        cases ho : isOpen (gone v w j) i with
        | false => rfl
        | true => rw [isOpen_gone_le v w j i ho] at hc; cases hc
    · rename_i hg
      by_cases hji : j = i
      · subst hji
        intro hm
        have hml := reap_list_sub h rest _ hm
        apply hg
        simp [hml, hc]
      · exact ih h (hir hji) hc

theorem shutdown_list_nil {v : Variant} (hv : v.closedToo = true) {w : World} (h : Inv v w) :
    (shutdown v w).list = [] := by
  rw [shutdown_eq]
  exact sweep_all_gone hv (shutOne v) (fun w i => inv_shutOne w i) (fun w i => shutOne_list w i) h

theorem cleanup_list_nil {v : Variant} (hv : v.closedToo = true) {w : World} (h : Inv v w) :
    (cleanup v w).list = [] := by
  rw [cleanup_eq]
  exact sweep_all_gone hv (cleanOne v) (fun w i => inv_cleanOne w i) (fun w i => cleanOne_list w i) h

end VncModel.Life
