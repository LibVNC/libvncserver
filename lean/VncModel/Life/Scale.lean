import VncModel.Life.Steps

/-! `rfbScalingSetup` (find or allocate the scaled screen, move the client's reference) preserves
the invariant, in particular `refcount = number of clients referencing the screen`. -/
namespace VncModel.Life

theorem mem_addScreen (ss : List Screen) (d : Nat × Nat) (s : Screen) :
    s ∈ addScreen ss d ↔ s ∈ ss ∨ s = ⟨d.1, d.2, 0⟩ := by
  cases ss with
  | nil => simp [addScreen]
  | cons m rest =>
    simp only [addScreen, List.mem_cons]
    constructor
    · rintro (h | h | h)
      · exact Or.inl (Or.inl h)
      · exact Or.inr h
      · exact Or.inl (Or.inr h)
    · rintro ((h | h) | h)
      · exact Or.inl h
      · exact Or.inr (Or.inr h)
      · exact Or.inr (Or.inl h)

theorem hasScreen_iff (ss : List Screen) (e : Nat × Nat) :
    hasScreen ss e = true ↔ ∃ s, s ∈ ss ∧ s.w = e.1 ∧ s.h = e.2 := by
  simp [hasScreen, List.any_eq_true]

theorem hasScreen_addScreen_mono (ss : List Screen) (d e : Nat × Nat)
    (h : hasScreen ss e = true) : hasScreen (addScreen ss d) e = true := by
  rw [hasScreen_iff] at h ⊢
  obtain ⟨s, hs, h1⟩ := h
  exact ⟨s, (mem_addScreen ss d s).mpr (Or.inl hs), h1⟩

theorem hasScreen_addScreen_self (ss : List Screen) (d : Nat × Nat) :
    hasScreen (addScreen ss d) d = true := by
  rw [hasScreen_iff]
  exact ⟨⟨d.1, d.2, 0⟩, (mem_addScreen ss d _).mpr (Or.inr rfl), rfl, rfl⟩

theorem owners_zero {v : Variant} {w : World} (h : Inv v w) (d : Nat × Nat)
    (hd : hasScreen w.screens d = false) : owners w d = 0 := by
  unfold owners
  rw [List.countP_eq_zero]
  intro c hc
  obtain ⟨j, hj⟩ := List.mem_iff_getElem?.mp hc
  intro ho
  simp only [owns, Bool.and_eq_true, beq_iff_eq] at ho
  have := h.scr j c hj ho.1
  rw [ho.2, hd] at this
  cases this

theorem inv_addScreen {v : Variant} {w : World} (h : Inv v w) (d : Nat × Nat)
    (hd : hasScreen w.screens d = false) :
    Inv v { w with screens := addScreen w.screens d } := by
  refine ⟨h.nodup, h.bound, h.live, h.dead, h.counters, ?_, ?_, ?_, h.ptr⟩
  · intro s hs
    rcases (mem_addScreen _ _ _).mp hs with hs | rfl
    · exact h.refs s hs
    · exact (owners_zero h d hd).symm
  · intro j c hc href
    exact hasScreen_addScreen_mono _ _ _ (h.scr j c hc href)
  · exact hasScreen_addScreen_mono _ _ _ h.main

theorem owners_pos (w : World) (i : Nat) (c : Conn) (d : Nat × Nat) (hc : w.conns[i]? = some c)
    (ho : owns d c = true) : 0 < owners w d := by
  unfold owners
  rw [List.countP_pos_iff]
  exact ⟨c, List.mem_iff_getElem?.mpr ⟨i, hc⟩, ho⟩

theorem mem_moveRef (ss : List Screen) (o d : Nat × Nat) (s' : Screen)
    (h : s' ∈ incRef (decRef ss o) d) :
    ∃ s ∈ ss, s'.w = s.w ∧ s'.h = s.h ∧
      s'.refs = (s.refs - (if (s.w == o.1 && s.h == o.2) = true then 1 else 0)) +
        (if (s.w == d.1 && s.h == d.2) = true then 1 else 0) := by
  unfold incRef decRef at h
  obtain ⟨s1, hs1, rfl⟩ := List.mem_map.mp h
  obtain ⟨s, hs, rfl⟩ := List.mem_map.mp hs1
  refine ⟨s, hs, ?_⟩
  by_cases h1 : (s.w == o.1 && s.h == o.2) = true <;> by_cases h2 : (s.w == d.1 && s.h == d.2) = true <;>
    simp [h1, h2]

theorem inv_moveRef {v : Variant} {w : World} (h : Inv v w) (i : Nat) (c : Conn) (d : Nat × Nat)
    (hc : w.conns[i]? = some c) (hi : i ∈ w.list) (hd : hasScreen w.screens d = true) :
    Inv v (modConn { w with screens := incRef (decRef w.screens c.scr) d } i
      (fun c => { c with scr := d })) := by
  have hl := h.live i c hc hi
  have hrefc : c.refHeld = true := hl.2.2.1
  refine ⟨h.nodup, ?_, ?_, ?_, h.counters, ?_, ?_, ?_, h.ptr⟩
  · intro j hj; simpa using h.bound j hj
  · intro j cj hcj hj
    rw [modConn_get] at hcj
    obtain ⟨c0, hw, ⟨rfl, rfl⟩ | ⟨_, rfl⟩⟩ := upd_eq_some hcj
    · exact h.live i c0 hw hj
    · exact h.live j cj hw hj
  · intro j cj hcj hj
    rw [modConn_get] at hcj
    obtain ⟨c0, hw, ⟨rfl, _⟩ | ⟨_, rfl⟩⟩ := upd_eq_some hcj
    · exact absurd hi hj
    · exact h.dead j cj hw hj
  · intro s'' hs''
    simp only [modConn_screens] at hs''
    obtain ⟨s, hs, hw', hh', hrefs'⟩ := mem_moveRef _ _ _ _ hs''
    have hr := h.refs s hs
    rw [hw', hh', hrefs']
    have hcount := owners_modConn { w with screens := incRef (decRef w.screens c.scr) d } i
      (fun c => { c with scr := d }) c (s.w, s.h) hc
    have hold : owns (s.w, s.h) c = (s.w == c.scr.1 && s.h == c.scr.2) := owns_dims s c hrefc
    have hnew : owns (s.w, s.h) { c with scr := d } = (s.w == d.1 && s.h == d.2) :=
      owns_dims s { c with scr := d } hrefc
    rw [hold, hnew] at hcount
    have hown : owners { w with screens := incRef (decRef w.screens c.scr) d } (s.w, s.h)
        = owners w (s.w, s.h) := rfl
    rw [hown] at hcount
    have hpos : (s.w == c.scr.1 && s.h == c.scr.2) = true → 0 < owners w (s.w, s.h) := by
      intro hm; exact owners_pos w i c _ hc (by rw [hold]; exact hm)
    rw [hr]
    by_cases hm1 : (s.w == c.scr.1 && s.h == c.scr.2) = true
    · have := hpos hm1
      rw [if_pos hm1] at hcount ⊢
      omega
    · rw [if_neg hm1] at hcount ⊢
      omega
  · intro j cj hcj href
    simp only [modConn_screens, hasScreen_incRef, hasScreen_decRef]
    rw [modConn_get] at hcj
    obtain ⟨c0, hw, ⟨rfl, rfl⟩ | ⟨_, rfl⟩⟩ := upd_eq_some hcj
    · exact hd
    · exact h.scr j cj hw href
  · simp only [modConn_screens, hasScreen_incRef, hasScreen_decRef]; exact h.main

theorem inv_setScale {v : Variant} {w : World} (h : Inv v w) (i k : Nat) (hi : i ∈ w.list) :
    Inv v (setScale w i k) := by
  unfold setScale
  simp only
  split
  · exact h
  cases hc : w.conns[i]? with
  | none => exact h
  | some c =>
    have hl := h.live i c hc hi
    simp only [hl.2.2.1, if_true]
    by_cases hs : hasScreen w.screens (scaleDims k) = true
    · simp only [hs, if_true]
      exact inv_moveRef h i c _ hc hi hs
    · have hs' : hasScreen w.screens (scaleDims k) = false := by simpa using hs
      simp only [hs', Bool.false_eq_true, if_false]
      have h1 := inv_addScreen h (scaleDims k) hs'
      exact inv_moveRef h1 i c _ hc hi (hasScreen_addScreen_self _ _)

@[simp] theorem setScale_list (w : World) (i k : Nat) : (setScale w i k).list = w.list := by
  unfold setScale; simp only; split
  · rfl
  · cases w.conns[i]? <;> simp

end VncModel.Life
