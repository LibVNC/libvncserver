import VncModel.Life.Teardown

/-! `rfbNewTCPOrUDPClient` preserves the invariant (`inv_accept`).  `inv_append` adds the new record;
the stages after it act on a listed client whose socket is open (`LiveOpen`), on which `wspath` and
`extData` may change as well. -/
namespace VncModel.Life

def LiveOpen (v : Variant) (w : World) (i : Nat) : Prop :=
  Inv v w ∧ i ∈ w.list ∧ isOpen w i = true

theorem liveOpen_modConn {v : Variant} {w : World} {i : Nat} (h : LiveOpen v w i)
    (f : Conn → Conn) (hf : HoldingsOnly f) : LiveOpen v (modConn w i f) i := by
  obtain ⟨hinv, hi, ho⟩ := h
  obtain ⟨c0, hc0, hs0⟩ := (isOpen_iff w i).mp ho
  refine ⟨?_, by simpa using hi, ?_⟩
  · apply inv_modConn hinv
    · intro c hc _ hl
      rw [hc0] at hc; cases hc
      obtain ⟨h1, h2, h3, h4, h5, _⟩ := hf c0
      unfold LiveOk at hl ⊢
      rw [h1, h2, h3, h4, h5]
      refine ⟨hl.1, hl.2.1, hl.2.2.1, hl.2.2.2.1, ?_⟩
      intro hx; rw [hs0] at hx; cases hx
    · intro c _ hn; exact absurd hi hn
    · intro c _; exact ⟨(hf c).2.2.2.2.1, (hf c).2.2.2.2.2⟩
  · rw [isOpen_iff]
    exact ⟨f c0, modConn_get_self w i f c0 hc0, by rw [(hf c0).1]; exact hs0⟩

theorem liveOpen_emit {v : Variant} {w : World} {i : Nat} (h : LiveOpen v w i) (e : Event) :
    LiveOpen v (emit w e) i :=
  ⟨inv_emit h.1 e, h.2.1, h.2.2⟩

theorem mem_incRef (ss : List Screen) (d : Nat × Nat) (s' : Screen) :
    s' ∈ incRef ss d ↔ ∃ s, s ∈ ss ∧
      s' = if s.w == d.1 && s.h == d.2 then { s with refs := s.refs + 1 } else s := by
  unfold incRef
  rw [List.mem_map]
  constructor
  · rintro ⟨s, hs, rfl⟩; exact ⟨s, hs, rfl⟩
  · rintro ⟨s, hs, rfl⟩; exact ⟨s, hs, rfl⟩

theorem getElem?_append_new {α} (l : List α) (a : α) (j : Nat) (c : α)
    (h : (l ++ [a])[j]? = some c) : (j < l.length ∧ l[j]? = some c) ∨ (j = l.length ∧ c = a) := by
  rw [List.getElem?_append] at h
  by_cases hj : j < l.length
  · rw [if_pos hj] at h; exact Or.inl ⟨hj, h⟩
  · simp [hj] at h
    have : j - l.length = 0 := by
      by_cases h0 : j - l.length = 0
      · exact h0
      · rw [List.getElem?_eq_none_iff.mpr (by simp; omega)] at h; cases h
    rw [this] at h; simp at h
    exact Or.inr ⟨by omega, h.symm⟩

theorem inv_append {v : Variant} {w : World} (h : Inv v w) (c0 : Conn) (listed : Bool)
    (hscr : c0.scr = (128, 96)) (hl : listed = true → LiveOk c0) (hd : listed = false → DeadOk v c0) :
    Inv v { w with
      conns := w.conns ++ [c0]
      screens := if c0.refHeld then incRef w.screens (128, 96) else w.screens
      list := if listed then w.conns.length :: w.list else w.list } := by
  have hnew : w.conns.length ∉ w.list := fun hm => Nat.lt_irrefl _ (h.bound _ hm)
  have hmem : ∀ j, j ∈ (if listed then w.conns.length :: w.list else w.list) ↔
      (j = w.conns.length ∧ listed = true) ∨ j ∈ w.list := by
    intro j; cases listed <;> simp
  have hsc : ∀ e, hasScreen (if c0.refHeld then incRef w.screens (128, 96) else w.screens) e =
      hasScreen w.screens e := by
    intro e; split
    · exact hasScreen_incRef _ _ _
    · rfl
  refine ⟨?_, ?_, ?_, ?_, h.counters, ?_, ?_, ?_, ?_⟩
  · cases listed
    · exact h.nodup
    · exact List.nodup_cons.mpr ⟨hnew, h.nodup⟩
  · intro j hj
    simp only [List.length_append, List.length_singleton]
    rcases (hmem j).mp hj with ⟨rfl, _⟩ | hj
    · omega
    · have := h.bound j hj; omega
  · intro j c hc hj
    rcases getElem?_append_new _ _ _ _ hc with ⟨hlt, hold⟩ | ⟨rfl, rfl⟩
    · rcases (hmem j).mp hj with ⟨rfl, _⟩ | hj
      · omega
      · exact h.live j c hold hj
    · rcases (hmem _).mp hj with ⟨_, hli⟩ | hj
      · exact hl hli
      · exact absurd hj hnew
  · intro j c hc hj
    rcases getElem?_append_new _ _ _ _ hc with ⟨_, hold⟩ | ⟨rfl, rfl⟩
    · exact h.dead j c hold (fun hm => hj ((hmem j).mpr (Or.inr hm)))
    · cases hli : listed
      · exact hd hli
      · exact absurd ((hmem _).mpr (Or.inl ⟨rfl, hli⟩)) hj
  · intro s' hs'
    simp only [owners, List.countP_append, List.countP_singleton]
    cases hr : c0.refHeld
    · rw [hr] at hs'
      simp [owns, hr, h.refs s' hs', owners]
    · rw [hr] at hs'
      obtain ⟨s, hs, rfl⟩ := (mem_incRef _ _ _).mp hs'
      have hrs := h.refs s hs
      by_cases hm : (s.w == (128, 96).1 && s.h == (128, 96).2) = true
      · have hd : s.w = 128 ∧ s.h = 96 := by simpa using hm
        simp [owns, hr, hscr, hd.1, hd.2, hrs, owners]
      · have hd : ¬ (s.w = 128 ∧ s.h = 96) := by simpa using hm
        have hno : owns (s.w, s.h) c0 = false := by
          simp only [owns, hscr, Bool.and_eq_false_iff, beq_eq_false_iff_ne, ne_eq, Prod.mk.injEq]
          exact Or.inr (fun hh => hd ⟨hh.1.symm, hh.2.symm⟩)
        simp [hm, hno, hrs, owners]
  · intro j c hc href
    simp only [hsc]
    rcases getElem?_append_new _ _ _ _ hc with ⟨_, hold⟩ | ⟨_, rfl⟩
    · exact h.scr j c hold href
    · rw [hscr]; exact h.main
  · simp only [hsc]; exact h.main
  · intro j hj; exact (hmem j).mpr (Or.inr (h.ptr j hj))

theorem inv_spawn {v : Variant} {w : World} (h : Inv v w) : LiveOpen v (spawn w) w.conns.length :=
  ⟨inv_append h {} true rfl (fun _ => by simp [LiveOk]) (fun hf => by cases hf), by simp [spawn],
    (isOpen_iff _ _).mpr ⟨{}, by simp [spawn], rfl⟩⟩

theorem inv_nbFail {v : Variant} {w : World} (h : Inv v w) : Inv v (nbFail v w) := by
  unfold nbFail
  apply inv_emit; apply inv_emit
  obtain ⟨k1, k2, k3, k4, k5, k6, k7, k8⟩ := h.counters
  cases hv : v.nbFree
  · refine inv_of_same (inv_append h { sockOpen := false, closeCalls := 1 } false rfl
      (fun hf => by cases hf) (fun _ => ⟨rfl, rfl, Or.inr (by simp [hv])⟩)) rfl rfl rfl ?_
    exact ⟨fun hv' => (by rw [hv] at hv'; cases hv'), k2, k3, k4, k5, k6, k7, k8⟩
  · refine inv_of_same (inv_append h { sockOpen := false, closeCalls := 1, refHeld := false, freed := true }
      false rfl (fun hf => by cases hf) (fun _ => ⟨rfl, rfl, Or.inl (by simp [TornDown])⟩)) rfl rfl rfl ?_
    exact ⟨fun _ => k1 hv, k2, k3, k4, k5, k6, k7, k8⟩

theorem liveOpen_wsStage {v : Variant} {w : World} {i : Nat} (h : LiveOpen v w i) (ws : Nat) :
    LiveOpen v (wsStage v w i ws) i := by
  unfold wsStage
  split
  · have h1 := liveOpen_modConn h (fun c => { c with wspath := true }) (by intro c; simp)
    obtain ⟨hinv, hi, ho⟩ := h1
    refine ⟨inv_of_same hinv rfl rfl rfl ?_, hi, ho⟩
    have := hinv.counters
    simp_all +contextual [Counters]
  · exact h

theorem inv_bail {v : Variant} {w : World} {i : Nat} (h : Inv v w) (hi : i ∈ w.list) :
    Inv v (bail v w i) := by
  unfold bail
  apply inv_emit
  exact inv_gone (inv_closeClient h i) i (by simpa using hi)

theorem inv_hookStage {v : Variant} {w : World} {i : Nat} (h : LiveOpen v w i) (hk : Hook) :
    Inv v (hookStage v w i hk) := by
  unfold hookStage
  have h1 := liveOpen_emit (liveOpen_modConn h (fun c => { c with hooked := true }) (by intro c; simp))
    (.hook i hk)
  cases hk with
  | accept => exact inv_emit h1.1 _
  | hold =>
    apply inv_emit
    exact inv_modConn_proto h1.1 i _ (by intro c; simp)
  | refuse => exact inv_bail h1.1 h1.2.1

theorem inv_acceptHook {v : Variant} {w : World} {i : Nat} (h : LiveOpen v w i) (hk : Hook) :
    Inv v (acceptHook v w i hk) := by
  unfold acceptHook
  apply inv_hookStage
  split
  · exact liveOpen_emit (liveOpen_modConn h _ (by intro c; simp)) _
  · exact h

theorem inv_acceptVersion {v : Variant} {w : World} {i : Nat} (h : LiveOpen v w i) (hk : Hook)
    (ws : Nat) (x : Fail) : Inv v (acceptVersion v w i hk ws x) := by
  unfold acceptVersion
  have h2 : LiveOpen v (if ws > 0 then modConn w i (fun c => { c with wsctx := true }) else w) i := by
    split
    · exact liveOpen_modConn h _ (by intro c; simp)
    · exact h
  simp only
  split
  · exact inv_bail h2.1 h2.2.1
  · exact inv_acceptHook h2 hk

theorem inv_accept {v : Variant} {w : World} (h : Inv v w) (hk : Hook) (ws : Nat) (nb : Bool)
    (x : Fail) : Inv v (accept v w hk ws nb x) := by
  unfold accept
  simp only
  have h0 : Inv v (emit w (.new w.conns.length)) := inv_emit h _
  split
  · exact inv_nbFail h0
  · have h1 : LiveOpen v (wsStage v (spawn (emit w (.new w.conns.length))) w.conns.length ws)
        w.conns.length := liveOpen_wsStage (inv_spawn h0) ws
    split
    · exact inv_bail h1.1 h1.2.1
    · exact inv_acceptVersion h1 hk ws x

end VncModel.Life
