import VncModel.Life.Inv

/-! `rfbCloseClient` and `rfbClientConnectionGone` preserve the invariant.  Both are first rewritten as
one record update plus bookkeeping, the event log left existentially quantified (`closeClient_eq`,
`goneCore_eq`: the invariant does not read the log); `gone_cases` splits `gone` into `goneCore`, the
optional `closeClient` by the gone hook and an optional log entry. -/
namespace VncModel.Life

theorem isOpen_iff (w : World) (i : Nat) :
    isOpen w i = true ↔ ∃ c, w.conns[i]? = some c ∧ c.sockOpen = true := by
  unfold isOpen
  cases w.conns[i]? <;> simp

theorem isOpen_false_of (w : World) (i : Nat) (c : Conn) (h : w.conns[i]? = some c)
    (hc : c.sockOpen = false) : isOpen w i = false := by
  simp [isOpen, h, hc]

theorem closeClient_eq (w : World) (i : Nat) (c : Conn) (hc : w.conns[i]? = some c) :
    ∃ log, closeClient w i = { w with conns := w.conns.modify i closeRec, log := log } := by
  unfold closeClient
  simp only [hc]
  cases c.ext1On <;> cases c.sockOpen <;> exact ⟨_, rfl⟩

@[simp] theorem closeClient_list (w : World) (i : Nat) : (closeClient w i).list = w.list := by
  cases hc : w.conns[i]? with
  | none => simp [closeClient, hc]
  | some c => obtain ⟨_, h⟩ := closeClient_eq w i c hc; rw [h]

@[simp] theorem closeClient_length (w : World) (i : Nat) :
    (closeClient w i).conns.length = w.conns.length := by
  cases hc : w.conns[i]? with
  | none => simp [closeClient, hc]
  | some c => obtain ⟨_, h⟩ := closeClient_eq w i c hc; rw [h]; simp

theorem closeClient_conns (w : World) (i : Nat) (c : Conn) (hc : w.conns[i]? = some c) :
    (closeClient w i).conns = (modConn w i closeRec).conns := by
  obtain ⟨_, h⟩ := closeClient_eq w i c hc; rw [h]; rfl

theorem closeClient_get_ne (w : World) (i j : Nat) (h : i ≠ j) :
    (closeClient w i).conns[j]? = w.conns[j]? := by
  cases hc : w.conns[i]? with
  | none => simp [closeClient, hc]
  | some c => rw [closeClient_conns w i c hc]; exact modConn_get_ne _ _ _ _ h

theorem closeClient_get_self (w : World) (i : Nat) (c : Conn) (hc : w.conns[i]? = some c) :
    (closeClient w i).conns[i]? = some (closeRec c) := by
  rw [closeClient_conns w i c hc]; exact modConn_get_self w i closeRec c hc

theorem liveOk_closeRec (c : Conn) (h : LiveOk c) : LiveOk (closeRec c) := by
  unfold closeRec LiveOk
  cases hs : c.sockOpen
  · have := h.2.2.2.2 hs
    simp [h.1, h.2.1, h.2.2.1, this.1, this.2.1]
  · have := h.2.2.2.1 hs
    simp [h.1, h.2.1, h.2.2.1, this]

theorem closeRec_dead (c : Conn) (hs : c.sockOpen = false) (hx : c.extData = false) :
    closeRec c = c := by
  unfold closeRec
  rw [hs]
  simp only [Bool.false_eq_true, if_false]
  cases c
  simp only at hx hs
  subst hx; subst hs
  rfl

theorem deadOk_closeRec (v : Variant) (c : Conn) (h : DeadOk v c) : DeadOk v (closeRec c) := by
  have hx : c.extData = false := by
    rcases h.2.2 with ht | hn
    · exact ht.2.2.2.2.2.2.2.2
    · exact hn.2.2.2.2.2.2.2.2.2.2.2
  rw [closeRec_dead c h.2.1 hx]; exact h

theorem inv_closeClient {v : Variant} {w : World} (h : Inv v w) (i : Nat) :
    Inv v (closeClient w i) := by
  cases hc : w.conns[i]? with
  | none => simpa [closeClient, hc] using h
  | some c0 =>
    have hm : Inv v (modConn w i closeRec) := by
      apply inv_modConn h
      · intro c _ _ hl; exact liveOk_closeRec c hl
      · intro c _ _ hd; exact deadOk_closeRec v c hd
      · intro c _; unfold closeRec; split <;> simp
    obtain ⟨_, he⟩ := closeClient_eq w i c0 hc
    rw [he]
    exact inv_of_same hm rfl rfl rfl hm.counters

theorem hasScreen_decRef (ss : List Screen) (d e : Nat × Nat) :
    hasScreen (decRef ss d) e = hasScreen ss e := by
  unfold hasScreen decRef
  rw [List.any_map]
  congr 1
  funext s
  by_cases hm : s.w = d.1 ∧ s.h = d.2 <;> simp [hm]

theorem hasScreen_incRef (ss : List Screen) (d e : Nat × Nat) :
    hasScreen (incRef ss d) e = hasScreen ss e := by
  unfold hasScreen incRef
  rw [List.any_map]
  congr 1
  funext s
  by_cases hm : s.w = d.1 ∧ s.h = d.2 <;> simp [hm]

theorem owns_dims (s : Screen) (c : Conn) (hr : c.refHeld = true) :
    owns (s.w, s.h) c = (s.w == c.scr.1 && s.h == c.scr.2) := by
  unfold owns
  rw [hr]
  rw [Bool.eq_iff_iff]
  cases hs : c.scr with
  | mk a b =>
    simp only [Bool.true_and, beq_iff_eq, Bool.and_eq_true, Prod.mk.injEq]
    constructor
    · rintro ⟨h1, h2⟩; exact ⟨h1.symm, h2.symm⟩
    · rintro ⟨h1, h2⟩; exact ⟨h1.symm, h2.symm⟩

theorem goneCore_eq (v : Variant) (w : World) (i : Nat) (c : Conn) :
    ∃ log, goneCore v w i c =
      { w with
        conns := w.conns.modify i goneRec
        list := w.list.erase i
        screens := if c.refHeld then decRef w.screens c.scr else w.screens
        wsLostGone := w.wsLostGone + (if c.wspath && !v.goneWspath then 1 else 0)
        stray := w.stray + (if c.ftFd && !v.ftClose then 1 else 0)
        extLost := w.extLost + (if v.extFree then 0 else c.exts)
        extDataLost := w.extDataLost + (if c.extData && !v.goneExtClose then 1 else 0)
        ptrOwner := if w.ptrOwner == some i then none else w.ptrOwner
        log := log } := by
  unfold goneCore
  cases c.sockOpen <;> cases c.hooked <;> exact ⟨_, rfl⟩

theorem goneCore_list (v : Variant) (w : World) (i : Nat) (c : Conn) :
    (goneCore v w i c).list = w.list.erase i := by
  obtain ⟨_, h⟩ := goneCore_eq v w i c; rw [h]

theorem goneCore_length (v : Variant) (w : World) (i : Nat) (c : Conn) :
    (goneCore v w i c).conns.length = w.conns.length := by
  obtain ⟨_, h⟩ := goneCore_eq v w i c; rw [h]; simp

theorem goneCore_get (v : Variant) (w : World) (i : Nat) (c : Conn) (j : Nat) :
    (goneCore v w i c).conns[j]? = (fun a => if i = j then goneRec a else a) <$> w.conns[j]? := by
  obtain ⟨_, h⟩ := goneCore_eq v w i c; rw [h]; simp [List.getElem?_modify]

theorem goneCore_screens (v : Variant) (w : World) (i : Nat) (c : Conn) :
    (goneCore v w i c).screens = if c.refHeld then decRef w.screens c.scr else w.screens := by
  obtain ⟨_, h⟩ := goneCore_eq v w i c; rw [h]

theorem goneCore_counters (v : Variant) (w : World) (i : Nat) (c : Conn) :
    (goneCore v w i c).nbLost = w.nbLost ∧ (goneCore v w i c).recLost = w.recLost ∧
    (goneCore v w i c).shutLeft = w.shutLeft ∧ (goneCore v w i c).wsLostHs = w.wsLostHs ∧
    (goneCore v w i c).wsLostGone = w.wsLostGone + (if c.wspath && !v.goneWspath then 1 else 0) ∧
    (goneCore v w i c).stray = w.stray + (if c.ftFd && !v.ftClose then 1 else 0) ∧
    (goneCore v w i c).extLost = w.extLost + (if v.extFree then 0 else c.exts) ∧
    (goneCore v w i c).extDataLost = w.extDataLost + (if c.extData && !v.goneExtClose then 1 else 0) ∧
    (goneCore v w i c).ptrOwner = (if w.ptrOwner == some i then none else w.ptrOwner) ∧
    (goneCore v w i c).extNodeLost = w.extNodeLost := by
  obtain ⟨_, h⟩ := goneCore_eq v w i c; rw [h]; simp

theorem owners_goneCore (v : Variant) (w : World) (i : Nat) (c : Conn) (d : Nat × Nat)
    (hc : w.conns[i]? = some c) :
    owners (goneCore v w i c) d + (if owns d c then 1 else 0) = owners w d := by
  obtain ⟨_, h1⟩ := goneCore_eq v w i c
  have := countP_modify (owns d) w.conns i goneRec c hc
  have h2 : owns d (goneRec c) = false := by simp [owns, goneRec]
  rw [h2] at this
  simpa [owners, h1] using this

theorem inv_goneCore {v : Variant} {w : World} (h : Inv v w) (i : Nat) (c : Conn)
    (hc : w.conns[i]? = some c) (hi : i ∈ w.list) : Inv v (goneCore v w i c) := by
  have hl := h.live i c hc hi
  have hmem : ∀ j, j ∈ (goneCore v w i c).list ↔ j ≠ i ∧ j ∈ w.list := by
    intro j; rw [goneCore_list]; exact h.nodup.mem_erase_iff
  refine ⟨?_, ?_, ?_, ?_, ?_, ?_, ?_, ?_, ?_⟩
  · rw [goneCore_list]; exact h.nodup.erase i
  · intro j hj; rw [goneCore_length]; exact h.bound j ((hmem j).mp hj).2
  · intro j cj hcj hj
    obtain ⟨hne, hjl⟩ := (hmem j).mp hj
    rw [goneCore_get] at hcj
    obtain ⟨c0, hw, ⟨rfl, _⟩ | ⟨_, rfl⟩⟩ := upd_eq_some hcj
    · exact absurd rfl hne
    · exact h.live j cj hw hjl
  · intro j cj hcj hj
    rw [goneCore_get] at hcj
    obtain ⟨c0, hw, ⟨rfl, rfl⟩ | ⟨hij, rfl⟩⟩ := upd_eq_some hcj
    · rw [hc] at hw; cases hw
      refine ⟨?_, by simp [goneRec], Or.inl ?_⟩
      · by_cases hs : c.sockOpen = true
        · simp [goneRec, hs, hl.2.2.2.1 hs]
        · have hs' : c.sockOpen = false := by simpa using hs
          simp [goneRec, hs', (hl.2.2.2.2 hs').1]
      · simp [TornDown, goneRec, hl.1]
    · exact h.dead j cj hw (fun hjl => hj ((hmem j).mpr ⟨Ne.symm hij, hjl⟩))
  · obtain ⟨_, he⟩ := goneCore_eq v w i c
    have := h.counters
    rw [he]
    simp_all +contextual [Counters]
  · intro s hs
    rw [goneCore_screens, hl.2.2.1] at hs
    simp only [if_true] at hs
    unfold decRef at hs
    obtain ⟨s0, hs0, rfl⟩ := List.mem_map.mp hs
    have hcount := owners_goneCore v w i c (s0.w, s0.h) hc
    have hr := h.refs s0 hs0
    rw [owns_dims s0 c hl.2.2.1] at hcount
    by_cases hm : (s0.w == c.scr.1 && s0.h == c.scr.2) = true
    · simp only [hm, if_true] at hcount ⊢
      simp only [hr]; omega
    · simp only [hm] at hcount ⊢
      simp at hcount
      simp only [Bool.false_eq_true, if_false, hr]; omega
  · intro j cj hcj href
    rw [goneCore_get] at hcj
    rw [goneCore_screens, hl.2.2.1]
    simp only [if_true, hasScreen_decRef]
    obtain ⟨c0, hw, ⟨rfl, rfl⟩ | ⟨_, rfl⟩⟩ := upd_eq_some hcj
    · simp [goneRec] at href
    · exact h.scr j cj hw href
  · rw [goneCore_screens, hl.2.2.1]; simp only [if_true, hasScreen_decRef]; exact h.main
  · intro j hj
    rw [(goneCore_counters v w i c).2.2.2.2.2.2.2.2.1] at hj
    by_cases hp : w.ptrOwner = some i
    · simp [hp] at hj
    · have hne : (w.ptrOwner == some i) = false := by simpa using hp
      rw [hne] at hj
      simp only [Bool.false_eq_true, if_false] at hj
      have hjl := h.ptr j hj
      refine (hmem j).mpr ⟨?_, hjl⟩
      intro hji; subst hji; exact hp hj

theorem gone_cases (v : Variant) (w : World) (i : Nat) (c : Conn) (hc : w.conns[i]? = some c) :
    ∃ w', (w' = goneCore v w i c ∨ (c.goneKick ≠ none ∧ ∃ k, w' = closeClient (goneCore v w i c) k)) ∧
      (gone v w i = w' ∨ gone v w i = emit w' (.xclose i true)) := by
  unfold gone
  simp only [hc]
  cases c.goneKick with
  | none => exact ⟨goneCore v w i c, Or.inl rfl, by split; exact Or.inr rfl; exact Or.inl rfl⟩
  | some k =>
    simp only
    by_cases hk : (c.hooked && appKnows (goneCore v w i c) k) = true
    · rw [if_pos hk]
      exact ⟨closeClient (goneCore v w i c) k, Or.inr ⟨by simp, k, rfl⟩,
        by split; exact Or.inr rfl; exact Or.inl rfl⟩
    · rw [if_neg hk]
      exact ⟨goneCore v w i c, Or.inl rfl, by split; exact Or.inr rfl; exact Or.inl rfl⟩

theorem inv_gone {v : Variant} {w : World} (h : Inv v w) (i : Nat) (hi : i ∈ w.list) :
    Inv v (gone v w i) := by
  cases hc : w.conns[i]? with
  | none => simpa [gone, hc] using h
  | some c =>
    have hg := inv_goneCore h i c hc hi
    obtain ⟨w', hw', hgone⟩ := gone_cases v w i c hc
    have hk : Inv v w' := by
      rcases hw' with rfl | ⟨_, k, rfl⟩
      · exact hg
      · exact inv_closeClient hg k
    rcases hgone with hgone | hgone <;> rw [hgone]
    · exact hk
    · exact inv_emit hk _

theorem gone_list (v : Variant) (w : World) (i : Nat) (hb : i < w.conns.length) :
    (gone v w i).list = w.list.erase i := by
  cases hc : w.conns[i]? with
  | none => rw [List.getElem?_eq_none_iff] at hc; omega
  | some c =>
    obtain ⟨w', hw', hgone⟩ := gone_cases v w i c hc
    have : w'.list = w.list.erase i := by
      rcases hw' with rfl | ⟨_, k, rfl⟩
      · exact goneCore_list v w i c
      · rw [closeClient_list]; exact goneCore_list v w i c
    rcases hgone with hgone | hgone <;> rw [hgone] <;> exact this

theorem gone_length (v : Variant) (w : World) (i : Nat) :
    (gone v w i).conns.length = w.conns.length := by
  cases hc : w.conns[i]? with
  | none => simp [gone, hc]
  | some c =>
    obtain ⟨w', hw', hgone⟩ := gone_cases v w i c hc
    have : w'.conns.length = w.conns.length := by
      rcases hw' with rfl | ⟨_, k, rfl⟩
      · exact goneCore_length v w i c
      · rw [closeClient_length]; exact goneCore_length v w i c
    rcases hgone with hgone | hgone <;> rw [hgone] <;> exact this

end VncModel.Life
