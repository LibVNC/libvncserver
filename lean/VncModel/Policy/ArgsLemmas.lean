import VncModel.Policy.Args
import VncModel.Policy.Lemmas
/-! Helper lemmas for the argument-loop model and the arrival (origin) view of the client list.
Property statements live in Props/C14.lean. -/
namespace VncModel.Policy
open VncModel.Gen.C14

theorem argNames_distinct : argAlwaysShared ≠ argNeverShared ∧ argAlwaysShared ≠ argDontDisconnect ∧
    argNeverShared ≠ argDontDisconnect := by decide

/-- rests on the three flag names being distinct -/
theorem setFlag_eq (cfg : Cfg) (a : String) :
    setFlag cfg a = ⟨cfg.always || a == argAlwaysShared, cfg.never || a == argNeverShared,
      cfg.dont || a == argDontDisconnect⟩ := by
  obtain ⟨d1, d2, d3⟩ := argNames_distinct
  cases cfg
  unfold setFlag
  by_cases h1 : a = argAlwaysShared
  · subst h1; simp [d1, d2]
  · by_cases h2 : a = argNeverShared
    · subst h2; simp [h1, d3]
    · by_cases h3 : a = argDontDisconnect
      · subst h3; simp [h1, h2]
      · simp [h1, h2, h3]

def isFlag (name : String) : Seg → Bool
  | .flag a => a == name
  | _ => false

theorem foldl_applySeg (segs : List Seg) (cfg : Cfg) :
    segs.foldl applySeg cfg =
      ⟨cfg.always || segs.any (isFlag argAlwaysShared), cfg.never || segs.any (isFlag argNeverShared),
        cfg.dont || segs.any (isFlag argDontDisconnect)⟩ := by
  induction segs generalizing cfg with
  | nil => simp
  | cons s ss ih =>
    rw [List.foldl_cons, ih]
    cases s <;> simp [applySeg, isFlag, setFlag_eq, Bool.or_assoc]

/-! ### arrivals: where a client record comes from -/

inductive Ev where
  | inbound (id : Nat)            -- accepted on the listening socket (rfbNewClientConnection)
  | reverseOk (id : Nat)          -- rfbReverseConnection succeeded
  | reverseFailed (id : Nat)      -- rfbReverseConnection failed: connect() error or the new-client hook refused
  | init (id : Nat) (shared : Bool)
  | peerClose (id : Nat)
  | reap
  deriving Repr

def Ev.ops : Ev → List Op
  | .inbound id => [.connect id false]
  | .reverseOk id => [.connect id true]
  | .reverseFailed _ => []
  | .init id sh => [.init id sh]
  | .peerClose id => [.peerClose id]
  | .reap => [.reap]

def opsOf (evs : List Ev) : List Op := evs.flatMap Ev.ops

def inboundIds : List Ev → List Nat
  | [] => []
  | .inbound id :: es => id :: inboundIds es
  | _ :: es => inboundIds es

def reverseIds : List Ev → List Nat
  | [] => []
  | .reverseOk id :: es => id :: reverseIds es
  | _ :: es => reverseIds es

theorem reverseIds_append (a b : List Ev) : reverseIds (a ++ b) = reverseIds a ++ reverseIds b := by
  induction a with
  | nil => rfl
  | cons e es ih => cases e <;> simp [reverseIds, ih]

theorem inboundIds_append (a b : List Ev) : inboundIds (a ++ b) = inboundIds a ++ inboundIds b := by
  induction a with
  | nil => rfl
  | cons e es ih => cases e <;> simp [inboundIds, ih]

theorem connect_mem_opsOf (evs : List Ev) (i : Nat) (r : Bool) (h : Op.connect i r ∈ opsOf evs) :
    (r = true → i ∈ reverseIds evs) ∧ (r = false → i ∈ inboundIds evs) := by
  induction evs with
  | nil => cases h
  | cons e es ih =>
    rw [opsOf, List.flatMap_cons, List.mem_append] at h
    rcases h with h | h
    · cases e <;> simp only [Ev.ops, List.mem_singleton, List.mem_nil_iff, Op.connect.injEq, reduceCtorEq] at h
      all_goals obtain ⟨rfl, rfl⟩ := h
      all_goals simp [reverseIds, inboundIds]
    · have := ih h
      cases e <;> simp only [reverseIds, inboundIds, List.mem_cons] <;>
        exact ⟨fun hr => by simp [this.1 hr], fun hr => by simp [this.2 hr]⟩

end VncModel.Policy
