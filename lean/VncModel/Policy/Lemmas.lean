import VncModel.Policy.Model
/-! Helper lemmas for the session-policy model (property statements live in Props/C14.lean). -/
namespace VncModel.Policy

def ids (cs : List Client) : List Nat := cs.map (·.id)

/-- predicate "fully connected inbound client" -/
def served (c : Client) : Bool := c.isOpen && c.st == .normal && !c.reverse

theorem servedInbound_eq (cs : List Client) : servedInbound cs = cs.filter served := rfl

theorem countP_id_le_one (cs : List Client) (i : Nat) (h : (ids cs).Nodup) :
    cs.countP (fun c => c.id == i) ≤ 1 := by
  have h1 := List.nodup_iff_count.mp h i
  rwa [ids, List.count, List.countP_map] at h1

theorem countP_le_of_imp {α} (p q : α → Bool) (l : List α) (h : ∀ a ∈ l, p a = true → q a = true) :
    l.countP p ≤ l.countP q := List.countP_mono_left h

theorem countP_map_le (cs : List Client) (f : Client → Client) (p q : Client → Bool)
    (h : ∀ c ∈ cs, p (f c) = true → q c = true) : (cs.map f).countP p ≤ cs.countP q := by
  rw [List.countP_map]; exact List.countP_mono_left h

theorem ids_map_keep (cs : List Client) (f : Client → Client) (hf : ∀ c, (f c).id = c.id) :
    ids (cs.map f) = ids cs := by
  simp [ids, List.map_map, Function.comp_def, hf]

theorem find_mem (cs : List Client) (i : Nat) (me : Client)
    (hf : cs.find? (fun c => c.id == i) = some me) : me ∈ cs ∧ me.id = i :=
  ⟨List.mem_of_find?_eq_some hf, by simpa using List.find?_some hf⟩

theorem eq_of_find_nodup (cs : List Client) (i : Nat) (me : Client) (hn : (ids cs).Nodup)
    (hf : cs.find? (fun c => c.id == i) = some me) : ∀ c ∈ cs, c.id = i → c = me := by
  intro c hc hci
  obtain ⟨hme, hmi⟩ := find_mem cs i me hf
  have h : cs.Pairwise fun a b => a.id ≠ b.id := List.pairwise_map.mp hn
  exact List.Pairwise.forall_of_forall_of_flip (R := fun a b => a.id = b.id → a = b)
    (fun _ _ _ => rfl) (h.imp fun hne e => absurd e hne) (h.imp fun hne e => absurd e.symm hne)
    hc hme (hci.trans hmi.symm)

/-- `f` changes neither who a client is nor how it arrived -/
def KeepsOrigin (f : Client → Client) : Prop := ∀ c, (f c).id = c.id ∧ (f c).reverse = c.reverse

theorem KeepsOrigin.ite (p : Client → Bool) {g : Client → Client} (hg : KeepsOrigin g) :
    KeepsOrigin fun c => if p c then g c else c := by
  intro c
  show (if p c then g c else c).id = c.id ∧ (if p c then g c else c).reverse = c.reverse
  split
  · exact hg c
  · exact ⟨rfl, rfl⟩

theorem KeepsOrigin.comp {f g : Client → Client} (hf : KeepsOrigin f) (hg : KeepsOrigin g) :
    KeepsOrigin (f ∘ g) :=
  fun c => ⟨(hf (g c)).1.trans (hg c).1, (hf (g c)).2.trans (hg c).2⟩

theorem clientInit_eq_map (cfg : Cfg) (cs : List Client) (i : Nat) (sh : Bool) :
    ∃ f : Client → Client, KeepsOrigin f ∧ clientInit cfg cs i sh = cs.map f := by
  have hid : KeepsOrigin id := fun _ => ⟨rfl, rfl⟩
  have hnorm : KeepsOrigin fun c => if c.id == i then { c with st := .normal } else c :=
    .ite _ (g := fun c => { c with st := .normal }) fun _ => ⟨rfl, rfl⟩
  have hclose : KeepsOrigin closeClient := fun _ => ⟨rfl, rfl⟩
  fun_cases clientInit cfg cs i sh
  · exact ⟨id, hid, (List.map_id _).symm⟩
  · exact ⟨id, hid, (List.map_id _).symm⟩
  · exact ⟨_, (hclose.ite _).comp hnorm, List.map_map⟩
  · exact ⟨_, hnorm, rfl⟩
  · exact ⟨_, (hclose.ite _).comp hnorm, List.map_map⟩
  · exact ⟨_, hnorm, rfl⟩

theorem step_origin (cfg : Cfg) (cs : List Client) (op : Op) (c : Client)
    (hc : c ∈ step cfg cs op) :
    (∃ c0 ∈ cs, c0.id = c.id ∧ c0.reverse = c.reverse) ∨ op = .connect c.id c.reverse := by
  cases op with
  | connect id rev =>
    simp only [step] at hc
    split at hc
    · exact Or.inl ⟨c, hc, rfl, rfl⟩
    · rcases List.mem_cons.mp hc with rfl | h
      · exact Or.inr rfl
      · exact Or.inl ⟨c, h, rfl, rfl⟩
  | init i sh =>
    obtain ⟨f, hf, he⟩ := clientInit_eq_map cfg cs i sh
    simp only [step, he, List.mem_map] at hc
    obtain ⟨c0, h0, rfl⟩ := hc
    exact Or.inl ⟨c0, h0, (hf c0).1.symm, (hf c0).2.symm⟩
  | peerClose id =>
    have hf : KeepsOrigin fun c => if c.id == id then closeClient c else c :=
      .ite _ fun _ => ⟨rfl, rfl⟩
    simp only [step, List.mem_map] at hc
    obtain ⟨c0, h0, rfl⟩ := hc
    exact Or.inl ⟨c0, h0, (hf c0).1.symm, (hf c0).2.symm⟩
  | reap =>
    simp only [step] at hc
    exact Or.inl ⟨c, (List.mem_filter.mp hc).1, rfl, rfl⟩

theorem run_origin (cfg : Cfg) (ops : List Op) : ∀ (cs : List Client) (c : Client),
    c ∈ run cfg cs ops →
      (∃ c0 ∈ cs, c0.id = c.id ∧ c0.reverse = c.reverse) ∨ Op.connect c.id c.reverse ∈ ops := by
  induction ops with
  | nil => intro cs c hc; exact .inl ⟨c, hc, rfl, rfl⟩
  | cons op ops ih =>
    intro cs c hc
    rcases ih (step cfg cs op) c hc with ⟨c1, h1, hid, hrv⟩ | h
    · rcases step_origin cfg cs op c1 h1 with ⟨c0, h0, hid0, hrv0⟩ | heq
      · exact .inl ⟨c0, h0, hid0.trans hid, hrv0.trans hrv⟩
      · exact .inr (hid ▸ hrv ▸ heq ▸ List.mem_cons_self ..)
    · exact .inr (List.mem_cons_of_mem _ h)

/-- ids stay distinct: `connect` refuses an id that is present, nothing else adds a record -/
theorem step_ids_nodup (cfg : Cfg) (cs : List Client) (op : Op) (h : (ids cs).Nodup) :
    (ids (step cfg cs op)).Nodup := by
  cases op with
  | connect id rev =>
    simp only [step]
    split
    · exact h
    · next hex =>
      refine List.nodup_cons.mpr ⟨fun hmem => hex ?_, h⟩
      obtain ⟨c, hc, hci⟩ := List.mem_map.mp hmem
      exact List.any_eq_true.mpr ⟨c, hc, by simp [hci]⟩
  | init i sh =>
    obtain ⟨f, hf, he⟩ := clientInit_eq_map cfg cs i sh
    rw [step, he, ids_map_keep cs f fun c => (hf c).1]
    exact h
  | peerClose id =>
    rw [step, ids_map_keep cs _ fun c => by split <;> rfl]
    exact h
  | reap => exact h.sublist (List.filter_sublist.map _)

end VncModel.Policy
