import VncModel.Enc.HextileProofs
import VncModel.Enc.Containers
import VncModel.Enc.ChoiceTiles
import VncModel.Enc.SplitProofs
import VncModel.Enc.HextileBuf
import VncModel.Enc.Pack24
import VncModel.Enc.TightSearch
import VncModel.Enc.Session
import VncModel.Gen.C01
/-!
# C01 — Lossless encodings reproduce the server framebuffer pixel-exactly

Property theorems only; models and lemmas live in `VncModel/Enc/*`.

* **Specification side** (`Enc/Spec.lean`): decoders written from the RFB rules alone (Raw, RRE,
  CoRRE, Hextile, ZRLE/TRLE tiles, Zlib/ZRLE/Ultra containers, Tight).  A pixel is the natural
  number of its `bytespp` wire bytes; a rectangle is its row-major pixel list.
* **Reference encoders** (`Enc/Choice*.lean`): `encodeWith choices P` for RRE, CoRRE, Hextile and
  ZRLE tiles — theorems `decode_encodeWith_*` below hold for ALL choices, pixel arrays, geometries.
* **Faithful server models** (`Enc/Server.lean`, `Enc/UpdateBuf.lean`): `rfbSendRectEncodingRaw`
  with the `updateBuf` batching, `subrectEncode##bpp` of rre.c/corre.c/hextile.c (both candidate
  rectangles, tie-break, size test, in-place marking), `getBgColour`, `testColours`, the Hextile
  tile loop with `validBg/validFg`, raw-tile fallback and flag byte, `ZRLE_ENCODE_TILE` (run
  statistics, palette with its size-127 quirk, mode choice, RLE / packed / raw emission, CPIXEL).
  Every run the models are compared byte for byte with the real encoders (vlib/props/c01.py).
  Theorems `server_*_decodes`: what the model emits decodes, by the specification decoder, to
  exactly the input pixels — for every pixel array and geometry.
* zlib is a parameter (`ZLaw`: assumed law of a deflate/inflate stream pair in sync);
  `zlib_sequence_decodes` composes any number of rectangles/updates on one connection.

The bit packing of packed-palette rows is proved in `Enc/PackProofs.lean`.

Tight without JPEG (`Enc/Tight.lean`, `TightProofs`, `TightDecode`, `Pack24`, `TightSplit`,
`TightSearch`): faithful model of `SendSubrect` (`FillPalette`/`PaletteInsert`, solid / mono / indexed /
full colour, `Pack24`, `CompressData` with the < 12 bytes rule and the level-0 "no zlib" control value,
compact length, stream ids), of `SendRectSimple`, and of the solid-area search; theorems
`server_tight_subrect_decodes`, `tpixel_law_plain`, `tpixel_law_pack24`, `tight_simple_split_tiles`,
`tight_plan_tiles`, `tight_plan_fills_are_solid`, `tight_fill_piece_decodes`.

NOT covered by any theorem (validated per run only, see `partial` in the evidence):
* TightPng's PNG rectangles, Tight-JPEG, ZYWRLE, and the LZO / zlib / JPEG / PNG codecs themselves
  (parameters with explicit laws `ZLaw`, `LzoLaw`).
* The faithful solid-area search (`tightRect`) is compared with the wire on every run; it is not
  proved to be an instance of `planPieces` — instead `tight_plan_tiles` / `tight_plan_fills_are_solid`
  hold for EVERY outcome such a search can have.
* ZRLE's CPIXEL rule: the models use the rule of the code (`serverCPix`, no depth test); the RFC's
  rule is `Spec.PixFmt.cpix` (known finding `cpixel-depth`).
-/
namespace VncModel.Props.C01
open VncModel.Enc VncModel.Enc.Spec VncModel.Enc.Server

/-! ## constants of the C code the models hard-wire (regenerated from /repo on every run) -/

theorem consts_match_code :
    VncModel.Gen.C01.hextileTile = 16 ∧
    VncModel.Gen.C01.rfbZRLETileWidth = 64 ∧ VncModel.Gen.C01.rfbZRLETileHeight = 64 ∧
    VncModel.Gen.C01.ZRLE_PALETTE_MAX_SIZE = 127 ∧
    VncModel.Gen.C01.bitsPerPackedPixelTable = [0, 1, 2, 2, 4, 4, 4, 4, 4, 4, 4, 4, 4, 4, 4, 4] ∧
    VncModel.Gen.C01.TIGHT_MIN_TO_COMPRESS = tightMinToCompress ∧
    12 ≤ VncModel.Gen.C01.UPDATE_BUF_SIZE := by decide

theorem consts_match_code_sizes :
    VncModel.Gen.C01.sz_rfbFramebufferUpdateRectHeader = 12 ∧
    VncModel.Gen.C01.sz_rfbRectangle = 8 ∧ VncModel.Gen.C01.sz_rfbCoRRERectangle = 4 ∧
    VncModel.Gen.C01.sz_rfbRREHeader = 4 ∧ VncModel.Gen.C01.sz_rfbZlibHeader = 4 ∧
    VncModel.Gen.C01.sz_rfbZRLEHeader = 4 ∧
    VncModel.Gen.C01.rfbHextileRaw = 1 ∧ VncModel.Gen.C01.rfbHextileBackgroundSpecified = 2 ∧
    VncModel.Gen.C01.rfbHextileForegroundSpecified = 4 ∧ VncModel.Gen.C01.rfbHextileAnySubrects = 8 ∧
    VncModel.Gen.C01.rfbHextileSubrectsColoured = 16 ∧
    VncModel.Gen.C01.hextilePackXY_3_5 = 3 * 16 + 5 ∧ VncModel.Gen.C01.hextilePackWH_3_5 = 2 * 16 + 4 := by
  decide

theorem consts_match_code_encodings :
    VncModel.Gen.C01.rfbEncodingRaw = encRaw ∧ VncModel.Gen.C01.rfbEncodingRRE = encRRE ∧
    VncModel.Gen.C01.rfbEncodingCoRRE = encCoRRE ∧ VncModel.Gen.C01.rfbEncodingHextile = encHextile ∧
    VncModel.Gen.C01.rfbEncodingZlib = encZlib ∧ VncModel.Gen.C01.rfbEncodingTight = encTight ∧
    VncModel.Gen.C01.rfbEncodingUltra = encUltra ∧ VncModel.Gen.C01.rfbEncodingZRLE = encZRLE ∧
    VncModel.Gen.C01.rfbEncodingTightPng = encTightPng ∧
    VncModel.Gen.C01.rfbEncodingLastRect = encLastRect := by decide

theorem consts_match_code_tight :
    VncModel.Gen.C01.TIGHT_MAX_RECT_SIZE = tightMaxSize ∧ VncModel.Gen.C01.TIGHT_MAX_RECT_WIDTH = tightMaxW ∧
    VncModel.Gen.C01.MIN_SPLIT_RECT_SIZE = 4096 ∧ VncModel.Gen.C01.MIN_SOLID_SUBRECT_SIZE = 2048 ∧
    VncModel.Gen.C01.MAX_SPLIT_TILE_SIZE = 16 ∧
    VncModel.Gen.C01.tightConfRows = [[6, 0, 0, 0, 4, 24], [32, 1, 1, 1, 96, 24]] ∧
    tightConfOf true = ⟨6, 0, 0, 0, 4⟩ ∧ tightConfOf false = ⟨32, 1, 1, 1, 96⟩ ∧
    VncModel.Gen.C01.rfbTightFill = 8 ∧ VncModel.Gen.C01.rfbTightNoZlib = 10 ∧
    VncModel.Gen.C01.rfbTightExplicitFilter = 4 ∧ VncModel.Gen.C01.rfbTightFilterPalette = 1 := by decide

/-! ## Raw and the `updateBuf` flush discipline -/

/-- Raw: the translated pixel bytes decode to the pixels. -/
theorem raw_decodes (g : Geometry) (bpp : Nat) (px : List Pixel) (rest : Bytes)
    (hlen : px.length = g.w * g.h) (hpx : ∀ p ∈ px, PixOK bpp p) :
    decodeRaw g bpp (pixelsBytes bpp px ++ rest) = some (px, rest) := by
  unfold decodeRaw; rw [← hlen]; exact readPixels_pixelsBytes bpp px rest hpx

/-- `flush_transparent`, Raw: model of `rfbSendRectEncodingRaw`'s line batching.  Whatever is pending
in `updateBuf`, the peer receives header ++ all lines in order; `ublen ≤ UPDATE_BUF_SIZE` throughout.
The hypothesis `bpl ≤ UPDATE_BUF_SIZE` is a real guard of the code (otherwise the client is closed). -/
theorem raw_flush_transparent (hdr : Bytes) (bpl : Nat) (rows : List Bytes) (u : UB)
    (hh : hdr.length = 12) (hb : 0 < bpl) (hbl : bpl ≤ UBS)
    (hrows : ∀ r ∈ rows, r.length = bpl) (hne : rows ≠ []) (hu : u.ublen ≤ UBS) :
    ∃ u', sendRaw hdr bpl rows u = some u' ∧ u'.stream = u.stream ++ hdr ++ rows.flatten ∧
      u'.ublen ≤ UBS :=
  sendRaw_spec hdr bpl rows u hh hb hbl hrows hne hu

/-- `flush_transparent`, the `afterEncBuf` copy loop of rre.c / corre.c / zlib.c / zrle.c / ultra.c:
the stream grows by exactly the data, wherever the buffer happens to fill up. -/
theorem copy_flush_transparent (data : Bytes) (u : UB) (hu : u.ublen ≤ UBS) :
    (copyLoop (data.length + 1) data u).stream = u.stream ++ data ∧
      (copyLoop (data.length + 1) data u).ublen ≤ UBS :=
  copyLoop_spec (data.length + 1) data u hu (by split <;> omega)

/-! ## faithful server models decode to the input -/

/-- RRE: whenever the model of `rfbSendRectEncodingRRE` emits RRE (it returns `none` exactly when the
code falls back to Raw, covered by `raw_decodes`), the payload decodes to the rectangle. -/
theorem server_rre_decodes (bpp : Nat) (g : Geometry) (px : List Pixel) (rest bytes : Bytes)
    (hb : 1 ≤ bpp) (hlen : px.length = g.w * g.h) (hpx : ∀ p ∈ px, PixOK bpp p)
    (hw : g.w < 65536) (hh : g.h < 65536) (hres : serverRRE bpp g px = some bytes) :
    decodeRRE g bpp (bytes ++ rest) = some (px, rest) :=
  rreEncode_decodes 8 bpp g px rest bytes hb hlen hpx hw hh (geomCodec16 hw hh) hres

/-- CoRRE (one piece of at most 255 × 255 after `rfbSendRectEncodingCoRRE`'s splitting). -/
theorem server_corre_decodes (bpp : Nat) (g : Geometry) (px : List Pixel) (rest bytes : Bytes)
    (hb : 1 ≤ bpp) (hlen : px.length = g.w * g.h) (hpx : ∀ p ∈ px, PixOK bpp p)
    (hw : g.w < 256) (hh : g.h < 256) (hres : serverCoRRE bpp g px = some bytes) :
    decodeCoRRE g bpp (bytes ++ rest) = some (px, rest) :=
  rreEncode_decodes 4 bpp g px rest bytes hb hlen hpx (by omega) (by omega) (geomCodec8 hw hh) hres

/-- the pieces `rfbSendRectEncodingCoRRE` produces are at most `correMaxWidth × correMaxHeight`, so
with the library's limits (≤ 255) `server_corre_decodes` applies to each of them -/
theorem corre_pieces_small (mw mh f x y w h : Nat) :
    ∀ r ∈ correSplit mw mh f x y w h, r.w ≤ mw ∧ r.h ≤ mh :=
  correSplit_small mw mh f x y w h

/-- the engine room of RRE/CoRRE/Hextile: `subrectEncode` of the C code, for every array, size,
background: painting what it emits over the background gives back the input; every sub-rectangle is
inside, non-empty, coloured with an input colour ≠ background; fewer than `w*h` of them when the
background occurs in the input; the reported length passed the size test. -/
theorem subrectEncode_correct (w h : Nat) (bg : Pixel) (ssz limit len0 : Nat) (d : Array Pixel)
    (hs : d.size = w * h) (rs : List Subrect) (len : Nat)
    (hres : subrectEncode w h bg ssz limit len0 d = some (rs, len)) :
    LoopPost w h bg (fun i => d.getD i 0) rs ∧ len = len0 + ssz * rs.length ∧
      (0 < rs.length → len ≤ limit) :=
  subrectEncode_spec w h bg ssz limit len0 d hs rs len hres

/-- Hextile: the model of `sendHextiles##bpp` (tile loop, `testColours`, background/foreground
persistence and invalidation, `AnySubrects`/`SubrectsColoured`, raw-tile fallback, one-byte
sub-rectangle count) always decodes to the rectangle. -/
theorem server_hextile_decodes (bpp : Nat) (g : Geometry) (px : List Pixel) (rest : Bytes)
    (hlen : px.length = g.w * g.h) (hpx : ∀ p ∈ px, PixOK bpp p) :
    decodeHextile g bpp (serverHextile bpp g px ++ rest) = some (px, rest) := by
  unfold decodeHextile serverHextile
  rw [hextileTiles_decodes bpp g.w px hpx (tileGrid 16 g) {} {} rest
    (tileGrid_dims 16 (by decide) g) ⟨by simp, by simp⟩]
  simp only [Option.map_some]
  rw [assemble_extract 16 (by decide) g px hlen]

/-- ZRLE tile data (what `zrleEncode…` hands to zlib): the model of `ZRLE_ENCODE_TILE` — run
statistics, palette (with the size-127 quirk), choice between raw / solid / packed palette / plain
RLE / palette RLE, CPIXEL writer — over all 64×64 tiles decodes to the rectangle. -/
theorem server_zrle_decodes (cp : CPix) (g : Geometry) (px : List Pixel)
    (rest : Bytes) (hlen : px.length = g.w * g.h) (hpx : ∀ p ∈ px, CPixOK cp p) :
    decodeZRLEData g cp (serverZRLEData cp g px ++ rest) = some (px, rest) :=
  serverZRLEData_decodes cp g px rest hlen hpx

/-- one ZRLE tile, every sub-encoding the model can choose -/
theorem server_zrle_tile_decodes (cp : CPix) (tw th : Nat) (px : List Pixel) (rest : Bytes)
    (hlen : px.length = tw * th) (hpos : 0 < tw * th) (hok : ∀ p ∈ px, CPixOK cp p) :
    decodeZRLETile cp tw th (zrleTile cp tw th px ++ rest) = some (px, rest) :=
  zrleTile_decodes cp tw th px rest hlen hpos hok

/-- bit packing of packed-palette rows (1, 2 or 4 bits per index, rows padded to bytes):
unpacking what `ZRLE_ENCODE_TILE`'s row loop packs gives back the indices -/
theorem packed_rows_roundtrip (b : Nat) (hb : b = 1 ∨ b = 2 ∨ b = 4) (idxs : List Nat) (s : Nat)
    (hx : ∀ x ∈ idxs, x < 2 ^ b) :
    unpackRow b idxs.length (packRow b idxs s 0) = idxs ∧
      (packRow b idxs s 0).length = (idxs.length * b + 7) / 8 := by
  have h : b ∣ 8 := by rcases hb with rfl | rfl | rfl <;> decide
  exact ⟨unpackRow_packRow h idxs s hx, pack_length h idxs s⟩

/-- RLE sub-encodings for arbitrary (not only maximal) run lists -/
theorem zrle_rle_modes_decode (cp : CPix) (pal : List Pixel) (hpal : pal.length ≤ 127)
    (rl : List (Pixel × Nat)) (n : Nat) (t : Bytes)
    (h1 : ∀ r ∈ rl, 1 ≤ r.2 ∧ CPixOK cp r.1) (h2 : ∀ r ∈ rl, r.1 ∈ pal) (hn : (expand rl).length = n) :
    decodePlainRLE cp n n (zrleRleBytes cp false pal rl ++ t) = some (expand rl, t) ∧
    decodePaletteRLE pal n n (zrleRleBytes cp true pal rl ++ t) = some (expand rl, t) :=
  ⟨decodePlainRLE_runs cp pal rl n n t h1 hn (Nat.le_refl _),
   decodePaletteRLE_runs cp pal hpal rl n n t (fun r hr => ⟨(h1 r hr).1, h2 r hr⟩) hn (Nat.le_refl _)⟩

/-! ## zlib containers and sequences of updates on one connection -/

/-- Zlib encoding, one rectangle, given the zlib law. -/
theorem zlib_rect_decodes {σ τ : Type} (Z : ZLaw σ τ) (s : σ) (t : τ) (hs : Z.Sync s t)
    (g : Geometry) (bpp : Nat) (px : List Pixel) (rest : Bytes)
    (hlen : px.length = g.w * g.h) (hpx : ∀ p ∈ px, PixOK bpp p) :
    ∃ t', decodeZlib (fun z => (Z.inflate t z).map (·.1)) g bpp
        ((chunkPayload Z s (pixelsBytes bpp px)).1 ++ rest) = some (px, rest) ∧
      Z.Sync (chunkPayload Z s (pixelsBytes bpp px)).2 t' := by
  obtain ⟨t', h1, _, h3⟩ := zlibRect_decodes Z s t hs g bpp px rest hlen hpx
  exact ⟨t', h1, h3⟩

/-- ZRLE encoding, one rectangle, given the zlib law. -/
theorem zrle_rect_decodes {σ τ : Type} (Z : ZLaw σ τ) (s : σ) (t : τ)
    (hs : Z.Sync s t) (g : Geometry) (cp : CPix) (px : List Pixel) (rest : Bytes)
    (hlen : px.length = g.w * g.h) (hpx : ∀ p ∈ px, CPixOK cp p) :
    ∃ t', decodeZRLE (fun z => (Z.inflate t z).map (·.1)) g cp
        ((chunkPayload Z s (serverZRLEData cp g px)).1 ++ rest) = some (px, rest) ∧
      Z.Sync (chunkPayload Z s (serverZRLEData cp g px)).2 t' := by
  obtain ⟨t', h1, h2⟩ := Z.law s t (serverZRLEData cp g px) hs
  refine ⟨t', ?_, h2⟩
  unfold decodeZRLE chunkPayload
  rw [readChunk32_payload _ _ (Z.small s _)]
  simp only [h1, Option.map_some]
  have := serverZRLEData_decodes cp g px [] hlen hpx
  rw [List.append_nil] at this
  rw [this]

/-- histories: any number of Zlib rectangles over any number of updates on one connection —
compressor and decompressor state persist — decode in order. -/
theorem zlib_sequence_decodes {σ τ : Type} (Z : ZLaw σ τ) (bpp : Nat)
    (rects : List (Geometry × List Pixel)) (s : σ) (t : τ) (hs : Z.Sync s t)
    (h : ∀ r ∈ rects, r.2.length = r.1.w * r.1.h ∧ ∀ p ∈ r.2, PixOK bpp p) :
    clientZlibSeq Z bpp t ((rects.map (·.1)).zip (serverZlibSeq Z bpp s rects)) = some (rects.map (·.2)) :=
  zlibSeq_decodes Z bpp rects s t hs h

/-- the decoder keeps ONE inflate state per stream for the whole connection (Zlib 1, ZRLE 1, Tight 4):
for every interleaving of chunks on the streams it recovers every chunk — its state for a stream is
determined by all bytes sent on that stream so far, so an encoder may never restart a stream on its own -/
theorem streams_persist_for_connection {σ τ : Type} (Z : ZLaw σ τ) (evs : List (Nat × Bytes))
    (ss : Nat → σ) (ts : Nat → τ) (h : ∀ i, Z.Sync (ss i) (ts i)) :
    cliRun Z ts (srvRun Z ss evs) = some (evs.map (·.2)) :=
  streams_persist Z evs ss ts h

/-- model of the Zlib encoder's connection state (`compStreamInited`, `compStream`,
`zlibCompressLevel`: SetEncodings only stores the level, the stream is created lazily once): for EVERY
sequence of SetEncodings (any levels, other encodings in between) and rectangles, one persistent
decoder stream decodes every Zlib rectangle -/
theorem zlib_session_persistent_stream {σ τ : Type} (Z : ZInit σ τ) (bpp : Nat) (evs : List ZlibEv) (lvl0 : Nat)
    (h : ∀ r ∈ rectsOf evs, r.2.length = r.1.w * r.1.h ∧ ∀ p ∈ r.2, PixOK bpp p) :
    clientZlibSeq Z.toZLaw bpp Z.tinit (zlibSession Z bpp ⟨none, lvl0⟩ evs) = some ((rectsOf evs).map (·.2)) :=
  zlib_session_decodes Z bpp evs lvl0 h

/-- a whole update: if each rectangle's payload decodes on its own, the concatenated stream (which
by the flush lemmas is what the peer receives) decodes rectangle by rectangle. -/
theorem update_decodes_rect_by_rect (dec : RectHdr → Dec (List Pixel))
    (rs : List (RectHdr × Bytes × List Pixel)) (rest : Bytes)
    (h : ∀ r ∈ rs, (r.1.x < 65536 ∧ r.1.y < 65536 ∧ r.1.w < 65536 ∧ r.1.h < 65536 ∧
        r.1.enc < 4294967296) ∧ ∀ t, dec r.1 (r.2.1 ++ t) = some (r.2.2, t)) :
    decodeRectSeq dec rs.length ((rs.flatMap fun r => rectHdrBytes r.1 ++ r.2.1) ++ rest) =
      some (rs.map (fun r => (r.1, r.2.2)), rest) :=
  decodeRectSeq_concat dec rs rest h

/-! ## rectangle splitting: the pieces tile the rectangle -/

/-- CoRRE: `cover pieces p` (number of pieces containing point `p`) is 1 inside the rectangle and 0
outside — the pieces are inside, disjoint and cover it -/
theorem corre_pieces_tile (mw mh : Nat) (hmw : 1 ≤ mw) (hmh : 1 ≤ mh) (f x y w h px py : Nat)
    (hf : w + h < f) :
    cover (correSplit mw mh f x y w h) px py = if InTile ⟨x, y, w, h⟩ px py then 1 else 0 :=
  correSplit_cover mw mh hmw hmh f x y w h px py hf

/-- Zlib and Ultra (same row loop): the row pieces tile the rectangle, and the loop always advances -/
theorem zlib_ultra_pieces_tile (x w : Nat) (hw : 0 < w) (f y h px py : Nat) (hf : h ≤ f) :
    cover (zlibSplit x w (zlibMaxSize w / w) f y h) px py = if InTile ⟨x, y, w, h⟩ px py then 1 else 0 :=
  zlibSplit_cover x w (zlibMaxSize w / w) (zlibMaxLines_pos w hw) f y h px py hf

/-- Tight `SendRectSimple`: grid pieces tile the rectangle and respect the 2048 / 65536 limits -/
theorem tight_simple_split_tiles (x y w h px py : Nat) (hw : 0 < w) (hh : 0 < h) :
    cover (simpleSplit x y w h) px py = (if InTile ⟨x, y, w, h⟩ px py then 1 else 0) ∧
    ∀ t ∈ simpleSplit x y w h, 1 ≤ t.w ∧ 1 ≤ t.h ∧ t.w ≤ tightMaxW ∧ t.w * t.h ≤ tightMaxSize :=
  ⟨simpleSplit_cover x y w h px py hw, simpleSplit_small x y w h hw hh⟩

/-- Tight with LastRect: for EVERY outcome of the solid-area search (any choice tree) the pieces tile
the rectangle -/
theorem tight_plan_tiles (img : Nat → Nat → Pixel) (p : TPlan) (x y w h px py : Nat) (hw : 0 < w) (hh : 0 < h) :
    pcover (planPieces img p x y w h) px py = ind x y w h px py :=
  planPieces_cover img p x y w h px py hw hh

/-- … and every piece sent as a solid fill really is of one colour, the one `SendSolidRect` transmits -/
theorem tight_plan_fills_are_solid (img : Nat → Nat → Pixel) (p : TPlan) (x y w h : Nat) (r : TileRect)
    (hr : TPiece.fill r ∈ planPieces img p x y w h) (px py : Nat) (hin : InTile r px py) :
    img px py = img r.x r.y :=
  planPieces_fill_solid img p x y w h r hr px py hin

/-! ## Hextile `updateBuf` bound, Ultra container -/

/-- the Hextile tile loop on the `updateBuf` model: the stream is the concatenation of the tiles
(the bytes `server_hextile_decodes` is about) wherever the flushes fall, and `ublen` never exceeds
`UPDATE_BUF_SIZE` — a tile never needs more than the reserve `1 + (2 + 16*16)*bpp` the code tests -/
theorem hextile_updatebuf_bound (bpp W : Nat) (px : Array Pixel) (hb : 1 ≤ bpp)
    (hres : hextileReserve bpp ≤ UBS) (tiles : List TileRect) (st : HexSrv) (u : UB) (hu : u.ublen ≤ UBS)
    (hd : ∀ t ∈ tiles, t.w ≤ 16 ∧ t.h ≤ 16) :
    (hexLoopUB bpp W px tiles st u).stream = u.stream ++ hextileTiles bpp W px tiles st ∧
      (hexLoopUB bpp W px tiles st u).ublen ≤ UBS :=
  hexLoopUB_spec bpp W px hb hres tiles st u hu hd

/-- Ultra encoding: one piece, LZO as a parameter with the law `decompress (compress x) = x` -/
theorem ultra_rect_decodes (L : LzoLaw) (g : Geometry) (bpp : Nat) (px : List Pixel) (rest : Bytes)
    (hlen : px.length = g.w * g.h) (hpx : ∀ p ∈ px, PixOK bpp p) :
    decodeUltra L.decompress g bpp (ultraPayload L bpp px ++ rest) = some (px, rest) := by
  unfold decodeUltra decodeZlib ultraPayload
  rw [readChunk32_payload _ _ (L.small _)]
  simp only [L.law]
  have := readPixels_pixelsBytes bpp px [] hpx
  rw [hlen, List.append_nil] at this
  unfold decodeRaw
  rw [this]

/-! ## Tight without JPEG -/

/-- **Tight, one sub-rectangle**: the model of `SendSubrect` (palette analysis, the four
senders, `CompressData` in its three forms, compact length, stream ids) decodes by `Spec.decodeTight`
to the pixels; the zlib stream it used stays in sync.  `TPixLaw` is discharged by `tpixel_law_plain`
and `tpixel_law_pack24`. -/
theorem server_tight_subrect_decodes {σ τ : Type} (Z : ZLaw σ τ) (f : PixFmt) (lvl0 : Bool) (g : Geometry)
    (px : List Pixel) (rest : Bytes) (ss : Nat → σ) (ts : Nat → τ)
    (hsync : ∀ i, Z.Sync (ss i) (ts i))
    (hlen : px.length = g.w * g.h) (hpos : 0 < g.w * g.h) (harea : g.w * g.h ≤ 65536)
    (htp : ∀ p ∈ px, TPixLaw f p) (hts : f.tpix.size ≤ 4)
    (hz : ∀ s d, (Z.deflate s d).1.length < 4194304) :
    ∃ t', decodeTight tightCd (fun i z => (Z.inflate (ts i) z).map (·.1)) f g
        (((tightSubrect f lvl0 g.w g.h px).wire Z (ss (tightSubrect f lvl0 g.w g.h px).stream)).1 ++ rest) =
          some (px, rest) ∧
      Z.Sync ((tightSubrect f lvl0 g.w g.h px).wire Z (ss (tightSubrect f lvl0 g.w g.h px).stream)).2 t' :=
  tightSubrect_decodes Z f lvl0 g px rest ss ts hsync hlen hpos harea htp hts hz

/-- TPIXEL law without `Pack24` (8/16 bpp, 32 bpp unless depth 24 with 8-8-8 maxima) -/
theorem tpixel_law_plain (f : PixFmt) (p : Pixel) (hno : usePF24 f = false) (hp : PixOK f.bytespp p) :
    TPixLaw f p := by
  have htp : f.tpix = .full f.bytespp := by
    unfold PixFmt.tpix
    have : ¬ (f.bpp = 32 ∧ f.depth = 24 ∧ f.rMax = 255 ∧ f.gMax = 255 ∧ f.bMax = 255) := by
      intro h; simp [usePF24, h.2.1, h.2.2.1, h.2.2.2.1, h.2.2.2.2] at hno
    simp [this]
  unfold TPixLaw tpixBytes
  simp only [hno, Bool.false_eq_true, if_false, htp, readTPixel, TPix.size]
  exact ⟨fun t => readPixel_pixBytes _ _ _ hp, pixBytes_length _ _⟩

/-- TPIXEL law with `Pack24`: 32 bpp, depth 24, 8-8-8, byte-aligned distinct shifts, either byte order -/
theorem tpixel_law_pack24 (f : PixFmt) (hbpp : f.bpp = 32) (hd : f.depth = 24)
    (hrm : f.rMax = 255) (hgm : f.gMax = 255) (hbm : f.bMax = 255)
    (hrs : Sh8 f.rShift) (hgs : Sh8 f.gShift) (hbs : Sh8 f.bShift)
    (h12 : f.rShift ≠ f.gShift) (h13 : f.rShift ≠ f.bShift) (h23 : f.gShift ≠ f.bShift)
    (r g b : Nat) (hr : r < 256) (hg : g < 256) (hb : b < 256) :
    TPixLaw f (pack24Pixel f r g b) :=
  tpixLaw_pack24 f hbpp hd hrm hgm hbm hrs hgs hbs h12 h13 h23 r g b hr hg hb

/-- a solid-fill piece of any plan decodes to the pixels of its area -/
theorem tight_fill_piece_decodes (infl : Nat → Bytes → Option Bytes) (f : PixFmt) (img : Nat → Nat → Pixel)
    (p : TPlan) (x y w h : Nat) (r : TileRect) (hr : TPiece.fill r ∈ planPieces img p x y w h)
    (rest : Bytes) (hp : TPixLaw f (img r.x r.y)) :
    decodeTight tightCd infl f ⟨r.w, r.h⟩ (u8 0x80 ++ tpixBytes f (img r.x r.y) ++ rest) =
        some (List.replicate (r.w * r.h) (img r.x r.y), rest) ∧
      ∀ px py, InTile r px py → img px py = img r.x r.y :=
  ⟨decodeTight_fill infl f ⟨r.w, r.h⟩ (img r.x r.y) rest hp, planPieces_fill_solid img p x y w h r hr⟩

/-! ## reference encoders: `decode (encodeWith choices P) = P` for ALL choices -/

theorem decode_encodeWith_rre (c : RREChoice) (bpp : Nat) (g : Geometry) (px : List Pixel) (rest : Bytes)
    (hlen : px.length = g.w * g.h) (hpx : ∀ p ∈ px, PixOK bpp p)
    (hw : g.w < 65536) (hh : g.h < 65536) (hn : (c.final bpp g px).length < 4294967296) :
    decodeRRE g bpp (encodeWithRRE geom16 c bpp g px ++ rest) = some (px, rest) :=
  decode_encodeWithRREWith c bpp g px rest hlen hpx (geomCodec16 hw hh) hn

theorem decode_encodeWith_corre (c : RREChoice) (bpp : Nat) (g : Geometry) (px : List Pixel) (rest : Bytes)
    (hlen : px.length = g.w * g.h) (hpx : ∀ p ∈ px, PixOK bpp p)
    (hw : g.w < 256) (hh : g.h < 256) (hn : (c.final bpp g px).length < 4294967296) :
    decodeCoRRE g bpp (encodeWithRRE geom8 c bpp g px ++ rest) = some (px, rest) :=
  decode_encodeWithRREWith c bpp g px rest hlen hpx (geomCodec8 hw hh) hn

/-- and every valid RRE/CoRRE encoding of `P` is produced by some choice, unchanged -/
theorem encodeWith_rre_complete (gb : Nat × Nat × Nat × Nat → Bytes) (c : RREChoice) (bpp : Nat)
    (g : Geometry) (px : List Pixel) (hbg : c.bg < 256 ^ bpp)
    (hsane : ∀ r ∈ c.rs, r.x + r.w ≤ g.w ∧ r.y + r.h ≤ g.h ∧ r.c < 256 ^ bpp)
    (hpaint : ∀ i, i < g.w * g.h → (paintRects g.w g.h c.bg c.rs).getD i 0 = px.getD i 0) :
    encodeWithRRE gb c bpp g px = serializeRRE gb bpp c.bg c.rs :=
  encodeWithRRE_complete gb c bpp g px hbg hsane hpaint

theorem decode_encodeWith_hextile (cs : List HexChoice) (bpp : Nat) (g : Geometry) (px : List Pixel)
    (rest : Bytes) (hlen : px.length = g.w * g.h) (hpx : ∀ p ∈ px, PixOK bpp p) :
    decodeHextile g bpp (encodeWithHextile cs bpp g px ++ rest) = some (px, rest) := by
  unfold decodeHextile encodeWithHextile
  rw [encodeHexTiles_decodes bpp g.w px hpx]
  simp only [Option.map_some]
  rw [assemble_extract 16 (by decide) g px hlen]

theorem decode_encodeWith_zrle_tile (cp : CPix) (tw th : Nat) (c : ZChoice) (px : List Pixel)
    (rest : Bytes) (hlen : px.length = tw * th) (hpx : ∀ p ∈ px, CPixOK cp p) :
    decodeZRLETile cp tw th (encodeZTile cp tw th c px ++ rest) = some (px, rest) :=
  encodeZTile_decodes cp tw th c px rest hlen hpx

theorem decode_encodeWith_zrle (cs : List ZChoice) (cp : CPix) (g : Geometry) (px : List Pixel)
    (rest : Bytes) (hlen : px.length = g.w * g.h) (hpx : ∀ p ∈ px, CPixOK cp p) :
    decodeZRLEData g cp (encodeWithZRLEData cs cp g px ++ rest) = some (px, rest) := by
  unfold decodeZRLEData encodeWithZRLEData
  rw [encodeZTiles_decodes cp g.w px hpx]
  simp only [Option.map_some]
  rw [assemble_extract 64 (by decide) g px hlen]

/-! ## non-vacuity: the hypotheses are met by concrete non-trivial values -/

/-- a 4×4 two-colour rectangle at 1 byte/pixel: the RRE model succeeds (so `hres` is satisfiable)
and its output is the expected one: nSubrects = 1, background 7, one sub-rectangle of colour 9 -/
example : serverRRE 1 ⟨4, 4⟩ [7, 9, 9, 7, 7, 7, 7, 7, 7, 7, 7, 7, 7, 7, 7, 7] =
    some [0, 0, 0, 1, 7, 9, 0, 1, 0, 0, 0, 2, 0, 1] := by decide +kernel

example : (∀ p ∈ [7, 9, 9, 7, 7, 7, 7, 7, 7, 7, 7, 7, 7, 7, 7, 7], PixOK 1 p) := by unfold PixOK; decide

/-- the raw fallback of RRE is reachable: six different pixels do not pay off -/
example : serverRRE 1 ⟨3, 2⟩ [1, 2, 3, 4, 5, 6] = none := by decide +kernel

/-- Hextile on a 2×2 tile with two colours: mono tile, background and foreground specified -/
example : serverHextile 1 ⟨2, 2⟩ [5, 5, 5, 6] = [2 + 8 + 4, 5, 6, 1, 0x11, 0x00] := by decide +kernel

/-- a ZRLE tile with three colours: packed palette, 2 bits per index, rows padded -/
example : zrleTile (.full 1) 3 2 [4, 5, 6, 4, 4, 5] = [3, 4, 5, 6, 0x18, 0x04] := by decide +kernel

/-- Tight: an 8×4 two-colour rectangle at level 1 is a mono rectangle on stream 1 (control 0x50, palette
filter, 2 colours, background first, 1 bit per pixel, 4 data bytes < 12 hence sent bare) -/
example : (tightSubrect ⟨8, 8, false, true, 7, 7, 3, 0, 3, 6⟩ false 8 4
      ([5, 5, 9, 5, 5, 5, 5, 5] ++ List.replicate 24 5)).inflated =
    [0x50, 1, 1, 5, 9, 0x20, 0, 0, 0] := by decide +kernel

/-- the `Pack24` law's hypotheses are met by the usual little- and big-endian 8-8-8 formats -/
example : Sh8 16 ∧ Sh8 8 ∧ Sh8 0 ∧ Sh8 24 := by unfold Sh8; decide

/-- the structure `ZLaw` is inhabited.  NB: this instance has `Sync := False` (an identity
"compressor" cannot meet `small` for inputs of 2^32 bytes), so it does NOT exhibit a pair of streams
in sync; that real zlib streams satisfy `law` is the trusted assumption, checked per run only -/
example : ZLaw Unit Unit :=
  { deflate := fun _ x => (x.take 4294967295, ()), inflate := fun _ z => some (z, ()),
    Sync := fun _ _ => False, law := by intro _ _ _ h; exact absurd h id,
    small := by intro _ x; simp [List.length_take]; omega }

end VncModel.Props.C01
