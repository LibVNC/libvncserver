import VncModel.Robust.Lemmas
import VncModel.Robust.Wait
import VncModel.Robust.UpdateBuf
/-!
# C04 — No client input can corrupt memory, crash, exhaust or wedge the server

A theorem cannot speak about C memory.  What is modelled (lean/VncModel/Robust/) and proven here is
every *guard and size computation* on the path of client-controlled input, and the blocking
structure; the tie to the code is the sanitizer-instrumented correspondence run
(harness/c04.c ⇄ Driver/C04.lean, virtual time, allocation recorder, witness client) and the T0
constants in `VncModel.Gen.C04`, regenerated from the tree on every run.

Quantifiers: every configuration, every connection state, every input byte list (so: every message
type byte 0..255, every length/count field value, every truncation point), every fuel, every
`Mode` (peer gone / stopped reading / `select` failing on the read or on the write side).

* `alloc_bound_per_message`, `alloc_bound_no_file_transfer`, `msgMax_value`, `stream_alloc_bound`: the allocation
  request a single `rfbProcessClientMessage` round makes is bounded by an explicit constant built
  from T0 values — 1 MiB when file transfer is not permitted (and the screen is smaller than that),
  INT_MAX+18 when it is (the UltraVNC file-transfer length has NO guard other than INT_MAX; the
  bound is what the wire format allows).  Per-message guards: `cut_text_*`, `text_chat_guard`,
  `desktop_size_alloc`, `file_transfer_*`, `scale_zero_refused`, `scale_alloc`,
  `tree_scale_rejects_zero_width`, `pixel_format_table`.
* `request_rect_clipped`, `request_rect_accept_iff`: `rectSwapIfLEAndClip` (unscaled client).
* `translate_rejects_bad_bpp`, `accepted_format_channels_fit`, `pack24_shifts`: pixel formats that reach the table
  initialisers / encoders have shifts < bpp ≤ 32 (FIXED code, fixes/C04-pixfmt-validate.diff;
  `tree_has_pixfmt_check` breaks on a tree without the fix).
* `ublen_invariant_pseudo_rects`, `cursor_shape_ublen_invariant`, `copy_region_ublen_invariant` (FIXED code,
  fixes/C04-copyregion-flush.diff; `tree_copy_region_flushes`), `copy_region_unchecked_overflows`
  (the unfixed arithmetic does overflow: 2048 rectangles).
* `one_wait_after_silence`, `read_returns_one_wait_after_silence`, `write_wait_bound`,
  `slow_trickle_bound`, `select_error_costs_no_wait`: blocking structure with virtual time;
  `trickle_stream_bound` is the arithmetic that bounds the trickle time the driver predicts.
* `rounds_bounded`, `fuel_suffices`: termination of the per-client message loop.
* `others_unaffected`: a step for client i does not touch client j's model state.

`_partial`: none of the statements is weakened; what is NOT proven (and only sampled by the run):
memory safety of all code outside these guards (encoders, region code, zlib, file-system calls),
the scaled-client variant of `request_rect_clipped` (floating point, C17), WebSocket/HTTP entry
(C09/C20), and that the C code is the model (tie = correspondence run).
-/
namespace VncModel.Props.C04
open VncModel.Robust VncModel.Gen.C04

/-- **every** round of `rfbProcessClientMessage`, in every protocol phase, for every input: the
largest allocation request (both variants) is at most `msgMaxFt cfg`, and a round that goes on has
consumed at least one byte. -/
theorem alloc_bound_per_message (cfg : Cfg) (c : Conn) (inp : List UInt8) :
    (handle cfg c inp).alloc ≤ (handle cfg c inp).allocAlt ∧
    (handle cfg c inp).allocAlt ≤ msgMaxFt cfg ∧
    ((handle cfg c inp).out = .cont → (handle cfg c inp).rest.length < inp.length) :=
  handle_round cfg c inp

/-- without file-transfer permission the bound has no file-transfer term -/
theorem alloc_bound_no_file_transfer (cfg : Cfg) (c : Conn) (inp : List UInt8) (h : cfg.ft = false) :
    (handle cfg c inp).allocAlt ≤ msgMax cfg :=
  handle_round_noft cfg c inp h

/-- the bounds in numbers (T0 constants): 1 MiB or the framebuffer size; with file transfer
INT_MAX + 18 -/
theorem msgMax_value (cfg : Cfg) :
    msgMax cfg = max 1048576 (fbBytes cfg.w cfg.h cfg.bytespp) ∧
    msgMaxFt cfg = max (max 1048576 (fbBytes cfg.w cfg.h cfg.bytespp)) 2147483665 := by
  -- constants first: `omega` splits on every `max` it sees
  have h1 : max cutMax tableMax = 1048576 := by decide
  have h2 : max sdsMax (max tightMax rfbTextMaxSize) = 65536 := by decide
  have h3 : sizeofScreenInfo = 992 := rfl
  have h4 : ftMax = 2147483665 := by decide
  have e : msgMax cfg = max 1048576 (fbBytes cfg.w cfg.h cfg.bytespp) := by
    simp only [msgMax, scaleMax, h1, h2, h3]
    omega
  exact ⟨e, by rw [msgMaxFt, e, h4]⟩

example : msgMax ⟨64, 48, 4, false, false, false, false, false, false, 20000, false⟩ = 1048576 := by decide

/-- a whole byte stream (any number of messages, any mode): the largest request is bounded by the
per-message bound -/
theorem stream_alloc_bound (cfg : Cfg) (m : Mode) (c : Conn) (inp : List UInt8) :
    (runSend cfg m c inp).2.amaxAlt ≤ msgMaxFt cfg := by
  have := ends_alloc (fun c inp => (handle_round cfg c inp).2.1) (run_ends cfg m (inp.length + 1) c inp {})
  simpa [runSend] using this

/-- ClientCutText (classic AND extended format): a length above the limit closes the client
before anything is allocated or read -/
theorem cut_text_guard (c : Conn) (ext view : Bool) (length : Nat) (rest : List UInt8)
    (h : length > cutTextMax) :
    (cutBody c ext length rest view).out = .closed ∧ (cutBody c ext length rest view).allocAlt = 0 := by
  simp [cutBody, h, mkClosed]

/-- … and a length within the limit allocates at most the limit (1 for length 0), whatever
follows -/
theorem cut_text_alloc (c : Conn) (inp : List UInt8) (view : Bool) :
    (hCutText c inp view).allocAlt ≤ max cutTextMax extClipMax :=
  (good_hCutText c inp view).2.1

example : (hCutText {} [0, 0, 0, 0, 0x10, 0, 0]).alloc = 1048576 := by decide   -- limit itself: accepted
example : (hCutText {} [0, 0, 0, 0, 0x10, 0, 1]).out = .closed := by decide    -- limit + 1: refused
/-- the negative (extended) length −(2^20+1) is refused as well -/
example : (hCutText { extClip := true } [0, 0, 0, 0xFF, 0xEF, 0xFF, 0xFF]).out = .closed := by decide

/-- TextChat: a handler that goes on either saw one of the three command lengths or
0 < length < rfbTextMaxSize; the allocation is below rfbTextMaxSize -/
theorem text_chat_guard (c : Conn) (p1 p2 p3 l3 l2 l1 l0 : UInt8) (rest : List UInt8)
    (h : (hTextChat c (p1 :: p2 :: p3 :: l3 :: l2 :: l1 :: l0 :: rest)).out = .cont) :
    let len := be32 l3 l2 l1 l0
    (len = rfbTextChatOpen ∨ len = rfbTextChatClose ∨ len = rfbTextChatFinished ∨
      (0 < len ∧ len < rfbTextMaxSize)) ∧
    (hTextChat c (p1 :: p2 :: p3 :: l3 :: l2 :: l1 :: l0 :: rest)).allocAlt < rfbTextMaxSize := by
  have hg := (good_hTextChat c (p1 :: p2 :: p3 :: l3 :: l2 :: l1 :: l0 :: rest)).2.1
  refine ⟨?_, Nat.lt_of_le_of_lt hg (Nat.sub_lt (by decide) Nat.one_pos)⟩
  rw [hTextChat] at h
  split at h
  · exact Or.imp_right (Or.imp_right Or.inl) ‹_›
  · split at h
    · exact .inr (.inr (.inr ‹_›))
    · cases h

example : (hTextChat {} [0, 0, 0, 0, 0, 0x10, 0]).out = .closed := by decide          -- 4096: refused
example : (hTextChat {} ([0, 0, 0, 0, 0, 0x0f, 0xff])).out = .starved := by decide    -- 4095: accepted, then reads

/-- SetDesktopSize: numberOfScreens · 16 ≤ 255 · 16 -/
theorem desktop_size_alloc (c : Conn) (inp : List UInt8) (hook : Bool) :
    (hSetDesktopSize c inp hook).allocAlt ≤ 255 * sz_rfbExtDesktopScreen :=
  (good_hSetDesktopSize c inp hook).2.1

/-- file transfer not permitted: the 12-byte header is read, the client is closed, the length
field is never used -/
theorem file_transfer_denied (cfg : Cfg) (c : Conn) (inp : List UInt8) (h : cfg.ft = false) :
    (hFileTransfer cfg c inp).allocAlt = 0 ∧ (hFileTransfer cfg c inp).out ≠ .cont :=
  ⟨(hFileTransfer_denied cfg c inp h).2.1, (hFileTransfer_denied cfg c inp h).2.2⟩

/-- file transfer permitted: the only guard is `length ≤ INT_MAX`; the request is `length + 1`
(`+ 18` for the realloc of the request branch) -/
theorem file_transfer_length_guard (length : Nat) (inp : List UInt8) :
    (length > intMax → ftReadBuffer length inp = .closed) ∧
    (hFileTransfer ⟨1, 1, 1, false, true, false, false, false, false, 0, false⟩ {} inp).allocAlt ≤ intMax + ftTimespecExtra := by
  refine ⟨fun h => by simp [ftReadBuffer, h], (good_hFileTransfer _ _ inp).2.1⟩

/-- scale factor 0 is refused before any division -/
theorem scale_zero_refused (cfg : Cfg) (c : Conn) (p1 p2 : UInt8) (rest : List UInt8) :
    (hSetScale cfg c (0 :: p1 :: p2 :: rest)).out = .closed :=
  hSetScale_zero cfg c p1 p2 rest

/-- a scale request allocates at most a copy of the framebuffer (or the screen record) -/
theorem scale_alloc (cfg : Cfg) (c : Conn) (inp : List UInt8) :
    (hSetScale cfg c inp).allocAlt ≤ max (fbBytes cfg.w cfg.h cfg.bytespp) sizeofScreenInfo :=
  (good_hSetScale cfg c inp).2.1

/-- the tree refuses scaled screens with a zero dimension (fixes/C04-scale-zero-width.diff) -/
theorem tree_scale_rejects_zero_width : scaleRejectsZeroWidth = true := by decide

/-- SetPixelFormat: the lookup tables are sized by the SERVER's format, never by client values -/
theorem pixel_format_table (cfg : Cfg) (c : Conn) (inp : List UInt8) :
    (hSetPixelFormat cfg c inp).allocAlt ≤ 65536 * 4 + 1 :=
  (good_hSetPixelFormat cfg c inp).2.1

/-- `rectSwapIfLEAndClip` for an unscaled client, all 16-bit operands, any screen size: an accepted
rectangle lies inside the screen (and inside the requested one) -/
theorem request_rect_clipped (W H x y w h x' y' w' h' : Int) (hx : 0 ≤ x) (hy : 0 ≤ y)
    (hw : 0 ≤ w) (hh : 0 ≤ h) (hr : clipRequest W H x y w h = some (x', y', w', h')) :
    x' = x ∧ y' = y ∧ 0 ≤ w' ∧ 0 ≤ h' ∧ x' + w' ≤ W ∧ y' + h' ≤ H ∧ w' ≤ w ∧ h' ≤ h ∧ 0 ≤ x' ∧ 0 ≤ y' := by
  unfold clipRequest at hr
  split at hr
  · cases hr
  · split at hr
    · cases hr
    · cases hr
      obtain ⟨a1, a2, a3⟩ := clipAxis_some hw ‹_›
      obtain ⟨b1, b2, b3⟩ := clipAxis_some hh ‹_›
      exact ⟨rfl, rfl, a1, b1, a2, b2, a3, b3, hx, hy⟩

/-- on a screen of at most 65535×65535 the request is ignored exactly when its origin lies beyond
the screen, otherwise the rectangle is cut at the edges (the "possible underflow" re-check is what
rejects `x > width`) -/
theorem request_rect_accept_iff (W H x y w h : Int) (hW : 0 ≤ W ∧ W < 65536) (hH : 0 ≤ H ∧ H < 65536)
    (hx : 0 ≤ x ∧ x < 65536) (hy : 0 ≤ y ∧ y < 65536) (hw : 0 ≤ w ∧ w < 65536) (hh : 0 ≤ h ∧ h < 65536) :
    clipRequest W H x y w h =
      if x > W ∨ y > H then none else some (x, y, min w (W - x), min h (H - y)) := by
  unfold clipRequest
  rw [clipAxis_16 hW hx hw, clipAxis_16 hH hy hh]
  by_cases h1 : x > W
  · simp [h1]
  · by_cases h2 : y > H
    · simp [h1, h2]
    · simp [h1, h2]

example : clipRequest 64 48 60 40 10 10 = some (60, 40, 4, 8) := by decide
example : clipRequest 64 48 65 0 1 1 = none := by decide          -- underflow re-check
example : clipRequest 64 48 64 48 65535 65535 = some (64, 48, 0, 0) := by decide

/-- only 8, 16, 24 and 32 bits per pixel get past `rfbSetTranslateFunction`; a colour-map client
must be 8 bpp -/
theorem translate_rejects_bad_bpp (srv f f' : PixFmt) (t : Nat) (w : Bool)
    (h : setTranslate srv f = .accepted f' t w) :
    (f.bpp = 8 ∨ f.bpp = 16 ∨ f.bpp = 24 ∨ f.bpp = 32) ∧ (f.tc = false → f.bpp = 8) := by
  obtain ⟨hok, _, _⟩ := setTranslate_accepted h
  simp only [formatOk, Bool.and_eq_true, validBpp, Bool.or_eq_true, beq_iff_eq] at hok
  refine ⟨by omega, fun htc => ?_⟩
  simpa [htc] using hok.1.2

/-- every format the table initialisers and encoders get to see has each channel inside the
pixel: shift < bpp ≤ 32 and max·2^shift < 2^bpp (so no shift by ≥ 32, and tight's `24 - shift`
is not negative for depth-24/max-255 clients).  FIXED code. -/
theorem accepted_format_channels_fit (srv f f' : PixFmt) (t : Nat) (w : Bool)
    (h : setTranslate srv f = .accepted f' t w) :
    f'.bpp ≤ 32 ∧ f'.rs < f'.bpp ∧ f'.gs < f'.bpp ∧ f'.bs < f'.bpp ∧
    f'.rmax * 2 ^ f'.rs < 2 ^ f'.bpp ∧ f'.gmax * 2 ^ f'.gs < 2 ^ f'.bpp ∧ f'.bmax * 2 ^ f'.bs < 2 ^ f'.bpp := by
  obtain ⟨hok, rfl, _⟩ := setTranslate_accepted h
  have hb := effFormat_bpp hok
  unfold effFormat at hb ⊢
  cases htc : f.tc with
  | true =>
    simp only [formatOk, htc, Bool.true_or, Bool.and_true, Bool.not_true, Bool.false_or,
      Bool.and_eq_true, channelFits, decide_eq_true_eq] at hok
    simp only [htc, if_true] at hb ⊢
    omega
  | false => simp only [Bool.false_eq_true, if_false, bgr233Format]; decide

/-- depth-24 / max-255 clients (tight's Pack24): shifts are at most 24 -/
theorem pack24_shifts (srv f f' : PixFmt) (t : Nat) (w : Bool)
    (h : setTranslate srv f = .accepted f' t w) (hm : f'.rmax = 255 ∧ f'.gmax = 255 ∧ f'.bmax = 255) :
    f'.rs ≤ 24 ∧ f'.gs ≤ 24 ∧ f'.bs ≤ 24 := by
  obtain ⟨hb, _, _, _, h1, h2, h3⟩ := accepted_format_channels_fit srv f f' t w h
  have key (s : Nat) (hs : 255 * 2 ^ s < 2 ^ f'.bpp) : s ≤ 24 := by
    apply Nat.le_of_not_lt
    intro hlt
    have h25 : 2 ^ 25 ≤ 2 ^ s := Nat.pow_le_pow_right (by decide) hlt
    have h32 : 2 ^ f'.bpp ≤ 2 ^ 32 := Nat.pow_le_pow_right (by decide) hb
    omega
  rw [hm.1] at h1; rw [hm.2.1] at h2; rw [hm.2.2] at h3
  exact ⟨key _ h1, key _ h2, key _ h3⟩

/-- the tree has the channel check (fixes/C04-pixfmt-validate.diff) -/
theorem tree_has_pixfmt_check : pixfmtChannelsChecked = true := by decide

example : setTranslate (serverFormat 4) ⟨32, 24, false, true, 255, 255, 255, 32, 8, 0⟩ = .rejected := by decide
example : setTranslate (serverFormat 4) ⟨32, 24, true, true, 255, 255, 255, 30, 8, 0⟩ = .rejected := by decide
example : setTranslate (serverFormat 4) ⟨32, 24, false, true, 255, 255, 255, 16, 8, 0⟩ =
    .accepted ⟨32, 24, false, true, 255, 255, 255, 16, 8, 0⟩ 3072 false := by decide

/-- any sequence of flush-checked appends of pieces that fit the buffer keeps
`ublen ≤ UPDATE_BUF_SIZE` (pseudo-rectangle senders) -/
theorem ublen_invariant_pseudo_rects (pieces : List Nat) (ublen : Nat) (hu : ublen ≤ UPDATE_BUF_SIZE)
    (hp : ∀ n ∈ pieces, n ≤ UPDATE_BUF_SIZE) : appendAll ublen pieces ≤ UPDATE_BUF_SIZE :=
  appendAll_le pieces ublen hu hp

/-- the pseudo-rectangles of one update (LastRect, NewFBSize, cursor position, keyboard LED state:
one 12-byte header each; copy rectangles 16 bytes each) all fit -/
example : appendAll 4 [12, 12, 12, 12, 16, 16] ≤ UPDATE_BUF_SIZE := by decide

/-- `rfbSendCursorShape`: for every cursor size, client pixel size and encoding the shape (or the
empty cursor sent instead of one that is too large) leaves `ublen ≤ UPDATE_BUF_SIZE`; the estimate
is taken in the CLIENT's pixel size, which is what the image is written in -/
theorem cursor_shape_ublen_invariant (ublen w h cbpp : Nat) (rich : Bool) (hu : ublen ≤ UPDATE_BUF_SIZE) :
    cursorEmit ublen w h cbpp rich ≤ UPDATE_BUF_SIZE :=
  cursorEmit_le ublen w h cbpp rich hu

example : cursorEstimate 88 88 4 true ≤ UPDATE_BUF_SIZE ∧ cursorEstimate 89 89 4 true > UPDATE_BUF_SIZE := by decide
/-- the seeded variant (estimate with the server's 2 bytes, image written with the client's 4) overflows -/
example : cursorEstimate 124 124 2 true ≤ UPDATE_BUF_SIZE ∧ cursorWritten 124 124 4 true > UPDATE_BUF_SIZE := by decide

/-- `rfbSendCopyRegion` with the flush check: any number of rectangles, `ublen` stays in range -/
theorem copy_region_ublen_invariant (k ublen : Nat) (hu : ublen ≤ UPDATE_BUF_SIZE) :
    copyRegionChecked k ublen ≤ UPDATE_BUF_SIZE :=
  copyRegionChecked_le k ublen hu

/-- the tree's `rfbSendCopyRegion` flushes (fixes/C04-copyregion-flush.diff) -/
theorem tree_copy_region_flushes : copyRegionFlushes = true := by decide

/-- without the check the arithmetic overflows: an update header (4 bytes) and 2048 copy
rectangles write past `updateBuf` (§11-h; witness corpus/C04/copyregion-overflow.ops) -/
theorem copy_region_unchecked_overflows :
    copyRegionUnchecked 2048 sz_rfbFramebufferUpdateMsg > UPDATE_BUF_SIZE := by
  rw [copyRegionUnchecked_eq]; decide

/-- a byte stream against one connection: at most ONE read wait; if there is one the connection is
closed and exactly one client-wait of virtual time has passed; a write wait likewise ends with the
connection closed after `writeRounds` retry intervals, and excludes a read wait; in every case the
virtual time is at most max(wait, writeRounds·retry). -/
theorem one_wait_after_silence (cfg : Cfg) (m : Mode) (c : Conn) (inp : List UInt8) :
    let res := runSend cfg m c inp
    res.2.rw ≤ 1 ∧
    (res.2.rw = 1 → res.1.isClosed = true ∧ res.2.ww = 0 ∧ res.2.vt = clientWait cfg) ∧
    (res.2.ww ≠ 0 → res.1.isClosed = true ∧ res.2.ww = writeRounds cfg ∧ res.2.rw = 0 ∧
                     res.2.vt = writeRounds cfg * writeRetryMs) ∧
    res.2.vt ≤ max (clientWait cfg) (writeRounds cfg * writeRetryMs) := by
  have := ends_waits (run_ends cfg m (inp.length + 1) c inp {})
  simpa [runSend, Waits] using this

/-- `rfbReadExactTimeout`: once the peer is silent the call fails after exactly one timeout -/
theorem read_returns_one_wait_after_silence (timeout len el : Nat) (h : len > 0) :
    readExact timeout len [] el = (.timedOut, el + timeout) :=
  readExact_silence timeout len el h

/-- slow-trickle peers: one wait per arrival, plus one (this is the stated limit of the property:
proven is the bound for peers that stop or reset) -/
theorem slow_trickle_bound (timeout len : Nat) (evs : List PeerEv) (el : Nat) :
    (readExact timeout len evs el).2 ≤ el + (evs.length + 1) * timeout :=
  readExact_elapsed_le timeout len evs el

/-- `rfbWriteExact` against a peer that never drains: the retry loop runs `writeRounds` times, the
blocked time is at least the configured wait and less than one retry interval (5 s) more -/
theorem write_wait_bound (cfg : Cfg) :
    writeStuck (clientWait cfg) writeRetryMs (clientWait cfg) 0 = writeRounds cfg ∧
    clientWait cfg ≤ writeRounds cfg * writeRetryMs ∧
    writeRounds cfg * writeRetryMs < clientWait cfg + writeRetryMs :=
  ⟨writeStuck_is_writeRounds cfg, (writeRounds_bounds cfg).1, (writeRounds_bounds cfg).2⟩

example : writeRounds ⟨1, 1, 4, false, false, false, false, false, false, 7000, false⟩ = 2 := by decide
example : (runSend ⟨64, 48, 4, false, false, false, false, false, false, 20000, false⟩ {} { phase := .normal }
    [6, 0, 0, 0, 0, 0, 0, 5]).2.rw = 1 := by decide      -- cut text of 5 bytes, none sent: one wait

/-- `rfbReadExactTimeout`'s error arms: when `select` reports an error (EBADF, EINTR, …) or the
peer is gone, the read fails at once — no wait is spent; the handler closes the client as for a
timeout (`run` treats the round as starved) -/
theorem select_error_costs_no_wait (cfg : Cfg) (m : Mode) (hm : (m.eof || m.selErr) = true) (c : Conn)
    (inp : List UInt8) : (runSend cfg m c inp).2.rw = 0 := by
  have := ends_no_wait hm (run_ends cfg m (inp.length + 1) c inp {})
  simpa [runSend] using this

/-- slow-trickle peer at stream level (the formula the driver predicts and the harness measures):
a peer that delivers one byte every `d < wait` ms keeps the server busy for `d` per byte that is not
the first of its round, plus one full wait if it finally stops: in total less than one wait per
byte.  (`n` rounds, `rw ≤ 1` final waits, `len` bytes.) -/
theorem trickle_stream_bound (d wait len n rw : Nat) (hd : d ≤ wait) (hn : n ≤ len) (hrw : rw ≤ n) :
    d * (len - n) + rw * wait ≤ len * wait := by
  have h1 : d * (len - n) ≤ wait * (len - n) := Nat.mul_le_mul_right _ hd
  have h2 : rw * wait ≤ n * wait := Nat.mul_le_mul_right _ hrw
  have h3 : wait * (len - n) + n * wait = len * wait := by
    rw [Nat.mul_comm wait (len - n), ← Nat.add_mul]
    congr 1
    omega
  omega

/-- rounds ≤ bytes + 1 (the `+ 1` is the end-of-file round) -/
theorem rounds_bounded (cfg : Cfg) (m : Mode) (c : Conn) (inp : List UInt8) :
    (runSend cfg m c inp).2.n ≤ inp.length + 1 := by
  have := ends_rounds (run_ends cfg m (inp.length + 1) c inp {})
  simpa [runSend] using this

/-- the fuel of `runSend` is enough: one more unit of fuel gives the same result -/
theorem fuel_suffices (cfg : Cfg) (m : Mode) (c : Conn) (inp : List UInt8) :
    run cfg m (inp.length + 2) c inp {} = runSend cfg m c inp :=
  run_fuel cfg m (inp.length + 1) c inp {} (by omega)

/-- delivering any bytes to connection `i` leaves every other connection's state as it was -/
theorem others_unaffected (cfg : Cfg) (m : Mode) (s : AList Status) (i j : Nat) (bytes : List UInt8)
    (h : j ≠ i) : (deliver cfg m s i bytes).get j = s.get j := by
  unfold deliver
  split
  · exact AList.get_set_ne s i j _ h
  · rfl

example : ((deliver ⟨64, 48, 4, false, false, false, false, false, false, 20000, false⟩ {}
    [(0, .isOpen { phase := .normal }), (1, .isOpen { phase := .normal })] 1 [1, 0, 0, 0, 0, 0]).get 1).isSome = true := by
  decide

end VncModel.Props.C04
