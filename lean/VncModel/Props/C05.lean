import VncModel.Auth.Complete
import VncModel.Des.Inverse
/-!
# C05 — Password-protected screens admit exactly the clients that prove the password

**What is modelled** (`VncModel/Auth/Model.lean`): a whole server *process* — a list of screens
(password list with `authPasswdFirstViewOnly` / password file / no password), any number of
connections (inbound or reverse), the process-global list of registered security handlers of auth.c
with the application registering/unregistering handlers at any time, the TightVNC file-transfer
extension's security type 16 (its tunnelling/authentication capability negotiation and its own
challenge/response inside one call), application handlers as parameters (`Env.app`, assumed not to
admit by themselves: `AppOk`), the source of challenges — and the handshake state machine PROTOCOL_VERSION → SECURITY_TYPE → AUTHENTICATION →
INITIALISATION(_SHARED) → NORMAL of rfbserver.c/auth.c for every protocol version (3.3 path, 3.7,
3.8, the 3.889 quirk), with everything the server writes, read time-outs and failing writes.
A trace is any list of events `connect / recv bytes / proc (one rfbProcessClientMessage) / peerClose /
setRand / register h / unregister h`, so every interleaving of any number of connections, every byte string a client can send in
any order (chosen security types 0..255 are just bytes) and every message order is a trace.
`Env` abstracts `rfbEncryptBytes`, the password-file decoder and the `sscanf` of the version
message: **the theorems hold for every such function**; the driver instantiates them with the
executable DES of `VncModel/Des/Des.lean`, which is compared with the compiled crypto back-end on
every run.

The model is of the code **after** `fixes/C05-global-security-handlers.diff`,
`fixes/C05-weak-des-key.diff` (both applied to /repo), `fixes/C05-security-type-list-no-global-swap.diff`
and `fixes/C05-unregister-single-handler.diff` (connections do not touch the shared list;
unregister removes one node) (`fixed = true`, `Des.rfbEncryptBytes`).  For the code before the
fixes the property is false; that is documented formally by `auth_bypass_witness_unfixed`,
`auth_sound_fails_unfixed` (global handler list) and `weak_key_echo_unfixed` (DES back-end), whose
witnesses are replayed on the real code from corpus/C05/.

**Theorems**
* `auth_sound` — in every reachable state of every trace, a non-reverse connection to a password
  screen that is in INITIALISATION/NORMAL, or to which SecurityResult-OK or ServerInit was ever
  written, has sent 16 bytes in state AUTHENTICATION that pass the screen's password check against
  the challenge that was written to *this* connection, and its `viewOnly` flag is the checker's
  verdict.  `passwordCheck_list_iff` / `passwordCheck_file_iff` spell the check out:
  response = `enc pw challenge` for a configured `pw`; view-only iff the first matching index is
  `≥ authPasswdFirstViewOnly`; the file form never yields view-only.
* `inbound_never_exempt`, `auth_sound_inbound` — the exemption flag `cl->reverseConnection` is set
  exactly on client records created by a SUCCESSFUL rfbReverseConnection, whatever reverse
  connections were attempted (failed ones, `Ev.reverseFailed`, have no effect at all); hence
  `auth_sound` for every inbound client, stated with the history (`origin`) instead of the flag.
* `offered_only_registered`, `unregistered_type_refused` (with `handlers_follow_history` in
  Auth/Process.lean) — the registered-handler list holds exactly the handlers whose last
  (un)registration in the history is a registration, without duplicates, whatever the order of
  registering, re-registering and unregistering (head/middle/tail); so a type that is not currently
  registered is never in an offered list and choosing it closes the connection.
* `step_sound` — one call of rfbProcessClientMessage with ANY registered handlers (TightVNC type 16,
  application handlers satisfying `AppOk`) admits a connection that has to authenticate only with
  the proof: no path through a registered security type reaches INITIALISATION without it.
* `response_is_own_input` — the response the check is applied to is 16 bytes of the connection's own
  pending input (offset 0 in AUTHENTICATION, offset 5 inside the TightVNC negotiation).
* `auth_complete_tight` — the honest TightVNC client (type 16, auth type VNC, correct response in
  one write) is admitted and gets ServerInit + interaction capabilities, under any interleaving.
* `reach_authentication_38`, `reach_authentication_33` — a client that sends a 3.7+/3.3 version
  message (and chooses VNC authentication) gets its challenge, whatever other connections do in
  between (this is the half that fails before the fix when another connection changes the global list).
* `auth_complete` — from AUTHENTICATION the correct response yields SecurityResult OK, then the
  ClientInit byte yields ServerInit and NORMAL, with the right view-only flag, whatever other
  connections do in between.
* `no_type_skips_auth` — in state SECURITY_TYPE every chosen type 0..255 either is VNC
  authentication (challenge sent, state AUTHENTICATION) or closes the connection.
* `des_decrypt_encrypt`, `password_file_roundtrip`, `file_form_exact` — for the concrete DES of
  `VncModel/Des/Des.lean`: decryption inverts encryption (initial/final permutation inverse to each
  other, Feistel rounds undone by the reversed key schedule); hence what rfbEncryptAndStorePasswd
  writes, rfbDecryptPasswdFromFile reads back, and a screen whose password file was written for `pw`
  accepts exactly the response `rfbEncryptBytes pw challenge` (never view-only).
* DES (cheap facts; the DES model itself is validated differentially): `vncKey_prefix`,
  `rfbEncryptBytes_prefix`, `refused_keys_count`, `refused_keys_halves_period4`,
  `empty_password_key_refused`, `weak_key_echo_unfixed`.

Nothing is `_partial`.  Assumptions of the model are listed in docs/C05.md (application-registered
security handlers only through `AppOk`; single-threaded; NORMAL-state messages not modelled).
-/
namespace VncModel.Props.C05
open VncModel.Auth VncModel.Des

/-- the connection has been told that authentication succeeded / has been given the ServerInit -/
def Admitted (c : Conn) : Prop :=
  c.st = .init ∨ c.st = .initShared ∨ c.st = .normal ∨
  Msg.secResult true ∈ c.sent ∨ Msg.serverInit ∈ c.sent

/-- **Soundness.** For every environment (encryption function, password-file decoder, version
parser), every configuration of screens and every trace of events from the initial process state:
a non-reverse connection to a password screen is admitted only if the 16 bytes it sent in state
AUTHENTICATION pass the password check of *its* screen against the challenge written to *it*; its
view-only flag is the verdict of that check. -/
theorem auth_sound (env : Env) (happ : AppOk env) (screens : List Screen) (evs : List Ev) (c : Conn)
    (scr : Screen) (hc : c ∈ (run true env screens {} evs).conns) (hs : screens[c.screen]? = some scr)
    (hpw : scr.pw ≠ .none) (hrev : c.reverse = false) (hadm : Admitted c) :
    ∃ resp vo, c.resp = some resp ∧ Msg.challenge c.challenge ∈ c.sent ∧
      passwordCheck env scr.pw c.challenge resp = some vo ∧ c.viewOnly = vo :=
  proved_of_inv ((inv_connInvariant happ screens).run evs {} (by simp) c hc scr hs ⟨hpw, hrev⟩) hadm

/-- **An inbound client is never exempt from authentication**, whatever the history of
reverse-connection attempts (successful ones, failed ones, on any screen), of other connections and
of handler registrations: in every reachable state the flag the authentication code reads
(`cl->reverseConnection`) is set exactly on the client records created by a successful
rfbReverseConnection.  (Holds for the original code as well: `fixed` is arbitrary.) -/
theorem inbound_never_exempt (fixed : Bool) (env : Env) (screens : List Screen) (evs : List Ev) (c : Conn)
    (hc : c ∈ (run fixed env screens {} evs).conns) :
    (c.origin = .inbound → c.reverse = false) ∧ (c.reverse = true ↔ c.origin = .reverse) := by
  have h : ExemptOk c := (exemptOk_connInvariant fixed env screens).run evs {} (by simp) c hc
  refine ⟨fun hi => ?_, h⟩
  cases hr : c.reverse with
  | false => rfl
  | true => have := h.mp hr; rw [hi] at this; cases this

/-- **Soundness in terms of the history**: `auth_sound` for every client record that was created by an
inbound connection — no hypothesis about the flag. -/
theorem auth_sound_inbound (env : Env) (happ : AppOk env) (screens : List Screen) (evs : List Ev) (c : Conn)
    (scr : Screen) (hc : c ∈ (run true env screens {} evs).conns) (hs : screens[c.screen]? = some scr)
    (hpw : scr.pw ≠ .none) (hin : c.origin = .inbound) (hadm : Admitted c) :
    ∃ resp vo, c.resp = some resp ∧ Msg.challenge c.challenge ∈ c.sent ∧
      passwordCheck env scr.pw c.challenge resp = some vo ∧ c.viewOnly = vo :=
  auth_sound env happ screens evs c scr hc hs hpw
    ((inbound_never_exempt true env screens evs c hc).1 hin) hadm

/-- what the list checker accepts: the response is the encryption of the challenge under a
configured password; the verdict is "view-only" iff the *first* such password sits at an index
`≥ authPasswdFirstViewOnly` -/
theorem passwordCheck_list_iff (env : Env) (pws : List (List UInt8)) (fvo : Int)
    (chal resp : List UInt8) (vo : Bool) :
    passwordCheck env (.list pws fvo) chal resp = some vo ↔
      ∃ i, ∃ h : i < pws.length, env.enc pws[i] chal = resp ∧
        (∀ j, ∀ hj : j < pws.length, j < i → env.enc pws[j] chal ≠ resp) ∧
        vo = decide (fvo ≤ (i : Int)) := by
  simp only [passwordCheck, checkList_eq_findIdx?, Option.map_eq_some_iff, List.findIdx?_eq_some_iff_getElem]
  refine exists_congr fun i => ⟨?_, ?_⟩
  · rintro ⟨⟨h, he, hf⟩, hv⟩
    exact ⟨h, by simpa using he, fun j _ hji => by simpa using hf j hji, by simp [← hv]⟩
  · rintro ⟨h, he, hf, hv⟩
    exact ⟨⟨h, by simpa using he, fun j hji => by simpa using hf j (Nat.lt_trans hji h) hji⟩, by simp [hv]⟩

/-- what the file checker accepts: the file decodes to a password whose encryption of the challenge
is the response; never view-only -/
theorem passwordCheck_file_iff (env : Env) (content : Option (List UInt8)) (chal resp : List UInt8)
    (vo : Bool) :
    passwordCheck env (.file content) chal resp = some vo ↔
      ∃ bytes pw, content = some bytes ∧ env.decFile bytes = some pw ∧ env.enc pw chal = resp ∧
        vo = false := by
  cases content with
  | none => simp [passwordCheck, checkFile]
  | some bytes =>
    cases hd : env.decFile bytes <;> simp [passwordCheck, checkFile, hd, eq_comm]

/-- a password-less screen's checker accepts nothing (it is never asked) -/
theorem passwordCheck_none (env : Env) (chal resp : List UInt8) :
    passwordCheck env .none chal resp = none := rfl

/-- **The response is the connection's own input**: one call of rfbProcessClientMessage changes the
recorded response only to 16 bytes of this connection's own pending input (offset 0 in state
AUTHENTICATION; offset 5 — after the type byte and the 32-bit auth type — inside the TightVNC
negotiation). -/
theorem response_is_own_input (fixed : Bool) (env : Env) (happ : AppOk env) (scr : Screen)
    (hs : List Handler) (legacy : List Nat) (rand : List UInt8) (c : Conn) :
    (procConn fixed env scr hs legacy rand c).1.resp = c.resp ∨
    (c.isOpen = true ∧ ∃ k, (procConn fixed env scr hs legacy rand c).1.resp =
      some ((c.inbuf.drop k).take Gen.C05.CHALLENGESIZE)) :=
  procConn_resp happ c

/-- **One step, any registered handlers**: whatever security handlers are registered (the TightVNC
extension's type 16, application handlers satisfying `AppOk`), whatever the process-global state and
the challenge source are: one call of rfbProcessClientMessage on a connection that has to
authenticate and satisfies the invariant (in particular: one that has not been admitted) leaves it
admitted only with the proof.  This is the step lemma behind `auth_sound`, stated here because it
is the precise sense of "no path through a registered security type reaches INITIALISATION
without the DES proof". -/
theorem step_sound (env : Env) (happ : AppOk env) (scr : Screen) (hs : List Handler)
    (legacy : List Nat) (rand : List UInt8) (c : Conn) (hpw : scr.pw ≠ .none) (hrev : c.reverse = false)
    (hclean : Msg.secResult true ∉ c.sent ∧ Msg.serverInit ∉ c.sent) (hv : c.viewOnly = false)
    (hst : c.st = .ver ∨ c.st = .sec)
    (hadm : Admitted (procConn true env scr hs legacy rand c).1) :
    ∃ resp vo, (procConn true env scr hs legacy rand c).1.resp = some resp ∧
      Msg.challenge (procConn true env scr hs legacy rand c).1.challenge ∈
        (procConn true env scr hs legacy rand c).1.sent ∧
      passwordCheck env scr.pw (procConn true env scr hs legacy rand c).1.challenge resp = some vo ∧
      (procConn true env scr hs legacy rand c).1.viewOnly = vo := by
  have hpre : Pre c := ⟨hclean, hv, by rcases hst with h | h <;> simp [h], by
    rcases hst with h | h <;> simp [h]⟩
  exact proved_of_inv (procConn_inv happ ⟨hpw, hrev⟩ (Or.inr hpre)) hadm

/-- **No security type skips the proof**: on a connection that has to authenticate, in state
SECURITY_TYPE: the byte 2 sends the challenge; any byte for which no handler is registered closes the
connection with nothing written (a registered type runs its handler: `step_sound`). -/
theorem no_type_skips_auth (env : Env) (scr : Screen) (hs : List Handler) (legacy : List Nat)
    (rand : List UInt8) (c : Conn)
    (t : UInt8) (rest : List UInt8) (hn : NeedsAuth scr c) (ho : c.isOpen = true)
    (hst : c.st = .sec) (hbuf : c.inbuf = t :: rest)
    (hnone : hs.find? (fun h => h.type == t.toNat) = none) :
    let c' := (procConn true env scr hs legacy rand c).1
    (t = 2 ∧ (c'.st = .auth ∨ c'.isOpen = false) ∧ c'.st ≠ .init ∧ c'.st ≠ .normal ∧
        (c'.sent = c.sent ∨ c'.sent = .challenge rand :: c.sent)) ∨
    (t ≠ 2 ∧ c'.isOpen = false ∧ c'.st = .sec ∧ c'.sent = c.sent) := by
  intro c'
  have hn' : NeedsAuth scr { c with inbuf := rest } := ⟨hn.1, hn.2⟩
  have e : c' = processSecurityType true env scr hs legacy rand { c with inbuf := rest } t :=
    congrArg Prod.fst (procConn_sec ho hst hbuf)
  by_cases ht : t = 2
  · subst ht
    rw [processSecurityType_vncAuth hn'] at e
    refine Or.inl ⟨rfl, ?_⟩
    rw [e, sendChallenge]
    split <;> simp [close, wr, hst]
  · have hbi : t.toNat ≠ builtinType scr { c with inbuf := rest } := by
      rw [builtinType_needsAuth hn', show secVncAuth = (2 : UInt8).toNat from rfl]
      exact fun h => ht (UInt8.toNat_inj.mp h)
    rw [processSecurityType_refused hbi hnone] at e
    exact Or.inr ⟨ht, e ▸ rfl, e ▸ hst, e ▸ rfl⟩

/-- **The offered types are the built-in one and the currently registered ones**: after any history of
events — handlers registered, registered again, unregistered from the head, middle or tail of the
list, in any order, connections in between — every security type in the list sent to a new 3.7+
client is its built-in type or the type of a handler whose LAST (un)registration in the history is a
registration (`regAfter false h evs`).  A type that was unregistered and not registered since is
never offered. -/
theorem offered_only_registered (env : Env) (screens : List Screen) (evs : List Ev) (t x : Nat)
    (hx : x ∈ offered true (run true env screens {} evs).handlers (run true env screens {} evs).legacy t) :
    x = t ∨ ∃ h : Handler, h.type = x ∧ regAfter false h evs = true := by
  have hist := (handlers_follow_history true env screens evs {} List.nodup_nil).2
  simp only [offered, if_true] at hx
  have hx' := List.mem_of_mem_take hx
  rcases List.mem_cons.mp hx' with h | h
  · exact Or.inl h
  · obtain ⟨hd, hmem, hty⟩ := List.mem_map.mp h
    exact Or.inr ⟨hd, hty, by simpa using (hist hd).mp hmem⟩

/-- … and never accepted: a client in state SECURITY_TYPE that chooses a type which is neither its
built-in type nor the type of a handler registered at that moment (per the history) is closed with
nothing written and stays in SECURITY_TYPE — on any screen, password or not. -/
theorem unregistered_type_refused (env : Env) (screens : List Screen) (evs : List Ev) (scr : Screen)
    (c : Conn) (t : UInt8) (rest : List UInt8) (ho : c.isOpen = true) (hst : c.st = .sec)
    (hbuf : c.inbuf = t :: rest) (hbi : t.toNat ≠ builtinType scr c)
    (hnone : ∀ h : Handler, h.type = t.toNat → regAfter false h evs = false) :
    let s := run true env screens {} evs
    let c' := (procConn true env scr s.handlers s.legacy s.rand c).1
    c'.isOpen = false ∧ c'.st = .sec ∧ c'.sent = c.sent := by
  have hist := (handlers_follow_history true env screens evs {} List.nodup_nil).2
  have hfind : (run true env screens {} evs).handlers.find? (fun h => h.type == t.toNat) = none := by
    rw [List.find?_eq_none]
    intro h hm hty
    have h1 : regAfter false h evs = true := by simpa using (hist h).mp hm
    have h2 := hnone h (by simpa using hty)
    rw [h1] at h2; cases h2
  intro s c'
  have e : c' = close { c with inbuf := rest } :=
    (congrArg Prod.fst (procConn_sec ho hst hbuf)).trans
      (processSecurityType_refused (legacy := s.legacy) (c := { c with inbuf := rest }) hbi hfind)
  exact ⟨e ▸ rfl, e ▸ hst, e ▸ rfl⟩

/-- **Completeness, first half (3.7 and later)**: a new inbound connection `cid` to a password
screen that sends a version message parsed as 3.`minor` with `minor ≥ 7`, then the byte 2, receives
a (non-empty) security-type list and then its challenge and is in state AUTHENTICATION —
whatever events of other connections (`o1 o2 o3`, e.g. connections to password-less screens or
reverse connections that rewrite the process-global handler list) are interleaved. -/
theorem reach_authentication_38 (env : Env) (screens : List Screen) (s : Proc) (cid sid : Nat)
    (scr : Screen) (pv : List UInt8) (minor : Int) (o1 o2 o3 : List Ev)
    (hfresh : s.conns.any (fun c => c.id == cid) = false) (hscr : screens[sid]? = some scr)
    (hpw : scr.pw ≠ .none) (hlen : pv.length = 12) (hparse : env.parseVer pv = some (3, minor))
    (hm : ¬ minor < 7)
    (ho1 : ∀ e ∈ o1, e.foreign cid = true) (ho2 : ∀ e ∈ o2, e.foreign cid = true)
    (ho3 : ∀ e ∈ o3, e.foreign cid = true) :
    ∃ c, getConn (run true env screens s
            ([.connect cid sid false] ++ o1 ++ [.recv cid pv, .proc cid] ++ o2 ++
             [.recv cid [2], .proc cid] ++ o3)) cid = some c ∧
      c.st = .auth ∧ c.isOpen = true ∧ c.peerClosed = false ∧ c.inbuf = [] ∧ c.viewOnly = false ∧
      c.screen = sid ∧ c.reverse = false ∧
      ∃ l, l ≠ [] ∧ c.sent = [.challenge c.challenge, .secTypes l, .version] := by
  simp only [run_append]
  have f1 : getConn (run true env screens (run true env screens s [.connect cid sid false]) o1) cid =
      some { id := cid, screen := sid, reverse := false, sent := [.version] } :=
    (getConn_run_foreign ho1).trans (by simp [run, step, hfresh, hscr, getConn])
  have f2 := getConn_run_recv_proc (bytes := pv) f1 rfl hscr ho2
    (procConn_version_list ⟨hpw, rfl⟩ rfl rfl rfl rfl hlen hparse hm)
  have f3 := getConn_run_recv_proc (env := env) (bytes := [2]) f2 rfl hscr ho3
    (procConn_choose_vncAuth ⟨hpw, rfl⟩ rfl rfl rfl rfl)
  exact ⟨_, f3, rfl, rfl, rfl, rfl, rfl, rfl, rfl, _, offered_ne_nil _ _ _, rfl⟩

/-- **Completeness, first half (3.3 path)**: version message with `minor < 7` ⇒ type word 2 and the
challenge, state AUTHENTICATION, whatever other connections do. -/
theorem reach_authentication_33 (env : Env) (screens : List Screen) (s : Proc) (cid sid : Nat)
    (scr : Screen) (pv : List UInt8) (minor : Int) (o1 o2 : List Ev)
    (hfresh : s.conns.any (fun c => c.id == cid) = false) (hscr : screens[sid]? = some scr)
    (hpw : scr.pw ≠ .none) (hlen : pv.length = 12) (hparse : env.parseVer pv = some (3, minor))
    (hm : minor < 7)
    (ho1 : ∀ e ∈ o1, e.foreign cid = true) (ho2 : ∀ e ∈ o2, e.foreign cid = true) :
    ∃ c, getConn (run true env screens s
            ([.connect cid sid false] ++ o1 ++ [.recv cid pv, .proc cid] ++ o2)) cid = some c ∧
      c.st = .auth ∧ c.isOpen = true ∧ c.peerClosed = false ∧ c.inbuf = [] ∧ c.viewOnly = false ∧
      c.screen = sid ∧ c.reverse = false ∧
      c.sent = [.challenge c.challenge, .secType33 2, .version] := by
  simp only [run_append]
  have f1 : getConn (run true env screens (run true env screens s [.connect cid sid false]) o1) cid =
      some { id := cid, screen := sid, reverse := false, sent := [.version] } :=
    (getConn_run_foreign ho1).trans (by simp [run, step, hfresh, hscr, getConn])
  have f2 := getConn_run_recv_proc (fixed := true) (bytes := pv) f1 rfl hscr ho2
    (procConn_version_33 ⟨hpw, rfl⟩ rfl rfl rfl rfl hlen hparse hm)
  exact ⟨_, f2, rfl, rfl, rfl, rfl, rfl, rfl, rfl, rfl⟩

/-- **Completeness, second half**: a connection in state AUTHENTICATION (as left by
`reach_authentication_*`) that sends 16 bytes passing its screen's password check is sent
SecurityResult OK; after its ClientInit byte it is sent ServerInit and is in state NORMAL, with the
view-only flag the checker returned — whatever other connections do in between. -/
theorem auth_complete (env : Env) (screens : List Screen) (s : Proc) (cid : Nat) (c : Conn)
    (scr : Screen) (resp : List UInt8) (vo : Bool) (shared : UInt8) (o1 o2 : List Ev)
    (hg : getConn s cid = some c) (hscr : screens[c.screen]? = some scr)
    (ho : c.isOpen = true) (hp : c.peerClosed = false) (hst : c.st = .auth) (hbuf : c.inbuf = [])
    (hv : c.viewOnly = false) (hlen : resp.length = 16)
    (hchk : passwordCheck env scr.pw c.challenge resp = some vo)
    (ho1 : ∀ e ∈ o1, e.foreign cid = true) (ho2 : ∀ e ∈ o2, e.foreign cid = true) :
    ∃ c', getConn (run true env screens s
            ([.recv cid resp, .proc cid] ++ o1 ++ [.recv cid [shared], .proc cid] ++ o2)) cid = some c' ∧
      c'.st = .normal ∧ c'.isOpen = true ∧ c'.viewOnly = vo ∧
      c'.sent = (if c.tight then .tightInteractionCaps :: .serverInit :: .secResult true :: c.sent
                 else .serverInit :: .secResult true :: c.sent) := by
  simp only [run_append]
  have f1 := getConn_run_recv_proc (bytes := resp) hg hp hscr ho1
    (procConn_auth_ok ho hp hst (by simp [hbuf]) hlen hv hchk)
  exact ⟨_, getConn_run_recv_proc f1 hp hscr ho2 (procConn_init ho hp rfl rfl), rfl, ho, rfl, rfl⟩

/-- **Completeness through the TightVNC security type**: a connection in state SECURITY_TYPE of a
password screen, while the extension's handler is the registered handler of type 16, that sends in
one go the type byte 16, the auth type "VNC" and the 16 bytes that pass the check against the
challenge the server is about to send, is taken to INITIALISATION in that one call (tunnelling caps,
auth caps, challenge, SecurityResult OK) and after its ClientInit byte gets ServerInit followed by the
extension's interaction capabilities, state NORMAL — whatever other connections and the application
do afterwards. -/
theorem auth_complete_tight (env : Env) (screens : List Screen) (s : Proc) (cid : Nat) (c : Conn)
    (scr : Screen) (resp : List UInt8) (vo : Bool) (shared : UInt8) (o1 o2 : List Ev)
    (hg : getConn s cid = some c) (hscr : screens[c.screen]? = some scr)
    (hpw : scr.pw ≠ .none) (hrev : c.reverse = false)
    (ho : c.isOpen = true) (hp : c.peerClosed = false) (hst : c.st = .sec) (hbuf : c.inbuf = [])
    (hv : c.viewOnly = false) (hlen : resp.length = 16)
    (hreg : s.handlers.find? (fun h => h.type == 16) = some .tight)
    (hchk : passwordCheck env scr.pw s.rand resp = some vo)
    (ho1 : ∀ e ∈ o1, e.foreign cid = true) (ho2 : ∀ e ∈ o2, e.foreign cid = true) :
    ∃ c', getConn (run true env screens s
            ([.recv cid (16 :: 0 :: 0 :: 0 :: 2 :: resp), .proc cid] ++ o1 ++
             [.recv cid [shared], .proc cid] ++ o2)) cid = some c' ∧
      c'.st = .normal ∧ c'.isOpen = true ∧ c'.viewOnly = vo ∧ c'.resp = some resp ∧
      c'.sent = .tightInteractionCaps :: .serverInit :: .secResult true :: .challenge s.rand ::
                .tightAuthCaps 1 :: .tightTunnelCaps :: c.sent :=
  ⟨_, getConn_run_auth_tight hg hscr ⟨hpw, hrev⟩ ho hp hst hbuf hv hlen hreg hchk ho1 ho2, rfl, ho, rfl, rfl,
    rfl⟩

/-! ## The code before the fixes: the property is false (documented, replayed from corpus/C05) -/

/-- environment for the witness: any version message is 3.8; encryption is irrelevant -/
def wEnv : Env :=
  { enc := fun _ c => c, decFile := fun _ => none, parseVer := fun _ => some (3, 8), app := fun _ c => appClose c }

/-- screen 0 has a password, screen 1 has none -/
def wScreens : List Screen := [{ pw := .list [[115, 101, 99, 114, 101, 116]] 1 }, { pw := .none }]

/-- X connects to the password screen (is offered VNC authentication), Y connects to the
password-less screen, X chooses security type 1 and sends ClientInit -/
def wTrace : List Ev :=
  [.connect 0 0 false, .recv 0 (List.replicate 12 0), .proc 0,
   .connect 1 1 false, .recv 1 (List.replicate 12 0), .proc 1,
   .recv 0 [1], .proc 0, .recv 0 [1], .proc 0]

/-- **DESIGN §11-c, before the fix**: X is told "authentication succeeded", gets the ServerInit and is
in state NORMAL without ever having been sent a challenge or having sent a response. -/
theorem auth_bypass_witness_unfixed :
    (getConn (run false wEnv wScreens {} wTrace) 0).map (fun c => (c.st, c.isOpen, c.resp, c.sent)) =
      some (.normal, true, none, [.serverInit, .secResult true, .secTypes [2], .version]) := by
  decide

/-- the same trace on the fixed code: X's choice is refused, nothing is written -/
theorem auth_bypass_witness_fixed :
    (getConn (run true wEnv wScreens {} wTrace) 0).map (fun c => (c.st, c.isOpen, c.resp, c.sent)) =
      some (.sec, false, none, [.secTypes [2], .version]) := by
  decide

/-- hence the soundness statement is false for the code before the fix -/
theorem auth_sound_fails_unfixed :
    ¬ (∀ (env : Env) (_ : AppOk env) (screens : List Screen) (evs : List Ev) (c : Conn) (scr : Screen),
        c ∈ (run false env screens {} evs).conns → screens[c.screen]? = some scr →
        scr.pw ≠ .none → c.reverse = false → Admitted c → c.resp ≠ none) := by
  intro h
  obtain ⟨c, hmem, hscr, hrev, hst, hresp⟩ : ∃ c ∈ (run false wEnv wScreens {} wTrace).conns,
      c.screen = 0 ∧ c.reverse = false ∧ c.st = .normal ∧ c.resp = none := by decide
  exact h wEnv (appOk_appClose _ _ _) wScreens wTrace c _ hmem (by rw [hscr]; rfl) (by simp) hrev
    (Or.inr (Or.inr (Or.inl hst))) hresp

/-! ## DES: the cheap facts (the DES model itself is validated against the C back-end) -/

/-- only the first eight bytes of a password matter (VNC authentication as defined) -/
theorem vncKey_prefix (pw ext : List UInt8) (h : 8 ≤ pw.length) : vncKey (pw ++ ext) = vncKey pw :=
  Des.vncKey_append pw ext h

theorem rfbEncryptBytes_prefix (pw ext chal : List UInt8) (h : 8 ≤ pw.length) :
    rfbEncryptBytes (pw ++ ext) chal = rfbEncryptBytes pw chal :=
  Des.rfbEncryptBytes_append pw ext chal h

/-- DES decryption undoes DES encryption on every 8-byte block, for every key (model of Des.lean) -/
theorem des_decrypt_encrypt (key block : List UInt8) (h : block.length = 8) :
    decryptBlock key (encryptBlock key block) = block :=
  Des.decryptBlock_encryptBlock key block h

/-- what `rfbEncryptAndStorePasswd` writes for `pw`, `rfbDecryptPasswdFromFile` reads back: the first
eight bytes of `pw` as a C string -/
theorem password_file_roundtrip (fixedKey pw : List UInt8) :
    decryptPasswdFile fixedKey (storePasswd fixedKey pw) = some (cstr (padKey pw)) :=
  Des.decryptPasswdFile_storePasswd fixedKey pw

/-- **the password-file form, exactly**: a screen whose password file was written by
rfbEncryptAndStorePasswd for the C string `pw` accepts the response `resp` to the challenge `chal` iff
`resp` is the VNC encryption of `chal` under `pw`; the session is never view-only. -/
theorem file_form_exact (fixedKey pw chal resp : List UInt8) (vo : Bool) (h : (0 : UInt8) ∉ pw) :
    passwordCheck { enc := Des.rfbEncryptBytes, decFile := decryptPasswdFile fixedKey, parseVer := parseVersion,
                    app := fun _ c => appClose c }
        (.file (some (storePasswd fixedKey pw))) chal resp = some vo ↔
      (resp = rfbEncryptBytes pw chal ∧ vo = false) := by
  rw [passwordCheck_file_iff]
  simp [Des.decryptPasswdFile_storePasswd, Des.rfbEncryptBytes_cstr_padKey pw chal h, eq_comm]

/-- libgcrypt refuses 64 keys (4 weak, 12 semi-weak, 48 possibly weak), as T0 found them -/
theorem refused_keys_count : Gen.C05.gcryRefusedKeys.length = 64 := by decide

/-- their key-schedule halves C0, D0 are invariant under rotation by 4, hence they have at most four
different round keys (the reason they are called weak) … -/
theorem refused_keys_halves_period4 :
    ∀ k ∈ Gen.C05.gcryRefusedKeys,
      rotl 4 (keyHalves k).1 = (keyHalves k).1 ∧ rotl 4 (keyHalves k).2 = (keyHalves k).2 :=
  Des.refused_keys_halves_period4

/-- … and the key of the empty password is one of them (a weak key proper: a single round key) -/
theorem empty_password_key_refused :
    gcryRefuses (vncKey []) = true ∧ distinctCount (subkeys (bitsOfBytes (vncKey []))) = 1 :=
  ⟨by decide, Des.empty_password_one_subkey⟩

/-- **DESIGN §11-a, before the fix**: with the libgcrypt back-end refusing the key and
`rfbEncryptBytes` ignoring that, the "encryption" of any challenge under the empty password (or any
password whose key is refused) is the challenge itself — echoing the challenge authenticates. -/
theorem weak_key_echo_unfixed (pw chal : List UInt8) (h : gcryRefuses (vncKey pw) = true) :
    rfbEncryptBytesUnfixed pw chal = chal := by
  simp [rfbEncryptBytesUnfixed, h]

/-! ## Non-vacuity: the hypotheses are satisfiable by non-trivial values -/

/-- a concrete environment with the real DES -/
def exEnv : Env :=
  { enc := Des.rfbEncryptBytes, decFile := Des.decryptPasswdFile Gen.C05.fixedkey, parseVer := parseVersion,
    app := fun _ c => appClose c }

def exScreens : List Screen := [{ pw := .list [[112, 119], [118, 105, 101, 119]] 1 }, { pw := .none }]

/-- `auth_sound`'s hypotheses are met by an admitted connection (so its conclusion is not vacuous):
a 3.8 client authenticates with the second (view-only) password while another client connects to
the password-less screen in between -/
example :
    let ch : List UInt8 := [0, 1, 2, 3, 4, 5, 6, 7, 8, 9, 10, 11, 12, 13, 14, 15]
    let s := run true exEnv exScreens {}
      [.setRand ch, .connect 7 0 false, .recv 7 [82, 70, 66, 32, 48, 48, 51, 46, 48, 48, 56, 10], .proc 7,
       .connect 8 1 false, .recv 8 [82, 70, 66, 32, 48, 48, 51, 46, 48, 48, 55, 10], .proc 8,
       .recv 7 [2], .proc 7, .recv 7 (Des.rfbEncryptBytes [118, 105, 101, 119] ch), .proc 7,
       .recv 7 [0], .proc 7]
    (getConn s 7).map (fun c => (c.st, c.viewOnly, c.reverse, c.sent.length)) = some (.normal, true, false, 5) := by
  intro ch s
  -- DES is evaluated only to see that the first password does not match
  have hne : Des.rfbEncryptBytes [112, 119] ch ≠ Des.rfbEncryptBytes [118, 105, 101, 119] ch := by
    rw [rfbEncryptBytes_eq, rfbEncryptBytes_eq]
    decide +kernel
  generalize hs0 : run true exEnv exScreens {}
      [.setRand ch, .connect 7 0 false, .recv 7 [82, 70, 66, 32, 48, 48, 51, 46, 48, 48, 56, 10], .proc 7,
       .connect 8 1 false, .recv 8 [82, 70, 66, 32, 48, 48, 51, 46, 48, 48, 55, 10], .proc 8,
       .recv 7 [2], .proc 7] = s0
  have hs : s = run true exEnv exScreens s0
      ([.recv 7 (Des.rfbEncryptBytes [118, 105, 101, 119] ch), .proc 7] ++ [] ++ [.recv 7 [0], .proc 7] ++ []) := by
    rw [← hs0, ← run_append]
    exact congrArg (run true exEnv exScreens {}) rfl
  have h0 : getConn s0 7 = some
      { id := 7, screen := 0, reverse := false, st := .auth, minor := 8, challenge := ch,
        sent := [.challenge ch, .secTypes [2], .version] } := by
    rw [← hs0]
    decide +kernel
  have f1 := getConn_run_recv_proc (fixed := true) (env := exEnv) (screens := exScreens) (o := []) (bytes := Des.rfbEncryptBytes [118, 105, 101, 119] ch) h0 rfl rfl
    (by simp) (procConn_auth_ok (vo := true) rfl rfl rfl (List.nil_append _) (rfbEncryptBytes_length _ _ rfl) rfl
      (by simp [passwordCheck, checkList, exEnv, hne]))
  have f2 := getConn_run_recv_proc (fixed := true) (env := exEnv) (screens := exScreens) (o := []) (bytes := [0]) f1 rfl rfl (by simp) (procConn_init rfl rfl rfl rfl)
  simp only [run_append] at hs
  rw [hs, f2]
  rfl

/-- the assumption on application handlers is met by the harness' handler, so `auth_sound` applies to
the environment the driver runs -/
example : AppOk exEnv := appOk_appClose _ _ _

/-- `auth_sound` / `auth_complete_tight` are not vacuous for the TightVNC path: with the extension and
an application handler of type 30 registered, a 3.8 client authenticates through security type 16
with the first password while another client talks to the application handler -/
example :
    let ch : List UInt8 := [9, 8, 7, 6, 5, 4, 3, 2, 1, 0, 15, 14, 13, 12, 11, 10]
    let s := run true exEnv exScreens {}
      [.register .tight, .register (.app 30), .setRand ch,
       .connect 3 0 false, .recv 3 [82, 70, 66, 32, 48, 48, 51, 46, 48, 48, 56, 10], .proc 3,
       .connect 4 0 false, .recv 4 [82, 70, 66, 32, 48, 48, 51, 46, 48, 48, 56, 10, 30], .proc 4, .proc 4,
       .unregister (.app 30),
       .recv 3 (16 :: 0 :: 0 :: 0 :: 2 :: Des.rfbEncryptBytes [112, 119] ch), .proc 3, .recv 3 [1], .proc 3]
    ((getConn s 3).map (fun c => (c.st, c.viewOnly, c.tight, c.sent.length)) = some (.normal, false, true, 8)) ∧
    ((getConn s 4).map (fun c => (c.st, c.isOpen, c.sent)) =
      some (.sec, false, [.appMarker, .secTypes [2, 30, 16], .version])) := by
  intro ch s
  -- evaluated up to client 3's answer, which is the first password's encryption itself: no DES value needed
  generalize hs0 : run true exEnv exScreens {}
      [.register .tight, .register (.app 30), .setRand ch,
       .connect 3 0 false, .recv 3 [82, 70, 66, 32, 48, 48, 51, 46, 48, 48, 56, 10], .proc 3,
       .connect 4 0 false, .recv 4 [82, 70, 66, 32, 48, 48, 51, 46, 48, 48, 56, 10, 30], .proc 4, .proc 4,
       .unregister (.app 30)] = s0
  have hs : s = run true exEnv exScreens s0
      ([.recv 3 (16 :: 0 :: 0 :: 0 :: 2 :: Des.rfbEncryptBytes [112, 119] ch), .proc 3] ++ [] ++
       [.recv 3 [1], .proc 3] ++ []) := by
    rw [← hs0, ← run_append]
    exact congrArg (run true exEnv exScreens {}) rfl
  have h0 : getConn s0 3 = some
        { id := 3, screen := 0, reverse := false, st := .sec, minor := 8, sent := [.secTypes [2, 30, 16], .version] } ∧
      s0.handlers.find? (fun h => h.type == 16) = some .tight ∧ s0.rand = ch ∧
      (getConn s0 4).map (fun c => (c.st, c.isOpen, c.sent)) =
        some (.sec, false, [.appMarker, .secTypes [2, 30, 16], .version]) := by
    rw [← hs0]
    decide +kernel
  obtain ⟨h3, hreg, hrand, h4⟩ := h0
  constructor
  · rw [hs, getConn_run_auth_tight (vo := false) h3 rfl ⟨by simp, rfl⟩ rfl rfl rfl rfl rfl
      (rfbEncryptBytes_length _ _ rfl) hreg (by simp [hrand, passwordCheck, checkList, exEnv])
      (by simp) (by simp)]
    rfl
  · rw [hs, getConn_run_foreign (by decide)]
    exact h4

/-- failed and successful reverse connections (on the password-less and on the password screen), then an
inbound viewer of the password screen who chooses security type 1: it is offered VNC authentication
only and is refused; the record made by the successful reverse connection is the only exempt one -/
example :
    let s := run true exEnv exScreens {}
      [.reverseFailed 1, .reverseFailed 0, .connect 5 0 true, .reverseFailed 0,
       .connect 6 0 false, .recv 6 [82, 70, 66, 32, 48, 48, 51, 46, 48, 48, 56, 10, 1, 1], .proc 6, .proc 6, .proc 6,
       .recv 5 [82, 70, 66, 32, 48, 48, 51, 46, 48, 48, 56, 10, 1, 1], .proc 5, .proc 5, .proc 5]
    ((getConn s 6).map (fun c => (c.origin, c.reverse, c.st, c.isOpen, c.sent)) =
      some (.inbound, false, .sec, false, [.secTypes [2], .version])) ∧
    ((getConn s 5).map (fun c => (c.origin, c.reverse, c.st)) = some (.reverse, true, .normal)) := by
  decide

/-- the order of seeded change C19-7: TightVNC registered, an application handler registered after it,
the application handler unregistered, TightVNC unregistered, the application handler registered
again — only the application handler is registered, and a new client is offered [2, 77] -/
example :
    let evs : List Ev := [.register .tight, .register (.app 77), .register (.app 5), .unregister (.app 77),
      .unregister .tight, .register (.app 77), .register (.app 77), .unregister (.app 9)]
    let s := run true exEnv exScreens {} evs
    s.handlers = [.app 77, .app 5] ∧ offered true s.handlers s.legacy 2 = [2, 77, 5] ∧
    regAfter false .tight evs = false ∧ regAfter false (.app 77) evs = true := by
  decide

/-- asking for "no authentication" inside the TightVNC negotiation on a password screen is refused -/
example :
    let c : Conn := { id := 0, screen := 0, reverse := false, st := .sec, inbuf := [16, 0, 0, 0, 1] }
    let c' := (procConn true exEnv { pw := .list [[112]] 1 } [.tight] [] [] c).1
    (c'.isOpen, c'.st, c'.sent) = (false, St.sec, [.tightAuthCaps 1, .tightTunnelCaps]) := by
  decide

/-- the hypotheses of `reach_authentication_38` / `auth_complete` are satisfiable -/
example : exScreens[0]? = some { pw := .list [[112, 119], [118, 105, 101, 119]] 1 } ∧
    parseVersion [82, 70, 66, 32, 48, 48, 51, 46, 48, 48, 56, 10] = some (3, 8) ∧
    (∀ e ∈ [Ev.connect 8 1 false, .proc 8, .setRand []], e.foreign 7 = true) := by
  refine ⟨rfl, by decide, by decide⟩

/-- `no_type_skips_auth` on a concrete state: type 1 on a password screen closes the connection -/
example :
    let c : Conn := { id := 0, screen := 0, reverse := false, st := .sec, inbuf := [1] }
    ((procConn true exEnv { pw := .list [[112]] 1 } [.tight] [1] [] c).1.isOpen,
     (procConn true exEnv { pw := .list [[112]] 1 } [.tight] [1] [] c).1.st) = (false, St.sec) := by
  decide

end VncModel.Props.C05
