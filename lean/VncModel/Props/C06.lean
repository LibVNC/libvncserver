import VncModel.Input.Deliver
import VncModel.Input.Coalesce
/-!
# C06 — Input events reach the application exactly when permitted, unaltered, in order

Property theorems only.  Model: `VncModel/Input/{Stream,Scale,Model}.lean` (the reads and effects of
`rfbProcessClientMessage` / `rfbProcessClientNormalMessage`, pointer ownership, view-only gating,
cut-text limit, `rfbReadExactTimeout` over TCP segments, the pointer part of `rfbUpdateClient`);
`Wire.lean` is the client's side (how a conforming client lays a message out), used only to state
the theorems.  Helper lemmas: `Input/{StreamLemmas,Lemmas,Deliver,Coalesce}.lean`.  The model is tied to the
code on every run by the correspondence run `harness/c06.c` ⇄ `Driver/C06.lean` and by the T0
constants `Gen/C06.lean` (sizes, type numbers, offsets, the literal 1 MiB limit).

What each theorem means for the property
* `deliver_exactly_once_in_order` — "each key, pointer and clipboard message of a fully
  authenticated, non-view-only client results in exactly one callback, in the order sent, with the
  same key symbol / mask / text bytes / position mapped back": for every sequence of well-formed
  messages (input messages mixed with every non-input message type the server keeps a connection
  open for, including SetScale which changes the mapping mid-stream) the callback log is exactly
  `expected`; `deliver_unscaled_identical` is the literal flatMap form for a client that is never
  scaled (identical coordinates); `deliver_any_segmentation` adds "however the stream is cut".
* `gated_handshake`, `gated_view_only`, `gated_pointer_held` — the three "never reach the
  callbacks" clauses.
* `segmentation_invariant`, `segmentation_any_cuts`, `read_exact_segmentation` — "how the byte
  stream is segmented in transit never changes what is delivered" (for ALL byte streams, also
  malformed ones, all connection states).
  Scope: these theorems are about the byte stream the RFB layer reads through `rfbReadExact`
  (plain TCP: the socket; WebSocket / TLS clients: the decoded payload stream).  That the WebSocket
  decoder hands the RFB layer exactly the concatenated frame payloads, however frames and TCP
  segments fall, is C09's theorem `decoder_transparent`; the model therefore does not know the
  transport.  The glue between the two — `rfbReadExactTimeout` continuing a partly filled buffer
  through `webSocketsDecode` — is tied by the correspondence run: the same scripts are also run
  over a real WebSocket connection with every cut as a FRAME boundary, and must give the same log.
* `cuttext_limit_accept` / `cuttext_limit_reject` / `cuttext_limit_value` — exact boundary at
  2^20 bytes; longer closes that connection only.
* `noninput_in_sync` — every non-input message consumes exactly its own length and produces no
  input callback (parser stays in sync).
* `scaled_position`, `scaleAfter_valid` — what "mapped back" is for a scaled client: ⌊x·W/w'⌋ in
  exact integer arithmetic, never overflowing the C `int`.
* `fuel_sufficient` — the bounded recursion of the model never cuts a run short.
* `coalescing_in_order`, `coalescing_last_position`, `coalescing_nothing_pending_forever`,
  `coalescing_mask_change_immediate` — pointer coalescing on (`deferPtrUpdateTime > 0`), over the
  FIXED code, for every sequence of pointer messages and every schedule of `rfbUpdateClient` calls
  with an arbitrary non-decreasing clock: (a) only sent (mask, mapped position) pairs, in order;
  (b) the last position is either delivered or pending, and is delivered once two update calls
  `deferPtr + 2` ms apart have happened (or a newer event arrived); (c) mask changes are delivered
  at once.  `view_only_never_owns`: a view-only client cannot take the pointer.
* `closed_connection_is_silent`, `nothing_after_close` — once the server has closed a connection
  (refused login, unknown message, over-long text, ...) no later byte of it has any effect, in
  particular not the rest of the same segment / WebSocket frame; tied to the single-threaded AND
  the threaded event loop by `harness/c06_wsthread.c`.
* `login_only_raises_view_only`, `hook_makes_view_only` — view-only set by the application before
  the login survives a login with a full-access password (the flag is only ever raised).
* `textchat_overlong_closes` — an over-long (or empty) TextChat closes the connection at its
  header; the tail of the stream is never executed as messages.
* `provide_text_exactly_once`, `provide_gated_view_only` — extended-clipboard Provide: the text
  reaches `setXCutTextUTF8` exactly once with exactly the bytes sent, whatever other formats
  follow (zlib `inflate` is a parameter of the model).
* `layout_matches_headers` — the literal sizes / offsets / type numbers of the model are those of
  the current headers (regenerated by T0 on every run).

`_partial`
(none for the property's clauses; see docs/C06.md for what is modelled abstractly: handshake bytes,
extended-clipboard payload, configuration of non-input messages.)
-/
namespace VncModel.Props.C06
open VncModel.Input VncModel.Gen

/-! ## T0: the model's literals are the header's -/

theorem layout_matches_headers :
    C06.rfbSetPixelFormat = 0 ∧ C06.rfbFixColourMapEntries = 1 ∧ C06.rfbSetEncodings = 2 ∧
    C06.rfbFramebufferUpdateRequest = 3 ∧ C06.rfbKeyEvent = 4 ∧ C06.rfbPointerEvent = 5 ∧
    C06.rfbClientCutText = 6 ∧ C06.rfbFileTransfer = 7 ∧ C06.rfbSetScale = 8 ∧
    C06.rfbSetServerInput = 9 ∧ C06.rfbSetSW = 10 ∧ C06.rfbTextChat = 11 ∧
    C06.rfbPalmVNCSetScaleFactor = 15 ∧ C06.rfbXvp = 250 ∧ C06.rfbSetDesktopSize = 251 ∧
    C06.sz_rfbSetPixelFormatMsg = 1 + 19 ∧ C06.sz_rfbFixColourMapEntriesMsg = 1 + 5 ∧
    C06.sz_rfbSetEncodingsMsg = 1 + 3 ∧ C06.sz_rfbFramebufferUpdateRequestMsg = 1 + 9 ∧
    C06.sz_rfbKeyEventMsg = 1 + 7 ∧ C06.sz_rfbPointerEventMsg = 1 + 5 ∧
    C06.sz_rfbClientCutTextMsg = 1 + 7 ∧ C06.sz_rfbFileTransferMsg = 1 + 11 ∧
    C06.sz_rfbSetScaleMsg = 1 + 3 ∧ C06.sz_rfbSetServerInputMsg = 1 + 3 ∧ C06.sz_rfbSetSWMsg = 1 + 5 ∧
    C06.sz_rfbTextChatMsg = 1 + 7 ∧ C06.sz_rfbXvpMsg = 1 + 3 ∧ C06.sz_rfbSetDesktopSizeMsg = 1 + 7 ∧
    C06.sz_rfbExtDesktopScreen = 16 ∧ C06.sz_rfbProtocolVersionMsg = 12 ∧
    C06.sz_rfbClientInitMsg = 1 ∧ C06.CHALLENGESIZE = 16 ∧ C06.rfbProtocolMajorVersion = 3 ∧
    C06.rfbSecTypeNone = 1 ∧ C06.rfbSecTypeVncAuth = 2 ∧
    -- offsets (the model indexes the bytes AFTER the type byte, hence `1 +`)
    C06.off_ke_down = 1 + 0 ∧ C06.off_ke_key = 1 + 3 ∧ C06.off_pe_buttonMask = 1 + 0 ∧
    C06.off_pe_x = 1 + 1 ∧ C06.off_pe_y = 1 + 3 ∧ C06.off_cct_length = 1 + 3 ∧
    C06.off_se_nEncodings = 1 + 1 ∧ C06.off_ssc_scale = 1 + 0 ∧ C06.off_tc_length = 1 + 3 ∧
    C06.off_sdm_numberOfScreens = 1 + 5 ∧ C06.off_spf_bitsPerPixel = 1 + 3 ∧
    C06.off_spf_trueColour = 1 + 6 ∧
    C06.width_cct_length = 4 ∧ C06.cct_length_unsigned = true ∧
    C06.width_tc_length = 4 ∧ C06.tc_length_unsigned = true ∧
    C06.rfbTextMaxSize = 4096 ∧ C06.rfbTextChatOpen = 4294967295 ∧
    C06.rfbTextChatClose = 4294967294 ∧ C06.rfbTextChatFinished = 4294967293 ∧
    C06.rfbExtendedClipboard_Text = 2 ^ 0 ∧ C06.rfbExtendedClipboard_Caps = 2 ^ 24 ∧
    C06.rfbExtendedClipboard_Request = 2 ^ 25 ∧ C06.rfbExtendedClipboard_Peek = 2 ^ 26 ∧
    C06.rfbExtendedClipboard_Provide = 2 ^ 28 ∧ C06.cutTextExtEscapeMask = 2 ^ 31 := by
  decide

/-- the classic ClientCutText limit in the code is exactly 1 MiB (inclusive) -/
theorem cuttext_limit_value : C06.cutTextMaxAccepted = 2 ^ 20 := by decide

/-! ## segmentation -/

/-- `rfbReadExactTimeout(n)` over ANY segmentation (`arr` arrived, `pend` in flight): it times out
iff fewer than `n` bytes are on their way in total; otherwise it yields exactly the next `n` bytes
of the concatenation and leaves exactly the rest. -/
theorem read_exact_segmentation (n : Nat) (arr : List UInt8) (pend : List (List UInt8)) :
    (readChunks pend n [] arr = none ↔ (flat arr pend).length < n) ∧
    (∀ bs arr' pend', readChunks pend n [] arr = some (bs, arr', pend') →
      bs = (flat arr pend).take n ∧ flat arr' pend' = (flat arr pend).drop n) := by
  refine ⟨readChunks_none pend n [] arr, ?_⟩
  intro bs arr' pend' h
  obtain ⟨_, h2, h3⟩ := readChunks_some pend n [] arr bs arr' pend' h
  exact ⟨by simpa using h2, h3⟩

/-- **Segmentation invariance**: what the server does with a connection's input (final server
state and callback log) depends only on the concatenation of the segments — for every byte stream
(well-formed or not), every connection state, every oracle. -/
theorem segmentation_invariant (orc : Oracles) (fuel : Nat) (s : Server) (i : Nat)
    (arr₁ arr₂ : List UInt8) (pend₁ pend₂ : List (List UInt8))
    (h : flat arr₁ pend₁ = flat arr₂ pend₂) :
    processChunks orc fuel s i arr₁ pend₁ = processChunks orc fuel s i arr₂ pend₂ := by
  rw [processChunks_flat, processChunks_flat, h]

/-- the form the harness exercises: any two lists of cut positions, and no cuts at all -/
theorem segmentation_any_cuts (orc : Oracles) (fuel : Nat) (s : Server) (i : Nat)
    (bs : List UInt8) (cuts₁ cuts₂ : List Nat) :
    processChunks orc fuel s i [] (cutAt bs 0 cuts₁) = processChunks orc fuel s i [] (cutAt bs 0 cuts₂) ∧
    processChunks orc fuel s i [] (cutAt bs 0 cuts₁) = processFlat orc fuel s i bs := by
  constructor
  · apply segmentation_invariant; simp [flat, cutAt_flatten]
  · rw [processChunks_flat]; simp [flat, cutAt_flatten]

example : cutAt [1, 2, 3, 4, 5] 0 [2, 2, 4] = [[1, 2], [], [3, 4], [5]] := by decide

/-! ## gating -/

/-- **still in the handshake**: whatever bytes arrive while the connection is not in RFB_NORMAL
(protocol version, security type, authentication, ClientInit), that call of
`rfbProcessClientMessage` invokes no input callback — they are handshake bytes, never input. -/
theorem gated_handshake (orc : Oracles) (s : Server) (i : Nat) (cl : Client) (bs : List UInt8)
    (hf : s.find i = some cl) (hs : cl.st ≠ .normal) :
    (stepFlat orc s i bs).2.1 = [] := by
  cases hr : (readerFor cl).runFlat bs with
  | none => rw [stepFlat_timeout orc s i cl bs hf hr]
  | some v =>
    obtain ⟨m, rest⟩ := v
    rw [stepFlat_some orc s i cl bs m rest hf hr]
    cases hst : cl.st <;> simp_all [handle]

/-- **view-only** (by password position or by the application): no input callback for any byte
stream, in any state, over the whole life of the connection. -/
theorem gated_view_only (orc : Oracles) : ∀ (fuel : Nat) (s : Server) (i : Nat) (bs : List UInt8),
    (∀ cl, s.find i = some cl → cl.viewOnly = true) → (processFlat orc fuel s i bs).2 = [] := by
  intro fuel
  induction fuel with
  | zero => intros; rfl
  | succ n ih =>
    intro s i bs hv
    cases h : bs.isEmpty || !s.isLive i with
    | true => simp only [processFlat, h, if_true]
    | false =>
      obtain ⟨hcb, hv'⟩ := stepFlat_viewOnly orc s i bs hv
      rw [processFlat_succ orc n s i bs h, hcb, ih _ i _ hv']
      rfl

/-- **another client holds a pointer button**: the pointer message is dropped — no callback, the
ownership and the sender's record are unchanged (the bytes are still consumed: parser in sync). -/
theorem gated_pointer_held (cfg : Cfg) (j : Nat) (cl : Client) (mask x y : Nat) (hj : j ≠ cl.id) :
    handleNormal cfg (some j) cl (.pointer mask x y) = (cl, some j, []) := by
  have : (some j : Option Nat) ≠ some cl.id := by simpa using hj
  simp [handleNormal, this]

/-- ... and the same at the level of one `rfbProcessClientMessage` on the wire -/
theorem gated_pointer_held_wire (orc : Oracles) (s : Server) (i j : Nat) (cl : Client)
    (mask x y : Nat) (rest : List UInt8) (hf : s.find i = some cl) (hn : cl.st = .normal)
    (hm : mask < 256) (hx : x < 65536) (hy : y < 65536) (ho : s.owner = some j) (hj : j ≠ i) :
    (stepFlat orc s i (encode (.pointer mask x y) ++ rest)).2 = ([], rest) ∧
    (stepFlat orc s i (encode (.pointer mask x y) ++ rest)).1.owner = some j ∧
    (stepFlat orc s i (encode (.pointer mask x y) ++ rest)).1.find i = some cl := by
  have hid := find_some_id hf
  rw [stepFlat_normal orc s i cl (encode (.pointer mask x y) ++ rest) _ rest hf hn
    (parse_ptr cl.extClip mask x y hm hx hy rest) (fun _ h => nomatch h), ho,
    gated_pointer_held s.cfg j cl mask x y (hid ▸ hj)]
  exact ⟨rfl, rfl, find_put_self s i cl cl hf hid (some j)⟩

/-! ## a connection the server has closed is silent -/

/-- **after the server has closed a connection, no later byte of it causes a callback or any other
effect** — whatever is still in the stream (the rest of the same TCP segment, of the same WebSocket
frame, ...).  `processFlat` is the loop "call `rfbProcessClientMessage` while input is pending AND the
connection is open"; the single-threaded loop (`rfbCheckFds`: `cl->sock != RFB_INVALID_SOCKET`) and,
since b9d189d, the threaded one (`clientInput`: `cl->state != RFB_SHUTDOWN`) have exactly this guard.
The tie to both real loops is `harness/c06_wsthread.c` (real sockets, threads), run on every check. -/
theorem closed_connection_is_silent (orc : Oracles) (fuel : Nat) (s : Server) (i : Nat) (bs : List UInt8)
    (h : s.isLive i = false) : processFlat orc fuel s i bs = (s, []) := by
  cases fuel with
  | zero => rfl
  | succ n => simp [processFlat, h]

/-- ... in particular: whatever closes the connection in the middle of a stream (`r` = the state
after the closing call, `rest` = the bytes that follow), the bytes after it change nothing and
deliver nothing -/
theorem nothing_after_close (orc : Oracles) (s : Server) (i : Nat) (bs : List UInt8)
    (hclosed : (stepFlat orc s i bs).1.isLive i = false) (fuel : Nat) :
    processFlat orc fuel (stepFlat orc s i bs).1 i (stepFlat orc s i bs).2.2 = ((stepFlat orc s i bs).1, []) :=
  closed_connection_is_silent orc fuel _ i _ hclosed

/-! ## the cut-text limit -/

/-- **at most 2^20 bytes: delivered exactly** (here for any client in RFB_NORMAL that is not
view-only; the 8 header bytes and the text are consumed, nothing else; pad bytes arbitrary). -/
theorem cuttext_limit_accept (orc : Oracles) (s : Server) (i : Nat) (cl : Client)
    (p1 p2 p3 : UInt8) (text rest : List UInt8)
    (hf : s.find i = some cl) (hn : cl.st = .normal) (hv : cl.viewOnly = false)
    (hl : text.length ≤ 2 ^ 20) :
    (stepFlat orc s i ([6, p1, p2, p3] ++ enc32 text.length ++ text ++ rest)).2 =
      ([.cut i text], rest) ∧
    (stepFlat orc s i ([6, p1, p2, p3] ++ enc32 text.length ++ text ++ rest)).1.find i = some cl := by
  have hid := find_some_id hf
  have hh : handleNormal s.cfg s.owner cl (.cutText text) = (cl, s.owner, [.cut i text]) := by
    simp [handleNormal, hv, hid]
  rw [stepFlat_normal orc s i cl _ (.cutText text) rest hf hn
    (parse_cut cl.extClip p1 p2 p3 text rest hl) (fun _ h => nomatch h), hh]
  exact ⟨rfl, find_put_self s i cl cl hf hid s.owner⟩

/-- **more than 2^20 bytes announced: that connection is closed, only that one** — no callback,
only the header is consumed before the close, every other client's record and the pointer ownership
are untouched, and nothing further is processed on the closed connection. -/
theorem cuttext_limit_reject (orc : Oracles) (s : Server) (i : Nat) (cl : Client)
    (p1 p2 p3 : UInt8) (len : Nat) (rest : List UInt8)
    (hf : s.find i = some cl) (hn : cl.st = .normal) (he : cl.extClip = false)
    (h1 : 2 ^ 20 < len) (h2 : len < 2 ^ 32) :
    let r := stepFlat orc s i ([6, p1, p2, p3] ++ enc32 len ++ rest)
    r.2.1 = [] ∧ r.1.find i = some (closeCl cl) ∧ r.1.isLive i = false ∧ r.1.owner = s.owner ∧
    (∀ j, j ≠ i → r.1.find j = s.find j) ∧
    (∀ fuel, (processFlat orc fuel r.1 i r.2.2).2 = []) := by
  obtain ⟨hcb, hself, hlive, hown, hoth⟩ := stepFlat_closes orc s i cl _ (.cutTextTooBig len) rest
    hf hn (he ▸ parse_cut_big p1 p2 p3 len rest h1 h2) (fun _ h => nomatch h) rfl
  exact ⟨congrArg Prod.fst hcb, hself, hlive, hown, hoth,
    fun fuel => by rw [closed_connection_is_silent orc fuel _ i _ hlive]⟩

/-! ## view-only is only ever raised by a login -/

/-- `rfbCheckPasswordByList`: an accepted login leaves the client view-only iff it was view-only
before (application's newClientHook, or the application set the flag) OR the password used is at a
view-only position; a full-access password never clears the flag.  (Together with
`gated_view_only`, which spans the whole connection including the handshake: a client made
view-only before it authenticates never produces a callback, whatever password it uses.) -/
theorem login_only_raises_view_only (orc : Oracles) (cfg : Cfg) (cl : Client) (b : List UInt8) (vo : Bool)
    (h : orc.auth b = some vo) :
    (handleHs orc cfg cl (.hsAuth b)).viewOnly = (cl.viewOnly || vo) ∧
    (cl.viewOnly = true → (handleHs orc cfg cl (.hsAuth b)).viewOnly = true) := by
  simp [handleHs, h]
  intro hv; simp [hv]

/-- a client accepted while the application's newClientHook marks new clients view-only starts
view-only -/
theorem hook_makes_view_only (s : Server) (i : Nat) (hh : s.hookViewOnly = true)
    (hn : s.clients.any (fun c => c.id == i) = false) :
    ∃ cl, (s.connect i).find i = some cl ∧ cl.viewOnly = true := by
  refine ⟨{ id := i, viewOnly := true }, ?_, rfl⟩
  simp [Server.connect, hn, Server.find, hh]

/-! ## over-long TextChat -/

/-- **a TextChat whose length is 0 or ≥ 4096 (and not one of the three commands) closes the
connection after its 8-byte header: whatever follows in the stream — e.g. bytes that look like key
or pointer events — is never executed**, no callback, the other clients are untouched -/
theorem textchat_overlong_closes (orc : Oracles) (s : Server) (i : Nat) (cl : Client)
    (p1 p2 p3 : UInt8) (len : Nat) (rest : List UInt8)
    (hf : s.find i = some cl) (hn : cl.st = .normal) (h32 : len < 2 ^ 32)
    (hc : len ≠ 4294967295 ∧ len ≠ 4294967294 ∧ len ≠ 4294967293) (hb : len = 0 ∨ 4096 ≤ len) :
    let r := stepFlat orc s i ([11, p1, p2, p3] ++ enc32 len ++ rest)
    r.2.1 = [] ∧ r.1.isLive i = false ∧ (∀ j, j ≠ i → r.1.find j = s.find j) ∧
    (∀ fuel, (processFlat orc fuel r.1 i r.2.2).2 = []) := by
  obtain ⟨hcb, _, hlive, _, hoth⟩ := stepFlat_closes orc s i cl _ (.textChatBad len) rest hf hn
    (parse_textChatBad cl.extClip p1 p2 p3 len rest h32 (by omega) (by omega)) (fun _ h => nomatch h) rfl
  exact ⟨congrArg Prod.fst hcb, hlive, hoth,
    fun fuel => by rw [closed_connection_is_silent orc fuel _ i _ hlive]⟩

/-! ## extended clipboard: Provide -/

/-- **the text of a Provide message reaches `setXCutTextUTF8` exactly once, with exactly the bytes
sent**, however many other formats (RTF, HTML, ...) of whatever lengths follow it in the message —
and also if a later format turns out to be corrupt (the client is closed then, the text has been
delivered).  `inflate` is the zlib parameter of the model: `stream` is what the compressed payload
inflates to. -/
theorem provide_text_exactly_once (inflate : List UInt8 → Option (List UInt8)) (cfg : Cfg) (cl : Client)
    (flags : Nat) (comp text tail : List UInt8)
    (hfl : flags < 2 ^ 32) (hprov : flags.testBit 28 = true) (h24 : flags.testBit 24 = false)
    (h25 : flags.testBit 25 = false) (h26 : flags.testBit 26 = false) (htext : flags.testBit 0 = true)
    (hinf : inflate comp = some (enc32 text.length ++ text ++ tail))
    (h1 : 0 < text.length) (h2 : text.length ≤ 2 ^ 20)
    (hv : cl.viewOnly = false) (hh : cfg.utf8Hook = true) :
    (handleExtClip inflate cfg cl (enc32 flags ++ comp)).2 = [.cutUtf8 cl.id text] := by
  have hr : List.range 16 = 0 :: [1, 2, 3, 4, 5, 6, 7, 8, 9, 10, 11, 12, 13, 14, 15] := by decide
  have hl := provideLoop_text_first cl.id flags [1, 2, 3, 4, 5, 6, 7, 8, 9, 10, 11, 12, 13, 14, 15]
    (by decide) text tail htext h1 (by simpa using h2)
  have hflags : be32At (enc32 flags ++ comp) 0 = flags := be32_enc flags hfl
  have hlen : ¬ ((enc32 flags ++ comp).length < 4) := by simp [enc32]
  have hdrop : (enc32 flags ++ comp).drop 4 = comp := by simp [enc32]
  simp only [handleExtClip, hlen, if_false, hflags, h24, h25, h26, hprov, Bool.false_eq_true, if_true,
    hdrop, hinf, hv, hh, hr, Bool.not_false, Bool.and_self, hl]

/-- a view-only client's Provide never reaches the callback (instance of `gated_view_only`) -/
theorem provide_gated_view_only (inflate : List UInt8 → Option (List UInt8)) (cfg : Cfg) (cl : Client)
    (p : List UInt8) (hv : cl.viewOnly = true) : (handleExtClip inflate cfg cl p).2 = [] :=
  (handleExtClip_viewOnly inflate cfg cl p hv).1

/-! ## non-input messages -/

/-- **parser stays in sync**: every well-formed message (input or not) is recognised from exactly
its own bytes — whatever follows (`rest`) is left for the next message — and a message that is not
a key / pointer / cut-text message never produces an input callback. -/
theorem noninput_in_sync (cfg : Cfg) (ext : Bool) (m : Msg) (hm : Benign cfg m) (rest : List UInt8) :
    (parseNormal ext).runFlat (encode m ++ rest) = some (m, rest) ∧
    ((∀ d k, m ≠ .key d k) → (∀ b x y, m ≠ .pointer b x y) → (∀ t, m ≠ .cutText t) →
      ∀ o cl, (handleNormal cfg o cl m).2.2 = []) := by
  refine ⟨parse_encode cfg ext m hm rest, fun h1 h2 h3 o cl => ?_⟩
  -- of the exits of `handleNormal`, only those for the three input messages return a callback
  fun_cases handleNormal cfg o cl m
  all_goals first | rfl | exact absurd rfl (h1 _ _) | exact absurd rfl (h2 _ _ _) | exact absurd rfl (h3 _)

/-- pad bytes of an input message are ignored (here: KeyEvent) -/
theorem pad_bytes_ignored (ext : Bool) (d p1 p2 : UInt8) (k : Nat) (hk : k < 2 ^ 32) (rest : List UInt8) :
    (parseNormal ext).runFlat ([4, d, p1, p2] ++ enc32 k ++ rest) = some (.key d k, rest) :=
  parse_key ext d p1 p2 k (by simpa using hk) rest

/-! ## delivery -/

/-- **Exactly once, unaltered, in order.**  Client `i` is permitted (RFB_NORMAL, connected, not
view-only, nobody else holds a pointer button, coalescing off).  It sends ANY sequence of
well-formed messages — key, pointer and cut-text messages mixed with FramebufferUpdateRequest,
SetEncodings, SetPixelFormat, SetScale, SetDesktopSize, TextChat, xvp, SetSW, SetServerInput.  Then
the callback log is exactly `expected`: one callback per input message, in the order sent, carrying
the same key symbol / down flag, button mask, text bytes, and the position mapped by the scale in
force; the whole stream is consumed, and the client is still permitted afterwards. -/
theorem deliver_exactly_once_in_order (orc : Oracles) (ms : List Msg) :
    ∀ (s : Server) (i : Nat) (cl : Client) (fuel : Nat), Permitted s i cl →
      (∀ m ∈ ms, Benign s.cfg m) → ms.length ≤ fuel →
      (processFlat orc fuel s i (encodeAll ms)).2 = expected s.cfg i cl.scaled ms ∧
      ∃ cl', Permitted (processFlat orc fuel s i (encodeAll ms)).1 i cl' := by
  induction ms with
  | nil =>
    intro s i cl fuel hp _ _
    simp only [encodeAll, List.flatMap_nil, processFlat_nil, expected]
    exact ⟨trivial, cl, hp⟩
  | cons m ms ih =>
    intro s i cl fuel hp hb hfuel
    obtain ⟨n, rfl⟩ : ∃ n, fuel = n + 1 := ⟨fuel - 1, by simp at hfuel; omega⟩
    have hbm := hb m (by simp)
    obtain ⟨s', cl', hstep, hp', hsc, hcfg⟩ := step_benign orc s i cl hp m hbm (encodeAll ms)
    have e : encodeAll (m :: ms) = encode m ++ encodeAll ms := List.flatMap_cons
    have hgo : ((encodeAll (m :: ms)).isEmpty || !s.isLive i) = false := by
      simp [e, encode_ne_nil m s.cfg hbm, isLive_of_permitted hp]
    rw [processFlat_succ orc n s i _ hgo, e, hstep]
    have hb' : ∀ m' ∈ ms, Benign s'.cfg m' := fun m' hm' => hcfg ▸ hb m' (List.mem_cons_of_mem _ hm')
    obtain ⟨h1, cl'', h2⟩ := ih s' i cl' n hp' hb' (by simp at hfuel; omega)
    exact ⟨by rw [h1, expected_cons, hcfg, hsc], cl'', h2⟩

/-- The literal form for a client that is not scaled and sends no SetScale: the log is the flatMap
of one callback per input message **with identical values** (coordinates unchanged, also those
beyond the framebuffer: the library does not clip them). -/
theorem deliver_unscaled_identical (orc : Oracles) (ms : List Msg) (s : Server) (i : Nat)
    (cl : Client) (fuel : Nat) (hp : Permitted s i cl) (hb : ∀ m ∈ ms, Benign s.cfg m)
    (hf : ms.length ≤ fuel) (hu : cl.scaled = none) (hns : ∀ m ∈ ms, isSetScale m = false) :
    (processFlat orc fuel s i (encodeAll ms)).2 = ms.flatMap (plainCallbacks i) := by
  rw [(deliver_exactly_once_in_order orc ms s i cl fuel hp hb hf).1, hu, expected_eq_flatMap _ _ _ _ hns]
  exact congrArg ms.flatMap (funext (expected1_none s.cfg i))

/-- ... and all of this for every segmentation of the stream into reads -/
theorem deliver_any_segmentation (orc : Oracles) (ms : List Msg) (s : Server) (i : Nat)
    (cl : Client) (fuel : Nat) (hp : Permitted s i cl) (hb : ∀ m ∈ ms, Benign s.cfg m)
    (hf : ms.length ≤ fuel) (arr : List UInt8) (pend : List (List UInt8))
    (hseg : flat arr pend = encodeAll ms) :
    (processChunks orc fuel s i arr pend).2 = expected s.cfg i cl.scaled ms := by
  rw [processChunks_flat, hseg]
  exact (deliver_exactly_once_in_order orc ms s i cl fuel hp hb hf).1

/-! ## the scaled mapping -/

/-- a scaled screen the server can have created: width/s × height/s for a one-byte factor s,
both at least 1 -/
def ValidScale (cfg : Cfg) (sc : Option (Nat × Nat)) : Prop :=
  sc = none ∨ ∃ s, 0 < s ∧ s < 256 ∧ sc = some (cfg.width / s, cfg.height / s) ∧
    0 < cfg.width / s ∧ 0 < cfg.height / s

/-- SetScale keeps the scaled screen valid (so every scaled screen reachable from a fresh,
unscaled client by any sequence of SetScale messages is valid) -/
theorem scaleAfter_valid (cfg : Cfg) (sc : Option (Nat × Nat)) (s : Nat) (h : ValidScale cfg sc)
    (h0 : 0 < s) (hs : s < 256) : ValidScale cfg (scaleAfter cfg sc s) := by
  unfold scaleAfter
  simp only []
  split
  · exact Or.inl rfl
  · split
    · exact h
    · next hne =>
      rw [not_or] at hne
      exact Or.inr ⟨s, h0, hs, rfl, Nat.pos_of_ne_zero hne.1, Nat.pos_of_ne_zero hne.2⟩

/-- **what "mapped back to unscaled framebuffer coordinates" is**: for a scaled client the
delivered position is ⌊x·W/w'⌋, ⌊y·H/h'⌋ (W×H the framebuffer, w'×h' the client's scaled screen),
the exact integer arithmetic of `ScaleX`/`ScaleY`; and the value always fits the C `int` it is cast
to (no overflow for any 16-bit coordinate, any screen size, any one-byte scale factor). -/
theorem scaled_position (cfg : Cfg) (fw fh x y : Nat) (hv : ValidScale cfg (some (fw, fh)))
    (hx : x < 65536) (hy : y < 65536) :
    scaleX cfg (some (fw, fh)) x = x * cfg.width / fw ∧
    scaleY cfg (some (fw, fh)) y = y * cfg.height / fh ∧
    scaleX cfg (some (fw, fh)) x < 2 ^ 31 ∧ scaleY cfg (some (fw, fh)) y < 2 ^ 31 := by
  rcases hv with h | ⟨s, h0, hs, heq, hw, hh⟩
  · cases h
  · simp only [Option.some.injEq, Prod.mk.injEq] at heq
    obtain ⟨rfl, rfl⟩ := heq
    have bound : ∀ (W a : Nat), a < 65536 → 0 < W / s → a * W / (W / s) < 2 ^ 31 := by
      intro W a ha hpos
      have h1 : s * (W / s) + W % s = W := Nat.div_add_mod W s
      have h2 : W % s < s := Nat.mod_lt _ h0
      have h3 : s * (W / s) ≤ 255 * (W / s) := Nat.mul_le_mul_right _ (by omega)
      have h4 : a * W ≤ 65535 * W := Nat.mul_le_mul_right _ (by omega)
      rw [Nat.div_lt_iff_lt_mul hpos]
      omega
    exact ⟨rfl, rfl, bound cfg.width x hx hw, bound cfg.height y hy hh⟩

/-! ## the model's fuel never cuts processing short -/

/-- `processFlat` is run by the driver with fuel = number of bytes + 1; any fuel ≥ the number of
bytes gives the same result, because every `rfbProcessClientMessage` consumes at least one byte or
closes the connection.  (So the theorems above, which need `fuel ≥ number of messages`, speak about
the run the driver performs.) -/
theorem fuel_sufficient (orc : Oracles) : ∀ (f₁ f₂ : Nat) (s : Server) (i : Nat) (bs : List UInt8),
    bs.length ≤ f₁ → bs.length ≤ f₂ → processFlat orc f₁ s i bs = processFlat orc f₂ s i bs := by
  intro f₁
  induction f₁ with
  | zero =>
    intro f₂ s i bs h1 _
    obtain rfl := List.eq_nil_of_length_eq_zero (Nat.le_zero.mp h1)
    rw [processFlat_nil, processFlat_nil]
  | succ n ih =>
    intro f₂ s i bs h1 h2
    cases f₂ with
    | zero =>
      obtain rfl := List.eq_nil_of_length_eq_zero (Nat.le_zero.mp h2)
      rw [processFlat_nil, processFlat_nil]
    | succ m =>
      cases h : bs.isEmpty || !s.isLive i with
      | true => simp only [processFlat, h, if_true]
      | false =>
        have hlive : s.isLive i = true := by simpa using (Bool.or_eq_false_iff.mp h).2
        have hlen := stepFlat_consumes orc s i bs hlive
        rw [processFlat_succ orc n s i bs h, processFlat_succ orc m s i bs h,
          ih m _ i _ (by omega) (by omega)]

/-! ## pointer coalescing (deferPtrUpdateTime > 0), fixed code

`PEv` schedules (Input/Coalesce.lean): any interleaving of PointerEvent messages of one client that
may use the pointer with `rfbUpdateClient` calls at arbitrary clock readings.  `prun` = what
`ptrDeliver` (the message side, = the PointerEvent handler, `pointer_handler_is_ptrDeliver`) and
`updatePtr` (the timer side, applied to every client by `pump`) make of it. -/

/-- the PointerEvent handler of a client that may use the pointer IS `ptrDeliver` -/
theorem pointer_handler_is_ptrDeliver (cfg : Cfg) (o : Option Nat) (cl : Client) (m x y : Nat)
    (hv : cl.viewOnly = false) (ho : o = none ∨ o = some cl.id) :
    handleNormal cfg o cl (.pointer m x y) =
      ((ptrDeliver cfg cl m x y).1, if m = 0 then none else some cl.id, (ptrDeliver cfg cl m x y).2) := by
  have h1 : ¬ (o.isSome = true ∧ o ≠ some cl.id) := by rcases ho with h | h <;> simp [h]
  simp [handleNormal, hv, h1]

/-- a view-only client never becomes the pointer owner, and gives the pointer up if it has it
(fixed code, fixes/C06-viewonly-pointer-grab.diff): it cannot lock out the other clients -/
theorem view_only_never_owns (cfg : Cfg) (o : Option Nat) (cl : Client) (m x y : Nat)
    (hv : cl.viewOnly = true) :
    (handleNormal cfg o cl (.pointer m x y)).2.1 ≠ some cl.id ∧
    (o ≠ some cl.id → (handleNormal cfg o cl (.pointer m x y)).2.1 = o) := by
  simp only [handleNormal, hv, if_true]
  constructor
  · split <;> simp_all
  · intro h; simp [h]

/-- **(a) only what was sent, mapped back, in order**: for EVERY schedule the callbacks the
application receives are a subsequence of the (mask, mapped-back position) pairs the client sent -/
theorem coalescing_in_order (cfg : Cfg) (cl : Client) (evs : List PEv)
    (hv : cl.viewOnly = false) (hp : cl.lastPtr = none) :
    (prun cfg cl evs).2.Sublist (sentCbs cfg cl.id cl.scaled evs) :=
  (CI_prun cfg cl evs hv hp).sub

/-- **(b) the last position is never lost**: after EVERY schedule, either nothing was sent, or the
last message sent is the last callback delivered and nothing is pending, or the last message sent
(its position AND its mask) is exactly what is pending -/
theorem coalescing_last_position (cfg : Cfg) (cl : Client) (evs : List PEv)
    (hv : cl.viewOnly = false) (hp : cl.lastPtr = none) :
    sentCbs cfg cl.id cl.scaled evs = [] ∨
    ((prun cfg cl evs).1.lastPtr = none ∧
      (prun cfg cl evs).2.getLast? = (sentCbs cfg cl.id cl.scaled evs).getLast?) ∨
    (∃ px py, (prun cfg cl evs).1.lastPtr = some (px, py) ∧
      (sentCbs cfg cl.id cl.scaled evs).getLast? =
        some (.ptr cl.id (prun cfg cl evs).1.lastPtrButtons px py)) := by
  have h := CI_prun cfg cl evs hv hp
  cases hl : (prun cfg cl evs).1.lastPtr with
  | none =>
    rcases h.pendNone hl with h0 | h1
    · exact Or.inl h0
    · exact Or.inr (Or.inl ⟨rfl, h1⟩)
  | some p =>
    obtain ⟨px, py⟩ := p
    obtain ⟨sd, hs, _⟩ := h.pendSome px py hl
    exact Or.inr (Or.inr ⟨px, py, rfl, by rw [hs]; simp⟩)

/-- **(b) nothing stays pending forever**: the clock is ANY non-decreasing sequence; once the event
loop has called `rfbUpdateClient` twice, at least `deferPtr + 2` ms apart, after the last message,
nothing is pending and the last callback delivered is the last message sent.  (A newer message with
a different mask flushes the pending position even earlier: `defer_flush_keeps_order`.) -/
theorem coalescing_nothing_pending_forever (cfg : Cfg) (cl : Client) (evs : List PEv) (t0 t1 t2 : Nat)
    (hv : cl.viewOnly = false) (hp : cl.lastPtr = none) (hok : TimerOk cl t0) (hm : Mono t0 evs)
    (h1 : lastTime t0 evs ≤ t1) (h2 : t1 + (cfg.deferPtr + 2) * 1000 ≤ t2) :
    (prun cfg cl (evs ++ [.upd t1, .upd t2])).1.lastPtr = none ∧
    (sentCbs cfg cl.id cl.scaled evs ≠ [] →
      (prun cfg cl (evs ++ [.upd t1, .upd t2])).2.getLast? =
        (sentCbs cfg cl.id cl.scaled evs).getLast?) := by
  have h := CI_prun cfg cl evs hv hp
  have htk := TimerOk_run cfg evs cl t0 hok hm
  have htk1 : TimerOk (prun cfg cl evs).1 t1 := by
    intro hs; have := htk hs; omega
  rw [prun_append]
  simp only []
  cases hl : (prun cfg cl evs).1.lastPtr with
  | none =>
    have e : prun cfg (prun cfg cl evs).1 [.upd t1, .upd t2] = ((prun cfg cl evs).1, []) := by
      simp [prun, pstep, updatePtr, hl]
    rw [e]
    refine ⟨hl, ?_⟩
    intro hne
    rcases h.pendNone hl with h0 | h3
    · exact absurd h0 hne
    · simpa using h3
  | some p =>
    obtain ⟨px, py⟩ := p
    obtain ⟨hf1, hf2⟩ := timer_fires cfg (prun cfg cl evs).1 t1 t2 px py h.rw hl htk1 h2
    obtain ⟨sd, hs, _⟩ := h.pendSome px py hl
    refine ⟨hf1, ?_⟩
    intro _
    rw [hf2, hs, h.id]
    simp

/-- **(c) button-mask changes are never coalesced away**: whatever happened before, a message whose
mask differs from the mask of the previous message is delivered during its own processing (as the
last callback of that step — a pending coalesced position goes out just before it), and nothing is
pending afterwards -/
theorem coalescing_mask_change_immediate (cfg : Cfg) (cl : Client) (pre : List PEv) (m x y : Nat)
    (hv : cl.viewOnly = false) (hp : cl.lastPtr = none)
    (hm : m ≠ lastMask cl.lastPtrButtons pre) :
    (pstep cfg (prun cfg cl pre).1 (.msg m x y)).2.getLast? =
      some (.ptr cl.id m (scaleX cfg cl.scaled x) (scaleY cfg cl.scaled y)) ∧
    (pstep cfg (prun cfg cl pre).1 (.msg m x y)).1.lastPtr = none ∧
    (prun cfg cl (pre ++ [.msg m x y])).2 =
      (prun cfg cl pre).2 ++ (pstep cfg (prun cfg cl pre).1 (.msg m x y)).2 := by
  have h := CI_prun cfg cl pre hv hp
  have hb := prun_lastPtrButtons cfg pre cl
  have hne : m ≠ (prun cfg cl pre).1.lastPtrButtons := by rw [hb]; exact hm
  refine ⟨?_, ?_, ?_⟩
  · simp only [pstep, ptrDeliver, hne, ne_eq, not_false_eq_true, true_or, if_true]
    cases hl : (prun cfg cl pre).1.lastPtr with
    | none => simp [sx, sy, h.id, h.scaled]
    | some p => simp [sx, sy, h.id, h.scaled]
  · simp only [pstep, ptrDeliver, hne, ne_eq, not_false_eq_true, true_or, if_true]
    cases hl : (prun cfg cl pre).1.lastPtr <;> rfl
  · rw [prun_append]; simp [prun]

/-- at the level of the PointerEvent handler: an event that must be delivered at once while a coalesced
position is pending: the pending position goes first, with the buttons it was sent with; nothing
stays pending -/
theorem defer_flush_keeps_order (cfg : Cfg) (cl : Client) (mask x y px py : Nat)
    (hv : cl.viewOnly = false) (hp : cl.lastPtr = some (px, py)) (hm : mask ≠ cl.lastPtrButtons) :
    handleNormal cfg none cl (.pointer mask x y) =
      ({ cl with lastPtrButtons := mask, lastPtr := none, startUsec := 0 },
       if mask = 0 then none else some cl.id,
       [.ptr cl.id cl.lastPtrButtons px py, .ptr cl.id mask (sx cfg cl x) (sy cfg cl y)]) := by
  simp [handleNormal, ptrDeliver, hv, hp, hm]

/-- once more than `deferPtr` ms have passed since deferring started, the next
`rfbUpdateClient` delivers the coalesced (= last) position and clears it -/
theorem defer_delivers_pending (cfg : Cfg) (now : Nat) (cl : Client) (px py : Nat)
    (hv : cl.viewOnly = false) (hp : cl.lastPtr = some (px, py)) (hs : cl.startUsec ≠ 0)
    (hel : elapsedMs now cl > (cfg.deferPtr : Int)) :
    updatePtr cfg now cl =
      ({ cl with startUsec := 0, lastPtr := none }, [.ptr cl.id cl.lastPtrButtons px py]) :=
  updatePtr_fire cfg now cl px py hv hp hs (.inr hel)

/-! ## non-vacuity: the hypotheses are satisfiable by a non-trivial state -/

def cfg0 : Cfg := ⟨40, 30, false, false, 0⟩
def c1 : Client := { id := 1, st := .normal }
def c2 : Client := { id := 2, st := .normal, viewOnly := true }
def c3 : Client := { id := 3, st := .sec }
def s0 : Server := { cfg := cfg0, clients := [c3, c2, c1] }

example : Permitted s0 1 c1 :=
  { found := by decide, normal := rfl, isOpen := rfl, rw := rfl, free := Or.inl rfl, nodefer := rfl,
    nopending := rfl }

def demo : List Msg :=
  [.key 1 0x41, .fbUpdateRequest [0, 0, 0, 0, 0, 0, 40, 0, 30], .pointer 1 39 29, .setScale false 2,
   .pointer 0 10 7, .cutText [104, 105], .setEncodings [0, 1, 4294967057]]

example : ∀ m ∈ demo, Benign s0.cfg m := by
  intro m hm
  simp only [demo, List.mem_cons, List.mem_nil_iff, or_false] at hm
  rcases hm with h | h | h | h | h | h | h <;> subst h <;> simp [Benign]

-- the theorem's right-hand side on a concrete mixed sequence (scale changes mid-stream)
example : expected cfg0 1 none demo =
    [.kbd 1 1 0x41, .ptr 1 1 39 29, .ptr 1 0 20 14, .cut 1 [104, 105]] := by decide

-- the model really runs: same log from the bytes, cut into segments
example : (processChunks noOracles 100 s0 1 [] (cutAt (encodeAll demo) 0 [1, 9, 9, 30])).2 =
    [.kbd 1 1 0x41, .ptr 1 1 39 29, .ptr 1 0 20 14, .cut 1 [104, 105]] := by decide

-- gating: the view-only client and the client in the handshake get nothing
example : (processFlat noOracles 100 s0 2 (encodeAll demo)).2 = [] := by decide
example : (stepFlat noOracles s0 3 (encodeAll demo)).2.1 = [] := by decide

-- limit: 2^20 + 1 announced closes client 1 only
example : let r := stepFlat noOracles s0 1 ([6, 0, 0, 0] ++ enc32 1048577 ++ [1, 2, 3])
    r.1.isLive 1 = false ∧ r.1.isLive 2 = true ∧ r.2.1 = [] := by decide

-- coalescing: a concrete schedule (defer 50 ms): two moves are coalesced, the press flushes the
-- last of them first, a later move is delivered by the timer
def cfgD : Cfg := ⟨40, 30, false, false, 50⟩
def schedD : List PEv :=
  [.msg 0 5 10, .upd 1000000, .msg 0 6 6, .msg 1 20 20, .msg 1 21 21, .upd 1010000, .upd 1070000]
example : (prun cfgD c1 schedD).2 = [.ptr 1 0 6 6, .ptr 1 1 20 20, .ptr 1 1 21 21] := by decide
example : Mono 0 schedD ∧ TimerOk c1 0 := by simp [Mono, schedD, TimerOk, c1]
example : 1 ≠ lastMask c1.lastPtrButtons [.msg 0 5 10, .upd 1000000, .msg 0 6 6] := by decide

-- Provide with text + RTF + HTML of different lengths: exactly the text, once
example : (handleExtClip some ⟨40, 30, false, true, 0⟩ c1
    (enc32 (2 ^ 28 + 7) ++ (enc32 2 ++ [104, 105] ++ enc32 1 ++ [65] ++ enc32 3 ++ [1, 2, 3]))).2 =
    [.cutUtf8 1 [104, 105]] := by decide

-- a client made view-only before the login stays view-only after a full-access login
example : (handleHs ⟨fun _ => some false, fun _ => none⟩ cfg0 { c2 with st := .auth } (.hsAuth [])).viewOnly = true := by
  decide

-- over-long TextChat followed by a look-alike KeyEvent: closed, nothing delivered
example : let r := processFlat noOracles 100 s0 1 ([11, 0, 0, 0] ++ enc32 4117 ++ encode (.key 1 0x61))
    r.2 = [] ∧ r.1.isLive 1 = false := by decide

-- another client holds a button
example : handleNormal cfg0 (some 2) c1 (.pointer 0 5 5) = (c1, some 2, []) := by decide

example : ValidScale cfg0 (scaleAfter cfg0 none 3) :=
  scaleAfter_valid cfg0 none 3 (Or.inl rfl) (by decide) (by decide)
example : scaleAfter cfg0 none 3 = some (13, 10) := by decide

-- the scaled mapping is exact integer arithmetic
example : scaleCoord 1 49 98 = 2 := by decide

end VncModel.Props.C06
