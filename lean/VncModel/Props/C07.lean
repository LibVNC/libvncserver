import VncModel.Client.Requests
import VncModel.Client.RefineHex
import VncModel.Client.Copy
import VncModel.Client.Reader
import VncModel.Client.RefineTrle
import VncModel.Client.RefineTight
import VncModel.Client.CPixSel
/-!
# C07 — LibVNCClient reconstructs exactly what a conforming server encoded  (property theorems)

## What is modelled (`VncModel/Client/*.lean`, tied to the code by `./check C07` on every run)
* `Basic.lean`  — `client->frameBuffer` (one `Pixel` per cell) and the three write primitives of
  vncviewer.c with their loop orders: `fillRectangle`, `copyRectangle`, `copyFromRect`.
* `Decode.lean` — the decoders as the C code does them: Raw (row batching through `client->buffer`),
  CopyRect, RRE, CoRRE (sub-rectangles buffered in one read, count guard), Hextile (bg/fg variables,
  coloured sub-rectangles clobber fg), TRLE (palette reuse, last_type), the ZRLE tile decoder
  (length checks, packed-palette shift loop, run-length accumulation).
* `Session.lean` — Zlib/ZRLE/Ultra/Tight containers (external codecs = oracle parameters), cursor
  shape, pseudo-encodings, message loop, handshake, the request builders.
* `Reader.lean` — `ReadFromRFBServer` over an arbitrarily segmented stream.
The *specification* is `VncModel.Enc.Spec` (C01) plus `Client/SpecExtra.lean` (strict Hextile and
strict TRLE decoders).

## Theorems (for ALL inputs; `blit fb x y w h px` = framebuffer with the rectangle replaced by `px`)
* `client_decoder_refines_spec_{raw,rre,corre,hextile}`: if the specification decodes the
  rectangle payload to `px` then the client decoder returns TRUE, leaves the same rest of the
  stream and the framebuffer is `blit fb … px`.  With C01's `decode_encodeWith` this is "the
  client reconstructs exactly what any valid encoder produced".
* `client_decoder_refines_spec_zrle_tile` / `…_zrle_tiles`: the same for every ZRLE tile
  sub-encoding (raw, solid, packed palette 1/2/4 bit with row padding, plain RLE, palette RLE)
  and for the tile loop over the inflated data.
* `client_decoder_refines_spec_copyrect` + `copyrect_memmove`: CopyRect parses as specified and
  `CopyRectangleFromRectangle` is the simultaneous copy for all 8 directions of overlap.
* `read_buffering_invariant`, `read_segmentation_independent`.
* `client_requests_wellformed`.
* `client_decoder_refines_spec_trle_tile` / `…_trle`: every TRLE tile sub-encoding incl. palette
  reuse 127/129 with the `last_type` bookkeeping, the tile loop, the assembled rectangle.  Valid
  streams = accepted by the strict TRLE decoder (palette forgotten after a solid tile,
  SpecExtra.lean), on which `Spec.decodeTRLE` yields the same pixels.
* `client_decoder_refines_spec_tight` / `…_tight_session`: fill, copy, palette (2 colours: 1-bit
  padded rows; 3‥256: bytes), gradient; compact length; 12-byte rule; stream selection `t % 4`;
  `inflate` is a parameter on both sides (stream resets = low 4 control bits are the
  decompressor's business in `Spec.decodeTight` (`tightResetMask`) and in the model; that the C
  code resets exactly those streams, also on Fill/JPEG rectangles, is checked by the deterministic
  sessions of every run).
* `client_cpixel_selection`: `clientCPix f = f.cpix` for all 32-bpp true-colour formats with
  channel maxima `2^k-1` inside 32 bits, under `depth ≤ 24 ∨ ¬ (fitsLS ∨ fitsMS)`; for the
  complementary case the code deviates from the RFC (known finding `cpixel-depth`, example below).
* `client_decoder_refines_spec_zrle_data`: the ZRLE tile loop against `Spec.decodeZRLEData`; it
  needs no hypothesis on tile lengths (`zrleTiles_lengths` supplies them) and so subsumes
  `…_zrle_tiles`.

## Stated limits of the library (hypotheses of the theorems; RFC-valid but perverse streams)
* CoRRE: sub-rectangle count ≤ `RFB_BUFFER_SIZE/(4+bytespp)`; ZRLE: inflated tile data ≤
  `2·w·h·cpixel` bytes (container level, `handleZRLE`); Tight: rows fit the decompression window
  (`hrow`), gradient rows ≤ 2048 pixels, no one-colour palette.
* Hextile/TRLE: "strict" streams (see above) — where the RFC is silent the field behaviour is used.
* Zlib/Ultra/ZRLE/Tight: `inflate`/LZO/JPEG are parameters (trusted codecs).
* `SetColourMapEntries`: the model follows fixes/C07-colourmap-body.diff (header and entries are
  read and discarded; no colour map is kept, colour-mapped formats are outside the theorems).
  Padding bits of pixels are masked in all comparisons.
-/
namespace VncModel.Props.C07
open VncModel.Client
open VncModel.Enc.Spec hiding encRaw encCopyRect encRRE encCoRRE encHextile encZlib encTight encUltra encTRLE encZRLE encZYWRLE encLastRect tightMinToCompress
open VncModel.Gen.C07

theorem client_decoder_refines_spec_raw (bpp : Nat) (fb : FB) (x y w h : Nat) (bs : Bytes)
    (px : List Pixel) (rest : Bytes) (hbpp : 1 ≤ bpp) (hfit : w * bpp ≤ rfbBufferSize)
    (hW : x + w ≤ fb.w) (hH : y + h ≤ fb.h)
    (hsp : decodeRaw ⟨w, h⟩ bpp bs = some (px, rest)) :
    clientRaw bpp fb x y w h bs = some (blit fb x y w h px, rest) :=
  clientRaw_refines bpp fb x y w h bs px rest hbpp hfit hW hH hsp

theorem client_decoder_refines_spec_rre (bpp : Nat) (fb : FB) (rx ry rw rh : Nat) (bs : Bytes)
    (px : List Pixel) (rest : Bytes) (hW : rx + rw ≤ fb.w) (hH : ry + rh ≤ fb.h)
    (hsp : decodeRRE ⟨rw, rh⟩ bpp bs = some (px, rest)) :
    clientRRE bpp fb rx ry rw rh bs = some (blit fb rx ry rw rh px, rest) := by
  obtain ⟨n, bs1, bg, bs2, rs, hn, hb, hr, rfl⟩ := decodeRREWith_eq_some hsp
  simp only [clientRRE, hn, hb, rreSubs_eq_foldl bpp rx ry hr,
    foldl_paintAt_fillRectangle hW hH bg rs (readSubrects_inside hr)]

/-- CoRRE; `hguard`: the sub-rectangle count passes the guard of corre.c:49 (a count above
`RFB_BUFFER_SIZE/(4+bytespp)` — more bytes than Raw would need — is rejected by the library) -/
theorem client_decoder_refines_spec_corre (bpp : Nat) (fb : FB) (rx ry rw rh : Nat) (bs : Bytes)
    (px : List Pixel) (rest : Bytes) (hW : rx + rw ≤ fb.w) (hH : ry + rh ≤ fb.h)
    (hsp : decodeCoRRE ⟨rw, rh⟩ bpp bs = some (px, rest))
    (hguard : ∀ n r, readU32 bs = some (n, r) → correGuard bpp n = true) :
    clientCoRRE bpp fb rx ry rw rh bs = some (blit fb rx ry rw rh px, rest) := by
  obtain ⟨n, bs1, bg, bs2, rs, hn, hb, hr, rfl⟩ := decodeRREWith_eq_some hsp
  obtain ⟨buf, ht, hbuf⟩ := (exact_readSubrects (exact_readPixel bpp) exact_readGeom8 rw rh n).takeN hr
  simp only [clientCoRRE, hn, hb, hguard n bs1 hn, if_true, ht, correSubs_eq_foldl bpp rx ry hbuf,
    foldl_paintAt_fillRectangle hW hH bg rs (readSubrects_inside hr)]

/-- Hextile, all flag combinations, bg/fg persistence over the tiles of the rectangle.
Valid streams = accepted by the strict decoder (foreground unspecified after a tile with coloured
sub-rectangles, see SpecExtra.lean); on those `Spec.decodeHextile` yields the same pixels. -/
theorem client_decoder_refines_spec_hextile (bpp : Nat) (fb : FB) (rx ry rw rh : Nat) (bs : Bytes)
    (px : List Pixel) (rest : Bytes) (hW : rx + rw ≤ fb.w) (hH : ry + rh ≤ fb.h)
    (hsp : decodeHextileStrict ⟨rw, rh⟩ bpp bs = some (px, rest)) :
    clientHextile bpp fb rx ry rw rh bs = some (blit fb rx ry rw rh px, rest) ∧
    decodeHextile ⟨rw, rh⟩ bpp bs = some (px, rest) := by
  refine ⟨?_, strict_implies_spec _ _ _ _ _ hsp⟩
  simp only [decodeHextileStrict, Option.map_eq_some_iff, Prod.exists, Prod.mk.injEq] at hsp
  obtain ⟨pxs, r', ht, rfl, rfl⟩ := hsp
  rw [clientHextile_refines bpp fb rx ry rw rh bs pxs r' hW hH ht,
    blitTiles_eq_blit_assemble (by decide) ⟨rw, rh⟩ fb rx ry pxs hW (strictTiles_lengths ht)]

/-- every ZRLE tile sub-encoding (the tile is non-empty, as all tiles of `tileGrid` are) -/
theorem client_decoder_refines_spec_zrle_tile (cp : CPix) (tw th : Nat) (buf : Bytes) (px : List Pixel)
    (rest : Bytes) (hne : 1 ≤ tw * th) (hsp : decodeZRLETile cp tw th buf = some (px, rest)) :
    zrleTile cp tw th buf = some (px, rest) :=
  zrleTile_refines cp tw th buf px rest hne hsp

/-- the tile loop of `HandleZRLE` over the inflated data paints exactly the specification's tiles,
which is the rectangle `Spec.assemble` describes (`hlen`: every decoded tile has `w·h` pixels) -/
theorem client_decoder_refines_spec_zrle_tiles (cp : CPix) (fb : FB) (rx ry rw rh : Nat) (data : Bytes)
    (pxs : List (List Pixel)) (rest : Bytes) (hW : rx + rw ≤ fb.w)
    (hsp : decodeZRLETiles cp (tileGrid 64 ⟨rw, rh⟩) data = some (pxs, rest))
    (hlen : pxs.length = (tileGrid 64 ⟨rw, rh⟩).length ∧
      ∀ j (h1 : j < (tileGrid 64 ⟨rw, rh⟩).length) (h2 : j < pxs.length),
        (pxs[j]).length = ((tileGrid 64 ⟨rw, rh⟩)[j]).w * ((tileGrid 64 ⟨rw, rh⟩)[j]).h) :
    zrleTiles cp rx ry (tileGrid 64 ⟨rw, rh⟩) fb data =
      (blit fb rx ry rw rh (assemble 64 ⟨rw, rh⟩ pxs), true) := by
  rw [zrleTiles_refines cp rx ry (tileGrid_nonempty (by decide) _) hsp,
    blitTiles_eq_blit_assemble (by decide) ⟨rw, rh⟩ fb rx ry pxs hW (tileLens_of_getElem hlen.1 hlen.2)]

/-- CopyRect: the payload is parsed as specified; the effect is `copyFromRect` -/
theorem client_decoder_refines_spec_copyrect (fb : FB) (x y w h : Nat) (bs : Bytes) :
    clientCopyRect fb x y w h bs =
      (decodeCopyRect bs).map fun ((sx, sy), r) => (copyFromRect fb sx sy w h x y, r) := by
  simp only [clientCopyRect, decodeCopyRect]
  cases readU16 bs with
  | none => rfl
  | some p =>
    obtain ⟨sx, bs1⟩ := p
    simp only
    cases readU16 bs1 with
    | none => rfl
    | some q => obtain ⟨sy, r⟩ := q; rfl

/-- the tile loop of `HandleZRLE` against `Spec.decodeZRLEData` (no side conditions) -/
theorem client_decoder_refines_spec_zrle_data (cp : CPix) (fb : FB) (rx ry rw rh : Nat) (data : Bytes)
    (px : List Pixel) (rest : Bytes) (hW : rx + rw ≤ fb.w)
    (hsp : decodeZRLEData ⟨rw, rh⟩ cp data = some (px, rest)) :
    zrleTiles cp rx ry (tileGrid 64 ⟨rw, rh⟩) fb data = (blit fb rx ry rw rh px, true) := by
  simp only [decodeZRLEData, Option.map_eq_some_iff, Prod.exists, Prod.mk.injEq] at hsp
  obtain ⟨pxs, r, ht, rfl, rfl⟩ := hsp
  rw [zrleTiles_refines cp rx ry (tileGrid_nonempty (by decide) _) ht,
    blitTiles_eq_blit_assemble (by decide) ⟨rw, rh⟩ fb rx ry pxs hW (zrleTiles_lengths ht)]

/-- TRLE, one tile, every sub-encoding (raw, solid, packed 2‥16, plain RLE, palette RLE, reuse of
the previous palette packed / RLE) -/
theorem client_decoder_refines_spec_trle_tile (cp : CPix) (rawBuf : Nat) (fb : FB) (st : TrleSt) (x y tw th : Nat)
    (prev : List Pixel) (bs : Bytes) (px prev' : List Pixel) (rest : Bytes)
    (hrel : TrleRel prev st) (hW : x + tw ≤ fb.w) (hH : y + th ≤ fb.h)
    (hpalsz : st.pal.size = trlePaletteCells) (hbud : tw * th / 255 + cp.size + 2 ≤ rawBuf)
    (hsp : decodeTRLETile cp tw th prev bs = some ((px, prev'), rest)) :
    ∃ st', trleTile cp rawBuf fb st x y tw th bs = some ((blit fb x y tw th px, st'), rest) ∧
      TrleRel (trleStrictAfter (bs.headD 0).toNat prev') st' ∧ st'.pal.size = trlePaletteCells :=
  trleTile_refines cp rawBuf fb st x y tw th prev bs px prev' rest hrel hW hH hpalsz hbud hsp

/-- TRLE, whole rectangle.  `hraw`: `raw_buffer_size` after the adjustment at the top of `HandleTRLE`
(`trleRawBuf`, at least `16·16·cpixel·2`). -/
theorem client_decoder_refines_spec_trle (cp : CPix) (rawBuf : Nat) (fb : FB) (rx ry rw rh : Nat) (bs : Bytes)
    (px : List Pixel) (rest : Bytes) (hraw : cp.size + 3 ≤ rawBuf) (hW : rx + rw ≤ fb.w) (hH : ry + rh ≤ fb.h)
    (hsp : decodeTRLEStrict ⟨rw, rh⟩ cp bs = some (px, rest)) :
    clientTRLE cp rawBuf fb rx ry rw rh bs = some (blit fb rx ry rw rh px, rest) ∧
    decodeTRLE ⟨rw, rh⟩ cp bs = some (px, rest) := by
  refine ⟨?_, strictTrle_implies_spec _ _ _ _ _ hsp⟩
  simp only [decodeTRLEStrict, Option.map_eq_some_iff, Prod.exists, Prod.mk.injEq] at hsp
  obtain ⟨pxs, r', ht, rfl, rfl⟩ := hsp
  have hts : ∀ t ∈ tileGrid 16 ⟨rw, rh⟩, t.x + t.w ≤ rw ∧ t.y + t.h ≤ rh ∧ t.w * t.h ≤ 256 := fun t htm =>
    ⟨(mem_tileGrid (by decide) htm).1, (mem_tileGrid (by decide) htm).2, tileGrid_area_le (T := 16) _ t htm⟩
  rw [clientTRLE, trleTiles_refines cp rawBuf rx ry rw rh hraw hts hW hH (Or.inl rfl)
      (by simp [trlePaletteCells]) ht,
    blitTiles_eq_blit_assemble (by decide) ⟨rw, rh⟩ fb rx ry pxs hW (strictTrleTiles_lengths ht)]

/-- Tight: `HandleTightBPP` obtains exactly the pixels of `Spec.decodeTight`, for every `inflate` -/
theorem client_decoder_refines_spec_tight (f : PixFmt) (infl : Nat → Bytes → Option Bytes) (w h : Nat) (bs : Bytes)
    (px : List Pixel) (rest : Bytes) (hbpp : f.bpp = 8 * f.bytespp)
    (hrow : ∀ bits, bits = 1 ∨ bits = 8 ∨ bits = 24 ∨ bits = f.bpp →
      (w * bits + 7) / 8 ≤ rfbBufferSize * bits / (bits + f.bpp) / 4 * 4)
    (hgrad : tightIsGradient bs = true → w * 3 ≤ tightThisRowCells)
    (hpal1 : tightOneColourPalette bs = false)
    (hinfl0 : ∀ id dd, infl id [] = some dd → dd.length < 12)
    (hsp : decodeTight {} infl f ⟨w, h⟩ bs = some (px, rest)) :
    ∃ used, tightDecode f infl w h bs = .ok (px, used, rest) :=
  tightDecode_refines f infl w h bs px rest hbpp hrow hgrad hpal1 hinfl0 hsp

/-- … and in a session: the framebuffer holds those pixels in the rectangle -/
theorem client_decoder_refines_spec_tight_session (s : St) (x y w h : Nat) (bs : Bytes) (px : List Pixel) (rest : Bytes)
    (hW : x + w ≤ s.fb.w) (hH : y + h ≤ s.fb.h) (hbpp : s.fmt.bpp = 8 * s.fmt.bytespp)
    (hrow : ∀ bits, bits = 1 ∨ bits = 8 ∨ bits = 24 ∨ bits = s.fmt.bpp →
      (w * bits + 7) / 8 ≤ rfbBufferSize * bits / (bits + s.fmt.bpp) / 4 * 4)
    (hgrad : tightIsGradient bs = true → w * 3 ≤ tightThisRowCells)
    (hpal1 : tightOneColourPalette bs = false)
    (hinfl0 : ∀ id dd, s.tightOracle id [] = some dd → dd.length < 12)
    (hsp : decodeTight {} s.tightOracle s.fmt ⟨w, h⟩ bs = some (px, rest)) :
    ∃ s', handleTight s x y w h bs = .ok (s', rest) ∧ s'.fb = blit s.fb x y w h px := by
  obtain ⟨used, hu⟩ := tightDecode_refines s.fmt s.tightOracle w h bs px rest hbpp hrow hgrad hpal1 hinfl0 hsp
  exact handleTight_of_tightDecode s x y w h bs px rest used hW hH hu

/-- the CPIXEL layout chosen by the ZRLE/TRLE dispatch is the RFC's, under `depth ≤ 24 ∨ ¬fits3` -/
theorem client_cpixel_selection (f : PixFmt) (htc : f.trueColour = true)
    (hr : ChanOK f.rMax f.rShift) (hg : ChanOK f.gMax f.gShift) (hb : ChanOK f.bMax f.bShift)
    (hdepth : f.depth ≤ 24 ∨ ¬ (fitsLS f ∨ fitsMS f)) : clientCPix f = f.cpix :=
  clientCPix_eq_spec f htc hr hg hb hdepth

/-- for every relative position of source and destination (8 directions of overlap, no overlap,
identical) `CopyRectangleFromRectangle` leaves in every destination cell the ORIGINAL content of
the corresponding source cell and changes nothing else -/
theorem copyrect_memmove (fb : FB) (hwf : fb.WF) (sx sy w h dx dy : Nat)
    (hs : checkRect fb sx sy w h = true) (hd : checkRect fb dx dy w h = true) :
    copyFromRect fb sx sy w h dx dy = simCopy fb sx sy w h dx dy :=
  copyFromRect_eq_simCopy fb hwf sx sy w h dx dy hs hd

theorem read_buffering_invariant (s : RdSt) (n : Nat) (hne : NonEmptyChunks s.chunks) :
    if n ≤ s.stream.length then
      ∃ s', readFrom s n = some (s.stream.take n, s') ∧ s'.stream = s.stream.drop n ∧ NonEmptyChunks s'.chunks
    else readFrom s n = none :=
  readFrom_spec s n hne

/-- two segmentations of the same remaining stream give the same bytes to the caller -/
theorem read_segmentation_independent (s t : RdSt) (n : Nat) (hs : NonEmptyChunks s.chunks)
    (ht : NonEmptyChunks t.chunks) (heq : s.stream = t.stream) :
    (readFrom s n).map (·.1) = (readFrom t n).map (·.1) := by
  have a := readFrom_spec s n hs
  have b := readFrom_spec t n ht
  rw [heq] at a
  by_cases hn : n ≤ t.stream.length
  · simp only [hn, if_true] at a b
    obtain ⟨s', h1, _⟩ := a
    obtain ⟨t', h2, _⟩ := b
    simp [h1, h2]
  · simp only [hn, if_false] at a b
    simp [a, b]

/-- the three requests the library sends on its own have exactly the sizes of the protocol
structures (T0: `sz_rfb…Msg`), SetEncodings announces what it carries and at most
`MAX_ENCODINGS`, and an update request parses back to the arguments -/
theorem client_requests_wellformed (f : PixFmt) (encs : List String) (cursor newFB : Bool)
    (henc : encs.length ≤ 31) (x y w h : Nat) (incr : Bool)
    (hx : x < 65536) (hy : y < 65536) (hw : w < 65536) (hh : h < 65536) :
    (setPixelFormatMsg f).length = szSetPixelFormat ∧
    (setEncodingsMsg (encodingList encs cursor newFB)).length =
      szSetEncodings + 4 * (encodingList encs cursor newFB).length ∧
    (encodingList encs cursor newFB).length ≤ maxEncodings ∧
    readU16 ((setEncodingsMsg (encodingList encs cursor newFB)).drop 2) =
      some ((encodingList encs cursor newFB).length, (encodingList encs cursor newFB).flatMap u32be) ∧
    (fbUpdateRequest x y w h incr).length = szFramebufferUpdateRequest ∧
    parseFBUR (fbUpdateRequest x y w h incr) =
      some (msgFramebufferUpdateRequest, if incr then 1 else 0, x, y, w, h) := by
  have hle := encodingList_le encs cursor newFB henc
  refine ⟨setPixelFormatMsg_length f, setEncodingsMsg_length _, hle, ?_, fbUpdateRequest_length x y w h incr,
    parseFBUR_fbUpdateRequest incr hx hy hw hh⟩
  have : (encodingList encs cursor newFB).length < 65536 := by
    simp only [maxEncodings] at hle; omega
  simp only [setEncodingsMsg, List.cons_append, List.nil_append, List.drop_succ_cons, List.drop_zero]
  exact readU16_u16be this _

/-! ## non-vacuity: the hypotheses are met by concrete non-trivial values -/

/-- an RRE rectangle 3×2 at 8 bpp with one sub-rectangle decodes by the specification -/
example : decodeRRE ⟨3, 2⟩ 1 [0, 0, 0, 1, 7, 9, 0, 1, 0, 0, 0, 2, 0, 1, 0xAA] =
    some ([7, 9, 9, 7, 7, 7], [0xAA]) := by decide

example : decodeRaw ⟨2, 2⟩ 2 [1, 0, 2, 0, 3, 0, 4, 0, 5] = some ([1, 2, 3, 4], [5]) := by decide

/-- a ZRLE packed-palette tile 3×2 with two colours (1-bit rows, 5 padding bits each) -/
example : decodeZRLETile (.full 1) 3 2 [2, 10, 20, 0b10100000, 0b01000000, 0xEE] =
    some ([20, 10, 20, 10, 20, 10], [0xEE]) := by decide

/-- a ZRLE palette-RLE tile with a run whose length byte sequence crosses 255 is accepted -/
example : (decodeZRLETile (.full 1) 64 5 ([130, 1, 2, 128, 255, 44, 1, 129, 18])).isSome = true := by decide

/-- a TRLE stream: packed tile then reuse of its palette, accepted by the strict decoder -/
example : (decodeTRLEStrict ⟨20, 3⟩ (.full 1)
    ([2, 10, 20, 0xAA, 0xAA, 0x55, 0x55, 0xFF, 0x00, 127, 0xA0, 0x50, 0xF0])).isSome = true := by decide

/-- Tight hypotheses are satisfiable: rgb888 at 32 bpp, a 100-pixel wide rectangle -/
example : ∀ bits, bits = 1 ∨ bits = 8 ∨ bits = 24 ∨ bits = 32 →
    (100 * bits + 7) / 8 ≤ rfbBufferSize * bits / (bits + 32) / 4 * 4 := by
  intro bits h; rcases h with rfl | rfl | rfl | rfl <;> decide

/-- a Tight fill rectangle and a 2-colour palette rectangle below the 12-byte limit decode by the spec -/
example : decodeTight {} (fun _ _ => none) ⟨8, 8, false, true, 7, 7, 3, 0, 3, 6⟩ ⟨3, 2⟩ [0x80, 0x5A, 1] =
    some ([0x5A, 0x5A, 0x5A, 0x5A, 0x5A, 0x5A], [1]) := by decide
example : decodeTight {} (fun _ _ => none) ⟨8, 8, false, true, 7, 7, 3, 0, 3, 6⟩ ⟨3, 2⟩
    [0x40, 1, 1, 10, 20, 0b10100000, 0b01000000, 9] = some ([20, 10, 20, 10, 20, 10], [9]) := by decide

/-- channel hypotheses of `client_cpixel_selection` for rgb888 (shifts 16/8/0) -/
example : ChanOK 255 16 ∧ ChanOK 255 8 ∧ ChanOK 255 0 := ⟨⟨by decide, by decide⟩, ⟨by decide, by decide⟩, ⟨by decide, by decide⟩⟩

/-- overlapping copy down-right on a 4×4 framebuffer: the guards of `copyrect_memmove` hold -/
example : checkRect (FB.blank 4 4) 0 0 3 3 = true ∧ checkRect (FB.blank 4 4) 1 1 3 3 = true ∧
    (FB.blank 4 4).WF := by
  refine ⟨by decide, by decide, ?_⟩
  simp [FB.WF, FB.blank]

/-- a reader state with a part-filled buffer and three pieces -/
example : NonEmptyChunks [[1, 2], [3], [4, 5, 6]] := by
  intro c hc; simp at hc; rcases hc with h | h | h <;> simp [h]

/-- CPIXEL selection of the client = the specification's on the format catalogue of the check
(a test over a finite list, not the general theorem) … -/
example : (([⟨32, 24, false, true, 255, 255, 255, 16, 8, 0⟩, ⟨32, 24, false, true, 255, 255, 255, 0, 8, 16⟩,
    ⟨32, 24, true, true, 255, 255, 255, 16, 8, 0⟩, ⟨32, 24, false, true, 255, 255, 255, 24, 16, 8⟩,
    ⟨32, 24, true, true, 255, 255, 255, 24, 16, 8⟩, ⟨32, 30, false, true, 1023, 1023, 1023, 20, 10, 0⟩,
    ⟨32, 18, false, true, 63, 63, 63, 12, 6, 0⟩, ⟨16, 16, false, true, 31, 63, 31, 11, 5, 0⟩,
    ⟨8, 8, false, true, 7, 7, 3, 0, 3, 6⟩] : List PixFmt).all fun f => clientCPix f == f.cpix) = true := by decide

/-- … and the known finding `cpixel-depth`: at depth 32 the code still uses 3 bytes, the RFC 4 -/
example : clientCPix ⟨32, 32, false, true, 255, 255, 255, 16, 8, 0⟩ = .lo3 ∧
    (⟨32, 32, false, true, 255, 255, 255, 16, 8, 0⟩ : PixFmt).cpix = .full 4 := by decide

end VncModel.Props.C07
