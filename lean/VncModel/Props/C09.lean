import VncModel.Ws.LemmasStep
import VncModel.Ws.LemmasStrictRun
import VncModel.Ws.LemmasEncoder
import VncModel.Ws.LemmasB64Law
import VncModel.Ws.LemmasHandshakeWF
import VncModel.Leaf.EquivWs
/-!
# C09 — WebSocket transport is transparent and strict

Property theorems only; helper lemmas live in `VncModel/Ws/Lemmas*.lean`, the model in
`VncModel/Ws/{Bytes,Base64,Sha1,Codec,Decoder,Handshake}.lean`, the specification vocabulary in
`VncModel/Ws/Spec.lean`, the invariant `Inv` in `VncModel/Ws/State.lean`.

**What is modelled.**  The hybi frame decoder `ws_decode.c` *with fixes/C09-ws-header-split.diff and
fixes/C09-control-frame-limits.diff applied* (`decode` = `webSocketsDecodeHybi`, transliterated function by function; the 2062-byte
buffer as explicit offsets; every `readFunc` call goes through the oracle `Env.read`, which answers
with a non-empty prefix of the pending bytes, EAGAIN, end of stream or a hard error and records the
request); the encoder `webSocketsEncodeHybi` and the 32 KiB chunking of `rfbWriteExact`; base64.c;
the upgrade handshake.  Constants (buffer sizes, header lengths, opcodes, encoder thresholds,
UPDATE_BUF_SIZE) come from `VncModel.Gen.C09`, regenerated from the tree on every run.
The model is tied to the code by an exact differential run (harness/c09.c ⇄ Driver/C09.lean):
every call's result, every read request and the whole decoder state are compared.

**What the theorems mean.**
* `decoder_transparent` — the heart: for EVERY valid sequence of masked client frames (any sizes,
  fragmentation with continuation frames, interleaved ping/pong and other non-Close control frames,
  any masks, binary and base64/text messages), EVERY read-oracle schedule without end-of-stream
  (arbitrary chunking, EAGAIN anywhere) and EVERY sequence of caller lengths: no call fails, the
  bytes handed to the caller so far are a prefix of the unmasked (for text: base64-decoded) payload
  stream, what is still owed is exactly the rest, and every read request the decoder issued lies
  inside its buffer with a positive size (memory-safety core, reused by C04).
* `decoder_complete` — if moreover all input is consumed and nothing is buffered, the caller has
  received exactly the whole payload stream.  `decoder_progress` — no stall: every call delivers
  bytes or consumes input unless the transport has nothing to give.
* `strict_*` — unmasked frame, fragmented control frame, continuation without start, reserved
  opcode, control frame longer than 125 bytes, non-minimal length encodings, Close: the call ends with EPROTO / ECONNRESET (decoder reset) and never returns
  payload; quantified over every decoder state and every oracle.
* `header_roundtrip`, `encoder_valid`, `write_chunking_valid` — what the server sends parses (with an
  independent RFC 6455 parser, `parseHeader` / `parseFrames`) as unmasked final frames whose
  payloads concatenate to the data written; `encoder_header_65536_wraps` pins down the off-by-one
  of the encoder's `blen <= 65536` test, `encoder_lengths_below_65536` shows it is unreachable.
* `ws_split_counterexample_unfixed` — the defect of the unpatched tree (DESIGN.md 11-b): a valid frame
  and a fault-free schedule after which the old first-read length `6 - nRead` is -1, i.e.
  `read(buf + 7, (size_t)-1)`.

**Base64.**  Text frames are decoded with the model of base64.c (`pton`/`ntop`, transliterated and
compared with the C routines on every run); its round-trip law `pton (ntop z) = z` is proved
(`base64_roundtrip`), so the text-mode statements carry no assumption.

**Run-level strictness.**  `strict_run`: valid frames, then a violation, then anything: exactly the
payloads before the violation are delivered, then the prescribed error.

**Partial / not covered.**  The handshake theorems cover the byte-wise scanner (bounds for all inputs, exact outcome for
well-formed requests, shape of every acceptance).  TLS (`wss`) and timing (a lone
control frame followed by silence, see docs/C09.md) are outside the model.
-/
namespace VncModel.Props.C09
open VncModel.Ws VncModel.Gen

/-! ## masking -/

/-- XOR masking with a fixed phase is an involution (client masking = server unmasking) -/
theorem mask_involutive (m : Mask) (i : Nat) (bs : List Byte) : xorFrom m i (xorFrom m i bs) = bs :=
  xorFrom_involutive m i bs

example : xorMask ⟨1, 2, 3, 4⟩ (xorMask ⟨1, 2, 3, 4⟩ [10, 20, 30, 40, 50]) = [10, 20, 30, 40, 50] := by decide

/-- the decoder's word-wise unmasking (phase 0 at the chunk start) is correct for every chunk that
starts at a payload offset divisible by four — which the carry discipline guarantees -/
theorem mask_phase_aligned (m : Mask) (a : Nat) (h : a % 4 = 0) (bs : List Byte) :
    xorMask m (xorFrom m a bs) = bs :=
  xorMask_xorFrom_aligned m a h bs

/-! ## base64 -/

/-- the law of base64.c for the model: decoding an encoding returns the original whenever the
target buffer is larger than the data -/
theorem base64_roundtrip (z : List Byte) (ts : Nat) (h : z.length < ts) : pton (ntop z) ts = some z :=
  pton_ntop z ts h

example : pton (ntop [1, 2, 3, 4]) 10 = some [1, 2, 3, 4] := by decide

/-! ## transparency under all schedules -/

/-- **decoder_transparent.**  See the header comment.  (`Inv [] cE lv c pending rest`: the decoder
state `c` with `pending` bytes in the transport still owes exactly `rest`.) -/
theorem decoder_transparent (fs : List Frame) (hv : ValidSeq opInvalid fs)
    (e : Env) (hp : e.pending = wireOf fs) (hff : e.FaultFree) (hs : e.Safe)
    (lens : List Nat) (hl : ∀ l ∈ lens, 0 < l) :
    (∀ o ∈ (run Ctx.init e lens).outs, o.fine = true) ∧
    (∃ rest lv, expected opInvalid fs = delivered (run Ctx.init e lens).outs ++ rest ∧
       Inv [] (endCo opInvalid fs) lv (run Ctx.init e lens).c (run Ctx.init e lens).e.pending rest) ∧
    (run Ctx.init e lens).e.Safe := by
  obtain ⟨lv0, h0⟩ := Inv_init fs hv
  obtain ⟨h1, V', lv', h2, h3, _, h5⟩ :=
    run_inv b64Law (endCo opInvalid fs) lens hl lv0 Ctx.init e (expected opInvalid fs) (hp ▸ h0) hff hs
  exact ⟨h1, ⟨V', lv', h2, h3⟩, h5⟩

/-- the delivered bytes are always a prefix of the payload stream -/
theorem decoder_delivers_prefix (fs : List Frame) (hv : ValidSeq opInvalid fs)
    (e : Env) (hp : e.pending = wireOf fs) (hff : e.FaultFree) (hs : e.Safe)
    (lens : List Nat) (hl : ∀ l ∈ lens, 0 < l) :
    delivered (run Ctx.init e lens).outs <+: expected opInvalid fs := by
  obtain ⟨_, ⟨rest, _, h, _⟩, _⟩ := decoder_transparent fs hv e hp hff hs lens hl
  exact ⟨rest, h.symm⟩

/-- **decoder_complete.**  All input consumed and nothing buffered ⇒ the caller got everything. -/
theorem decoder_complete (fs : List Frame) (hv : ValidSeq opInvalid fs)
    (e : Env) (hp : e.pending = wireOf fs) (hff : e.FaultFree) (hs : e.Safe)
    (lens : List Nat) (hl : ∀ l ∈ lens, 0 < l)
    (hdone : (run Ctx.init e lens).e.pending = []) (hbuf : (run Ctx.init e lens).c.readlen = 0) :
    delivered (run Ctx.init e lens).outs = expected opInvalid fs := by
  obtain ⟨_, ⟨rest, lv, h, hinv⟩, _⟩ := decoder_transparent fs hv e hp hff hs lens hl
  rw [h, Inv_finished _ lv _ _ _ hinv hdone.symm hbuf, List.append_nil]

/-- one call, from any state the invariant describes (inside valid frames that may be followed by
arbitrary bytes `T`): either bytes (at most `len`, the next ones owed) or EAGAIN; never an error,
never an out-of-buffer read; plus the progress clause -/
theorem decoder_step (T : List Byte) (cE : Byte) (lv : Bool) (c : Ctx) (e : Env) (V : List Byte) (len : Nat)
    (hinv : Inv T cE lv c e.pending V) (hT : lv = true ∨ T = []) (hff : e.FaultFree) (hs : e.Safe)
    (hlen : 0 < len) :
    ∃ out V', (decode c e len).2.2 = (if out = [] then Res.again else Res.data out) ∧
      out.length ≤ len ∧ V = out ++ V' ∧
      (∃ lv', Inv T cE lv' (decode c e len).1 (decode c e len).2.1.pending V') ∧
      (decode c e len).2.1.FaultFree ∧ (decode c e len).2.1.Safe ∧
      (out ≠ [] ∨ (decode c e len).2.1.pending.length < e.pending.length ∨ e.Stuck) :=
  decode_step b64Law T cE lv c e V len hinv hT hff hs hlen

/-- **no stall.**  A call returns bytes, or consumes at least one pending byte, unless the transport
itself has nothing to give (its next answer is EAGAIN or nothing is pending).  Since the pending
input and the owed output are finite, every schedule that answers EAGAIN only finitely often
drives the run to the end, where `decoder_complete` applies. -/
theorem decoder_progress (T : List Byte) (cE : Byte) (lv : Bool) (c : Ctx) (e : Env) (V : List Byte) (len : Nat)
    (hinv : Inv T cE lv c e.pending V) (hT : lv = true ∨ T = []) (hff : e.FaultFree) (hs : e.Safe)
    (hlen : 0 < len) :
    (∃ bs, bs ≠ [] ∧ (decode c e len).2.2 = .data bs) ∨
    (decode c e len).2.1.pending.length < e.pending.length ∨ e.Stuck := by
  obtain ⟨out, _, h1, _, _, _, _, _, h⟩ := decode_step b64Law T cE lv c e V len hinv hT hff hs hlen
  rcases h with h | h | h
  · exact Or.inl ⟨out, h, by rw [h1]; simp [h]⟩
  · exact Or.inr (Or.inl h)
  · exact Or.inr (Or.inr h)

-- non-vacuity: a fragmented binary message with a ping inside, then a base64 text frame
private def exFrames : List Frame :=
  [⟨0x02, ⟨1, 2, 3, 4⟩, [1, 2, 3, 4, 5]⟩,          -- binary, FIN clear
   ⟨0x89, ⟨9, 9, 9, 9⟩, [7]⟩,                      -- ping
   ⟨0x80, ⟨0, 0, 0, 0⟩, [6, 7]⟩,                   -- continuation, FIN
   ⟨0x81, ⟨5, 6, 7, 8⟩, ntop [0x52, 0x46, 0x42]⟩]  -- text "UkZC"
example : ValidSeq opInvalid exFrames := by
  refine ⟨⟨by decide, fun h => absurd h (by decide), fun _ => ⟨fun h => absurd h (by decide), Or.inl (by decide)⟩⟩,
          ⟨by decide, fun _ => by decide, fun h => absurd h (by decide)⟩,
          ⟨by decide, fun h => absurd h (by decide), fun _ => ⟨fun _ => by decide, Or.inl (by decide)⟩⟩,
          ⟨by decide, fun h => absurd h (by decide),
            fun _ => ⟨fun h => absurd h (by decide), Or.inr ⟨by decide, _, rfl⟩⟩⟩, trivial⟩
example : ({ pending := wireOf exFrames, sched := [.chunk 0, .eagain, .chunk 4], cycle := [.chunk 2, .eagain] } : Env).FaultFree := by
  simp [Env.FaultFree, Resp.benign]
example : ({ pending := [], sched := [] } : Env).Safe := by intro r hr; cases hr

/-! ## strictness -/

/-- **strict (unmasked).**  As soon as the second header byte is there with the MASK bit clear the
call fails with EPROTO, returns no payload and resets the decoder — for every decoder state in
HEADER_PENDING, every oracle answer `bs` to the header read. -/
theorem strict_unmasked (c : Ctx) (e e1 : Env) (len : Nat) (bs : List Byte) (b0 b1 : Byte) (tl : List Byte)
    (hst : c.st = .headerPending) (hrd : e.read c.nRead (hdrMissing c) = (.data bs, e1))
    (hh : c.hdr ++ bs = b0 :: b1 :: tl) (hm : b1 &&& 0x80 = 0) :
    (decode c e len).2.2 = .err .eproto ∧ (decode c e len).1.st = .headerPending ∧
    (decode c e len).1.hdr = [] ∧ (decode c e len).1.contOp = opInvalid := by
  obtain ⟨c', hp⟩ := parse2_viol { c with hdr := c.hdr ++ bs } b0 b1 tl hh (.inr (.inr (.inr (.inr hm))))
  rw [decode_parse2_error c e e1 len bs .eproto c' hst hrd hp]
  exact ⟨rfl, rfl, rfl, rfl⟩

/-- **strict (fragmented control frame).** -/
theorem strict_fragmented_control (c : Ctx) (e e1 : Env) (len : Nat) (bs : List Byte) (b0 b1 : Byte)
    (tl : List Byte) (hst : c.st = .headerPending)
    (hrd : e.read c.nRead (hdrMissing c) = (.data bs, e1)) (hh : c.hdr ++ bs = b0 :: b1 :: tl)
    (hctl : (b0 &&& 0x0f) &&& 0x08 != 0) (hfin : (b0 &&& 0x80) >>> 7 = 0) :
    (decode c e len).2.2 = .err .eproto ∧ (decode c e len).1.hdr = [] := by
  obtain ⟨c', hp⟩ := parse2_viol { c with hdr := c.hdr ++ bs } b0 b1 tl hh (.inr (.inl ⟨hctl, hfin⟩))
  rw [decode_parse2_error c e e1 len bs .eproto c' hst hrd hp]
  exact ⟨rfl, rfl⟩

/-- **strict (continuation without start).** -/
theorem strict_continuation_without_start (c : Ctx) (e e1 : Env) (len : Nat) (bs : List Byte)
    (b0 b1 : Byte) (tl : List Byte) (hst : c.st = .headerPending)
    (hrd : e.read c.nRead (hdrMissing c) = (.data bs, e1)) (hh : c.hdr ++ bs = b0 :: b1 :: tl)
    (hnc : ((b0 &&& 0x0f) &&& 0x08 != 0) = false) (hop : b0 &&& 0x0f = opContinuation)
    (hco : c.contOp = opInvalid) :
    (decode c e len).2.2 = .err .eproto ∧ (decode c e len).1.hdr = [] := by
  obtain ⟨c', hp⟩ :=
    parse2_viol { c with hdr := c.hdr ++ bs } b0 b1 tl hh (.inr (.inr (.inl ⟨hnc, hop, hco⟩)))
  rw [decode_parse2_error c e e1 len bs .eproto c' hst hrd hp]
  exact ⟨rfl, rfl⟩

/-- **strict (reserved opcode).**  Opcodes 0x3-0x7 and 0xB-0xF (RFC 6455 5.2) end the call with
EPROTO as soon as the first two header bytes are there: no payload, decoder reset.
(fixes/C09-control-frame-limits.diff; before it such frames were skipped silently and, when longer
than the decode buffer, wedged the decoder.) -/
theorem strict_reserved_opcode (c : Ctx) (e e1 : Env) (len : Nat) (bs : List Byte) (b0 b1 : Byte)
    (tl : List Byte) (hst : c.st = .headerPending)
    (hrd : e.read c.nRead (hdrMissing c) = (.data bs, e1)) (hh : c.hdr ++ bs = b0 :: b1 :: tl)
    (hres : isReservedOp (b0 &&& 0x0f) = true) :
    (decode c e len).2.2 = .err .eproto ∧ (decode c e len).1.st = .headerPending ∧
    (decode c e len).1.hdr = [] ∧ (decode c e len).1.contOp = opInvalid := by
  obtain ⟨c', hp⟩ := parse2_viol { c with hdr := c.hdr ++ bs } b0 b1 tl hh (.inl hres)
  rw [decode_parse2_error c e e1 len bs .eproto c' hst hrd hp]
  exact ⟨rfl, rfl, rfl, rfl⟩

/-- **strict (oversized control frame).**  A control frame (Close, Ping, Pong) whose length byte
announces more than 125 bytes — i.e. any control frame using an extended length form (RFC 6455
5.5) — ends the call with EPROTO as soon as the first two header bytes are there; its payload is
never read into the buffer (this is what removes the pre-authentication wedge: without the check the
write position was never reset for such frames and the decoder stopped reading for ever). -/
theorem strict_oversized_control (c : Ctx) (e e1 : Env) (len : Nat) (bs : List Byte) (b0 b1 : Byte)
    (tl : List Byte) (hst : c.st = .headerPending)
    (hrd : e.read c.nRead (hdrMissing c) = (.data bs, e1)) (hh : c.hdr ++ bs = b0 :: b1 :: tl)
    (hctl : (b0 &&& 0x0f) &&& 0x08 != 0) (hlen : (b1 &&& 0x7f).toNat > 125) :
    (decode c e len).2.2 = .err .eproto ∧ (decode c e len).1.st = .headerPending ∧
    (decode c e len).1.hdr = [] ∧ (decode c e len).1.contOp = opInvalid := by
  obtain ⟨c', hp⟩ := parse2_viol { c with hdr := c.hdr ++ bs } b0 b1 tl hh (.inr (.inr (.inr (.inl ⟨hctl, hlen⟩))))
  rw [decode_parse2_error c e e1 len bs .eproto c' hst hrd hp]
  exact ⟨rfl, rfl, rfl, rfl⟩

-- non-vacuity: a masked ping announcing a 16-bit length, and a masked frame with opcode 0x3
example : (((0x89 : Byte) &&& 0x0f) &&& 0x08 != 0) = true ∧ ((0xfe : Byte) &&& 0x7f).toNat > 125 := by decide
example : isReservedOp ((0x83 : Byte) &&& 0x0f) = true ∧ isReservedOp ((0x8b : Byte) &&& 0x0f) = true ∧
    isReservedOp 0x02 = false ∧ isReservedOp 0x0a = false := by decide

/-- **strict (non-minimal 16-bit length).**  The complete header of a frame that uses the 16-bit
form for a length below 126 is rejected by the only function that lets a header through
(`finishHeader`, see `strict_header_gate`). -/
theorem strict_nonminimal16 (c : Ctx) (e : Env) (b0 b1 l0 l1 m0 m1 m2 m3 : Byte) (tl : List Byte)
    (hpl : c.payloadLen = 126) (hh : c.hdr = b0 :: b1 :: l0 :: l1 :: m0 :: m1 :: m2 :: m3 :: tl)
    (hlen : beDec [l0, l1] < 126) :
    (finishHeader c e).st = .err ∧ (finishHeader c e).res = .err .eproto ∧
    (finishHeader c e).c.st = .headerPending ∧ (finishHeader c e).c.hdr = [] :=
  finishHeader_nonminimal16 c e b0 b1 l0 l1 m0 m1 m2 m3 tl hpl hh hlen

/-- **strict (non-minimal 64-bit length).** -/
theorem strict_nonminimal64 (c : Ctx) (e : Env)
    (b0 b1 l0 l1 l2 l3 l4 l5 l6 l7 m0 m1 m2 m3 : Byte) (tl : List Byte) (hpl : c.payloadLen = 127)
    (hh : c.hdr = b0 :: b1 :: l0 :: l1 :: l2 :: l3 :: l4 :: l5 :: l6 :: l7 :: m0 :: m1 :: m2 :: m3 :: tl)
    (hlen : beDec [l0, l1, l2, l3, l4, l5, l6, l7] < 65536) :
    (finishHeader c e).st = .err ∧ (finishHeader c e).res = .err .eproto ∧
    (finishHeader c e).c.st = .headerPending ∧ (finishHeader c e).c.hdr = [] :=
  finishHeader_nonminimal64 c e b0 b1 l0 l1 l2 l3 l4 l5 l6 l7 m0 m1 m2 m3 tl hpl hh hlen

/-- a call that starts in HEADER_PENDING and does not get a header through `readHeader` (error or
still incomplete) returns no payload, whatever the state and the oracle -/
theorem strict_header_gate (c : Ctx) (e : Env) (len : Nat) (hst : c.st = .headerPending)
    (h : (readHeader c e).st = .err ∨ (readHeader c e).st = .headerPending) (bs : List Byte) :
    (decode c e len).2.2 ≠ .data bs :=
  decode_header_no_data c e len hst h bs

/-- **strict (Close).**  While a Close frame is being received no call returns payload; the call
that completes it fails with ECONNRESET. -/
theorem strict_close (c : Ctx) (e : Env) (len : Nat) (bs : List Byte)
    (hst : c.st = .dataNeeded ∨ c.st = .closeReasonPending) (hop : c.opcode = opClose) :
    (decode c e len).2.2 ≠ .data bs :=
  decode_close_no_data c e len bs hst hop

theorem strict_close_complete (c : Ctx) (e : Env) (len wpEnd bufsize : Nat) (data : List Byte)
    (hop : c.opcode = opClose) (hrem : c.remaining = 0) :
    (finishChunk c e len wpEnd bufsize data).res = .err .econnreset ∧
    (finishChunk c e len wpEnd bufsize data).st = .frameComplete := by
  refine ⟨by rw [finishChunk_close _ _ _ _ _ _ hop, if_pos hrem], ?_⟩
  unfold finishChunk
  have : (c.payloadLen + 2 ^ 64 - c.nReadPayload) % 2 ^ 64 = 0 := hrem
  simp [hop, Ctx.remaining, this]

-- non-vacuity of the strictness hypotheses: an unmasked text frame header arriving in one read
example : ∃ (e e1 : Env) (bs : List Byte), e.read Ctx.init.nRead (hdrMissing Ctx.init) = (.data bs, e1) ∧
    Ctx.init.hdr ++ bs = 0x81 :: 0x05 :: [0x48, 0x65, 0x6c, 0x6c] ∧ (0x05 : Byte) &&& 0x80 = 0 :=
  ⟨{ pending := [0x81, 0x05, 0x48, 0x65, 0x6c, 0x6c, 0x6f], sched := [] }, _, _, rfl, by decide, by decide⟩

/-! ## strictness of whole runs -/

/-- **strict_run.**  A stream that consists of valid frames `fs` followed by a protocol violation
(`BadTail`: reserved opcode, fragmented control frame, continuation without start, control frame
longer than 125 bytes, unmasked frame, non-minimal length encoding — errno EPROTO; or a Close
frame — errno ECONNRESET) and then arbitrary bytes; every fault-free oracle, every list of positive
caller lengths; the caller stops at the first result that is neither data nor EAGAIN (`runStop`, as
`rfbReadExactTimeout` does).  Then: every result is data, EAGAIN or exactly the prescribed error;
the bytes delivered are a prefix of the payload stream of the frames BEFORE the violation; and when
the error is reported, exactly that payload stream has been delivered — no byte of the violating
frame or of anything behind it ever reaches the caller. -/
theorem strict_run (fs : List Frame) (hv : ValidSeq opInvalid fs) (T : List Byte) (E : Errno)
    (hbt : BadTail (endCo opInvalid fs) T E) (e : Env) (hp : e.pending = wireOf fs ++ T)
    (hff : e.FaultFree) (hs : e.Safe) (lens : List Nat) (hl : ∀ l ∈ lens, 0 < l) :
    (∀ r ∈ runStop Ctx.init e lens, r.fine = true ∨ r = .err E) ∧
    delivered (runStop Ctx.init e lens) <+: expected opInvalid fs ∧
    (∀ r ∈ runStop Ctx.init e lens, r.fine = false →
      delivered (runStop Ctx.init e lens) = expected opInvalid fs) := by
  obtain ⟨lv, h0⟩ := Inv_start T (endCo opInvalid fs) opInvalid fs hv rfl opInvalid 0 0
  have hsi : SI T (endCo opInvalid fs) E Ctx.init e.pending (expected opInvalid fs) := by
    rw [hp]; exact SI_of_inv T _ E hbt lv _ _ _ h0
  obtain ⟨h1, V', h2, h3⟩ := strict_run_aux b64Law T _ E hbt lens hl Ctx.init e _ hsi hff hs
  refine ⟨h1, ⟨V', h2.symm⟩, ?_⟩
  intro r hr hnf
  rw [h2, h3 r hr hnf, List.append_nil]

/-- one call inside the violating frame, from every state `Bad` describes: the prescribed error, or
EAGAIN with the decoder still inside that frame -/
theorem strict_step (co : Byte) (E : Errno) (c : Ctx) (e : Env) (len : Nat) (hbad : Bad co E c e.pending)
    (hff : e.FaultFree) (hs : e.Safe) :
    (decode c e len).2.1.FaultFree ∧ (decode c e len).2.1.Safe ∧
    ((decode c e len).2.2 = .err E ∨
     ((decode c e len).2.2 = .again ∧ Bad co E (decode c e len).1 (decode c e len).2.1.pending)) :=
  bad_step co E c e len hbad hff hs

-- non-vacuity: after the example frames (message closed, nothing open): a reserved opcode, an
-- unmasked frame, an oversized ping, a continuation without start, a 16-bit length of 5, a Close
example : endCo opInvalid exFrames = opInvalid := by decide
example : BadTail opInvalid (0x83 :: 0x80 :: [1, 2, 3]) .eproto := .two _ _ _ (Or.inl (by decide))
example : BadTail opInvalid (0x82 :: 0x05 :: [1, 2, 3, 4, 5]) .eproto :=
  .two _ _ _ (Or.inr (Or.inr (Or.inr (Or.inr (by decide)))))
example : BadTail opInvalid (0x89 :: 0xfe :: [0x0b, 0xb8]) .eproto :=
  .two _ _ _ (Or.inr (Or.inr (Or.inr (Or.inl ⟨by decide, by decide⟩))))
example : BadTail opInvalid (0x80 :: 0x81 :: [0, 0, 0, 0, 7]) .eproto :=
  .two _ _ _ (Or.inr (Or.inr (Or.inl ⟨by decide, by decide, rfl⟩)))
example : BadTail opInvalid (nm16 0x82 0 5 1 2 3 4 ++ [9, 9, 9, 9, 9]) .eproto :=
  .nonmin 0x82 _ _ ⟨by decide, by decide, fun h => absurd h (by decide)⟩
    (Or.inl ⟨0, 5, 1, 2, 3, 4, rfl, by decide⟩)
example : BadTail opInvalid
    ((⟨0x88, ⟨1, 2, 3, 4⟩, [3, 232]⟩ : Frame).header ++
      (xorMask ⟨1, 2, 3, 4⟩ [3, 232] ++ [0x82, 0x81])) .econnreset :=
  .close ⟨0x88, ⟨1, 2, 3, 4⟩, [3, 232]⟩ _
    ⟨by decide, fun _ => ⟨by decide, Or.inl (by decide), by decide⟩, fun h => absurd h (by decide)⟩ (by decide)

/-! ## what the server sends -/

/-- **header_roundtrip.**  The header `webSocketsEncodeHybi` writes for opcode text/binary and payload
length `n`, read back by the RFC 6455 parser: FIN, unmasked, same opcode, same length, for all
lengths (125/126, 65535, > 65536 boundaries included) except exactly 65536. -/
theorem header_roundtrip (op : Byte) (hop : op = opText ∨ op = opBinary) (n : Nat) (hn : n < 2 ^ 64)
    (h65536 : n ≠ 65536) (rest : List Byte) :
    parseHeader (encHeader op n ++ rest) = some ⟨true, op, false, n, (encHeader op n).length⟩ :=
  parseHeader_encHeader op hop n hn h65536 rest

example : parseHeader (encHeader opBinary 125 ++ [1]) = some ⟨true, opBinary, false, 125, 2⟩ := by decide
example : parseHeader (encHeader opBinary 126 ++ [1]) = some ⟨true, opBinary, false, 126, 4⟩ := by decide
example : parseHeader (encHeader opText 65535 ++ []) = some ⟨true, opText, false, 65535, 4⟩ := by decide
example : parseHeader (encHeader opText 65537 ++ []) = some ⟨true, opText, false, 65537, 10⟩ := by decide

/-- the code's `blen <= 65536` (instead of `< 65536`): a 65536-byte payload would be announced as
0 bytes -/
theorem encoder_header_65536_wraps (rest : List Byte) :
    parseHeader (encHeader opBinary 65536 ++ rest) = some ⟨true, opBinary, false, 0, 4⟩ :=
  encHeader_65536 rest

/-- … but the encoder never produces such a frame: its input is limited to UPDATE_BUF_SIZE, so the
(base64) payload stays below 65536 (re-proved against the regenerated constants) -/
theorem encoder_lengths_below_65536 (base64 : Bool) (src : List Byte)
    (hle : src.length ≤ C09.updateBufSize) : (encPayload base64 src).length < 65536 :=
  encodeHybi_lengths base64 src hle

/-- **encoder_valid.**  `webSocketsEncodeHybi` output = exactly one unmasked FIN frame of the mode's
opcode whose payload is the input (binary) resp. its base64 text, which decodes to the input. -/
theorem encoder_valid (base64 : Bool) (src : List Byte) (h0 : src ≠ [])
    (hle : src.length ≤ C09.updateBufSize) :
    ∃ w, encodeHybi base64 src = some w ∧
      parseFrames 1 w = some [(encOp base64, encPayload base64 src)] ∧
      (base64 = false → encPayload base64 src = src) ∧
      (base64 = true → b64Inv (encPayload base64 src) = src) := by
  refine ⟨_, encodeHybi_eq base64 src h0 hle, ?_, ?_, ?_⟩
  · have hl := encodeHybi_lengths base64 src hle
    have := parseFrames_cons (encOp base64) (encOp_cases base64) (encPayload base64 src) []
      (by omega) (by omega) 0 [] (by simp [parseFrames])
    simpa using this
  · intro h; simp [encPayload, h]
  · intro h
    have hl : src.length < (ntop src).length + 1 := by rw [ntop_length]; omega
    simp [encPayload, h, b64Inv, b64Law src _ hl]

example : encodeHybi false [0x52, 0x46, 0x42] = some [0x82, 0x03, 0x52, 0x46, 0x42] := by decide
example : encodeHybi true [0x52, 0x46, 0x42] = some [0x81, 0x04, 0x55, 0x6b, 0x5a, 0x43] := by decide

/-- **write_chunking_valid.**  Everything `rfbWriteExact` puts on the wire for one call on a
WebSocket client: a sequence of unmasked FIN frames of the mode's opcode whose payloads are the
(base64 texts of the) consecutive ≤ 32 KiB chunks of the buffer, in order. -/
theorem write_chunking_valid (base64 : Bool) (buf : List Byte) :
    ∃ w frames, wsWrite base64 buf = some w ∧
      parseFrames (buf.length / C09.updateBufSize + 1) w = some frames ∧
      (∀ fr ∈ frames, fr.1 = encOp base64) ∧
      ∃ chunks : List (List Byte), chunks.flatten = buf ∧
        frames.map Prod.snd = chunks.map (encPayload base64) :=
  wsWriteFuel_valid base64 _ buf (Nat.le_refl _)

/-- binary mode: the payloads concatenate to the buffer -/
theorem write_chunking_binary (buf : List Byte) :
    ∃ w frames, wsWrite false buf = some w ∧
      parseFrames (buf.length / C09.updateBufSize + 1) w = some frames ∧
      (frames.map Prod.snd).flatten = buf := by
  obtain ⟨w, frames, h1, h2, _, chunks, h4, h5⟩ := write_chunking_valid false buf
  refine ⟨w, frames, h1, h2, ?_⟩
  have hid : (fun x : List Byte => encPayload false x) = id := by funext x; simp [encPayload]
  rw [h5, ← h4]
  show (chunks.map (fun x => encPayload false x)).flatten = chunks.flatten
  rw [hid, List.map_id]

/-! ## the defect of the unpatched decoder (DESIGN.md section 11-b) -/

private def cexFrame : Frame := ⟨0x82, ⟨0xaa, 0xbb, 0xcc, 0xdd⟩, List.replicate 128 0x41⟩
private def cexEnv : Env := { pending := cexFrame.wire, sched := [.chunk 5, .chunk 0] }

/-- A valid 128-byte binary frame whose 8-byte header arrives as 6 + 1 bytes (no EAGAIN, no error):
the first call leaves the decoder in HEADER_PENDING with 7 header bytes (identically in the patched
and the unpatched code: both ask for 6, then for 2 bytes).  On re-entry the unpatched code computes
its read length as `6 - nRead = -1`, i.e. `readFunc(ctx, codeBufDecode + 7, (size_t)-1)`: the
property's "every read request is positive and inside the buffer" fails.  The patched code asks
for `8 - 7 = 1` byte. -/
theorem ws_split_counterexample_unfixed :
    cexFrame.ok opInvalid ∧ cexEnv.FaultFree ∧ cexEnv.pending = wireOf [cexFrame] ∧
    (decode Ctx.init cexEnv 4096).2.2 = .again ∧
    (decode Ctx.init cexEnv 4096).1.st = .headerPending ∧
    (decode Ctx.init cexEnv 4096).1.nRead = 7 ∧
    hdrReadLenUnfixed (decode Ctx.init cexEnv 4096).1 = -1 ∧
    hdrMissing (decode Ctx.init cexEnv 4096).1 = 1 := by
  refine ⟨⟨by simp [cexFrame], fun h => absurd h (by decide), fun _ => ⟨by decide, Or.inl (by decide)⟩⟩,
    by simp [Env.FaultFree, cexEnv, Resp.benign], by simp [cexEnv, wireOf],
    by decide +kernel⟩

/-! ## handshake

Model: `VncModel/Ws/Handshake.lean` — the 4096-byte request buffer with the NUL patches of the code,
header values as offsets into it, every written index recorded (`Scan.writes`); the request is
consumed byte by byte until the empty line, 4095 bytes or the end of what the client sent
(time-out: go on with what is there; closed: fail).  The code modelled is websockets.c with
fixes/C09-handshake-unterminated-value.diff (the buffer is kept NUL-terminated). -/

/-- **buffer bounds**: for EVERY byte sequence (and however it is segmented: the scanner reads one
byte at a time) every index of the 4096-byte request buffer that is written — the received bytes,
the running terminator, the `buf[len-2]` / `buf[len-11]` patches, the 8 Hixie bytes — is below
4096, and the length never exceeds 4095 -/
theorem handshake_buffer_in_bounds (req : List Byte) :
    (scanLoop req {}).1.len < C09.maxHandshakeLen ∧
    ∀ i ∈ (scanLoop req {}).1.writes, i < C09.maxHandshakeLen :=
  scanLoop_bounds req {} (by simp [Scan.len, HSMAX, C09.maxHandshakeLen]) (by intro i hi; cases hi)

/-- **accept key and sub-protocol of every accepted request**: whatever the request bytes, if the
handshake succeeds then the request began with "GET ", carried a non-zero version, a key, a path,
a host and an origin, the 101 response is the code's template filled with
`base64 (sha1 (key ++ GUID))` for exactly the key string the scanner points at, and the sub-protocol
answered is none, or "base64"/"binary" being one of the comma-separated tokens of the client's
Sec-WebSocket-Protocol value (base64 framing iff "base64" is answered) -/
theorem handshake_accept_key (sha1 : List Byte → List Byte) (req : List Byte) (ending : HsEnd)
    (resp path unread : List Byte) (b64 : Bool) (h : handshake sha1 req ending = .ok resp b64 path unread) :
    pGet.isPrefixOf req = true ∧ (scanLoop req {}).1.version = true ∧
    ∃ k, (scanLoop req {}).1.ptr .key = some k ∧
      ∃ proto : List Byte,
        resp = (if proto.length > 0 then
                  fmt2 C09.handshakeFmt (ntop (sha1 ((scanLoop req {}).1.strAt k ++ strBytes C09.guid))) proto
                else fmt2 C09.handshakeFmtNoProto (ntop (sha1 ((scanLoop req {}).1.strAt k ++ strBytes C09.guid))) []) ∧
        ((proto = [] ∧ b64 = false) ∨
         (∃ p, (scanLoop req {}).1.ptr .protocol = some p ∧ proto ∈ offerTokens ((scanLoop req {}).1.strAt p) ∧
            ((proto = bBase64 ∧ b64 = true) ∨ (proto = bBinary ∧ b64 = false)))) := by
  obtain ⟨h1, hf⟩ := handshake_ok_shape sha1 req ending resp path unread b64 h
  obtain ⟨h2, _, _, _, k, hk, hb, hr⟩ := finishHandshake_ok sha1 _ _ _ _ _ _ hf
  refine ⟨h1, h2, k, hk, _, hr, ?_⟩
  generalize hO : ((scanLoop req {}).1.ptr .protocol).map (scanLoop req {}).1.strAt = O at hb hr ⊢
  rcases chooseProtocol_spec O with ⟨c1, c2⟩ | ⟨p, c1, c2, c3⟩
  · left; exact ⟨c1, by rw [hb, c2]⟩
  · right
    cases hp : (scanLoop req {}).1.ptr .protocol with
    | none => rw [hp, c1] at hO; simp at hO
    | some po =>
      rw [hp, c1] at hO
      simp only [Option.map_some, Option.some.injEq] at hO
      refine ⟨po, rfl, by rw [hO]; exact c2, ?_⟩
      rw [hb]; exact c3

/-- **refusal**: a request that does not begin with "GET ", or in which the scanner finds no
(non-zero) version or no key line, is refused -/
theorem handshake_refuses (sha1 : List Byte → List Byte) (req : List Byte) (ending : HsEnd)
    (h : pGet.isPrefixOf req = false ∨ (scanLoop req {}).1.version = false ∨
         (scanLoop req {}).1.ptr .key = none) :
    handshake sha1 req ending = .fail := by
  cases hres : handshake sha1 req ending with
  | fail => rfl
  | ok resp b64 path unread =>
    obtain ⟨h1, hf⟩ := handshake_ok_shape sha1 req ending resp path unread b64 hres
    obtain ⟨h2, _, _, _, k, hk, _⟩ := finishHandshake_ok sha1 _ _ _ _ _ _ hf
    rcases h with h | h | h
    · rw [h] at h1; cases h1
    · rw [h] at h2; cases h2
    · rw [h] at hk; cases hk

/-- **well-formed requests are read exactly as written**: header lines without LF and NUL, each
terminated by CR LF, the empty line at the end, at most 4095 bytes in total, not a Hixie request:
the outcome of the byte-wise scanner is `specResult` of the value-level reading `specLine` of the
lines, in any order, with duplicates (the last one wins), with any letter case of the header names;
bytes after the request are left for the frame decoder -/
theorem handshake_wellformed_request (sha1 : List Byte → List Byte) (lines : List (List Byte))
    (rest : List Byte) (ending : HsEnd) (hwf : ∀ l ∈ lines, WFLine l)
    (hlen : (wfRequest lines).length ≤ C09.maxHandshakeLen - 1)
    (hget : pGet.isPrefixOf (wfRequest lines ++ rest) = true)
    (hk : ¬ ((lines.foldl specLine {}).key1 = true ∧ (lines.foldl specLine {}).key2 = true)) :
    handshake sha1 (wfRequest lines ++ rest) ending = specResult sha1 (lines.foldl specLine {}) rest :=
  handshake_wellformed sha1 lines rest ending hwf hlen hget hk

/-- what a header line contributes, for the header names in any letter case: its value, verbatim -/
theorem handshake_header_values (F : ReqSpec) (n v : List Byte) :
    (n.map lowerB = pKey → specLine F (n ++ v) = F.set .key v) ∧
    (n.map lowerB = pHost → specLine F (n ++ v) = F.set .host v) ∧
    (n.map lowerB = pOrigin → specLine F (n ++ v) = F.set .origin v) ∧
    (n.map lowerB = pProtocol → specLine F (n ++ v) = F.set .protocol v) ∧
    (n.map lowerB = pSecOrigin → specLine F (n ++ v) = F.set .secOrigin v) :=
  ⟨specLine_of_name F n v _ _ 19 (by decide), specLine_of_name F n v _ _ 6 (by decide),
   specLine_of_name F n v _ _ 8 (by decide), specLine_of_name F n v _ _ 24 (by decide),
   specLine_of_name F n v _ _ 22 (by decide)⟩

/-- **valid request ⇒ RFC answer**: if the value-level reading has a non-zero version, key `k`, a
path, a host and an origin, the answer is 101 with `base64 (sha1 (k ++ GUID))` and the sub-protocol
chosen from the offered value; without key or version the request is refused -/
theorem handshake_valid_request (sha1 : List Byte → List Byte) (F : ReqSpec) (unread k : List Byte)
    (hv : F.version = true) (hk : F.val .key = some k) (hp : (F.val .path).isSome)
    (hh : (F.val .host).isSome) (ho : (F.val .origin).isSome ∨ (F.val .secOrigin).isSome) :
    ∃ resp, specResult sha1 F unread =
        .ok resp (chooseProtocol (F.val .protocol)).1 ((F.val .path).getD []) unread ∧
      resp = (if (chooseProtocol (F.val .protocol)).2.length > 0 then
                fmt2 C09.handshakeFmt (ntop (sha1 (k ++ strBytes C09.guid))) (chooseProtocol (F.val .protocol)).2
              else fmt2 C09.handshakeFmtNoProto (ntop (sha1 (k ++ strBytes C09.guid))) []) := by
  refine ⟨_, ?_, rfl⟩
  unfold specResult
  simp only [hv, Bool.not_true, Bool.false_eq_true, if_false, hk, acceptKey]
  have c : ¬ ((F.val .path).isNone = true ∨ (F.val .host).isNone = true ∨
      ((F.val .origin).isNone = true ∧ (F.val .secOrigin).isNone = true)) := by
    simp only [← Option.not_isSome, hp, hh]
    rcases ho with h | h <;> simp [h]
  simp only [c, if_false]

theorem handshake_missing_key_or_version (sha1 : List Byte → List Byte) (F : ReqSpec) (unread : List Byte)
    (h : F.version = false ∨ F.val .key = none) : specResult sha1 F unread = .fail := by
  unfold specResult
  rcases h with h | h
  · simp [h]
  · cases hv : F.version <;> simp [h]

/-- Sub-protocol selection: the `Sec-WebSocket-Protocol` value of the answer is absent or exactly
the single word `base64` or `binary` — never a list, never an echo of the offer — and the
connection's base64 flag says which one. -/
theorem protocol_selection_single (offered : Option (List Byte)) :
    ((chooseProtocol offered).2 = [] ∧ (chooseProtocol offered).1 = false) ∨
    ((chooseProtocol offered).2 = bBase64 ∧ (chooseProtocol offered).1 = true) ∨
    ((chooseProtocol offered).2 = bBinary ∧ (chooseProtocol offered).1 = false) := by
  rcases chooseProtocol_spec offered with h | ⟨_, _, _, h | h⟩
  · exact .inl h
  · exact .inr (.inl h)
  · exact .inr (.inr h)

/-- Sub-protocol selection (RFC 6455 §4.2.2): for **every** offer the selected sub-protocol is
**one of the offered tokens or absent** (tokens = the comma-separated elements of the header value
with surrounding blanks and tabs removed).  Model of `webSocketsProtocolOffered`
(`fixes/C09-subprotocol-token-match.diff`). -/
theorem protocol_selection_offered_or_absent (offered : Option (List Byte)) :
    (chooseProtocol offered).2 = [] ∨
    ∃ p, offered = some p ∧ (chooseProtocol offered).2 ∈ offerTokens p := by
  rcases chooseProtocol_spec offered with h | ⟨p, h1, h2, _⟩
  · exact .inl h.1
  · exact .inr ⟨p, h1, h2⟩

/-- Sub-protocol selection is complete and keeps the code's preference: `base64` is answered
whenever it is an offered token, otherwise `binary` whenever it is one, otherwise nothing. -/
theorem protocol_selection_preference (p : List Byte) :
    (bBase64 ∈ offerTokens p → chooseProtocol (some p) = (true, bBase64)) ∧
    (bBase64 ∉ offerTokens p → bBinary ∈ offerTokens p → chooseProtocol (some p) = (false, bBinary)) ∧
    (bBase64 ∉ offerTokens p → bBinary ∉ offerTokens p → chooseProtocol (some p) = (false, [])) :=
  chooseProtocol_complete p

/-- **defect of the code as found** (`strstr` on the whole header value): the offer `superbase64x`
is answered with `base64`, which the client did not offer; the token-wise selection answers
nothing. -/
theorem defect_subprotocol_substring_match_unfixed :
    (chooseProtocolUnfixed (some (strBytes "superbase64x"))).2 = bBase64 ∧
    bBase64 ∉ offerTokens (strBytes "superbase64x") ∧
    (chooseProtocol (some (strBytes "superbase64x"))).2 = [] := by decide

-- the selection on ordinary offers
example : offerTokens (strBytes "chat , binary,mqtt") = [strBytes "chat", bBinary, strBytes "mqtt"] ∧
    chooseProtocol (some (strBytes "chat , binary,mqtt")) = (false, bBinary) ∧
    chooseProtocol (some (strBytes "binary,\t base64")) = (true, bBase64) ∧
    chooseProtocol (some (strBytes "BINARY, xbinary")) = (false, []) := by decide +kernel

-- non-vacuity: a small request, header names in mixed case, in "wrong" order
private def exLines : List (List Byte) :=
  [strBytes "GET /vnc HTTP/1.1", strBytes "sec-websocket-KEY: dGhlIHNhbXBsZSBub25jZQ==",
   strBytes "Host: h", strBytes "Sec-WebSocket-Version: 13", strBytes "Origin: o",
   strBytes "Sec-WebSocket-Protocol: binary, base64"]
example : (exLines.foldl specLine {}).val .key = some (strBytes "dGhlIHNhbXBsZSBub25jZQ==") ∧
    (exLines.foldl specLine {}).version = true ∧
    (chooseProtocol ((exLines.foldl specLine {}).val .protocol)) = (true, bBase64) ∧
    (exLines.foldl specLine {}).val .path = some (strBytes "/vnc") := by decide +kernel
example : ∀ l ∈ exLines, WFLine l := by unfold WFLine; decide +kernel

end VncModel.Props.C09

/-! ## T1: the regenerated C leaf functions are the model's functions

The definitions `VncModel.Gen.Leaf.*` are translated from /repo's current C source by
`tools/c2lean.py` on every run; these theorems are the proof obligations that break when the C
functions change (see docs/T1.md). -/
namespace VncModel.Props.C09.T1

/-- `hybiRemaining` as regenerated from the C source = the model's `Ctx.remaining` -/
theorem code_hybiRemaining_eq_model (c : VncModel.Ws.Ctx) (h : c.nReadPayload ≤ 2 ^ 64) :
    VncModel.Gen.Leaf.hybiRemaining c.payloadLen c.nReadPayload = (c.remaining : Nat) :=
  VncModel.Leaf.hybiRemaining_eq c h
end VncModel.Props.C09.T1
