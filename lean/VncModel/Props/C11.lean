import VncModel.Region.Misc
import VncModel.Region.IterProof
import VncModel.Leaf.EquivRegion
/-!
# C11 — Region algebra behaves as set algebra on pixels

Property theorems only; helper lemmas are in `VncModel/Region/{Basic,And,Sub,Or,Inst,Misc,IterProof}.lean`.

**What is modelled** (`VncModel/Region/Model.lean`): `rfbregion.c` — a region is a list of y-spans
("bands") each holding a list of x-spans, exactly the C two-level span lists; `sraSpanListOr`,
`sraSpanListAnd`, `sraSpanListSubtract` are transliterated loop by loop on a zipper (including
`sraSpanMergePrevious/Next`, the overridden `s_start`, the code's behaviour of *not* merging on the
append path, i.e. results are not canonical), plus `sraRgnOffset`, `sraRgnBBox` (with its `INT_MAX` /
`INT_MIN` seeds), `sraRgnPopRect`, `sraRgnCountRects`, `sraRgnEmpty`, `sraRgnCreateRect`, the
rectangle iterator in its four directions, `sraClipRect`, `sraClipRect2`.  C `int` is `Int`
(arithmetic occurs only in offset/clipRect; overflow there is undefined behaviour in C and excluded).
The model is tied to the code on every run by `harness/c11.c` ⇄ `Driver/C11.lean` (exact comparison).

**Reading**: `Region.den r x y` = "pixel (x,y) is covered by r"; `Region.WF r` = what every region
built by the library satisfies (bands ordered, disjoint, non-empty, with non-empty ordered disjoint
x-span lists; *nothing* about maximal merging).  All theorems quantify over ALL well-formed regions
(unbounded size, unbounded coordinates).  The loops of the model run on fuel; the theorems are about
the functions the driver executes (`Region.or` etc. with their built-in fuel), so they include the
fact that the fuel never runs out on well-formed operands.

**Partial / guarded**: nothing is `_partial`.  `bbox_den` assumes `InRange` = "the coordinates are C
`int`s" (true of every region the code can hold; the model's `Int` is unbounded); `bbox_wf`,
`bbox_covers` and `bbox_empty` have no hypothesis.  The iterator has a small-step model
(`Region/IterModel.lean`) proved to refine the sequence `Region.rects` (`iter_refines`, proof in
`Region/IterProof.lean`); the iterator laws are stated about `rects`.  Section `T1` ties the clippers
and `sraRgnCreateRect`'s guard to the C text itself.
-/
namespace VncModel.Props.C11
open VncModel.Rgn

/-! ## union, intersection, difference -/

/-- `sraRgnOr` computes the union -/
theorem or_den (a b : Region) (ha : a.WF) (hb : b.WF) (x y : Int) :
    (Region.or a b).den x y ↔ (a.den x y ∨ b.den x y) := (rOr_spec a b ha hb).2 x y

/-- … and its result is again well-formed -/
theorem or_wf (a b : Region) (ha : a.WF) (hb : b.WF) : (Region.or a b).WF := (rOr_spec a b ha hb).1

/-- `sraRgnAnd` computes the intersection -/
theorem and_den (a b : Region) (ha : a.WF) (hb : b.WF) (x y : Int) :
    (Region.and a b).1.den x y ↔ (a.den x y ∧ b.den x y) := (rAnd_spec a b ha hb).2.1 x y

theorem and_wf (a b : Region) (ha : a.WF) (hb : b.WF) : (Region.and a b).1.WF :=
  (rAnd_spec a b ha hb).1

/-- the boolean returned by `sraRgnAnd` says whether the result is non-empty (as a pixel set) -/
theorem and_bool (a b : Region) (ha : a.WF) (hb : b.WF) :
    (Region.and a b).2 = true ↔ ∃ x y, a.den x y ∧ b.den x y := by
  rw [(rAnd_spec a b ha hb).2.2]
  simp only [(rAnd_spec a b ha hb).2.1]

/-- the value `sraRgnAnd` returns is `!sraSpanListEmpty(dst)` of the region it leaves in `dst` — for
ALL operands, whatever the number of rectangles (in particular not a truncated count) -/
theorem and_bool_eq (a b : Region) : (Region.and a b).2 = !(Region.and a b).1.isEmpty := rfl

/-- `sraRgnSubtract` computes the set difference -/
theorem sub_den (a b : Region) (ha : a.WF) (hb : b.WF) (x y : Int) :
    (Region.sub a b).1.den x y ↔ (a.den x y ∧ ¬ b.den x y) := (rSub_spec a b ha hb).2.1 x y

theorem sub_wf (a b : Region) (ha : a.WF) (hb : b.WF) : (Region.sub a b).1.WF :=
  (rSub_spec a b ha hb).1

/-- the boolean returned by `sraRgnSubtract` says whether the result is non-empty -/
theorem sub_bool (a b : Region) (ha : a.WF) (hb : b.WF) :
    (Region.sub a b).2 = true ↔ ∃ x y, a.den x y ∧ ¬ b.den x y := by
  rw [(rSub_spec a b ha hb).2.2]
  simp only [(rSub_spec a b ha hb).2.1]

/-- the value `sraRgnSubtract` returns is `!sraSpanListEmpty(dst)` of the region it leaves in `dst` -/
theorem sub_bool_eq (a b : Region) : (Region.sub a b).2 = !(Region.sub a b).1.isEmpty := rfl

/-- hence, for well-formed operands: returned TRUE ⇔ `sraRgnEmpty(dst)` is false ⇔ `dst` covers a pixel -/
theorem and_bool_iff_not_empty (a b : Region) (ha : a.WF) (hb : b.WF) :
    (Region.and a b).2 = true ↔ ∃ x y, (Region.and a b).1.den x y := (rAnd_spec a b ha hb).2.2

theorem sub_bool_iff_not_empty (a b : Region) (ha : a.WF) (hb : b.WF) :
    (Region.sub a b).2 = true ↔ ∃ x y, (Region.sub a b).1.den x y := (rSub_spec a b ha hb).2.2

/-- non-vacuity: two overlapping, non-canonical (touching bands with equal x-lists) operands -/
example : Region.WF [⟨0, 2, [⟨0, 3, ()⟩, ⟨3, 5, ()⟩]⟩, ⟨2, 4, [⟨0, 3, ()⟩, ⟨3, 5, ()⟩]⟩, ⟨7, 9, [⟨-4, 1, ()⟩]⟩] ∧
    Region.WF [⟨1, 8, [⟨2, 4, ()⟩]⟩] := by
  simp [Region.WF, XList.WF, Sorted, SortedFrom]

/-- the example of `rfbregion.c`'s disabled `main()`: (10,10)-(600,300) minus (40,50)-(350,200) -/
example : (Region.sub (Region.rect 10 10 600 300) (Region.rect 40 50 350 200)) =
    ([⟨10, 50, [⟨10, 600, ()⟩]⟩, ⟨50, 200, [⟨10, 40, ()⟩, ⟨350, 600, ()⟩]⟩, ⟨200, 300, [⟨10, 600, ()⟩]⟩],
     true) := by decide

/-- results are not canonical: `[3,5) ∪ [5,7)` stays two rectangles, the mirror image merges -/
example : Region.or (Region.rect 3 0 5 1) (Region.rect 5 0 7 1) = [⟨0, 1, [⟨3, 5, ()⟩, ⟨5, 7, ()⟩]⟩] ∧
    Region.or (Region.rect 5 0 7 1) (Region.rect 3 0 5 1) = [⟨0, 1, [⟨3, 7, ()⟩]⟩] := by decide

example : Region.and (Region.rect 0 0 4 4) (Region.rect 4 0 8 4) = ([], false) := by decide

/-! ## offset, copy, emptiness, creation -/

/-- `sraRgnOffset` translates the pixel set (model: unbounded `Int`; in C the additions must not
overflow, which is undefined behaviour and outside the correspondence run) -/
theorem offset_den (r : Region) (dx dy x y : Int) :
    (Region.offset r dx dy).den x y ↔ r.den (x - dx) (y - dy) := VncModel.Rgn.offset_den r dx dy x y

theorem offset_wf (r : Region) (dx dy : Int) (h : r.WF) : (Region.offset r dx dy).WF :=
  VncModel.Rgn.offset_wf r dx dy h

/-- `sraRgnCreateRgn` (copy) -/
theorem dup_den (r : Region) (x y : Int) : (Region.dup r).den x y ↔ r.den x y := Iff.rfl

/-- `sraRgnEmpty` is true exactly when no pixel is covered -/
theorem isEmpty_iff (r : Region) (h : r.WF) : r.isEmpty = true ↔ ∀ x y, ¬ r.den x y :=
  VncModel.Rgn.isEmpty_iff r h

/-- `sraRgnCreateRect` denotes exactly the pixels of the rectangle — for ALL arguments (an
inverted or empty rectangle gives the empty region) -/
theorem createRect_den (x1 y1 x2 y2 x y : Int) :
    (Region.rect x1 y1 x2 y2).den x y ↔ (x1 ≤ x ∧ x < x2 ∧ y1 ≤ y ∧ y < y2) :=
  rect_den x1 y1 x2 y2 x y

/-- … and is well-formed for ALL arguments -/
theorem createRect_wf (x1 y1 x2 y2 : Int) : (Region.rect x1 y1 x2 y2).WF := rect_wf x1 y1 x2 y2

theorem empty_wf : Region.empty.WF := VncModel.Rgn.empty_wf

theorem empty_den (x y : Int) : ¬ Region.empty.den x y := VncModel.Rgn.empty_den x y

/-! ## bounding box -/

/-- `sraRgnBBox` of an empty region is empty -/
theorem bbox_empty : Region.bbox Region.empty = Region.empty := bbox_nil

/-- `sraRgnBBox` of a non-empty region is the single rectangle that is the TIGHT bounding box of
the pixel set: it contains every pixel, and each of its four sides touches the region.
`InRange` only says that the coordinates are C `int`s (`INT_MIN ≤ s`, `e ≤ INT_MAX`) — true of every
region the C code can hold; it is needed because the model computes in unbounded `Int` while the
code starts from the seeds `INT_MAX` / `INT_MIN` (the seeds of /repo 4069cf1; a seed `1-INT_MAX` for
the maxima is wrong for a region ending at `INT_MIN+1`, regression case corpus/C11/bbox_int_min.txt). -/
theorem bbox_den (r : Region) (hwf : r.WF) (hr : InRange r) (hne : r ≠ []) :
    ∃ x1 y1 x2 y2, r.bbox = [⟨y1, y2, [⟨x1, x2, ()⟩]⟩] ∧ x1 < x2 ∧ y1 < y2 ∧
      (∀ x y, r.bbox.den x y ↔ (x1 ≤ x ∧ x < x2 ∧ y1 ≤ y ∧ y < y2)) ∧
      (∀ x y, r.den x y → r.bbox.den x y) ∧
      (∃ y, r.den x1 y) ∧ (∃ y, r.den (x2 - 1) y) ∧ (∃ x, r.den x y1) ∧ (∃ x, r.den x (y2 - 1)) :=
  bbox_spec r hwf hr hne

/-- `sraRgnBBox` covers the region — for EVERY region, no hypothesis -/
theorem bbox_covers (r : Region) (x y : Int) (h : r.den x y) : r.bbox.den x y :=
  VncModel.Rgn.bbox_covers r x y h

/-- the result of `sraRgnBBox` is well-formed — for EVERY argument -/
theorem bbox_wf (r : Region) : r.bbox.WF := bbox_wf_all r

/-- non-vacuity: a well-formed, non-empty region with `int` coordinates, and its box -/
example : Region.bbox [⟨0, 2, [⟨0, 3, ()⟩, ⟨3, 5, ()⟩]⟩, ⟨7, 9, [⟨-4, 1, ()⟩]⟩] = [⟨0, 9, [⟨-4, 5, ()⟩]⟩] := by
  decide

/-- non-vacuity of `InRange`: the whole `int` range is allowed, `INT_MIN` included -/
example : InRange [⟨0, 2, [⟨0, 3, ()⟩, ⟨3, 5, ()⟩]⟩, ⟨7, 9, [⟨-2147483648, 2147483647, ()⟩]⟩] := by
  simp [InRange, intMax]

/-- the regression case corpus/C11/bbox_int_min.txt: a region ending at `INT_MIN+1` gets its exact box -/
example : Region.bbox [⟨0, 5, [⟨-2147483648, -2147483647, ()⟩]⟩] = [⟨0, 5, [⟨-2147483648, -2147483647, ()⟩]⟩] := by
  decide

/-! ## iteration: `sraRgnGetIterator` / `sraRgnGetReverseIterator` / `sraRgnIteratorNext`

`r.rects reverseX reverseY` is the sequence of rectangles the iterator yields. -/

/-- **the C iterator's own stepping logic refines `rects`**: `Region.iterAll` runs the small-step
model of `sraRgnGetReverseIterator` + `sraRgnIteratorNext` (`Region/IterModel.lean`: the `sPtrs`
cursors with `ptrPos`, the sentinel comparisons of the two `while` loops, `sraReverse`'s
`(ptrPos&2) && reverseX || !(ptrPos&2) && reverseY`) until it returns 0.  On every well-formed
region, for all four direction pairs, it terminates without a fault (no sentinel dereferenced, no
NULL link followed, the "offset is wrong" branch never taken) and yields exactly `r.rects rx ry` —
so all `iter_*` laws below hold for what the code's state machine produces.  The driver executes
this small-step model for every `iter` op of the correspondence run. -/
theorem iter_refines (r : Region) (h : r.WF) (rx ry : Bool) :
    r.iterAll rx ry = some (r.rects rx ry) :=
  iterAll_eq_rects r (fun b hb => (Sorted.all h b hb).2.2) rx ry

/-- `sraRgnGetIterator(r)` is `sraRgnGetReverseIterator(r, 0, 0)` -/
theorem getIterator_is_forward (r : Region) : getIterator r = getReverseIterator r false false :=
  getIterator_eq r

example : Region.iterAll [⟨0, 2, [⟨0, 3, ()⟩, ⟨4, 5, ()⟩]⟩, ⟨2, 4, [⟨1, 2, ()⟩]⟩] true false =
    some [⟨4, 0, 5, 2⟩, ⟨0, 0, 3, 2⟩, ⟨1, 2, 2, 4⟩] := by decide

/-- the rectangles yielded are non-empty … -/
theorem iter_nonempty (r : Region) (h : r.WF) (rx ry : Bool) :
    ∀ rc ∈ r.rects rx ry, rc.x1 < rc.x2 ∧ rc.y1 < rc.y2 := rects_nonempty r h rx ry

/-- … pairwise disjoint … -/
theorem iter_disjoint (r : Region) (h : r.WF) (rx ry : Bool) :
    (r.rects rx ry).Pairwise (fun a b => ∀ x y, ¬ (a.den x y ∧ b.den x y)) := rects_disjoint r h rx ry

/-- … their union is exactly the region (for every direction pair) … -/
theorem iter_cover (r : Region) (rx ry : Bool) (x y : Int) :
    r.den x y ↔ ∃ rc ∈ r.rects rx ry, rc.den x y := rects_cover r rx ry x y

/-- … their number is `sraRgnCountRects` … -/
theorem iter_count (r : Region) (rx ry : Bool) : (r.rects rx ry).length = r.countRects :=
  rects_length r rx ry

/-- … and the order is monotone in the requested directions: for ANY rectangle `a` yielded before
`b`, either both lie in the same band and `a` is entirely left of `b` (right if `reverseX`), or
`a`'s band is entirely above `b`'s (below if `reverseY`). -/
theorem iter_monotone (r : Region) (h : r.WF) (rx ry : Bool) :
    (r.rects rx ry).Pairwise (fun a b =>
      (a.y1 = b.y1 ∧ a.y2 = b.y2 ∧ (if rx then b.x2 ≤ a.x1 else a.x2 ≤ b.x1)) ∨
      (if ry then b.y2 ≤ a.y1 else a.y2 ≤ b.y1)) := rects_monotone r h rx ry

example : Region.rects [⟨0, 2, [⟨0, 3, ()⟩, ⟨4, 5, ()⟩]⟩, ⟨2, 4, [⟨1, 2, ()⟩]⟩] true false =
    [⟨4, 0, 5, 2⟩, ⟨0, 0, 3, 2⟩, ⟨1, 2, 2, 4⟩] := by decide

/-! ## the rectangle clippers -/

/-- `sraClipRect` is rectangle intersection: for ALL arguments the output rectangle's pixel set is
the intersection of `[x,x+w)×[y,y+h)` and `[cx,cx+cw)×[cy,cy+ch)`, and the boolean says whether it
is non-empty. -/
theorem clipRect_is_intersection (x y w h cx cy cw ch : Int) :
    let r := clipRect x y w h cx cy cw ch
    (∀ px py, (r.1 ≤ px ∧ px < r.1 + r.2.2.1 ∧ r.2.1 ≤ py ∧ py < r.2.1 + r.2.2.2.1) ↔
      ((x ≤ px ∧ px < x + w ∧ y ≤ py ∧ py < y + h) ∧
       (cx ≤ px ∧ px < cx + cw ∧ cy ≤ py ∧ py < cy + ch))) ∧
    (r.2.2.2.2 = true ↔ ∃ px py, (x ≤ px ∧ px < x + w ∧ y ≤ py ∧ py < y + h) ∧
       (cx ≤ px ∧ px < cx + cw ∧ cy ≤ py ∧ py < cy + ch)) := by
  intro r
  exact ⟨clipRect_mem x y w h cx cy cw ch, clipRect_true_iff x y w h cx cy cw ch⟩

/-- `sraClipRect2` (corner form).  (1) the boolean is `x2' > x' ∧ y2' > y'`; (2) when the two
rectangles intersect, the result is their intersection and the boolean is true; (3) when both are
non-empty, the result is a non-empty rectangle inside the clip rectangle even if they do NOT
intersect (the code clamps instead of intersecting: a rectangle left of the clip area becomes its
first column) — this is the behaviour `rfbDrawCursor`'s caller sees. -/
theorem clipRect2_spec (x y x2 y2 cx cy cx2 cy2 : Int) :
    let r := clipRect2 x y x2 y2 cx cy cx2 cy2
    (r.2.2.2.2 = true ↔ (r.2.2.1 > r.1 ∧ r.2.2.2.1 > r.2.1)) ∧
    ((max x cx < min x2 cx2 ∧ max y cy < min y2 cy2) →
      r = (max x cx, max y cy, min x2 cx2, min y2 cy2, true)) ∧
    ((x < x2 ∧ y < y2 ∧ cx < cx2 ∧ cy < cy2) →
      r.2.2.2.2 = true ∧ cx ≤ r.1 ∧ r.1 < r.2.2.1 ∧ r.2.2.1 ≤ cx2 ∧
      cy ≤ r.2.1 ∧ r.2.1 < r.2.2.2.1 ∧ r.2.2.2.1 ≤ cy2) := by
  intro r
  exact ⟨clipRect2_true_iff .., fun h => clipRect2_inter h.1 h.2,
    fun h => clipRect2_nonempty h.1 h.2.1 h.2.2.1 h.2.2.2⟩

example : clipRect 0 0 10 10 5 5 10 10 = (5, 5, 5, 5, true) := by decide
example : clipRect2 0 0 3 3 5 5 20 20 = (5, 5, 6, 6, true) := by decide

/-! ## `sraRgnPopRect` -/

/-- `sraRgnPopRect(rgn, &rect, flags)` returns 0 exactly on the empty region (and leaves it alone);
otherwise it removes and returns the FIRST rectangle of the iteration in the directions selected by
`flags` (bit 1: right-to-left, bit 0: bottom-to-top): the rectangle is non-empty and part of the
region, the remaining region is well-formed, iterates as the rest of the sequence, and denotes the
old pixel set minus the rectangle. -/
theorem popRect_none_iff (r : Region) (hwf : r.WF) (flags : Nat) :
    (r.popRect flags).2 = none ↔ r = [] := VncModel.Rgn.popRect_none_iff r hwf flags

theorem popRect_some (r : Region) (hwf : r.WF) (flags : Nat) (r' : Region) (rc : Rect)
    (h : r.popRect flags = (r', some rc)) :
    r'.WF ∧
    (r.rects (flags &&& 2 == 2) (flags &&& 1 == 1)).head? = some rc ∧
    r'.rects (flags &&& 2 == 2) (flags &&& 1 == 1)
      = (r.rects (flags &&& 2 == 2) (flags &&& 1 == 1)).tail ∧
    (rc.x1 < rc.x2 ∧ rc.y1 < rc.y2) ∧
    (∀ x y, rc.den x y → r.den x y) ∧
    (∀ x y, r'.den x y ↔ (r.den x y ∧ ¬ rc.den x y)) := popRect_den r hwf flags r' rc h

example : (Region.popRect [⟨0, 2, [⟨0, 3, ()⟩, ⟨4, 5, ()⟩]⟩, ⟨2, 4, [⟨1, 2, ()⟩]⟩] 2).2
    = some ⟨4, 0, 5, 2⟩ := by decide

/-! ## T1: the regenerated C leaf functions are the model's functions

`VncModel.Gen.Leaf.*` is translated from /repo's current C source by `tools/c2lean.py` on every run
(docs/T1.md); these are the proof obligations that stop compiling when `sraClipRect`,
`sraClipRect2` or the guard of `sraRgnCreateRect` change.  Together with `clipRect_is_intersection`,
`clipRect2_spec`, `createRect_den` they make those three statements theorems about the C text. -/
namespace T1

/-- `sraClipRect` as compiled now = `Rgn.clipRect` -/
theorem code_clipRect_eq_model : VncModel.Gen.Leaf.sraClipRect = clipRect :=
  VncModel.Leaf.sraClipRect_eq

/-- `sraClipRect2` as compiled now = `Rgn.clipRect2` -/
theorem code_clipRect2_eq_model : VncModel.Gen.Leaf.sraClipRect2 = clipRect2 :=
  VncModel.Leaf.sraClipRect2_eq

/-- `sraRgnCreateRect` as compiled now: returns the empty region exactly when the model does, and
otherwise builds the one-rectangle region from the unmodified coordinates = `Region.rect` -/
theorem code_createRect_eq_model (x1 y1 x2 y2 : Int) :
    (match VncModel.Gen.Leaf.sraRgnCreateRect_guard x1 y1 x2 y2 with
     | none => ([] : Region)
     | some (a, b, c, d) => [⟨b, d, [⟨a, c, ()⟩]⟩]) = Region.rect x1 y1 x2 y2 :=
  VncModel.Leaf.sraRgnCreateRect_guard_eq x1 y1 x2 y2

/-- hence: the C `sraClipRect` is rectangle intersection (statement about the regenerated code) -/
theorem code_clipRect_is_intersection (x y w h cx cy cw ch : Int) :
    let r := VncModel.Gen.Leaf.sraClipRect x y w h cx cy cw ch
    (∀ px py, (r.1 ≤ px ∧ px < r.1 + r.2.2.1 ∧ r.2.1 ≤ py ∧ py < r.2.1 + r.2.2.2.1) ↔
      ((x ≤ px ∧ px < x + w ∧ y ≤ py ∧ py < y + h) ∧
       (cx ≤ px ∧ px < cx + cw ∧ cy ≤ py ∧ py < cy + ch))) ∧
    (r.2.2.2.2 = true ↔ ∃ px py, (x ≤ px ∧ px < x + w ∧ y ≤ py ∧ py < y + h) ∧
       (cx ≤ px ∧ px < cx + cw ∧ cy ≤ py ∧ py < cy + ch)) := by
  rw [code_clipRect_eq_model]
  exact clipRect_is_intersection x y w h cx cy cw ch

end T1

end VncModel.Props.C11
