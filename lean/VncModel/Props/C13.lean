import VncModel.Threads.Sock
import VncModel.Threads.Skeleton
import VncModel.Gen.C13
/-!
# C13 — background (threaded) event loop: no deadlock, no use-after-free, clean shutdown

Model: `VncModel/Threads/Model.lean` — an interleaving transition system with the threads
application (`app`), listener (`lis`), per client `c` the input thread `inp c` and output thread
`out c`; shared objects: per client refCount/refCountMutex (R)/deleteCond, updateMutex (U)/updateCond,
sendMutex (S), outputMutex (O), `state`, `sock`, notify pipe, `linked`, `alive`; global
rfbClientListMutex (L), cursorMutex (C).  One step = one LOCK/UNLOCK/WAIT/TSIGNAL/create/join point of
the code (plus the plain code up to the next such point; racy reads of `sock`/`state` that steer
control are separate silent steps).  `succ s t` lists the successors of thread `t` (empty = blocked or
terminated), `Step`/`Reach` quantify over ALL schedules, any number of clients, unbounded length.
The model follows the code with fixes/C13-01 … C13-06 applied (docs/C13.md); `skeleton_matches` ties
it to the working tree on every run, the harness ties it by trace inclusion.

What is proved here (every theorem is about every reachable state, i.e. every schedule):

* `skeleton_matches` — T0: the synchronisation skeleton of the anchored functions in the working tree
  is the one the model was built from (a dropped UNLOCK, a moved reference decrement, a re-ordered
  shutdown … changes it).
* `owner_is_program_counter` — a mutex is owned by thread t exactly when t's program counter is in a
  region that, by the tables `heldOf`, holds it: every LOCK is matched by its UNLOCK on every path,
  no UNLOCK without ownership (`no_bad_unlock_partial`).
* `lock_order_acyclic` — the order `mlt` on mutex instances (class rank S < C < L < U,O < R; two
  sendMutexes by decreasing client id) is a strict partial order, the class-level nesting relation
  of the model is contained in it (decide over the full finite table), and in every reachable state
  everything a thread owns is strictly below everything it may request next; every acquisition the
  model performs is one of those announced requests (`acquisitions_announced`).
* `no_lock_cycle` — hence no reachable state contains a cycle of threads each requesting a mutex
  owned by the next (no deadlock cycle among mutexes).
* `waiters_hold_nothing` — a thread blocked in a condition wait or in pthread_join owns no mutex
  (every blocking wait releases its mutex; nobody joins while holding a lock).

* `refCount_is_exact` — the reference count of every client equals the number of counted references
  held (by the tables `refsOf`) by the application thread, the listener and the client's own output
  thread: no increment without decrement on any path, no decrement without a reference
  (`no_bad_decrement`), and `indices_allocated`: every client index a thread works on has been
  allocated (so the record rfbNewClient creates next is referenced by nobody).

* `no_uaf`, `no_double_free` — under EVERY schedule no thread dereferences a client record that is not
  allocated (LOCK/UNLOCK/TSIGNAL on its mutexes and condition variables, reads / writes of its fields,
  reference counting), and `free` is reached only for a record that is still allocated.  They follow
  from the life-cycle invariant `Life` (Threads/Life.lean, LifeStep.lean): a linked record is allocated;
  a client a thread holds a counted reference on — or that the iterator has found under the list mutex
  and is about to reference, or whose refCountMutex it still holds after dropping its reference — is
  linked; the input thread's program counter determines "allocated"/"linked"; the output thread runs
  only between its creation and its join; a record under construction / failed-creation teardown
  belongs to exactly one calling thread; the unlink happens with refCount = 0 under both mutexes.
* `referenced_is_linked`, `unlinked_is_unreferenced`, `free_only_when_safe`,
  `freed_record_has_no_threads` — readable consequences of `Life`.
* `mutex_waits_resolve`, `owner_can_run_or_waits` — a thread that owns a mutex can step or waits for a
  higher owned mutex, so every mutex wait leads to a thread that can run (Threads/Progress.lean).
* `shutdown_wakeup_not_lost`, `output_join_cannot_hang` — the wake-up clientInput sends its output thread
  before joining it cannot be lost (Threads/Wake.lean).
* `socket_closed_only_under_outputMutex` — the descriptor of a client is closed only by a thread that owns
  that client's outputMutex (no writer of another thread is inside rfbWriteExact then).
* `gone_once` — clientGoneHook runs at most once per record, never before rfbClientConnectionGone
  reaches it, exactly once by the time the record is freed (Threads/Gone.lean).
* `life_cycle` — the invariant `Life` itself.

What is not proved is listed at the end of the file.
-/
namespace VncModel.Props.C13
open VncModel.Threads

/-- T0 tie: the regenerated synchronisation skeleton of the working tree equals the skeleton the
model was built from. -/
theorem skeleton_matches : VncModel.Gen.C13.skeleton = expectedSkeleton := by decide

/-- a mutex is owned by thread `t` exactly when `t`'s program counter is inside a region that holds it -/
theorem owner_is_program_counter {s : State} (h : Reach s) (t : Tid) (m : MCls) (c : Nat) :
    own s m c = some t ↔ mkey m c ∈ heldOf s t :=
  own_iff_table h t m c

example : Reach State.init := Reach.init

/-- the strict order on mutex instances, and the model's class-level nesting relation inside it -/
theorem lock_order_acyclic :
    (∀ a : Mx, ¬ mlt a a) ∧ (∀ a b c : Mx, mlt a b → mlt b c → mlt a c) ∧
    (∀ p ∈ nesting, p = (MCls.S, MCls.S) ∨ rank p.1 < rank p.2) ∧
    (∀ s, Reach s → ∀ t, ∀ k ∈ pendOf s t, ∀ x ∈ heldOf s t, mlt x k) :=
  ⟨mlt_irrefl, fun _ _ _ => mlt_trans, nesting_ranked, fun _ h t => held_lt_pending h t⟩

/-- every mutex acquisition of the model (LOCK, or the re-acquisition that ends a condition wait) is
one of the requests `pendOf` announces for the acquiring thread's program counter -/
theorem acquisitions_announced {s s' : State} {t : Tid} {l : Lbl} {k : Mx}
    (hs : (l, s') ∈ succ s t) (hk : lockReq l = some k) : k ∈ pendOf s t :=
  lock_label_pending hs hk

/-- no deadlock cycle among mutexes -/
theorem no_lock_cycle {s : State} (h : Reach s) {t : Tid} {k : Mx} : ¬ LockChain s t k t :=
  no_lock_cycle' h

/-- non-vacuity of the chain notion: a one-element chain exists as soon as a thread requests a mutex
somebody owns (here: constructed abstractly) -/
example (s : State) (t t' : Tid) (k : Mx) (h1 : k ∈ pendOf s t) (h2 : own s k.1 k.2 = some t') :
    LockChain s t k t' := LockChain.single h1 h2

/-- a thread blocked in a condition wait (updateCond / deleteCond) or in pthread_join owns no mutex -/
theorem waiters_hold_nothing {s : State} (h : Reach s) (c : Nat) (m : MCls) (c' : Nat) :
    ((s.cl c).opc = .blocked ∨ (s.cl c).opc = .woken → own s m c' ≠ some (.out c)) ∧
    ((s.cl c).ipc = .g .blocked ∨ (s.cl c).ipc = .g .wakeD ∨ (s.cl c).ipc = .x3 → own s m c' ≠ some (.inp c)) ∧
    (s.apc = .sdJoinL ∨ (∃ d n, s.apc = .sdJoin d n) ∨ (∃ d, s.apc = .gone .blocked d) ∨ (∃ d, s.apc = .gone .wakeD d) →
      own s m c' ≠ some .app) := by
  refine ⟨fun hpc ho => ?_, fun hpc ho => ?_, fun hpc ho => ?_⟩
  · have := (own_iff_table h _ m c').1 ho
    rcases hpc with e | e <;> simp [heldOf, e, heldO] at this
  · have := (own_iff_table h _ m c').1 ho
    rcases hpc with e | e | e <;> simp [heldOf, e, heldI, heldG] at this
  · have := (own_iff_table h _ m c').1 ho
    rcases hpc with e | ⟨d, n, e⟩ | ⟨d, e⟩ | ⟨d, e⟩ <;> simp [heldOf, e, heldC, heldG] at this

/-- UNLOCK is only ever executed by the owner -/
theorem no_bad_unlock_partial {s : State} (h : Reach s) (t : Tid) (m : MCls) (c : Nat)
    (hheld : mkey m c ∈ heldOf s t) : own s m c = some t :=
  (own_iff_table h t m c).2 hheld

/-- the reference count is exact -/
theorem refCount_is_exact {s : State} (h : Reach s) (c : Nat) :
    (s.cl c).refCount = (refsOf s .app).count c + (refsOf s .lis).count c + (refsOf s (.out c)).count c :=
  refCount_exact h c

/-- a thread that is about to drop a reference (its table lists the client) really holds one -/
theorem no_bad_decrement {s : State} (h : Reach s) (t : Tid) (c : Nat) (hc : c ∈ refsOf s t) :
    c ∈ (getG s t).refs :=
  mem_refs_of_local (local_reach h) hc

/-- every client index in a program counter, in the list of remembered clients, and of every started
thread is below `n` (allocated) -/
theorem indices_allocated {s : State} (h : Reach s) :
    (∀ x ∈ idxC s.apc, x < s.n) ∧ (∀ x ∈ idxC s.lpc, x < s.n) ∧ (∀ x ∈ s.alk, x < s.n) ∧
    (∀ c, (s.cl c).ipc ≠ .notStarted ∨ (s.cl c).opc ≠ .notStarted → c < s.n) :=
  let b := bnd_reach h
  ⟨b.app, b.lis, b.alk, b.thr⟩

/-- **no use-after-free**: in every reachable state the ghost flag "a freed (or never allocated) client
record was dereferenced" is clear; the flag is raised by every LOCK / UNLOCK of a per-client mutex, every
TSIGNAL, every read or write of a record field and every reference-count operation of the model that
hits a record with `alive = false` -/
theorem no_uaf {s : State} (h : Reach s) : s.uaf = false := (safe_reach h).1

/-- **no double free**: `free(cl)` (last step of rfbClientConnectionGone) is only reached for a record
that is still allocated -/
theorem no_double_free {s : State} (h : Reach s) : s.dfree = false := (safe_reach h).2

/-- the ghost flags are live: a dereference of a record that is not allocated raises `uaf` (so
`no_uaf` is a statement about the model's dereferences, not about a constant) -/
example (s : State) (c : Nat) (h : (s.cl c).alive = false) : (touch s c).uaf = true := by
  simp [touch, h, raise]

/-- a client some thread holds a counted reference on is in the client list and allocated -/
theorem referenced_is_linked {s : State} (h : Reach s) (t : Tid) (c : Nat) (hc : c ∈ refsOf s t) :
    (s.cl c).linked = true ∧ (s.cl c).alive = true :=
  referenced_linked h t c hc

/-- a record that is not (or no longer) in the client list has reference count 0 -/
theorem unlinked_is_unreferenced {s : State} (h : Reach s) (c : Nat) (hc : (s.cl c).linked = false) :
    (s.cl c).refCount = 0 :=
  unlinked_unreferenced h c hc

/-- the thread about to execute `free(cl)` finds the record allocated, out of the list, with
reference count 0 and its output thread joined (or never started) -/
theorem free_only_when_safe {s : State} (h : Reach s) (c : Nat)
    (hc : (s.cl c).ipc = .g .unlockS ∨ s.apc = .gone .unlockS c ∨ s.lpc = .gone .unlockS c) :
    (s.cl c).alive = true ∧ (s.cl c).linked = false ∧ (s.cl c).refCount = 0 ∧ opcRun (s.cl c).opc = false :=
  free_is_safe h c hc

/-- once a record is freed neither of its threads is running any more -/
theorem freed_record_has_no_threads {s : State} (h : Reach s) (c : Nat) (hc : (s.cl c).alive = false) :
    ipcAlive (s.cl c).ipc = false ∧ opcRun (s.cl c).opc = false :=
  freed_has_no_threads h c hc

/-- the life-cycle invariant itself -/
theorem life_cycle {s : State} (h : Reach s) : Life s := life_reach h

/-- **the client-gone hook runs at most once** per client record, under every schedule; it has not run
while the record is being created or served or is still before the hook in rfbClientConnectionGone, and
it has run exactly once when rfbClientConnectionGone is past it — in particular when the input thread
has freed the record and ended -/
theorem gone_once {s : State} (h : Reach s) (c : Nat) :
    (s.cl c).goneCnt ≤ 1 ∧
    (iClass (s.cl c).ipc = 1 → (s.cl c).goneCnt = 0) ∧
    (iClass (s.cl c).ipc = 2 → (s.cl c).goneCnt = 1) ∧
    (∀ t, cClass (getC s t) = some (c, 1) → (s.cl c).goneCnt = 0) ∧
    (∀ t, cClass (getC s t) = some (c, 2) → (s.cl c).goneCnt = 1) :=
  let g := goneInv_reach h
  ⟨g.le c, g.ipre c, g.ipost c, fun t => g.cpre t c, fun t => g.cpost t c⟩

/-- reading of the classes: an input thread that has ended has run the hook exactly once -/
example {s : State} (h : Reach s) (c : Nat) (he : (s.cl c).ipc = .exited) : (s.cl c).goneCnt = 1 :=
  (gone_once h c).2.2.1 (by rw [he]; rfl)

/-- **mutex waits always resolve**: in every reachable state, if a thread requests a mutex that is
owned, some thread can take a step (the owner, or a thread further up the chain of owners — the chain
climbs in the lock order).  Hence no deadlock that involves mutexes only: no lock cycle, and no mutex
that stays locked because its owner has ended, sleeps in a condition wait or waits in pthread_join. -/
theorem mutex_waits_resolve {s : State} (h : Reach s) (k : Mx) (t t' : Tid)
    (hk : k ∈ pendOf s t) (ho : own s k.1 k.2 = some t') : ∃ t'', ∃ x, x ∈ succ s t'' :=
  mutex_wait_resolves h k t t' hk ho

/-- whoever owns a mutex can take a step, or is waiting for a mutex that somebody owns -/
theorem owner_can_run_or_waits {s : State} (h : Reach s) (t : Tid) (hh : heldOf s t ≠ []) :
    (∃ x, x ∈ succ s t) ∨ (∃ k, k ∈ pendOf s t ∧ own s k.1 k.2 ≠ none) :=
  holder_progress h t hh

/-- **the shutdown wake-up is not lost**: from the moment clientInput has stored RFB_SHUTDOWN and signalled
updateCond under updateMutex until it has joined its output thread, `state` stays RFB_SHUTDOWN and the
output thread is neither asleep in WAIT(updateCond) nor between its check of `state` and that WAIT -/
theorem shutdown_wakeup_not_lost {s : State} (h : Reach s) (c : Nat)
    (hi : (s.cl c).ipc = .x2 ∨ (s.cl c).ipc = .x3) :
    (s.cl c).st = .shutdown ∧ (s.cl c).opc ≠ .blocked ∧ (s.cl c).opc ≠ .inU ∧ (s.cl c).opc ≠ .notStarted := by
  have w := wake_reach h
  have key : ∀ f : IPc → Bool, f .x2 = true → f .x3 = true → f (s.cl c).ipc = true := fun f h2 h3 => by
    rcases hi with e | e <;> rw [e] <;> assumption
  exact ⟨w.st_sd c (key _ rfl rfl), (w.awake c (key _ rfl rfl)).1, (w.awake c (key _ rfl rfl)).2,
    w.started c (key _ rfl rfl)⟩

/-- ... so the pthread_join of the output thread never hangs: the output thread has ended, or some
thread of the system can take a step -/
theorem output_join_cannot_hang {s : State} (h : Reach s) (c : Nat) (hi : (s.cl c).ipc = .x3) :
    (s.cl c).opc = .exited ∨ ∃ t, ∃ x, x ∈ succ s t :=
  (output_join_progresses h c hi).2.2.2

/-- **the client socket is closed only under outputMutex**: the step that closes client c's descriptor
(`cl->sock = -1`, label `sock c`) is taken by a thread that owns outputMutex(c); so no other thread is
inside a write critical section of c (rfbWriteExact reads the descriptor after LOCK(outputMutex)) at
that moment, and while a thread holds outputMutex(c) the descriptor of c cannot be closed by anybody
else: a write performed under O(c) goes to the descriptor c has at that moment -/
theorem socket_closed_only_under_outputMutex {s s' : State} (h : Reach s) (t : Tid) (c : Nat)
    (hs : (Lbl.sock c, s') ∈ succ s t) :
    own s .O c = some t ∧ ∀ t', t' ≠ t → (MCls.O, c) ∉ heldOf s t' := by
  have key : own s .O c = some t := by
    cases t with
    | app => exact (sock_label_inp hs (fun _ => by simp)).elim
    | lis => exact (sock_label_inp hs (fun _ => by simp)).elim
    | out d => exact (sock_label_inp hs (fun _ => by simp)).elim
    | inp d =>
      have hd := (sock_label_inp' hs).1
      have hpc := (sock_label_inp' hs).2
      rw [hd]
      exact (own_iff_table h (.inp c) .O c).2 (by simp [heldOf, hpc, heldI, mkey, MCls.perClient])
  refine ⟨key, fun t' hne hm => ?_⟩
  have := (own_iff_table h t' .O c).2 (by simpa [mkey, MCls.perClient] using hm)
  rw [key] at this
  exact hne (Option.some.inj this).symm

/-!
## Not proved (full-strength statements)

* `no_deadlock`: `∀ s, Reach s → (∀ t, succ s t = []) → every thread has terminated`.  Proved:
  `no_lock_cycle`, `waiters_hold_nothing`, `mutex_waits_resolve` (everything that involves mutexes);
  `shutdown_wakeup_not_lost` / `output_join_cannot_hang` (the join of the output thread);
  missing: the waits on deleteCond (rfbClientConnectionGone waiting for references) and the joins in
  rfbShutdownServer are eventually satisfied (searched for by the scheduler's hang detection only).
* `shutdown_terminates`, `threads_reclaimed`.
* `no_bad_unlock_partial` is stated through the tables (`heldOf`), like `no_bad_decrement` (`refsOf`): there
  is no theorem that the ghost flags `badUnlock`, `badRef`, `badJoin`, `badCreate`, `conflict` stay clear
  (`uaf` and `dfree` do: `no_uaf`, `no_double_free`).
-/

end VncModel.Props.C13
