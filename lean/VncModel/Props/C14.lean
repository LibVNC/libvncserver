import VncModel.Policy.ArgsLemmas
/-!
# C14 — Shared / non-shared session policy is enforced

Property theorems only (helper lemmas: `VncModel/Policy/{Lemmas,ArgsLemmas}.lean`).  The model
(`VncModel/Policy/Model.lean`) mirrors the tail of `rfbProcessClientInitMessage`,
`VncModel/Policy/Args.lean` the argument loop of `rfbProcessArguments`; both are tied to the code by
the correspondence run `harness/c14.c` ⇄ `Driver/C14.lean` and by the T0 text `VncModel.Gen.C14`.

Quantifiers: every client list, every configuration (all 8 flag combinations), every shared flag,
every history of connect / ClientInit / peer-close / reap events (unbounded); every command line
made of well-formed segments and every extension (`processArgs_segments`).
-/
namespace VncModel.Props.C14
open VncModel.Policy

/-- A ClientInit of a client that is present, open and mid-handshake. -/
def Ready (cs : List Client) (i : Nat) (me : Client) : Prop :=
  cs.find? (fun c => c.id == i) = some me ∧ me.isOpen = true ∧ me.st = .handshake

/-- **(1) shared access never disconnects anybody**: if the newcomer is not exclusive, only the
newcomer's state changes (to NORMAL) and every client's open/closed status is unchanged. -/
theorem shared_never_disconnects (cfg : Cfg) (cs : List Client) (i : Nat) (shared : Bool)
    (me : Client) (hr : Ready cs i me) (hne : exclusive cfg me shared = false) :
    clientInit cfg cs i shared =
      cs.map (fun c => if c.id == i then { c with st := .normal } else c) ∧
    (clientInit cfg cs i shared).map (·.isOpen) = cs.map (·.isOpen) := by
  obtain ⟨hf, ho, hs⟩ := hr
  have h1 : clientInit cfg cs i shared =
      cs.map (fun c => if c.id == i then { c with st := .normal } else c) := by
    simp [clientInit, hf, ho, hs, hne]
  refine ⟨h1, ?_⟩
  rw [h1, List.map_map]
  apply List.map_congr_left
  intro c _
  by_cases h : c.id = i <;> simp [h]

/-- the ways a client is "not exclusive" named in the property statement: it asked for shared
access, or the screen is always-shared (in both cases on a screen not configured never-shared, which
takes precedence in the code), or it is a reverse connection. -/
theorem not_exclusive_cases (cfg : Cfg) (me : Client) (shared : Bool)
    (h : me.reverse = true ∨ (cfg.never = false ∧ (shared = true ∨ cfg.always = true))) :
    exclusive cfg me shared = false := by
  rcases h with h | ⟨hn, h | h⟩ <;> simp [exclusive, *]

/-- and conversely an inbound client is exclusive exactly when the screen is never-shared or it
asked for exclusive access on a screen that is not always-shared -/
theorem exclusive_iff (cfg : Cfg) (me : Client) (shared : Bool) :
    exclusive cfg me shared = true ↔
      me.reverse = false ∧ (cfg.never = true ∨ (cfg.always = false ∧ shared = false)) := by
  cases hr : me.reverse <;> cases hn : cfg.never <;> cases ha : cfg.always <;> cases shared <;>
    simp [exclusive, *]

/-- **(2) exclusive access on a disconnecting screen**: exact result — the newcomer becomes NORMAL,
every other open NORMAL client is closed, everything else (clients mid-handshake, already closed
ones) is untouched. -/
theorem exclusive_disconnects_others (cfg : Cfg) (cs : List Client) (i : Nat) (shared : Bool)
    (me : Client) (hr : Ready cs i me) (hex : exclusive cfg me shared = true)
    (hd : cfg.dont = false) :
    clientInit cfg cs i shared = cs.map (fun c =>
      if c.id == i then { c with st := .normal }
      else if c.isOpen && c.st == .normal then closeClient c else c) := by
  obtain ⟨hf, ho, hs⟩ := hr
  simp only [clientInit, hf, ho, hs, hex, hd]
  simp only [List.map_map]
  apply List.map_congr_left
  intro c _
  by_cases h : c.id = i
  · simp [h, isOtherNormal]
  · simp [h, isOtherNormal]

/-- (2) in the words of the property: the newcomer stays and is
served; no other client is both open and NORMAL afterwards; mid-handshake bystanders keep their
exact record. -/
theorem exclusive_disconnects_others_spec (cfg : Cfg) (cs : List Client) (i : Nat) (shared : Bool)
    (me : Client) (hr : Ready cs i me)
    (hex : exclusive cfg me shared = true) (hd : cfg.dont = false) :
    ({ me with st := .normal } ∈ clientInit cfg cs i shared) ∧
    (∀ c ∈ clientInit cfg cs i shared, c.id ≠ i → ¬ (c.isOpen = true ∧ c.st = .normal)) ∧
    (∀ c ∈ cs, c.id ≠ i → c.st = .handshake → c ∈ clientInit cfg cs i shared) := by
  rw [exclusive_disconnects_others cfg cs i shared me hr hex hd]
  obtain ⟨hf, ho, hs⟩ := hr
  obtain ⟨hmem, hid⟩ := find_mem cs i me hf
  refine ⟨?_, ?_, ?_⟩
  · exact List.mem_map.mpr ⟨me, hmem, by simp [hid]⟩
  · intro c hc hci
    obtain ⟨d, _, rfl⟩ := List.mem_map.mp hc
    by_cases h : d.id = i
    · simp [h] at hci
    · cases h2 : d.isOpen && d.st == .normal
      · simpa [h, h2] using (by simpa using h2 : d.isOpen = true → ¬ d.st = .normal)
      · simp [h, closeClient]
  · intro c hc hci hst
    exact List.mem_map.mpr ⟨c, hc, by simp [hci, hst]⟩

/-- **(3) exclusive access on a screen configured not to disconnect**: exact result — if some other
client is fully connected the newcomer is closed and nobody else changes; otherwise the newcomer
simply becomes NORMAL.  Either way no other client's record changes. -/
theorem exclusive_refused_or_alone (cfg : Cfg) (cs : List Client) (i : Nat) (shared : Bool)
    (me : Client) (hr : Ready cs i me) (hex : exclusive cfg me shared = true)
    (hd : cfg.dont = true) :
    clientInit cfg cs i shared = cs.map (fun c =>
      if c.id == i then
        (if cs.any (isOtherNormal i) then closeClient { c with st := .normal }
         else { c with st := .normal })
      else c) := by
  obtain ⟨hf, ho, hs⟩ := hr
  have hany : (cs.map (fun c => if c.id == i then { c with st := .normal } else c)).any
      (isOtherNormal i) = cs.any (isOtherNormal i) := by
    rw [List.any_map]
    congr 1
    funext c
    by_cases h : c.id = i <;> simp [h, isOtherNormal]
  simp only [clientInit, hf, ho, hs, hex, hd, hany]
  by_cases ha : cs.any (isOtherNormal i) = true
  · simp only [ha, if_true, List.map_map]
    apply List.map_congr_left
    intro c _
    by_cases h : c.id = i <;> simp [h]
  · simp [ha]

/-- **(4) a never-shared screen never serves two fully connected inbound clients at once** — for
every configuration of the other two switches and every finite history of events. -/
theorem never_shared_at_most_one (cfg : Cfg) (hn : cfg.never = true) (ops : List Op) :
    (servedInbound (run cfg [] ops)).length ≤ 1 := by
  -- along the run ids stay distinct (`step_ids_nodup`) and at most one record is served
  suffices h : ∀ (ops : List Op) (cs : List Client), (ids cs).Nodup → cs.countP served ≤ 1 →
      (run cfg cs ops).countP served ≤ 1 by
    rw [servedInbound_eq, ← List.countP_eq_length_filter]
    exact h ops [] List.nodup_nil (Nat.zero_le _)
  intro ops
  induction ops with
  | nil => intro cs _ h; exact h
  | cons op ops ih =>
    intro cs hnd hcnt
    refine ih (step cfg cs op) (step_ids_nodup cfg cs op hnd) ?_
    cases op with
    | connect id rev =>
      simp only [step]
      split
      · exact hcnt
      · simpa [List.countP_cons, served] using hcnt
    | peerClose id =>
      refine Nat.le_trans (countP_map_le cs _ served served fun c _ hc => ?_) hcnt
      by_cases h : c.id = id
      · simp [h, closeClient, served] at hc
      · simpa [h] using hc
    | reap => exact Nat.le_trans (List.Sublist.countP_le List.filter_sublist) hcnt
    | init i shared =>
      simp only [step]
      cases hf : cs.find? (fun c => c.id == i) with
      | none => simpa [clientInit, hf] using hcnt
      | some me =>
        by_cases hrdy : (me.isOpen && me.st == .handshake) = true
        case neg => simpa [clientInit, hf, hrdy] using hcnt
        have hr : Ready cs i me := ⟨hf, by simpa using hrdy⟩
        have hidle : cs.countP (fun c => c.id == i) ≤ 1 := countP_id_le_one cs i hnd
        -- on a never-shared screen the newcomer is exclusive unless it is a reverse connection
        cases hrv : me.reverse with
        | true =>
          -- the newcomer is not inbound, so not counted; nobody else changes
          have hex : exclusive cfg me shared = false := by simp [exclusive, hrv]
          rw [(shared_never_disconnects cfg cs i shared me hr hex).1]
          refine Nat.le_trans (countP_map_le cs _ served served fun c hcm hc => ?_) hcnt
          by_cases h : c.id = i
          · obtain rfl := eq_of_find_nodup cs i me hnd hf c hcm h
            simp [h, served, hrv] at hc
          · simpa [h] using hc
        | false =>
          have hex : exclusive cfg me shared = true := by simp [exclusive, hrv, hn]
          cases hd : cfg.dont with
          | false =>
            -- every other fully connected client is closed: only the newcomer can be served
            rw [exclusive_disconnects_others cfg cs i shared me hr hex hd]
            refine Nat.le_trans (countP_map_le cs _ served (fun c => c.id == i) fun c _ hc => ?_) hidle
            by_cases h : c.id = i
            · simpa using h
            · cases h2 : c.isOpen && c.st == .normal <;> simp [h, h2, closeClient, served] at hc
          | true =>
            rw [exclusive_refused_or_alone cfg cs i shared me hr hex hd]
            cases ha : cs.any (isOtherNormal i) with
            | true =>
              -- refused: the newcomer is closed, nobody else changes
              refine Nat.le_trans (countP_map_le cs _ served served fun c _ hc => ?_) hcnt
              by_cases h : c.id = i
              · simp [h, closeClient, served] at hc
              · simpa [h] using hc
            | false =>
              -- nobody else is fully connected: only the newcomer can be served
              refine Nat.le_trans (countP_map_le cs _ served (fun c => c.id == i) fun c hcm hc => ?_) hidle
              by_cases h : c.id = i
              · simpa using h
              · have hno := List.any_eq_false.mp ha c hcm
                simp only [h, beq_iff_eq, if_false, served, Bool.and_eq_true] at hc
                simp [isOtherNormal, h, hc.1.1, hc.1.2] at hno

/-! ## Non-vacuity: the hypotheses are met by concrete, non-trivial states -/

/-- two served clients and one mid-handshake bystander; client 3 arrives asking exclusive access -/
def exCs : List Client :=
  [ { id := 3, st := .handshake, reverse := false, isOpen := true },
    { id := 2, st := .handshake, reverse := false, isOpen := true },
    { id := 1, st := .normal, reverse := false, isOpen := true },
    { id := 0, st := .normal, reverse := true, isOpen := true } ]

example : Ready exCs 3 { id := 3, st := .handshake, reverse := false, isOpen := true } ∧
    (ids exCs).Nodup ∧
    exclusive ⟨false, false, false⟩ { id := 3, st := .handshake, reverse := false, isOpen := true }
      false = true := by
  refine ⟨⟨by decide, by decide, by decide⟩, by decide, by decide⟩

example : (clientInit ⟨false, false, false⟩ exCs 3 false).map (fun c => (c.id, c.isOpen, c.st)) =
    [(3, true, .normal), (2, true, .handshake), (1, false, .normal), (0, false, .normal)] := by
  decide

example : (clientInit ⟨false, false, true⟩ exCs 3 false).map (fun c => (c.id, c.isOpen, c.st)) =
    [(3, false, .normal), (2, true, .handshake), (1, true, .normal), (0, true, .normal)] := by
  decide

/-- the at-most-one bound is attained (so the theorem is not vacuous) -/
example : (servedInbound (run ⟨false, true, false⟩ []
    [.connect 0 false, .init 0 true, .connect 1 false, .init 1 true])).length = 1 := by decide

/-- the command-line switches configure exactly the three policy fields: after
`rfbProcessArguments` a field is set iff it was set before or its flag occurs -/
theorem parseArgs_spec (cfg : Cfg) (args : List String) :
    (parseArgs cfg args).always = (cfg.always || args.contains "-alwaysshared") ∧
    (parseArgs cfg args).never = (cfg.never || args.contains "-nevershared") ∧
    (parseArgs cfg args).dont = (cfg.dont || args.contains "-dontdisconnect") := by
  induction args generalizing cfg with
  | nil => simp [parseArgs]
  | cons a rest ih =>
    -- the loop body is `setFlag` with the generated names spelt out
    have hstep : parseArgs cfg (a :: rest) = parseArgs (setFlag cfg a) rest := rfl
    rw [hstep, (ih _).1, (ih _).2.1, (ih _).2.2, setFlag_eq]
    simp [Bool.or_assoc, BEq.comm (a := a), Bool.beq_eq_decide_eq, VncModel.Gen.C14.argAlwaysShared,
      VncModel.Gen.C14.argNeverShared, VncModel.Gen.C14.argDontDisconnect]

open VncModel.Gen.C14

/-! ## The command-line path, faithfully: `rfbProcessArguments` with its whole option table

`processArgs` (Policy/Args.lean) follows the C loop token by token; its option table is
regenerated from cargs.c on every run.  The theorem below is its functional specification for
every command line that is a sequence of well-formed segments, for every set of registered
extensions (`ext` arbitrary): flags take effect wherever they stand, an option's value and an
extension's parameters are never mistaken for options, nothing else is, and exactly the unknown
tokens are left for the application. -/

theorem processArgs_segments (ext : Ext) (segs : List Seg) (h : AllOk ext segs)
    (cfg : Cfg) (kept : List String) :
    processArgs ext cfg kept (flatten segs) =
      ⟨segs.foldl applySeg cfg, kept.reverse ++ leftOf segs, true⟩ := by
  induction segs generalizing cfg kept with
  | nil => simp [flatten, processArgs, leftOf]
  | cons s ss ih =>
    obtain ⟨hs, hss⟩ := h
    rw [flatten]
    -- `hs` sends each kind of segment down its own branch of the loop, which then meets `ss`
    cases s <;> simp only [SegOk, known, not_or] at hs <;>
      rw [Seg.toks, List.cons_append, processArgs.eq_def]
    case flag a => simp [hs, ih hss, applySeg, leftOf]
    case value a v => simp [hs, ih hss, applySeg, leftOf]
    case other a => simp [hs, ih hss, applySeg, leftOf]
    case ext a more =>
      have hd : (a :: (more ++ flatten ss)).drop (more.length + 1) = flatten ss := by simp
      simp [hs, hd, ih hss, applySeg, leftOf]

/-- **the three sharing switches after a well-formed command line**: each is set iff it was set
before or its flag stands at an option position — also directly behind an extension's option. -/
theorem args_sharing_switches (ext : Ext) (segs : List Seg) (h : AllOk ext segs) (cfg : Cfg) :
    let r := processArgs ext cfg [] (flatten segs)
    r.ok = true ∧
    r.cfg.always = (cfg.always || segs.any (isFlag argAlwaysShared)) ∧
    r.cfg.never = (cfg.never || segs.any (isFlag argNeverShared)) ∧
    r.cfg.dont = (cfg.dont || segs.any (isFlag argDontDisconnect)) := by
  simp only [processArgs_segments ext segs h, foldl_applySeg, and_self]

/-- non-vacuity, on the extension the harness registers: `-chan 7 -nevershared -desktop -alwaysshared x`
is well formed; `-nevershared` behind the extension's option counts, `-alwaysshared` as the value
of `-desktop` does not -/
example : AllOk demoExt [.ext "-chan" ["7"], .flag "-nevershared", .value "-desktop" "-alwaysshared",
    .other "x"] := by
  simp [AllOk, SegOk, known, flatten, Seg.toks, demoExt, argHelp, argValue, argFlag]

/-! ## Where a client record comes from: the reverse-connection flag is history, not input -/

/-- in every history of arrivals — inbound connections, successful and FAILED reverse connections
(connect error, or the new-client hook refusing), ClientInits, closes, reaping — a record is
flagged `reverseConnection` only if a successful reverse connection created a record with its id,
and unflagged only if an inbound connection did -/
theorem origin_of_flag (cfg : Cfg) (evs : List Ev) :
    ∀ c ∈ run cfg [] (opsOf evs),
      (c.reverse = true → c.id ∈ reverseIds evs) ∧ (c.reverse = false → c.id ∈ inboundIds evs) := by
  intro c hc
  rcases run_origin cfg (opsOf evs) [] c hc with ⟨_, h0, _⟩ | h
  · cases h0
  · exact connect_mem_opsOf evs c.id c.reverse h

/-- **(4′) never-shared, by origin**: on a never-shared screen, among the clients that came in
through the listening socket at most one is fully connected — whatever reverse connections were
attempted, failed or succeeded in between (ids of inbound and reverse arrivals distinct) -/
theorem never_shared_at_most_one_inbound (cfg : Cfg) (hn : cfg.never = true) (evs : List Ev)
    (hdis : ∀ i ∈ inboundIds evs, i ∉ reverseIds evs) :
    ((run cfg [] (opsOf evs)).filter
      (fun c => c.isOpen && c.st == .normal && (inboundIds evs).contains c.id)).length ≤ 1 := by
  refine Nat.le_trans ?_ (never_shared_at_most_one cfg hn (opsOf evs))
  rw [servedInbound_eq, ← List.countP_eq_length_filter, ← List.countP_eq_length_filter]
  apply List.countP_mono_left
  intro c hc hp
  simp only [Bool.and_eq_true, List.contains_iff_mem] at hp
  have ho := origin_of_flag cfg evs c hc
  have hrev : c.reverse = false := by
    cases hr : c.reverse
    · rfl
    · exact absurd (ho.1 hr) (hdis _ (by simpa using hp.2))
  simp [served, hp.1.1, hp.1.2, hrev]

/-- non-vacuity: after a failed reverse connection two inbound clients arrive on a never-shared
screen; the second takes over (it also displaces the reverse connection), one is served -/
example : ((run ⟨false, true, false⟩ [] (opsOf
    [.reverseFailed 9, .inbound 0, .init 0 true, .reverseOk 5, .init 5 true, .inbound 1, .init 1 true])).filter
      (fun c => c.isOpen && c.st == .normal)).map (fun c => (c.id, c.reverse)) = [(1, false)] := by
  decide

/-! ## The model's conditions are the source's conditions

`exclusiveGen`, `otherRefuseGen`, `otherCloseGen` are translated from the text of the policy block
of rfbProcessClientInitMessage on every run (tools/consts/c14.py, which also compares the rest of
the block literally).  A change of any of the three conditions in the C source changes these
definitions and breaks the equalities below, whether or not a generated history reaches it. -/

theorem exclusive_matches_source (cfg : Cfg) (c : Client) (shared : Bool) :
    exclusive cfg c shared = exclusiveGen c.reverse cfg.never cfg.always shared := by
  cases c with | mk id st rev o => cases cfg with | mk a n d =>
  cases rev <;> cases n <;> cases a <;> cases shared <;> rfl

/-- the iterator yields only open clients; among those both loops pick by the translated condition -/
theorem other_matches_source (i : Nat) (c : Client) :
    isOtherNormal i c = (c.isOpen && otherRefuseGen (c.id != i) (c.st == .normal)) ∧
    isOtherNormal i c = (c.isOpen && otherCloseGen (c.id != i) (c.st == .normal)) := by
  simp only [isOtherNormal, otherRefuseGen, otherCloseGen]
  constructor <;> cases (c.id != i) <;> cases c.isOpen <;> cases (c.st == St.normal) <;> rfl

end VncModel.Props.C14
