import VncModel.Cursor.ShapeLemmas
import VncModel.Cursor.Invariant
import VncModel.Cursor.BitLaws
import VncModel.Cursor.Scaled
/-!
# C15 — Cursor handling never damages the framebuffer and shows the right cursor

Property theorems only.  Model: `VncModel/Cursor/{Basic,Model,Session}.lean` (helper lemmas:
`Lemmas`, `ShowHide`, `ShapeLemmas`, `SessionLemmas`, `Invariant`, `BitLaws`, `Scaled`).  Tie: correspondence run
`harness/c15.c` ⇄ `Driver/C15.lean` (exact, every run) + T0 constants `VncModel/Gen/C15.lean`.

What is modelled: rfbShowCursor / rfbHideCursor with the exact clipping arithmetic and the
save / paint (mask and alpha path) / restore loops, every buffer access checked (an access outside
`frameBuffer` or `underCursorBuffer` makes the operation `none`); `underCursorBuffer` (re)allocation;
rfbRedrawAfterHideCursor via sraClipRect2; the bracket show – encode – hide of
rfbSendFramebufferUpdate including the `updateFailed` path; rfbSendCursorShape / rfbSendCursorPos;
rfbDefaultPtrAddEvent; rfbSetCursor; FramebufferUpdateRequest; the conversions between X and rich
cursors.  Regions are pixel sets (C11), pixels are opaque values of `bpp` bytes.

**The model is the REPAIRED code** (`Variant.fixed`): the code as received violated the property in
three places (`fixes/C15-cursor-clip.diff`, `fixes/C15-xcursor-colour.diff`,
`fixes/C15-setenc-soft-cursor.diff`); the original behaviour is `Variant.orig`, kept executable, and
refuted below (`orig_clip_drops_last_column`, `orig_xcursor_colour_unscaled`; the SetEncodings
defect is witnessed by corpus/C15/setenc-soft-cursor.ops).  Theorems that hold for both are stated for every `v : Variant`.

Quantifiers: every screen size, every cursor (any size incl. 0×0 and 1×1, any mask / rich / alpha
data, any hot-spot, also outside the bitmap), every pointer position (all naturals, so all of
0..65535, cursor on / partly / wholly off-screen), every history of operations.

Also modelled: the library's built-in default cursor (T0: tools/consts/c15.py), a
second SetEncodings that switches the cursor capability, client pixel formats (`Wire`), 24-bit
server pixels, the "does not fit → empty cursor" rule of rfbSendCursorShape.
Sections 8 and 9 give the alpha path and the bitmap conversions statements of their own (channel
formula with the code's rounding, result within the format, dithering threshold; bit order, row
stride, mask ⊇ source, rich→X→rich).  Still partial (docs/C15.md): premultiplied alpha sources are
only characterised by `blend` itself; rfbMakeMaskFromAlphaSource has threshold / all-clear /
all-set laws, not a full specification of the error diffusion; big-endian server formats are not
modelled.
-/
namespace VncModel.Props.C15
open VncModel.Cursor VncModel.Gen.C15

/-! ## 1. show ; hide is the identity, without out-of-bounds accesses -/

/-- **hide_show_id**: for every screen, cursor, hot-spot and position, rfbShowCursor followed by
rfbHideCursor (same client position) succeeds — i.e. performs no access outside the framebuffer or
underCursorBuffer — and leaves the framebuffer exactly as it was.  Holds for the original and the
repaired clipping. -/
theorem hide_show_id (v : Variant) (s : Screen) (hs : s.WF) (cx cy : Nat) :
    ∃ s1 s2, showCursor v s cx cy = some s1 ∧ hideCursor v s1 cx cy = some s2 ∧ s2.fb = s.fb := by
  obtain ⟨s1, h1⟩ := show_ok v hs cx cy
  exact ⟨s1, _, h1, hide_after_show hs h1, rfl⟩

/-- **no_oob**: every index touched by show and by the following hide is inside its buffer (all
accesses of the model are checked; `some` = none was out of bounds); the pixel buffer the model
checks against has exactly the C buffer's extent (`pixel_range_iff_byte_range`). -/
theorem no_oob (v : Variant) (s : Screen) (hs : s.WF) (cx cy : Nat) :
    ∃ s1, showCursor v s cx cy = some s1 ∧ ∃ s2, hideCursor v s1 cx cy = some s2 := by
  obtain ⟨s1, s2, h1, h2, _⟩ := hide_show_id v s hs cx cy
  exact ⟨s1, h1, s2, h2⟩

/-- a range of `n` pixels starting at pixel `p` lies inside a buffer of `size` pixels iff the byte
range `[p*bpp, p*bpp + n*bpp)` lies inside the `size*bpp` bytes of the C buffer -/
theorem pixel_range_iff_byte_range (bpp size p n : Nat) (hb : 0 < bpp) :
    p + n ≤ size ↔ p * bpp + n * bpp ≤ size * bpp := by
  rw [← Nat.add_mul]
  exact (Nat.mul_le_mul_right_iff hb).symm

/-- the save buffer is (re)allocated large enough for the whole cursor before it is used -/
theorem under_buffer_large_enough (s : Screen) (c : Cursor) (hb : 0 < s.bpp) :
    c.w * c.h * s.bpp ≤ (growUnder s c).underLen := by
  rw [growUnder_eq s c]
  exact Nat.mul_le_mul_right s.bpp (growUnder_size s c hb)

example : ∃ s : Screen, s.WF ∧ s.cursor.isSome ∧ 0 < s.w :=
  ⟨{ w := 3, h := 2, bpp := 4, fmt := ⟨255, 255, 255, 0, 8, 16⟩, fb := #[0, 0, 0, 0, 0, 0], under := #[],
     cursor := some { w := 1, h := 1, xhot := 0, yhot := 0, mask := #[0x80], source := none,
                      rich := some #[9], alpha := none, premult := false, foreR := 0, foreG := 0,
                      foreB := 0, backR := 0, backG := 0, backB := 0 },
     curX := 0, curY := 0 },
   ⟨rfl, by decide, by
      intro c hc
      simp only [Option.some.injEq] at hc
      subst hc
      exact ⟨rfl, by intro r h; simp at h; subst h; rfl, by intro r h; simp at h,
             by intro r h; simp at h, Or.inl (by simp)⟩⟩,
   rfl, by decide⟩

/-! ## 2. the bracket in rfbSendFramebufferUpdate, including failure -/

/-- **update_restores_framebuffer**: after rfbUpdateClient / rfbSendFramebufferUpdate for any
client — whether an update was sent, nothing had to be sent, or the write failed after the cursor
had been painted — the application's framebuffer is bit-identical to what it was before. -/
theorem update_restores_framebuffer (v : Variant) (s s' : Sess) (c : Client) (o : Option UpdObs)
    (hs : s.scr.WF) (h : sendUpdate v s c = some (s', o)) : s'.scr.fb = s.scr.fb :=
  sendUpdate_fb hs h

/-- the failure case spelled out: the write to this client fails; the update reports failure, the
client is dropped — and the framebuffer is restored all the same -/
theorem update_failed_restores_framebuffer (v : Variant) (s s' : Sess) (c : Client) (obs : UpdObs)
    (hs : s.scr.WF) (hfail : s.failArmed = some c.id) (h : sendUpdate v s c = some (s', some obs)) :
    obs.res = false ∧ s'.scr.fb = s.scr.fb ∧ obs.after = obs.before ∧
    s'.clients = s.clients.filter (fun d => d.id != c.id) := by
  rcases sendUpdate_cases h with ⟨_, _, e⟩ | ⟨_, _, e, _⟩ | ⟨_, scr2, scr3, m, obs', e, hS⟩
  · cases e
  · cases e
  · cases e
    have hfb := (bracket_after hs hS.br).2.2
    refine ⟨by rw [hS.res, hfail]; simp, by rw [hS.scr]; exact hfb, by rw [hS.after, hS.before, hfb], ?_⟩
    rw [hS.clients, hfail]; simp

/-- for soft-cursor clients the whole update (show, hide) is free of out-of-bounds accesses -/
theorem update_no_oob (v : Variant) (s : Sess) (c : Client) (hs : s.scr.WF) (hsh : c.shape = false) :
    ∃ r, sendUpdate v s c = some r :=
  sendUpdate_soft_ok v hs hsh

/-- one event-loop round (every client of the list given its chance to send) leaves the framebuffer
as it was and the session well-formed (`SessWF`, which `history_invariant`'s `SessInv` contains: so
this applies in every state a history reaches) -/
theorem pump_restores_framebuffer (v : Variant) (s s' : Sess) (obs : List UpdObs)
    (hs : SessWF s) (h : pump v s = some (s', obs)) : s'.scr.fb = s.scr.fb ∧ SessWF s' :=
  pump_ind (fun s1 => s1.scr.fb = s.scr.fb ∧ SessWF s1)
    (fun _ _ _ _ h1 _ hsu => let ⟨h2, h3⟩ := sendUpdate_wf h1.2 hsu; ⟨h3.trans h1.1, h2⟩) ⟨rfl, hs⟩ h

/-! ## 3. what is painted -/

/-- **painted_eq_overlay** (repaired clipping): after rfbShowCursor every screen pixel `(x,y)` is
the old pixel if it is not under the cursor bitmap (hot-spot at the client's pointer position), and
otherwise the cursor's pixel laid over it — mask bit set: the cursor's pixel, clear: the old pixel;
alpha cursors: `blend`.  "Clipped to the screen" is all the clipping there is. -/
theorem painted_eq_overlay (s s1 : Screen) (hs : s.WF) (cx cy : Nat)
    (h : showCursor Variant.fixed s cx cy = some s1) (c : Cursor) (hc : s.cursor = some c)
    (rich : Array Px) (hr : richOf Variant.fixed s.fmt s.bpp c = some rich)
    (x y : Nat) (hx : x < s.w) (hy : y < s.h) :
    ∃ old, s.fb[y * s.w + x]? = some old ∧
      s1.fb[y * s.w + x]? =
        (if inCursorBox c cx cy x y then
           cursorPixel s.fmt s.bpp c rich ((x:Int) - ((cx:Int) - c.xhot)).toNat ((y:Int) - ((cy:Int) - c.yhot)).toNat old
         else some old) := by
  have hlt : y * s.w + x < s.fb.size := hs.fbSz ▸ idx_lt hx hy
  refine ⟨s.fb[y * s.w + x], Array.getElem?_eq_getElem hlt, ?_⟩
  rw [show_overlay hs h hc hr hx hy, Array.getElem?_eq_getElem hlt, Option.bind_some]
  exact overlayAt_of_lt (Int.ofNat_lt.mpr hx) (Int.ofNat_lt.mpr hy)

/-- **painted_eq_overlay_reduced_clip** (any variant): the same with the variant's limits — for
the ORIGINAL clipping the overlay is restricted to `x < width-1`, `y < height-1`: the last
column and the last row are never painted (§11-f). -/
theorem painted_eq_overlay_reduced_clip (v : Variant) (s s1 : Screen) (hs : s.WF) (cx cy : Nat)
    (h : showCursor v s cx cy = some s1) (c : Cursor) (hc : s.cursor = some c)
    (rich : Array Px) (hr : richOf v s.fmt s.bpp c = some rich)
    (x y : Nat) (hx : x < s.w) (hy : y < s.h) :
    s1.fb[y * s.w + x]? = (s.fb[y * s.w + x]?).bind
      (overlayAt s.fmt s.bpp c rich (effLimit v.clipFixed s.w) (effLimit v.clipFixed s.h) cx cy x y) :=
  show_overlay hs h hc hr hx hy

/-- without a cursor nothing is painted -/
theorem painted_nothing_without_cursor (v : Variant) (s s1 : Screen) (cx cy : Nat)
    (h : showCursor v s cx cy = some s1) (hc : s.cursor = none) : s1 = s :=
  show_noCursor h hc

/-- **the original clipping violates the property**: with the pointer at `(2,0)` the cursor lies
entirely on the screen (in the last column); the original code paints nothing, the repaired code
paints the pixel.  (Replayed on the real code: corpus/C15/clip-last-column.ops.) -/
theorem orig_clip_drops_last_column :
    (showCursor Variant.orig witnessScreen 2 0).map (·.fb) = some #[0, 0, 0, 0, 0, 0] ∧
    (showCursor Variant.fixed witnessScreen 2 0).map (·.fb) = some #[0, 0, 9, 0, 0, 0] := by
  constructor <;> rfl

/-- **the original X-cursor colour conversion violates the property**: a pure red foreground
(0xffff,0,0) on the 32-bit format (shifts 0/8/16, max 255) becomes 0x00ffff — red *and* green —
in the original rfbMakeRichCursorFromXCursor; the repaired code yields 0x0000ff.
(Replayed on the real code: corpus/C15/xcursor-colour.ops.) -/
theorem orig_xcursor_colour_unscaled :
    xColour Variant.orig ⟨255, 255, 255, 0, 8, 16⟩ 4 0xffff 0 0 = 0xffff ∧
    xColour Variant.fixed ⟨255, 255, 255, 0, 8, 16⟩ 4 0xffff 0 0 = 0xff := by
  constructor <;> rfl

/-! ## 4. the region marked for redraw -/

/-- **dirty_covers_old_and_new**: when the pointer has moved since a soft-cursor client's last
update, the update that is sent covers every screen pixel under the cursor bitmap at the old
position and at the new one (and all modified pixels that were requested). -/
theorem dirty_covers_old_and_new (v : Variant) (s s' : Sess) (c : Client) (obs : UpdObs) (cur : Cursor)
    (h : sendUpdate v s c = some (s', some obs)) (hcur : s.scr.cursor = some cur)
    (hm : softMoved s c = true) (x y : Nat) (hx : x < s.scr.w) (hy : y < s.scr.h) :
    ((inCursorBox cur c.curX c.curY x y ∨ inCursorBox cur s.scr.curX s.scr.curY x y) →
        obs.upd.mem s.scr.w x y = true) ∧
    (c.modified.mem s.scr.w x y = true → c.requested.mem s.scr.w x y = true →
        obs.upd.mem s.scr.w x y = true) := by
  rcases sendUpdate_cases h with ⟨_, _, e⟩ | ⟨_, _, e, _⟩ | ⟨_, _, _, _, obs', e, hS⟩
  · cases e
  · cases e
  · cases e
    rw [hS.upd]
    exact ⟨updRegion_covers_boxes hcur hm hx hy, updRegion_covers_modified hx hy⟩

/-- the pointer of a soft-cursor client that lags behind makes an update pending and, with a
request outstanding, that update is really sent -/
theorem moved_pointer_is_sent (s : Sess) (c : Client) (hm : softMoved s c = true)
    (hreq : c.requested.nonempty = true) : willSend s c = true := by
  unfold softMoved at hm
  unfold willSend updCalled updProceeds pending
  cases hsh : c.shape <;> simp_all

/-! ## 5. cursor pseudo-rectangles -/

/-- **shape_msg_exact**: the rectangle rfbSendCursorShape emits for an installed cursor `c0`:
the cursor `c` actually sent has `c0`'s size, hot-spot and mask (conversion only adds the missing
representation); it is either the "no cursor" rectangle (all-zero header: for a 1×1 cursor with empty mask, and —
the rule of f43cbce — for a cursor whose rectangle does not fit `UPDATE_BUF_SIZE`, `shapeFits`) or
header `x=xhot y=yhot w h encoding` followed by exactly — RichCursor: the `w*h` pixels in row-major
order, pixel `k` of the payload being `richSource` pixel `k` translated to the client's format
(`w.tr`, `w.bpp` bytes each; this is what the input row stride `width*bpp1` of the call to
`cl->translateFn` means), then the `⌈w/8⌉*h` mask bytes; XCursor: 6 colour bytes (high bytes of fore R,G,B and
back R,G,B), the `⌈w/8⌉*h` bitmap bytes, the mask bytes. -/
theorem shape_msg_exact (v : Variant) (s s' : Screen) (w : Wire) (useRich : Bool) (m : List UInt8) (c0 : Cursor)
    (hc0 : s.cursor = some c0) (hwf : c0.WF) (h : cursorShapeRect v s w useRich = some (s', m)) :
    ∃ c, s'.cursor = some c ∧ c.w = c0.w ∧ c.h = c0.h ∧ c.xhot = c0.xhot ∧ c.yhot = c0.yhot ∧
      c.mask = c0.mask ∧
      (((isEmptyCursor c = some true ∨ shapeFits w useRich c = false) ∧
          m = rectHeader 0 0 0 0 (if useRich then encRichCursor else encXCursor)) ∨
       (isEmptyCursor c = some false ∧ shapeFits w useRich c = true ∧ ∃ pl,
          m = rectHeader c.xhot c.yhot c.w c.h (if useRich then encRichCursor else encXCursor) ++ pl ∧
          (useRich = true → ∃ rich, c.rich = some rich ∧ richOf v s.fmt s.bpp c0 = some rich ∧
              pl = (rich.toList.map w.tr).flatMap (pxBytes w.bpp) ++ c.mask.toList ∧
              pl.length = c.w * c.h * w.bpp + rowBytes c.w * c.h) ∧
          (useRich = false → ∃ src, c.source = some src ∧
              pl = [UInt8.ofNat (c.foreR / 256), UInt8.ofNat (c.foreG / 256), UInt8.ofNat (c.foreB / 256),
                    UInt8.ofNat (c.backR / 256), UInt8.ofNat (c.backG / 256), UInt8.ofNat (c.backB / 256)]
                   ++ src.toList ++ c.mask.toList ∧
              pl.length = sz_rfbXCursorColors + 2 * (rowBytes c.w * c.h)))) := by
  obtain ⟨c', hcore, rfl⟩ := cursorShapeRect_some h
  rw [hc0] at hcore
  obtain ⟨c, rfl, hconv, hcase⟩ := shapeCore_some hcore
  obtain ⟨⟨g1, g2, g3, g4, g5, _⟩, hcwf, g8, _⟩ := convertFor_spec hconv
  refine ⟨c, rfl, g1, g2, g3, g4, g5, ?_⟩
  rcases hcase with ⟨he, hm⟩ | ⟨he, hfit, pl, hpl, hm⟩
  · exact Or.inl ⟨he, hm⟩
  · obtain ⟨p1, p2⟩ := shapePayload_exact (hcwf hwf) hpl
    refine Or.inr ⟨he, hfit, pl, hm, fun hr => ?_, p2⟩
    obtain ⟨rich, hrich, hpl', hlen⟩ := p1 hr
    exact ⟨rich, hrich, (g8 hr).1 ▸ hrich, hpl', hlen⟩

/-- without an installed cursor the all-zero cursor rectangle is sent -/
theorem shape_msg_no_cursor (v : Variant) (s : Screen) (w : Wire) (useRich : Bool) (hc : s.cursor = none) :
    cursorShapeRect v s w useRich =
      some ({ s with cursor := none }, rectHeader 0 0 0 0 (if useRich then encRichCursor else encXCursor)) := by
  unfold cursorShapeRect
  rw [hc, shapeCore_none]; rfl

/-- **shape_fits**: the rule and its range.  A cursor rectangle is sent in full iff
`sz_rfbFramebufferUpdateRectHeader + sz_rfbXCursorColors + maskBytes + dataBytes ≤ UPDATE_BUF_SIZE`
(`shapeFits`; otherwise the empty cursor is sent, `shape_too_big_sends_empty`).  Cursors up to
64×64 at up to 4 bytes per client pixel — the property's range — always fit, and are assembled
without the preliminary flush (T0: regenerated `UPDATE_BUF_SIZE` and header sizes). -/
theorem shape_fits (w : Wire) (useRich : Bool) (c : Cursor) (hw : c.w ≤ 64) (hh : c.h ≤ 64) (hb : w.bpp ≤ 4) :
    shapeFits w useRich c = true ∧ shapeFlushesFirst w useRich c = false :=
  ⟨decide_eq_true (Nat.le_trans (shapeBytes_le useRich hw hh hb) (by decide)),
    decide_eq_false (Nat.not_lt.mpr (Nat.le_trans (Nat.add_le_add_left (shapeBytes_le useRich hw hh hb) _) (by decide)))⟩

/-- **shape_too_big_sends_empty**: a cursor that does not fit is announced as the empty cursor —
the rectangle counted in the update header is always delivered, never half a cursor -/
theorem shape_too_big_sends_empty (v : Variant) (s s' : Screen) (w : Wire) (useRich : Bool) (m : List UInt8)
    (c0 : Cursor) (hc0 : s.cursor = some c0) (hwf : c0.WF)
    (hbig : ∀ c, convertFor v s.fmt s.bpp useRich c0 = some c → shapeFits w useRich c = false)
    (h : cursorShapeRect v s w useRich = some (s', m)) :
    m = rectHeader 0 0 0 0 (if useRich then encRichCursor else encXCursor) ∧ m.length = 12 := by
  obtain ⟨c', hcore, _⟩ := cursorShapeRect_some h
  rw [hc0] at hcore
  obtain ⟨c, _, hconv, hcase⟩ := shapeCore_some hcore
  rcases hcase with ⟨_, hm⟩ | ⟨_, hfit, _⟩
  · exact ⟨hm, by rw [hm]; exact rectHeader_length _ _ _ _ _⟩
  · rw [hbig c hconv] at hfit; simp at hfit

/-- the flush tests of the rectangles emitted with an (almost) empty buffer — rfbSendCursorPos and
the empty-cursor branch of rfbSendCursorShape — can never fire: `ublen` is at most
`sz_rfbFramebufferUpdateMsg` there -/
theorem small_rects_need_no_flush :
    sz_rfbFramebufferUpdateMsg + sz_rfbFramebufferUpdateRectHeader ≤ UPDATE_BUF_SIZE := by
  decide

/-- the rectangle header is 12 bytes; rfbSendCursorPos sends the *screen's* pointer position with
zero size and the PointerPos pseudo-encoding -/
theorem pos_msg_exact (s : Screen) :
    cursorPosRect s = rectHeader s.curX s.curY 0 0 encPointerPos ∧ (cursorPosRect s).length = 12 :=
  ⟨rfl, rectHeader_length _ _ _ _ _⟩

/-! ## 6. pointer movement and the other clients -/

/-- **pos_update_to_others** (flags): an accepted PointerEvent that changes the position sets the
screen's pointer to the new position, flags every *other* client with PointerPos support and
clears the flag of the sender. -/
theorem pos_update_to_others (s : Sess) (id x y b : Nat)
    (hacc : s.pointerClient = none ∨ s.pointerClient = some id)
    (hmv : x ≠ s.scr.curX ∨ y ≠ s.scr.curY) :
    (ptrEvent s id x y b).scr.curX = x ∧ (ptrEvent s id x y b).scr.curY = y ∧
    ∀ c ∈ (ptrEvent s id x y b).clients, c.posUpd = true → c.wasMoved = (c.id != id) := by
  obtain ⟨h1, h2, h3⟩ := ptrEvent_moves (b := b) hacc hmv
  refine ⟨h1, h2, fun c hc hp => ?_⟩
  rw [h3] at hc
  obtain ⟨d, _, rfl⟩ := List.mem_map.mp hc
  by_cases hid : d.id = id
  · simp only [hid, beq_self_eq_true, if_true] at hp ⊢
    by_cases hd : d.posUpd = true
    · simp [hd]
    · simp [hd] at hp
  · have hne : (d.id == id) = false := by simp [hid]
    simp only [hne, Bool.false_eq_true, if_false] at hp ⊢
    by_cases hd : d.posUpd = true
    · simp [hd, hid]
    · simp [hd] at hp

/-- **pos_update_to_others** (message): a flagged client with an outstanding request gets, in its
next update, a PointerPos rectangle carrying the screen's current pointer position; the flag is
cleared. -/
theorem pos_update_sent (v : Variant) (s s' : Sess) (c : Client) (o : Option UpdObs) (hs : s.scr.WF)
    (hp : c.posUpd = true) (hmv : c.wasMoved = true) (hreq : c.requested.nonempty = true)
    (hlive : s.failArmed ≠ some c.id) (h : sendUpdate v s c = some (s', o)) :
    ∃ obs, o = some obs ∧ obs.pos = some (rectHeader s.scr.curX s.scr.curY 0 0 encPointerPos) ∧
      ∀ d ∈ s'.clients, d.id = c.id → d.wasMoved = false := by
  have hw1 : updCalled s c = true := by
    unfold updCalled pending; simp [hp, hmv, hreq]
  have hw2 : updProceeds s c = true := by
    unfold updProceeds; simp [hp, hmv]
  rcases sendUpdate_cases h with ⟨hw', _, _⟩ | ⟨_, hw', _, _⟩ | ⟨_, scr2, scr3, m, obs, e, hS⟩
  · cases hw1.symm.trans hw'
  · cases hw2.symm.trans hw'
  · obtain ⟨_, _, g3, g4, _⟩ := bracket_spec hs hS.br
    refine ⟨obs, e, ?_, ?_⟩
    · rw [hS.pos]; simp [hp, hmv, cursorPosRect, g3, g4]
    · intro d hd hid
      have : (s.failArmed == some c.id) = false := by simp [hlive]
      rw [hS.clients, this] at hd
      simp only [Bool.false_eq_true, if_false] at hd
      obtain ⟨d0, _, rfl⟩ := List.mem_map.mp hd
      by_cases h0 : d0.id = c.id
      · simp [h0, clientAfter, hp, hmv]
      · simp [h0] at hid

/-- a PointerEvent from a client other than the one holding a button is ignored altogether -/
theorem ptr_event_ignored_while_other_holds_button (s : Sess) (id p x y b : Nat)
    (h : s.pointerClient = some p) (hne : p ≠ id) : ptrEvent s id x y b = s := by
  unfold ptrEvent
  simp [h, hne]

/-! ## 7. the client's picture, over whole histories -/

/-- **history_invariant**: start from any well-formed screen with no clients and apply any
history of operations — clients connecting with any SetEncodings list in any order and any pixel
format, SetEncodings sent again, pointer events of any client at any position, update requests,
application drawing, cursor replacement (any well-formed cursor or none), event-loop rounds with or
without an injected write failure (no rfbDoCopyRect/rfbScheduleCopyRect: see
`copy_never_drags_cursor` and property C02 for those).  Then (as long as no
cursor conversion for a cursor-shape client fails) the session invariant `SessInv` holds at the
end: the screen is well-formed and for every client and every screen pixel, EITHER the pixel is in
the client's pending `modifiedRegion` (it will be sent with the next covering request) OR the
client's picture shows there, translated into the client's pixel format (`transPx`): the framebuffer
with the cursor's masked pixels laid over it at the client's pointer position (soft-cursor clients)
/ the plain framebuffer (cursor-shape clients).
Together with `dirty_covers_old_and_new` (the client's pointer position catches up with the
screen's in every update, old and new box being resent) this is "the client's picture equals the
framebuffer with the cursor laid over it, following the pointer when it moves". -/
theorem history_invariant (s0 : Sess) (hs0 : s0.scr.WF) (hc0 : s0.clients = []) (ops : List Op)
    (s : Sess) (h : runOps Variant.fixed s0 ops = some s) : SessInv Variant.fixed s := by
  have hm : ∀ c, c ∉ s0.clients := fun c => hc0 ▸ List.not_mem_nil
  exact (runOps_inv rfl ⟨⟨hs0, hc0 ▸ List.nodup_nil⟩, fun c h => (hm c h).elim⟩ h).sessInv

example : ∃ ops : List Op, ops.length = 6 ∧
    (runOps Variant.fixed ⟨witnessScreen, [], none, none⟩ ops).isSome := by
  refine ⟨[.client 0 [.copyRect, .raw] none, .client 1 [.pointerPos, .raw, .richCursor] (some (⟨31, 63, 31, 11, 5, 0⟩, 2)), .ptr 0 2 0 0, .req 0 true ⟨0, 0, 3, 2⟩, .req 1 false ⟨0, 0, 3, 2⟩, .pump],
    rfl, ?_⟩
  decide +kernel

/-! ## 8. the alpha path: independent statement -/

/-- **alpha_blend_spec**: for every packed true-colour server format (red in the low `kr` bits,
green in the next `kg`, blue in the next `kb`, all inside the pixel — the formats rfbInitServerFormat
produces: 3/3/2, 5/5/5, 8/8/8) and a non-premultiplied alpha cursor, the pixel the blending loop of
rfbShowCursor stores has in every channel `a*src/255 + (255-a)*dst/255` (the code's two truncating
divisions), every channel within its maximum, and no bit outside the format's bits. -/
theorem alpha_blend_spec (f : Format) (kr kg kb bpp : Nat) (hp : f.Packed kr kg kb)
    (hbits : kr + kg + kb ≤ 8 * bpp) (hbpp : bpp ≤ 4) (d s a : Nat) (ha : a ≤ 255) :
    let out := blend f bpp false d s a
    chanOf f.redMax f.redShift out = blendChan a (chanOf f.redMax f.redShift s) (chanOf f.redMax f.redShift d) ∧
    chanOf f.greenMax f.greenShift out = blendChan a (chanOf f.greenMax f.greenShift s) (chanOf f.greenMax f.greenShift d) ∧
    chanOf f.blueMax f.blueShift out = blendChan a (chanOf f.blueMax f.blueShift s) (chanOf f.blueMax f.blueShift d) ∧
    chanOf f.redMax f.redShift out ≤ f.redMax ∧ chanOf f.greenMax f.greenShift out ≤ f.greenMax ∧
    chanOf f.blueMax f.blueShift out ≤ f.blueMax ∧ out < 2 ^ (kr + kg + kb) := by
  -- the stored pixel is assembled from the three blended channels, each within its maximum
  have le := fun m sh => blendChan_le ha (chanOf_le m sh s) (chanOf_le m sh d)
  obtain ⟨c1, c2, c3, c4⟩ := packed_value hp hbits hbpp (le f.redMax f.redShift) (le f.greenMax f.greenShift)
    (le f.blueMax f.blueShift)
  rw [← blend_eq] at c1 c2 c3 c4
  exact ⟨c1, c2, c3, chanOf_le _ _ _, chanOf_le _ _ _, chanOf_le _ _ _, c4⟩

/-- how the painted pixel of an alpha cursor comes about (`painted_eq_overlay` + this + the
blend law): alpha 0 leaves the framebuffer pixel, any other alpha stores `blend` of the framebuffer
pixel and the cursor pixel; the mask bits play no role -/
theorem alpha_pixel_rule (f : Format) (bpp : Nat) (c : Cursor) (rich : Array Px) (al : Array UInt8)
    (u v : Nat) (old : Px) (a : UInt8) (sv : Px) (hal : c.alpha = some al)
    (ha : al[v * c.w + u]? = some a) (hs : rich[v * c.w + u]? = some sv) :
    cursorPixel f bpp c rich u v old =
      some (if a.toNat = 0 then old else blend f bpp c.premult old sv a.toNat) := by
  unfold cursorPixel
  simp only [hal, ha, hs, Option.bind_some, Option.map_some]
  split <;> rfl

/-- **alpha_mask_threshold / clear / full**: the mask rfbMakeMaskFromAlphaSource dithers from the
alpha source: its first pixel is set exactly when alpha ≥ 0x80 (the threshold; no later step
touches it); a fully transparent source gives the empty mask, a fully opaque one the full mask -/
theorem alpha_mask_threshold (width height : Nat) (alpha mask : Array UInt8) (hw : 0 < width) (hh : 0 < height)
    (h : makeMaskFromAlpha width height alpha = some mask) :
    ∃ a0, alpha[0]? = some a0 ∧ maskBit mask width 0 0 = some (decide (a0.toNat ≥ 0x80)) :=
  alpha_threshold hw hh h

theorem alpha_mask_transparent (width height : Nat) (alpha mask : Array UInt8)
    (hall : ∀ t, t < width * height → alpha[t]? = some 0)
    (h : makeMaskFromAlpha width height alpha = some mask) :
    mask = Array.replicate (rowBytes width * height) 0 :=
  alpha_mask_clear hall h

theorem alpha_mask_opaque (width height : Nat) (alpha mask : Array UInt8)
    (hall : ∀ t, t < width * height → alpha[t]? = some 255)
    (h : makeMaskFromAlpha width height alpha = some mask) (u v : Nat) (hu : u < width) (hv : v < height) :
    maskBit mask width u v = some true :=
  alpha_mask_full hall h hu hv

/-! ## 9. bitmap laws of the cursor conversions -/

/-- **xcursor_colour_scaled** (231917e): in a packed server format the pixel standing for a 16-bit
X-cursor colour has every channel scaled to the channel maximum, `max*c/0xffff`, nothing outside -/
theorem xcursor_colour_scaled (f : Format) (kr kg kb bpp : Nat) (hp : f.Packed kr kg kb)
    (hbits : kr + kg + kb ≤ 8 * bpp) (hbpp : bpp ≤ 4) (r g b : Nat) (hr : r ≤ 0xffff) (hg : g ≤ 0xffff) (hb : b ≤ 0xffff) :
    let p := xColour Variant.fixed f bpp r g b
    chanOf f.redMax f.redShift p = f.redMax * r / 0xffff ∧
    chanOf f.greenMax f.greenShift p = f.greenMax * g / 0xffff ∧
    chanOf f.blueMax f.blueShift p = f.blueMax * b / 0xffff ∧ p < 2 ^ (kr + kg + kb) :=
  packed_value hp hbits hbpp (scaled_le hr) (scaled_le hg) (scaled_le hb)

/-- **make_rich_from_x_law**: rfbMakeRichCursorFromXCursor — pixel `(u,v)` is the foreground colour
where the source bit (row stride `(w+7)/8`, MSB first) is set, the background colour elsewhere -/
theorem make_rich_from_x_law (v : Variant) (f : Format) (bpp : Nat) (c : Cursor) (src : Array UInt8)
    (rich : Array Px) (hsrc : c.source = some src) (h : makeRichPixels v f bpp c = some rich)
    (u w : Nat) (hu : u < c.w) (hw : w < c.h) :
    ∃ bit, maskBit src c.w u w = some bit ∧
      rich[w * c.w + u]? = some (if bit then xColour v f bpp c.foreR c.foreG c.foreB
                                  else xColour v f bpp c.backR c.backG c.backB) :=
  make_rich_law hsrc h hu hw

/-- **make_xcursor_bits_law**: rfbMakeXCursor — the bitmap has the string's bit at every cursor
pixel and zero in every padding position (bit order MSB first, row stride `(w+7)/8`) -/
theorem make_xcursor_bits_law (width height : Nat) (bits : Array UInt8) (hsz : bits.size = rowBytes width * height)
    (u v : Nat) (hv : v < height) (hu : u < rowBytes width * 8) :
    maskBit (clearPadding width height bits) width u v =
      (maskBit bits width u v).map fun b => b && decide (u < width) :=
  make_xcursor_bits hsz hv hu

/-- **mask_for_xcursor_covers_source**: the mask rfbMakeMaskForXCursor derives contains the source -/
theorem mask_for_xcursor_covers_source (width height : Nat) (src mask : Array UInt8)
    (h : makeMaskForXCursor width height src = some mask) (u v : Nat) (hu : u < width) (hv : v < height)
    (hbit : maskBit src width u v = some true) : maskBit mask width u v = some true :=
  mask_covers_source h hu hv hbit

/-- **x_from_rich_bits_law**: rfbMakeXCursorFromRichCursor — bit `(u,v)` of the new bitmap is set
exactly when rich pixel `(u,v)` differs from the (scaled) background colour / in the all-zero-colours
mode when its grey level is ≥ 128 -/
theorem x_from_rich_bits_law (f : Format) (bpp : Nat) (c c' : Cursor) (rich : Array Px)
    (hr : c.rich = some rich) (h : makeXFromRich f bpp c = some c') :
    ∃ src, c'.source = some src ∧ src.size = rowBytes c.w * c.h ∧
      ∀ u, u < c.w → ∀ v, v < c.h → maskBit src c.w u v = some (xSetAt f bpp c rich v u) :=
  x_from_rich_bits hr h

/-- **rich_x_rich_roundtrip**: rich → X → rich is the identity on two-colour cursors (every pixel
the scaled foreground or background colour, the two different, colours not all zero) -/
theorem rich_x_rich_roundtrip (f : Format) (bpp : Nat) (c c' : Cursor) (rich rich' : Array Px)
    (hr : c.rich = some rich) (hsz : rich.size = c.w * c.h) (hni : xInterp bpp c = false)
    (hne : xColour Variant.fixed f bpp c.foreR c.foreG c.foreB ≠ xColour Variant.fixed f bpp c.backR c.backG c.backB)
    (h2 : ∀ t, t < c.w * c.h → rich[t]? = some (xColour Variant.fixed f bpp c.foreR c.foreG c.foreB) ∨
                                 rich[t]? = some (xColour Variant.fixed f bpp c.backR c.backG c.backB))
    (hx : makeXFromRich f bpp c = some c')
    (hback : makeRichPixels Variant.fixed f bpp { c' with rich := none } = some rich') : rich' = rich :=
  rich_x_rich hr hsz hni hne h2 hx hback

example : (⟨255, 255, 255, 0, 8, 16⟩ : Format).Packed 8 8 8 ∧ 8 + 8 + 8 ≤ 8 * 3 := ⟨⟨rfl, rfl, rfl, rfl, rfl, rfl⟩, by decide⟩

/-! ## 10. SetEncodings: order independence; CopyRect and the painted cursor -/

/-- **setenc_flags_closed_form**: after a SetEncodings message the cursor flags are: cursor-shape
updates iff XCursor or RichCursor is listed; rich iff RichCursor is listed; position updates iff
PointerPos is listed together with a cursor-shape encoding; shape due iff shape updates are on;
position due if PointerPos is listed — wherever in the list each encoding stands -/
theorem setenc_flags_closed_form (w0 : Bool) (l : List Enc) :
    encFlags w0 l =
      { shape := hasShape l, useRich := l.contains .richCursor,
        posUpd := l.contains .pointerPos && hasShape l,
        wasMoved := w0 || l.contains .pointerPos, wasChanged := hasShape l,
        useCopyRect := l.contains .copyRect, marked := hasShape l } :=
  encFlags_closed w0 l

/-- **setenc_order_independent**: two SetEncodings lists that are permutations of each other have
exactly the same effect on the session (flags, marked regions, everything) -/
theorem setenc_order_independent (v : Variant) (s : Sess) (id : Nat) (l l' : List Enc) (h : l.Perm l') :
    setEncodings v s id l = setEncodings v s id l' := by
  simp only [setEncodings, clientSetEncodings, encFlags_perm h]

/-- in particular: PointerPos listed before or after the cursor-shape encoding — position updates
are enabled and a position update is due either way -/
theorem pointerpos_before_shape_enabled (w0 : Bool) :
    (encFlags w0 [.raw, .pointerPos, .richCursor, .xCursor]).posUpd = true ∧
    (encFlags w0 [.raw, .pointerPos, .richCursor, .xCursor]).wasMoved = true ∧
    encFlags w0 [.raw, .pointerPos, .richCursor, .xCursor] = encFlags w0 [.raw, .richCursor, .xCursor, .pointerPos] := by
  cases w0 <;> decide

/-- **copy_never_drags_cursor**: rfbScheduleCopyRegion for a soft-cursor client that accepts
CopyRect marks as modified every pixel of the scheduled copy whose destination or whose SOURCE lies
under the cursor painted in the client's picture (any cursor size, mask, hot-spot; any displacement);
and what rfbSendFramebufferUpdate then sends as CopyRect lies inside the scheduled copy and outside
the modified region — so a CopyRect neither overwrites nor drags along the painted cursor -/
theorem copy_never_drags_cursor (s : Sess) (c : Client) (dst : Rgn) (dx dy : Int) (cur : Cursor)
    (hcr : c.useCopyRect = true) (hsh : c.shape = false) (hcur : s.scr.cursor = some cur)
    (x y : Nat) (hx : x < s.scr.w) (hy : y < s.scr.h)
    (hbox : rawBox cur c.curX c.curY x y = true ∨
            rawBox cur c.curX c.curY ((x : Int) - dx) ((y : Int) - dy) = true) :
    (updCopyRegion s (clientScheduleCopy s.scr c dst dx dy)).mem s.scr.w x y = false := by
  cases h : (updCopyRegion s (clientScheduleCopy s.scr c dst dx dy)).mem s.scr.w x y with
  | false => rfl
  | true =>
    obtain ⟨h1, h2⟩ := updCopyRegion_subset hx hy h
    rw [scheduleCopy_marks_cursor hcr hsh hcur hx hy h1 hbox] at h2
    simp at h2

/-! ## 11. the scaled copies of the framebuffer -/

/-- **scaled_copies_restored**: rfbShowCursor and rfbHideCursor both re-render the cursor box in
EVERY server-side scaled copy of the framebuffer (`rfbScaledScreenUpdate`).  For any scaling filter
(`Renderer`: re-rendering a box overwrites it from the source alone — the filter itself is C17's) and
any list of scaled copies that are in sync with the framebuffer on the box: after show ; hide every
copy is exactly what it was — the painted cursor is left behind in no client's scaled view. -/
theorem scaled_copies_restored {α : Type} (r : Renderer α) (v : Variant) (s : Screen) (hs : s.WF) (cx cy : Nat)
    (b : Rect) (copies : List α) (hsync : ∀ c ∈ copies, r.render s.fb b c = c) :
    ∃ s1 s2, showCursor v s cx cy = some s1 ∧ hideCursor v s1 cx cy = some s2 ∧
      renderAll r s2.fb b (renderAll r s1.fb b copies) = copies := by
  obtain ⟨s1, s2, h1, h2, hfb⟩ := hide_show_id v s hs cx cy
  refine ⟨s1, s2, h1, h2, ?_⟩
  rw [hfb]
  exact renderAll_restores r s.fb s1.fb b copies hsync

/-- re-rendering only the updating client's own copy on hide (the change seeded as C15-7) does
leave the painted cursor behind in the other copies -/
theorem render_own_leaves_ghost :
    ∃ (r : Renderer Nat) (fb fbPainted : Array Px) (b : Rect) (copies : List Nat),
      (∀ c ∈ copies, r.render fb b c = c) ∧
      renderOwn r fb b 0 (renderAll r fbPainted b copies) ≠ copies :=
  ⟨⟨fun fb _ _ => fb.size, fun _ _ _ _ => rfl⟩, #[], #[1], ⟨0, 0, 1, 1⟩, [0, 0],
    by intro c hc; simp at hc; subst hc; rfl, by decide⟩

end VncModel.Props.C15
