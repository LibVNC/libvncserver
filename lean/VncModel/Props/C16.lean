import VncModel.Resize.Refine
import VncModel.Resize.Teardown
/-!
# C16 — Replacing the framebuffer is safe and every client resynchronises

Property theorems; the lemmas they rest on live in `VncModel/Resize/*.lean`.

**What is modelled** (`VncModel/Resize/Model.lean`, executable, compared exactly with the real server
on every run by `harness/c16.c` ⇄ `Driver/C16.lean`): rfbNewFramebuffer (per-client region reset,
`newFBSizePending`, translation refresh, cursor clamp, scaled versions), the size short-circuit of
rfbSendFramebufferUpdate with rfbSendNewFBSize / rfbSendExtDesktopSize (reason / status and their
reset), SetEncodings flags, the non-incremental-request rule, the rfbSetDesktopSize message and the
application's hook, SetPixelFormat, SetScale, PointerEvent, on top of the C02 update model and the
C11 region model.  Framebuffers and pixel formats are abstract tokens; every modelled access of the
library to framebuffer memory carries the token it touches.  The model follows the code WITH
`fixes/C16-newfb-scaled-screens.diff` (and the state-neutral `fixes/C16-sds-iterator-leak.diff`);
`unfixed_scaled_client_keeps_old_buffer` is the counter-example for the unfixed code.  Whether
`fixes/C16-late-setencodings-size.diff` is in the tree is read off main.c (`Gen.C16.pendingForAll`);
the theorems hold for both values, `replacement_raises_pending_for_all` is the one that needs it.

**Quantifiers**: every state, every history (`List Op`, unbounded) of connections, SetEncodings,
SetPixelFormat, SetScale, pointer events, marks, copies, requests, SetDesktopSize with any hook
behaviour, replacements, updates; every client.  Hypotheses that restrict the APPLICATION
(`Op.avoids`: a freed buffer is not installed again under the same token; `Op.sane`: a replacement
has ≥ 1 pixel, copy regions are well-formed and inside the screen) are spelled out.

**Theorems ↔ property**
* `old_buffer_never_read` — after rfbNewFramebuffer returns no access uses the old buffer, in every
  later state of every history.
* `replacement_schedules_everything`, `size_message_first`, `resync_converges`,
  `full_request_completes` — "first told the new size … then receives the complete new contents".
* `rects_inside_new_size`, `reachable_states_good` — later rectangles stay inside the new size,
  whatever (stale) region is still requested.
* `translation_follows_depth`.
* `setdesktopsize_answer`, `setdesktopsize_refused_without_hook`, `answer_delivered`,
  `others_told_other_client`, `reason_status_reset` — the client's own request is answered with the
  hook's code; other clients learn "other client"; the fields are reset once sent.
* `no_spontaneous_resize`.
* `pointer_inside_after_replacement` — the cursor position is inside the new area.
* `ext_message_fits_update_buffer`, `setdesktopsize_payload_bound` — on the regenerated constants.

* `converges_in_every_history`, `invariant_means_current`, `invariant_starts_full` — C02's
  convergence invariant in EVERY state of EVERY history of this model, across any number of
  replacements (composition with C02's refinement `Update/Refine.lean`; ghost pixels `fb`, `pic`).
* `torn_down_client_is_silent`, `failed_size_write_closes` — a client that does not resynchronise
  because its connection is gone is torn down and never served again.
* `emitters_stay_inside_buffer`, `size_shortcircuit_never_flushes`, `ext_message_limit` — the flush
  rule of rfbSendNewFBSize / rfbSendExtDesktopSize on the regenerated constants.

**Partial / not proved here**: scaled clients: only the upper bound `x2 ≤ sw ∧ y2 ≤ sh` is proved for
their rectangles (the lower part depends on the floating-point arithmetic of rfbScaledCorrection,
C17), and for them `pic` in the convergence theorems denotes the picture mapped back to screen
coordinates.  Clients WITHOUT resize support: the code sends them rectangles of the new geometry
without telling them; the property only demands that those rectangles stay inside the new size,
which `rects_inside_new_size` gives for every client.  History theorems about ONE client's messages
(`size_message_first`, `answer_delivered`) assume its connection is not lost and the application's
screen hook does not fail meanwhile (`Op.noFailure`); the failure arms themselves are modelled
(`updateFail`, `updateExtFail`, `drop`) and covered by `torn_down_client_is_silent`.
-/
namespace VncModel.Props.C16
open VncModel.Resize VncModel.Rgn

/-! ## 1. the old buffer is never touched again -/

/-- **old_buffer_never_read**: let the application replace the framebuffer `old := st.scr.fb` by a
different one.  Then in every later history that does not install a buffer called `old` again, no
step's access log contains `old`, and no part of the state refers to it. -/
theorem old_buffer_never_read (st : State) (w h bpp : Int) (tok : Nat) (ops : List Op)
    (hne : tok ≠ st.scr.fb) (hav : ∀ op ∈ ops, op.avoids st.scr.fb) :
    (∀ o ∈ (run (newFramebuffer st w h bpp tok) ops).2, st.scr.fb ∉ o.acc) ∧
    NoTok st.scr.fb (run (newFramebuffer st w h bpp tok) ops).1 :=
  let r := noTok_run st.scr.fb ops _ (noTok_newFramebuffer st.scr.fb st w h bpp tok hne) hav
  ⟨r.2, r.1⟩

/-- the same for any buffer `old` no part of the state refers to, when the replacement happens inside
the application's SetDesktopSize hook (or not at all) -/
theorem old_buffer_never_read_via_hook (old : Nat) (st : State) (id : Nat) (w h ns : Int) (hook : Hook)
    (ops : List Op) (hs : NoTok old st) (hav1 : (Op.setDesktopSize id w h ns hook).avoids old)
    (hav : ∀ op ∈ ops, op.avoids old) :
    ∀ o ∈ (run (step st (.setDesktopSize id w h ns hook)).1 ops).2, old ∉ o.acc :=
  (noTok_run old ops _ (noTok_step old st _ hs hav1) hav).2

/-- counter-example for the UNFIXED code (§11-m): a scaled client keeps reading a scaled version
rendered from the old buffer, with the old geometry — even one larger than the new screen -/
theorem unfixed_scaled_client_keeps_old_buffer (s : Screen) (w h bpp : Int) (tok : Nat) (c : Client)
    (hs : c.scaled = true) :
    readToken { s with fb := tok } (newFbClientUnfixed s w h bpp tok c) = c.ssrc ∧
    (newFbClientUnfixed s w h bpp tok c).sw = c.sw ∧ (newFbClientUnfixed s w h bpp tok c).sh = c.sh := by
  unfold newFbClientUnfixed readToken
  cases ho : c.base.isOpen <;> simp [hs, ho]

/-! ## 2. size first, then the complete new contents -/

/-- **replacement_schedules_everything**: right after the call every open client has the whole new
screen scheduled, no copy pending, and — if it announced NewFBSize or ExtendedDesktopSize — the size
message pending; its reason / status fields are untouched. -/
theorem replacement_schedules_everything (st : State) (w h bpp : Int) (tok : Nat) (d : Client)
    (hd : d ∈ (newFramebuffer st w h bpp tok).clients) (ho : d.base.isOpen = true) :
    d.base.M = Region.rect 0 0 w h ∧ d.base.C = Region.empty ∧ d.base.dx = 0 ∧ d.base.dy = 0 ∧
    (d.useNewFBSize = true → d.pending = true) ∧
    (d.scaled = false → d.sw = w ∧ d.sh = h) := by
  obtain ⟨c, _, rfl⟩ := List.mem_map.mp hd
  rw [newFbClient_isOpen] at ho
  rw [newFbClient_open _ _ _ _ _ _ ho]
  refine ⟨rfl, rfl, rfl, rfl, fun hn => ?_, fun hs => ?_⟩
  · show (if c.useNewFBSize || VncModel.Gen.C16.pendingForAll then true else c.pending) = true
    rw [show c.useNewFBSize = true from hn]
    rfl
  · show (if c.scaled then _ else w) = w ∧ (if c.scaled then _ else h) = h
    rw [show c.scaled = false from hs]
    exact ⟨rfl, rfl⟩

/-- with fixes/C16-late-setencodings-size.diff (`pendingForAll`, regenerated from main.c) the flag is
raised for EVERY open client, so a viewer that announces resize support only after the replacement
(SetEncodings arriving late) is still told the new size first (`size_message_first` applies as soon as
it has sent its SetEncodings) -/
theorem replacement_raises_pending_for_all (hflag : VncModel.Gen.C16.pendingForAll = true)
    (st : State) (w h bpp : Int) (tok : Nat) (d : Client)
    (hd : d ∈ (newFramebuffer st w h bpp tok).clients) (ho : d.base.isOpen = true) :
    d.pending = true := by
  obtain ⟨c, _, rfl⟩ := List.mem_map.mp hd
  rw [newFbClient_isOpen] at ho
  rw [newFbClient_open _ _ _ _ _ _ ho]
  show (if c.useNewFBSize || VncModel.Gen.C16.pendingForAll then true else c.pending) = true
  rw [hflag, Bool.or_true]
  rfl

/-- **size_message_first**: a client that announced resize support and has a size change pending
(by `replacement_schedules_everything`: every such client after a replacement) receives, as the
FIRST message of any later history, the size message carrying its current geometry `tw × th` —
in the extended form with the reason / status fields — before any pixel data; as long as it keeps
the capability and its scale and the application does not resize again (then the same theorem
applies from that later point). -/
theorem size_message_first (id : Nat) (tw th : Int) (ops : List Op) (st : State) (c0 : Client)
    (hu : Uniq id st c0) (hnf : c0.useNewFBSize = true) (hp : c0.pending = true)
    (hw : c0.sw = tw) (hh : c0.sh = th)
    (hA : ∀ op ∈ ops, op.appResize = false ∧ op.keepsCap id ∧ op.noRescale id ∧ op.noFailure id) :
    ∀ m, (msgsTo id (run st ops).2).head? = some m →
      m = .size tw th ∨ ∃ r s, m = .ext r s tw th [(1, 0, 0, tw, th, 0)] :=
  size_first id tw th ops st c0 hu ⟨hnf, hp, hw, hh⟩ hA

/-- the pending size message is all an update sends, and it clears the flag without touching the
regions: pixel data can only follow in a later update -/
theorem pending_update_sends_only_size (s : Screen) (c : Client) (hnf : c.useNewFBSize = true)
    (hp : c.pending = true) :
    (sendUpdate s c).2.msgs = [(c.id, (sizeMessage c).2)] ∧ (sendUpdate s c).1.base = c.base ∧
    (sendUpdate s c).1.pending = false ∧ (sendUpdate s c).2.acc = [] := by
  unfold sendUpdate
  simp [hnf, hp, (sizeMessage_state c).2.1, (sizeMessage_state c).1]

open VncModel.USpec in
/-- **resync_converges**: right after the replacement the convergence invariant of C02 holds for the
NEW framebuffer and ANY client picture (the stale one) — although the requested region is stale —
and therefore in every state of every later interleaving of the set-level specification; whenever
nothing is scheduled any more, the client's picture equals the new framebuffer on the whole new
screen. -/
theorem resync_converges {V : Type} (st : State) (w h bpp : Int) (tok : Nat) (d : Client)
    (hd : d ∈ (newFramebuffer st w h bpp tok).clients) (ho : d.base.isOpen = true)
    (fb pic : Pix → V) (t : SState V)
    (hr : Reach (screenSet w h) (toSpec fb pic d.base) t) :
    Inv (screenSet w h) t ∧
    ((∀ p, screenSet w h p → ¬ t.M p) → (∀ p, ¬ t.C p) → ∀ p, screenSet w h p → t.pic p = t.fb p) := by
  have hM := (replacement_schedules_everything st w h bpp tok d hd ho).1
  have hI : Inv (screenSet w h) t := by
    refine Inv_reach _ _ t (Inv_init _ _ ?_) hr
    intro p hS
    show d.base.M.den p.1 p.2
    rw [hM]
    exact (rect_den 0 0 w h p.1 p.2).mpr hS
  exact ⟨hI, fun h1 h2 p hS => ((hI p hS (h1 p hS)).2 (h2 p)).symm⟩

open VncModel.USpec in
/-- **full_request_completes**: from any state satisfying the invariant, a non-incremental request
covering the screen followed by one update leaves the client with exactly the (new) framebuffer on
the whole screen. -/
theorem full_request_completes {V : Type} (S : PSet) (s : SState V) (hI : Inv S s) (r : PSet)
    (hr : ∀ p, S p → r p) :
    ∃ t, Reach S s t ∧ (∀ p, S p → t.pic p = t.fb p) ∧ t.fb = s.fb :=
  VncModel.Resize.full_request_completes S s hI r hr

open VncModel.USpec VncModel.Update.Refine in
/-- **converges_in_every_history**: the convergence invariant of C02 (a screen pixel that is not
scheduled as modified equals the client's picture there, or at the copy source while a copy is
pending) holds for client `id` in EVERY state of EVERY history of the model — framebuffer
replacements (by the application or inside its SetDesktopSize hook), failed updates and lost
connections included — for every evolution of the framebuffer contents the application is allowed
(`FbOk`) and the picture the client keeps (`PicOk`).  Composition of `cinv_step` (each operation is
one of C02's refined operations, leaves the abstraction alone, or is a replacement, which restarts
the invariant for ANY new contents and ANY stale picture) with C02's `Inv_reach`. -/
theorem converges_in_every_history {V : Type} (id : Nat) (st st' : State)
    (fb pic fb' pic' : Pix → V) (ops : List Op)
    (h : GRun id st fb pic ops st' fb' pic') (hI : CInv id st fb pic) :
    CInv id st' fb' pic' ∧ st' = (run st ops).1 :=
  ⟨cinv_run h hI, h.state⟩

open VncModel.USpec VncModel.Update.Refine in
/-- **invariant_means_current**: what the invariant says in a state — pixels of the CURRENT screen
outside the modified / copy regions are correct in the client's picture; a client with nothing
scheduled holds the whole current framebuffer -/
theorem invariant_means_current {V : Type} (id : Nat) (st : State) (fb pic : Pix → V)
    (h : CInv id st fb pic) :
    ∃ c0, Uniq id st c0 ∧ (c0.base.isOpen = true →
      (∀ p, VncModel.Update.Refine.S st.scr.base p → ¬ dset c0.base.M p → ¬ dset c0.base.C p → pic p = fb p) ∧
      (c0.base.M.isEmpty = true → c0.base.C.isEmpty = true →
        ∀ p, VncModel.Update.Refine.S st.scr.base p → pic p = fb p)) := by
  obtain ⟨c0, hu, hinv⟩ := h
  refine ⟨c0, hu, fun ho => ?_⟩
  obtain ⟨hw, hi⟩ := hinv ho
  refine ⟨fun p hp hm hc => ((hi p hp hm).2 hc).symm, fun hM hC p hp => ?_⟩
  exact ((hi p hp ((isEmpty_dset hw.1).mp hM p)).2 ((isEmpty_dset hw.2.1).mp hC p)).symm

open VncModel.USpec VncModel.Update.Refine in
/-- **invariant_starts_full**: the invariant holds whenever the whole screen is scheduled — a fresh
connection, and (by `replacement_schedules_everything`) every client right after a replacement -/
theorem invariant_starts_full {V : Type} (id : Nat) (st : State) (c0 : Client) (hu : Uniq id st c0)
    (hw : WFc c0.base) (hM : ∀ p, VncModel.Update.Refine.S st.scr.base p → dset c0.base.M p) (fb pic : Pix → V) :
    CInv id st fb pic :=
  ⟨c0, hu, fun _ => ⟨hw, Inv_init _ _ hM⟩⟩

/-! ## 2b. a client that cannot resynchronise is torn down -/

/-- **failed_size_write_closes**: when the pending size message (or any update) cannot be written
because the peer is gone, the connection is closed -/
theorem failed_size_write_closes (s : Screen) (c : Client) (hp : updatePending s c = true)
    (hnf : c.useNewFBSize = true) (hpe : c.pending = true) :
    (updateClientFail s c).base.isOpen = false :=
  updateFail_closes s c (pending_size_is_written s c hp hnf hpe)

/-- **torn_down_client_is_silent**: a closed client record receives nothing in any later history
(replacements included) and stays closed until it is reaped -/
theorem torn_down_client_is_silent (id : Nat) (ops : List Op) (st : State) (c0 : Client)
    (hu : Uniq id st c0) (hc : c0.base.isOpen = false) (hA : ∀ op ∈ ops, op.notFrom id) :
    msgsTo id (run st ops).2 = [] ∧ ∃ c1, Uniq id (run st ops).1 c1 ∧ c1.base.isOpen = false :=
  closed_client_never_served id ops st c0 hu hc hA

/-- the screen hook failing: the extended size message is dropped, the fields are reset all the
same, the client stays connected (code as it is; the application's fault) -/
theorem ext_hook_failure_drops_message (st : State) (id : Nat) (c : Client)
    (hg : getClient st id = some c) (hx : extFails c = true) :
    (step st (.updateExtFail id)).2.msgs = [] := by
  simp [step, hg, hx]

/-! ## 3. later rectangles stay inside the new size -/

/-- **reachable_states_good**: the region invariant (modified and copy region well-formed and inside
the CURRENT screen; requested region well-formed but possibly stale) holds in every state of every
history in which the application is sane. -/
theorem reachable_states_good (ops : List Op) (st : State) (hg : GoodSt st)
    (hs : ∀ (pre : List Op) (op : Op) (post : List Op), ops = pre ++ op :: post →
      op.sane (run st pre).1) : GoodSt (run st ops).1 :=
  (run_inv (A := fun st op => op.sane st) (Q := fun _ => True)
    (fun st op h ha => ⟨goodSt_step st op h ha, trivial⟩) ops st hg hs).1

/-- a replacement establishes the invariant for the new size from the invariant for the old one -/
theorem replacement_keeps_good (st : State) (w h bpp : Int) (tok : Nat) (hg : GoodSt st)
    (hw : 1 ≤ w) (hh : 1 ≤ h) : GoodSt (newFramebuffer st w h bpp tok) :=
  goodSt_step st (.newFramebuffer w h bpp tok) hg ⟨hw, hh⟩

/-- **rects_inside_new_size**: in a good state every update of every open client — whatever its
requested region is, in particular one left over from a larger framebuffer — consists only of
non-empty pixel rectangles and CopyRect destinations inside the current screen; on the wire an
unscaled client sees exactly those, a scaled client rectangles that end inside its scaled size. -/
theorem rects_inside_new_size (st : State) (hg : GoodSt st) (c : Client) (hc : c ∈ st.clients)
    (ho : c.base.isOpen = true) (cs : Bool) (cp : List VncModel.Update.CopyRectMsg) (rs : List Rect)
    (hm : (c.id, Msg.fbu cs cp rs) ∈ (updateClient st.scr c).2.msgs) :
    (∀ k ∈ cp, CopyIn st.scr.base.width st.scr.base.height k) ∧
    (c.scaled = false → ∀ q ∈ rs, RectIn st.scr.base.width st.scr.base.height q) ∧
    (c.scaled = true → ∀ q ∈ rs, q.x2 ≤ c.sw.toNat ∧ q.y2 ≤ c.sh.toNat) := by
  obtain ⟨m, hmm, rfl, rfl⟩ := updateClient_fbu hm
  obtain ⟨hraw, hcop⟩ :=
    (good_sendUpdate hg.1.2.1 hg.1.2.2.1 hg.1.2.2.2 (hg.2 c hc ho)).2 m hmm
  refine ⟨hcop, fun hsc q hq => ?_, fun hsc q hq => ?_⟩ <;> obtain ⟨q0, hq0, rfl⟩ := List.mem_map.mp hq
  · rw [wireRect_unscaled st.scr hsc]; exact hraw q0 hq0
  · exact wireRect_scaled st.scr hsc q0

/-! ## 4. pixel translation follows a depth change -/

/-- **translation_follows_depth**: in every state of every history, the translation function
installed for every open client was built for (the CURRENT server format, the client's format) —
given that this held initially (a fresh connection: `newClient`). -/
theorem translation_follows_depth (ops : List Op) (st : State) (h : XlateOk st) :
    ∀ c ∈ (run st ops).1.clients, c.base.isOpen = true →
      c.xlate = ((run st ops).1.scr.bpp, c.fmt) := by
  intro c hc ho
  exact xlateOk_run ops st h (admin c) (List.mem_map.mpr ⟨c, hc, rfl⟩) ho

/-- in particular directly after a replacement that changes the format -/
theorem translation_refreshed_by_replacement (st : State) (w h bpp : Int) (tok : Nat) (hx : XlateOk st)
    (d : Client) (hd : d ∈ (newFramebuffer st w h bpp tok).clients) (ho : d.base.isOpen = true) :
    d.xlate = (bpp, d.fmt) :=
  xlateOk_newFramebuffer st w h bpp tok hx (admin d) (List.mem_map.mpr ⟨d, hd, rfl⟩) ho

/-! ## 5. SetDesktopSize is answered with the application's code -/

/-- **setdesktopsize_answer**: after a SetDesktopSize (≥ 1 screen) of client `id` its record holds
reason "requested by this client" and exactly the status the application's hook returned; on a
refusal the size message is forced.  (Also when the hook replaced the framebuffer itself.) -/
theorem setdesktopsize_answer (st : State) (id : Nat) (w h ns : Int) (hook : Hook) (c0 : Client)
    (hu : Uniq id st c0) (hns : ns ≠ 0) :
    ∃ d, Uniq id (step st (.setDesktopSize id w h ns hook)).1 d ∧
      d.reqChange = VncModel.Gen.C16.reasonClient ∧ d.lastErr = hookCode hook ∧
      d.useExt = c0.useExt ∧ (hookCode hook ≠ 0 → d.pending = true) :=
  ⟨_, uniq_step _ hu, sds_requester st id w h ns hook c0 hu.1 hu.2.1 hns⟩

/-- without an application hook the request is refused ("resize prohibited", the library default) -/
theorem setdesktopsize_refused_without_hook :
    hookCode none = VncModel.Gen.C16.statusProhibited ∧ hookCode none ≠ VncModel.Gen.C16.statusSuccess := by
  decide

/-- a request that names no screen is ignored altogether (the code's choice) -/
theorem setdesktopsize_without_screens_ignored (st : State) (id : Nat) (w h : Int) (hook : Hook) :
    (step st (.setDesktopSize id w h 0 hook)).1 = st :=
  setDesktopSize_skipped w h hook (by simp [Op.skipped])

/-- **answer_delivered**: once reason `r` / status `s` are recorded for an ExtendedDesktopSize
client (by `setdesktopsize_answer`: `r` = "this client", `s` = the hook's code), the first size
message it receives in any later history without further SetDesktopSize messages is the extended
one with exactly these two values. -/
theorem answer_delivered (id : Nat) (r s : Int) (ops : List Op) (st : State) (c0 : Client)
    (hu : Uniq id st c0) (hext : c0.useExt = true) (hr : c0.reqChange = r) (hs : c0.lastErr = s)
    (hA : ∀ op ∈ ops, op.keepsExt id ∧ op.noSds ∧ op.noFailure id) :
    ∀ m, (msgsTo id (run st ops).2).find? Msg.isSize = some m → ∃ w h l, m = .ext r s w h l :=
  ext_fields_delivered id r s ops st c0 hu ⟨hext, hr, hs⟩ hA

/-- **others_told_other_client**: after a successful request of client `id` every other open client's
record says "requested by another client" (and keeps its own status field) -/
theorem others_told_other_client (st : State) (id : Nat) (w h ns : Int) (hook : Hook) (c : Client)
    (hg : (getClient st id).isSome = true) (hid : c.id ≠ id) (hns : ns ≠ 0)
    (ho : c.base.isOpen = true) (hcode : hookCode hook = 0) :
    (stepClient st (.setDesktopSize id w h ns hook) c).reqChange = VncModel.Gen.C16.reasonOther ∧
    (stepClient st (.setDesktopSize id w h ns hook) c).lastErr = c.lastErr :=
  let r := sds_others st id w h ns hook c hg hid hns ho hcode
  ⟨r.1, r.2.1⟩

/-- **reason_status_reset**: sending the extended size message clears both fields, so the following
size messages say "no particular reason, success" until the next SetDesktopSize -/
theorem reason_status_reset (c : Client) (hext : c.useExt = true) :
    (sizeMessage c).1.reqChange = 0 ∧ (sizeMessage c).1.lastErr = 0 ∧
    (sizeMessage c).2 = .ext c.reqChange c.lastErr c.sw c.sh [(1, 0, 0, c.sw, c.sh, 0)] := by
  refine ⟨((sizeMessage_state c).2.2.2.2.1 hext).1, ((sizeMessage_state c).2.2.2.2.1 hext).2, ?_⟩
  rw [sizeMessage_msg, if_pos hext]

/-! ## 6. no size change unless the application performs it -/

/-- **no_spontaneous_resize**: width, height, pixel format and buffer of the screen are the same
after any history that contains no rfbNewFramebuffer call of the application (directly or inside
its SetDesktopSize hook) — in particular no client message changes them. -/
theorem no_spontaneous_resize (ops : List Op) (st : State) (h : ∀ op ∈ ops, op.appResize = false) :
    geometry (run st ops).1 = geometry st :=
  (run_inv_forall (I := fun s => geometry s = geometry st) (Q := fun _ => True)
    (fun s op hs ha => ⟨(step_geometry s op ha).trans hs, trivial⟩) ops st rfl h).1

/-- and when the application does call it, the screen gets exactly what the application chose -/
theorem resize_is_the_applications (st : State) (w h bpp : Int) (tok : Nat) :
    geometry (step st (.newFramebuffer w h bpp tok)).1 = ⟨w, h, bpp, tok⟩ := rfl

/-! ## 7. the pointer position is inside the new area -/

theorem pointer_inside_after_replacement (st : State) (w h bpp : Int) (tok : Nat)
    (hw : 1 ≤ w) (hh : 1 ≤ h) (hx : 0 ≤ st.scr.base.cursorX) (hy : 0 ≤ st.scr.base.cursorY) :
    0 ≤ (newFramebuffer st w h bpp tok).scr.base.cursorX ∧
    (newFramebuffer st w h bpp tok).scr.base.cursorX < w ∧
    0 ≤ (newFramebuffer st w h bpp tok).scr.base.cursorY ∧
    (newFramebuffer st w h bpp tok).scr.base.cursorY < h := by
  simp only [newFramebuffer]
  refine ⟨?_, ?_, ?_, ?_⟩ <;> split <;> omega

/-! ## 8. facts about the regenerated constants -/

/-- the extended size message (header + screen count + the single screen of the default layout)
always fits the update buffer after the 4-byte FramebufferUpdate header -/
theorem ext_message_fits_update_buffer :
    VncModel.Gen.C16.sz_rfbFramebufferUpdateMsg + VncModel.Gen.C16.sz_rfbFramebufferUpdateRectHeader +
      VncModel.Gen.C16.sz_rfbExtDesktopSizeMsg + VncModel.Gen.C16.sz_rfbExtDesktopScreen
      ≤ VncModel.Gen.C16.UPDATE_BUF_SIZE := by decide

/-- a SetDesktopSize message makes the server allocate at most 255 × 16 bytes -/
theorem setdesktopsize_payload_bound (n : Nat) (h : n ≤ VncModel.Gen.C16.maxScreensInRequest) :
    n * VncModel.Gen.C16.sz_rfbExtDesktopScreen ≤ 4080 := by
  have h : n ≤ 255 := h
  show n * 16 ≤ 4080
  omega

/-- **emitters_stay_inside_buffer**: the flush rule of rfbSendNewFBSize / rfbSendExtDesktopSize keeps
`ublen` within the update buffer for every rectangle that fits a buffer at all -/
theorem emitters_stay_inside_buffer (ublen need : Nat) (hn : need ≤ VncModel.Gen.C16.UPDATE_BUF_SIZE) :
    (emit ublen need).2 ≤ VncModel.Gen.C16.UPDATE_BUF_SIZE := by
  unfold emit
  split
  · exact hn
  · simp only; omega

/-- **size_shortcircuit_never_flushes**: where the emitters are really called (after the 4-byte
FramebufferUpdate header) the flush branch is dead for every screen count the wire can carry -/
theorem size_shortcircuit_never_flushes (n : Nat) (h : n ≤ VncModel.Gen.C16.maxScreensInRequest) :
    (emit VncModel.Gen.C16.sz_rfbFramebufferUpdateMsg (needExt n)).1 = 0 ∧
    (emit VncModel.Gen.C16.sz_rfbFramebufferUpdateMsg needNewFB).1 = 0 := by
  have e : ¬ VncModel.Gen.C16.sz_rfbFramebufferUpdateMsg + needExt n > VncModel.Gen.C16.UPDATE_BUF_SIZE := by
    have h : n ≤ 255 := h
    show ¬ 4 + (12 + 4 + 16 * n) > 32768
    omega
  exact ⟨by rw [emit, if_neg e], by rw [emit, if_neg (by decide)]⟩

/-- **ext_message_limit**: the extended rectangle fits the update buffer iff the application reports
at most 2047 screens (beyond that `updateBuf` is overrun: the rule flushes, it never splits) -/
theorem ext_message_limit (n : Nat) : needExt n ≤ VncModel.Gen.C16.UPDATE_BUF_SIZE ↔ n ≤ 2047 := by
  show 12 + 4 + 16 * n ≤ 32768 ↔ n ≤ 2047
  omega

/-! ## Non-vacuity -/

/-- a concrete state: 8×6 screen, 32 bpp, buffer 0, one ExtendedDesktopSize client -/
def exState : State :=
  (run (initState 8 6 4 0) [.newClient 0, .setEncodings 0 true true false true,
                            .request 0 false 0 0 8 6]).1

example : (exState.clients.map (·.id)) = [0] := by decide
example : XlateOk exState := by
  intro a ha ho
  simp only [admins, exState] at ha
  revert a
  decide
example : ScrOk exState.scr := by unfold ScrOk; decide

/-- hypotheses of `old_buffer_never_read` hold for a real history, and the history does access the
new buffer (so the statement is not vacuous) -/
example : (1 : Nat) ≠ exState.scr.fb ∧
    (∀ op ∈ [Op.update 0, Op.update 0], op.avoids exState.scr.fb) := by
  refine ⟨by decide, ?_⟩
  intro op hop
  simp only [List.mem_cons, List.mem_nil_iff, or_false] at hop
  rcases hop with rfl | rfl | h <;> trivial

def exClient : Client :=
  { newClient (initState 8 6 4 0).scr 0 with useNewFBSize := true, useExt := true }
def exSt : State := { scr := (initState 8 6 4 0).scr, clients := [exClient] }

/-- `Uniq`, pending size message: the hypotheses of `size_message_first` hold after a replacement -/
example : Uniq 0 (newFramebuffer exSt 5 4 2 1) (newFbClient exSt.scr 5 4 2 1 exClient) ∧
    (newFbClient exSt.scr 5 4 2 1 exClient).useNewFBSize = true ∧
    (newFbClient exSt.scr 5 4 2 1 exClient).pending = true ∧
    (newFbClient exSt.scr 5 4 2 1 exClient).sw = 5 ∧ (newFbClient exSt.scr 5 4 2 1 exClient).sh = 4 := by
  refine ⟨⟨by simp [newFramebuffer, exSt], rfl, ?_⟩, rfl, rfl, rfl, rfl⟩
  intro c hc _
  simpa [newFramebuffer, exSt] using hc

/-- the hypotheses of `setdesktopsize_answer` / `answer_delivered` -/
example : Uniq 0 exSt exClient ∧ exClient.useExt = true :=
  ⟨⟨by simp [exSt], rfl, fun c hc _ => by simpa [exSt] using hc⟩, rfl⟩

example : hookCode (some (3, none)) = 3 ∧ hookCode (some (0, some (5, 4, 4, 7))) = 0 := by decide

/-- `GoodSt` holds initially and for `exState`'s screen constants -/
example : GoodSt (initState 8 6 4 0) :=
  ⟨by unfold ScrOk; decide, fun c hc => by simp [initState] at hc⟩

/-- `CInv` is satisfiable and `GRun` has real members -/
example : CInv (V := Nat) 0 exSt (fun _ => 1) (fun _ => 0) :=
  invariant_starts_full 0 exSt exClient
    ⟨by simp [exSt], rfl, fun c hc _ => by simpa [exSt] using hc⟩
    ⟨show (Region.rect 0 0 8 6).WF from rect_wf _ _ _ _, trivial, trivial⟩
    (fun p hp => show (Region.rect 0 0 8 6).den p.1 p.2 from (rect_den 0 0 8 6 p.1 p.2).mpr hp) _ _

example : ∃ st' fb' pic', GRun (V := Nat) 0 exSt (fun _ => 1) (fun _ => 0)
    [.newFramebuffer 5 4 2 1, .request 0 false 0 0 5 4] st' fb' pic' :=
  ⟨_, _, _, GRun.cons (fb1 := fun _ => 2) (pic1 := fun _ => 0) trivial trivial
    (GRun.cons (fb1 := fun _ => 2) (pic1 := fun _ => 0) rfl rfl (GRun.nil _ _ _))⟩

/-- the hypothesis of `torn_down_client_is_silent` can be met -/
example : (closeClient exClient).base.isOpen = false := rfl

end VncModel.Props.C16
