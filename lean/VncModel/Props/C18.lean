import VncModel.Clip.Lemmas
/-!
# C18 — Clipboard text is transferred intact in both directions

Property theorems only (helper lemmas: `VncModel/Clip/Lemmas.lean`).  The model
(`VncModel/Clip/Model.lean`) mirrors the ClientCutText handler, `rfbProcessExtendedServerCutTextData`,
`rfbSendServerCutText(UTF8)` and the capability / notify / provide senders of the server, and
`SendClientCutText(UTF8)`, the ServerCutText case of `HandleRFBServerMessage` and
`rfbClientProcessExtServerCutText` of LibVNCClient — with the three fixes `fixes/C18-*.diff`.
It is tied to the code by the correspondence run `harness/c18.c` ⇄ `Driver/C18.lean`; the limits,
flag bits, default capabilities and the two fixed server messages come from `VncModel.Gen.C18`,
regenerated from /repo on every run, so every theorem below is re-proved against the current values.

zlib is a parameter `Z : Zlib`; theorems that need it assume `ZLaw Z`
(`inflateAll (compress x) = ⟨x, done⟩`, `inflateAll (compressSync x) = ⟨x, more⟩`, non-empty
output).  `env : Env` is the content of uninitialised memory the code may read; all theorems hold
for every `env`.

Quantifiers: every text (any bytes: embedded NULs, invalid UTF-8), every flag word, every client
state and population, every zlib satisfying the laws, every input that follows the message
(`rest`), i.e. every continuation of the history.

What the code does with the NUL: `SendClientCutTextUTF8(t)` and `rfbSendServerCutTextUTF8(t)` both
transmit the record `t ++ [0]` (declared size `|t| + 1`); the receiving callbacks
(`setXCutTextUTF8`, `GotXCutTextUTF8`) get exactly these `|t| + 1` bytes, NUL included.  The classic
message carries `t` alone; `GotXCutText` additionally finds a NUL after the `|t|` bytes (checked by
the harness, not a model statement).

Theorems (→ meaning for the property)
  1  client_to_app_exact_classic      classic text reaches setXCutText byte-exact, any continuation
     client_to_app_exact_provide      any provide(text) message with a well-formed record → exactly that record
     client_notify_ignored            LibVNCClient's notify before each provide has no effect
     client_to_app_exact_partial      SendClientCutTextUTF8(t) → setXCutTextUTF8(t ++ [0])   [partial, see below]
     client_to_app_compressed_oversize  … and refused (sender closed) iff the compressed message exceeds the limit
     client_to_app_no_invented_bytes  every delivered text is literally a record of the inflated stream (all flags, all streams)
  2  app_to_clients_exact(_classic)   per-client output of both publish functions for EVERY population (fully connected = open ∧ NORMAL); cache updated
     app_to_clients_wire              the exact bytes of classic / provide messages
     handshake_client_receives_nothing  a client not yet in state NORMAL gets no message and no cache update
  3  caps_negotiation                 sign-encoded lengths are refused before negotiation
     caps_negotiation_enable          SetEncodings with the pseudo-encoding ⇔ enabled + capability message(s), only with the app callback
     caps_negotiation_required        invariant over all inputs: no callback installed ⇒ never enabled, never a UTF-8 callback
     caps_negotiation_update          exact effect of a client Caps message (length check, limits stored, text withdrawn)
     caps_negotiation_unsolicited     provide/notify only within the client's announced capabilities
  4  oversize_closes_classic/_extended/_record   limits exact: ≤ limit accepted, limit+1 closes, no callback
     malformed_closes_short_record/_no_flags/_truncated   malformed ⇒ closed, nothing delivered (for every `env`)
     oversize_closes_only_offender    all other clients and the configuration are untouched by any input of one client
  5  request_then_provide, peek_then_notify, request_without_publish
  6  client_roundtrip_provide/_classic/_caps, client_refuses_oversize, client_roundtrip_partial [partial]
     zId_law                          the zlib law is satisfiable (tagged identity, used by the driver)
  2' broadcast_survives_failed_client a client whose connection works is served whatever the others are (dead mid-broadcast, closed, handshake)
  7  fitsServer / fitsClient (defs)   decidable predicates on (zlib, text): record incl. NUL ≤ record limit ∧ compressed message ≤ message limit
     client_to_app_exact_iff          SendClientCutTextUTF8(t): delivered exactly iff fitsServer, sender closed without callback otherwise
     client_roundtrip_iff             provide of a publish: GotXCutTextUTF8(t ++ [0]) iff fitsClient, client gives up otherwise
     client_to_app_record_oversize    compressed message fits, record does not → closed
     extended_limit_counts_the_nul    a text of exactly 1 MiB fails both predicates (record limit counts the NUL), classic still carries it
     zero_size_record_closes          size-0 record refused in both stream styles
     vanished_sender_is_closed        a sender that closes right after writing: processed, nothing written to it, closed
     granted_viewer_delivers          a viewer that was view-only at its first update and is granted input later delivers its text (SupportedMessages lists ClientCutText unconditionally)

Partial (`_partial`): the unrestricted statement "every text of 0..1 MiB makes the extended round
trip" is false of the code in two distinct ways — (i) the record limit counts the NUL, so a text of
exactly 2^20 bytes is refused (`extended_limit_counts_the_nul`), (ii) the compressed message is
bounded by the same 1 MiB, so an incompressible text within a few hundred bytes of the limit is
refused.  The exact set is `fitsServer` / `fitsClient`, and `client_to_app_exact_iff` /
`client_roundtrip_iff` prove the full equivalence (delivered exactly ⇔ predicate; closed without
callback otherwise).  Not modelled: write/allocation failures, threads, other
message types than ClientCutText/SetEncodings (server) and ServerCutText/Bell (client).
-/
namespace VncModel.Props.C18
open VncModel.Clip VncModel.Gen.C18

/-! ## 1. client → application -/

/-- **classic ClientCutText**: `SendClientCutText(t)` followed by any further input `rest`: the
application callback `setXCutText` receives exactly `t` (length `|t|`), unless the client is
view-only; nothing is sent back, the client's state is unchanged, processing continues with `rest`. -/
theorem client_to_app_exact_classic (Z : Zlib) (env : Env) (cfg : Cfg) (cl : Cl) (t rest : Bytes)
    (ho : cl.isOpen = true) (hl : t.length ≤ srvMsgLimit) :
    feed Z env cfg cl (cliSendClassic t ++ rest) =
      ⟨(feed Z env cfg cl rest).cl,
       (if cl.viewOnly then [] else [Cb.latin1 t]) ++ (feed Z env cfg cl rest).cbs,
       (feed Z env cfg cl rest).out, (feed Z env cfg cl rest).unmodelled⟩ := by
  have hlim : srvMsgLimit = 1048576 := rfl
  have hstep := stepMsg_plain Z env cfg cl 0 0 0 t.length (t ++ rest) (by omega) (Or.inr (by omega))
  rw [if_pos ⟨hl, by simp⟩, List.take_left' rfl, ← cliSendClassic_append] at hstep
  rw [feed_msg Z env cfg cl cl _ rest _ _ _ ho (by simp [cliSendClassic, be32_length]; omega) (by omega) hstep]
  simp

/-- non-vacuity: a text with an embedded NUL and a non-UTF-8 byte, default client -/
example : (feed ⟨fun _ => ⟨[], .err⟩, id, id⟩ ⟨0⟩ ⟨true⟩ {} (cliSendClassic [104, 0, 255])).cbs
    = [Cb.latin1 [104, 0, 255]] := by
  have h := client_to_app_exact_classic ⟨fun _ => ⟨[], .err⟩, id, id⟩ ⟨0⟩ ⟨true⟩ {} [104, 0, 255] []
    rfl (by decide)
  simp only [List.append_nil, feed_nil] at h
  rw [h]; rfl

/-- **extended provide, general form**: any provide(text) message (flag word with the provide bit,
no caps/request/peek bit, text as the only format; other bits arbitrary) whose zlib payload inflates
to a record `[|d| BE32] ++ d` with `1 ≤ |d| ≤ limit` — finished or sync-flushed stream, possibly
with trailing output — makes `setXCutTextUTF8` receive exactly `d`, and nothing else happens. -/
theorem client_to_app_exact_provide (Z : Zlib) (env : Env) (cfg : Cfg) (cl : Cl) (flags : Nat)
    (z d extra rest : Bytes) (fin : Fin)
    (ho : cl.isOpen = true) (he : cl.ext = true) (hfl : flags < 4294967296)
    (hcaps : flags.testBit bCaps = false) (hreq : flags.testBit bRequest = false)
    (hpeek : flags.testBit bPeek = false) (hprov : flags.testBit bProvide = true)
    (htext : flags.testBit 0 = true) (hother : ∀ i, 1 ≤ i → i < 16 → flags.testBit i = false)
    (hz : Z.inflateAll z = ⟨record d ++ extra, fin⟩) (hne : z ≠ [])
    (hd1 : d ≠ []) (hd2 : d.length ≤ srvRecLimit) (hfin : extra = [] → fin ≠ .err)
    (hm : 4 + z.length ≤ srvMsgLimit) :
    feed Z env cfg cl ((6 : UInt8) :: 0 :: 0 :: 0 :: (be32 (neg32 (4 + z.length)) ++ ((be32 flags ++ z) ++ rest))) =
      ⟨(feed Z env cfg cl rest).cl,
       (if !cl.viewOnly && cfg.cb8 then [Cb.utf8 d] else []) ++ (feed Z env cfg cl rest).cbs,
       (feed Z env cfg cl rest).out, (feed Z env cfg cl rest).unmodelled⟩ := by
  have hlim : srvRecLimit = 1048576 := rfl
  have hbl : (be32 flags ++ z).length = 4 + z.length := be32_append_length flags z
  have hext : handleExt Z env cfg cl (be32 flags ++ z) =
      ⟨cl, if !cl.viewOnly && cfg.cb8 then [Cb.utf8 d] else [], []⟩ := by
    rw [handleExt_provide Z env cfg cl flags z hfl hcaps hreq hpeek hprov,
      provLoop_text env cfg _ flags _ d _ htext hother
        (readRecord_init Z env srvRecLimit z d extra fin hz hne hd1 hd2 (by omega) hfin)]
    simp
  have h := feed_ext Z env cfg cl (be32 flags ++ z) rest _ ho he (by omega) (by omega) hext
  rw [extMsg_append, hbl] at h
  simpa [ho] using h

/-- the notify(text) message LibVNCClient sends before every provide is ignored by the server -/
theorem client_notify_ignored (Z : Zlib) (env : Env) (cfg : Cfg) (cl : Cl) (rest : Bytes)
    (ho : cl.isOpen = true) (he : cl.ext = true) :
    feed Z env cfg cl (cliNotifyMsg ++ rest) = feed Z env cfg cl rest := by
  rw [cliNotifyMsg_eq, feed_ext Z env cfg cl _ rest _ ho he (by decide) (by decide)
    (handleExt_ignored Z env cfg cl _ (by decide) (by decide) (by decide) (by decide) (by decide))]
  simp [ho]

/- Full-strength statement of the extended direction, NOT provable because it is false of the code:

     ∀ t, t.length + 1 ≤ 2^20 → SendClientCutTextUTF8(t) makes setXCutTextUTF8 receive t ++ [0]

   The server bounds the length of the *compressed* message by the same 1 MiB, so a text that does
   not compress (random bytes) within a few hundred bytes of 1 MiB is refused and the connection
   closed (`client_to_app_compressed_oversize` below proves exactly that, for every zlib).  What
   is proved is the statement for every text whose compressed message fits — the exact
   characterisation: delivered intact iff `4 + |compressSync (record (t ++ [0]))| ≤ srvMsgLimit`. -/

/-- **extended, LibVNCClient as the sender** (composition under the zlib law): what
`SendClientCutTextUTF8(t)` writes — notify(text), then provide(text) of `t` plus NUL, sync-flushed —
is accepted by the server handler, and `setXCutTextUTF8` receives exactly `t ++ [0]`, length `|t|+1`.
Partial: hypothesis `hm` (the compressed message fits the limit), see the comment above. -/
theorem client_to_app_exact_partial (Z : Zlib) (hZ : ZLaw Z) (env : Env) (cfg : Cfg) (cl : Cl) (c : LC)
    (t rest : Bytes) (ho : cl.isOpen = true) (he : cl.ext = true) (hc : c.caps ≠ 0)
    (hsize : t.length + 1 ≤ srvRecLimit)
    (hm : 4 + (Z.compressSync (record (t ++ [0]))).length ≤ srvMsgLimit) :
    ∃ w, cliSendUtf8 Z c t = some w ∧
      feed Z env cfg cl (w ++ rest) =
        ⟨(feed Z env cfg cl rest).cl,
         (if !cl.viewOnly && cfg.cb8 then [Cb.utf8 (t ++ [0])] else []) ++ (feed Z env cfg cl rest).cbs,
         (feed Z env cfg cl rest).out, (feed Z env cfg cl rest).unmodelled⟩ := by
  refine ⟨cliNotifyMsg ++ cliProvideMsg (Z.compressSync (record (t ++ [0]))), by simp [cliSendUtf8, hc], ?_⟩
  rw [List.append_assoc, client_notify_ignored Z env cfg cl _ ho he, cliProvideMsg_append]
  exact client_to_app_exact_provide Z env cfg cl cliProvideFlags
    (Z.compressSync (record (t ++ [0]))) (t ++ [0]) [] rest .more ho he (by decide)
    (by decide) (by decide) (by decide) (by decide) (by decide) (bits_of_range _ (by decide))
    (by simpa using hZ.inflate_sync (record (t ++ [0]))) (hZ.sync_ne _) (by simp) (by simpa using hsize)
    (by intro _ h; cases h) hm

/-- **the excluded texts really are refused**: if the compressed provide message is longer than the
message limit, the server closes the connection of the sending client (and only that one,
`oversize_closes_only_offender`) without any callback — whatever `t` is. -/
theorem client_to_app_compressed_oversize (Z : Zlib) (env : Env) (cfg : Cfg) (cl : Cl) (c : LC)
    (t rest : Bytes) (ho : cl.isOpen = true) (he : cl.ext = true) (hc : c.caps ≠ 0)
    (hbig : 4 + (Z.compressSync (record (t ++ [0]))).length > srvMsgLimit)
    (h31 : 4 + (Z.compressSync (record (t ++ [0]))).length ≤ 2147483648) :
    ∃ w, cliSendUtf8 Z c t = some w ∧ feed Z env cfg cl (w ++ rest) = ⟨closeCl cl, [], [], false⟩ := by
  refine ⟨cliNotifyMsg ++ cliProvideMsg (Z.compressSync (record (t ++ [0]))), by simp [cliSendUtf8, hc], ?_⟩
  rw [List.append_assoc, client_notify_ignored Z env cfg cl _ ho he, cliProvideMsg_append]
  exact feed_closedStep Z env cfg cl _ _ _ _ _ ho (stepMsg_ext_oversize Z env cfg cl 0 0 0 _ _ he hbig h31)

/-- witness for the exclusion: with the tagged-identity zlib (`compressSync x = 2 :: x`, which
satisfies `ZLaw`) every text of `2^20 - 6` bytes meets the record limit but its message does not fit -/
example (t : Bytes) (h : t.length = 1048570) :
    t.length + 1 ≤ srvRecLimit ∧ 4 + ((2 : UInt8) :: record (t ++ [0])).length > srvMsgLimit := by
  have h1 : srvRecLimit = 1048576 := rfl
  have h2 : srvMsgLimit = 1048576 := rfl
  simp only [List.length_cons, record_length, List.length_append, List.length_nil]
  omega

/-! ## 2. application → every connected client -/

/-- what one client must receive when the application publishes UTF-8 text `t` with optional
Latin-1 fallback `fb` — written as a specification, independently of `sendUtf8One` -/
def expectUtf8 (cl : Cl) (t : Bytes) (fb : Option Bytes) : List SMsg :=
  if cl.isOpen = false ∨ cl.normal = false then []
  else if cl.ext = true then
    if cl.userCap.testBit bProvide = true ∧ t.length ≤ cl.maxUnsol then [.provide (record (t ++ [0]))]
    else if cl.userCap.testBit bNotify = true then [.notify]
    else []
  else match fb with
    | some f => [.classic f]
    | none => []

/-- **`rfbSendServerCutTextUTF8` for every population** of extended, classic, not-yet-NORMAL,
closed and failing clients: each fully connected (open, state NORMAL) extended client gets exactly
one provide whose record is `t ++ [0]` with declared size `|t| + 1` (if its capabilities allow an
unsolicited provide of `|t|` bytes), else one notify (if it accepts notifies), else nothing — never
the fallback; each fully connected classic client gets exactly the Latin-1 fallback (nothing if
there is none); closed clients and clients still in the handshake get nothing and keep their
record; a client whose peer is gone gets nothing and is closed if something was due to it — and
that does not change what any other client gets; every fully connected extended client's cache
then holds `t ++ [0]` for a later request. -/
theorem app_to_clients_exact (s : Sys) (t : Bytes) (fb : Option Bytes) :
    (s.pub8 t fb).2 = s.cls.map (fun p =>
      (p.1, if p.2.peerGone = true then [] else expectUtf8 p.2 t fb)) ∧
    (s.pub8 t fb).1.cls = s.cls.map (fun p =>
      (p.1,
        let c := if p.2.isOpen = true ∧ p.2.normal = true ∧ p.2.ext = true
                 then { p.2 with data := some (t ++ [0]) } else p.2
        if p.2.peerGone = true ∧ expectUtf8 p.2 t fb ≠ [] then closeCl c else c)) := by
  have hsnd : ∀ cl : Cl, (sendUtf8One cl t fb).2 = expectUtf8 cl t fb := by
    intro cl
    unfold sendUtf8One expectUtf8
    cases cl.isOpen <;> cases cl.normal <;> cases cl.ext <;> try rfl
    · cases fb <;> rfl
    · by_cases hP : cl.userCap.testBit bProvide = true ∧ t.length ≤ cl.maxUnsol
      · simp [hP]
      · by_cases hN : cl.userCap.testBit bNotify = true <;> simp [hP, hN]
  constructor
  · simp only [Sys.pub8, writeOutcome_snd, hsnd]
  · simp only [Sys.pub8, writeOutcome_fst, hsnd, sendUtf8One_fst]

/-- **`rfbSendServerCutText` (classic) for every population**: every fully connected client —
extended or not — gets exactly `t`; closed clients and clients still in the handshake nothing; a
client whose peer is gone gets nothing and is closed. -/
theorem app_to_clients_exact_classic (s : Sys) (t : Bytes) :
    (s.pub t).2 = s.cls.map (fun p =>
      (p.1, if p.2.isOpen = true ∧ p.2.normal = true ∧ p.2.peerGone = false then [SMsg.classic t] else [])) ∧
    (s.pub t).1.cls = s.cls.map (fun p =>
      (p.1, if p.2.isOpen = true ∧ p.2.normal = true ∧ p.2.peerGone = true then closeCl p.2 else p.2)) := by
  constructor
  · simp only [Sys.pub, writeOutcome_snd, sendClassicOne]
    apply List.map_congr_left
    intro p _
    cases p.2.peerGone <;> cases p.2.isOpen <;> cases p.2.normal <;> rfl
  · simp only [Sys.pub, writeOutcome_fst, sendClassicOne]
    apply List.map_congr_left
    intro p _
    cases p.2.peerGone <;> cases p.2.isOpen <;> cases p.2.normal <;> rfl

/-- **one client's failure does not stop the broadcast**: whatever the other entries of the
population are — closed, failing mid-broadcast, still in the handshake — a client whose connection
works is served exactly as if it were alone (the `continue` arms of both publish loops). -/
theorem broadcast_survives_failed_client (s : Sys) (t : Bytes) (fb : Option Bytes) (id : Nat) (cl : Cl)
    (hmem : (id, cl) ∈ s.cls) (hok : cl.peerGone = false) :
    (id, expectUtf8 cl t fb) ∈ (s.pub8 t fb).2 ∧
    (id, if cl.isOpen = true ∧ cl.normal = true then [SMsg.classic t] else []) ∈ (s.pub t).2 := by
  constructor
  · rw [(app_to_clients_exact s t fb).1]
    exact List.mem_map.mpr ⟨(id, cl), hmem, by simp [hok]⟩
  · rw [(app_to_clients_exact_classic s t).1]
    exact List.mem_map.mpr ⟨(id, cl), hmem, by simp [hok]⟩

/-- **a client still in the handshake receives nothing** from either publish function, whatever
its other fields say, and its record (in particular its cache) is left exactly as it was: no
ServerCutText can land in the middle of a handshake (/repo 8f8266a). -/
theorem handshake_client_receives_nothing (cl : Cl) (t : Bytes) (fb : Option Bytes)
    (h : cl.normal = false) :
    sendClassicOne cl t = [] ∧ sendUtf8One cl t fb = (cl, []) := by
  simp [sendClassicOne, sendUtf8One, h]

/-- the bytes on the wire: classic = type 3, padding, `|t|` big-endian, `t`; provide = type 3,
padding, minus (4 + compressed size) as a 32-bit two's complement, the provide|text flag word, the
zlib stream of `[|t|+1 BE32] ++ t ++ [0]` -/
theorem app_to_clients_wire (Z : Zlib) (t : Bytes) :
    SMsg.wire Z (.classic t) = [3, 0, 0, 0] ++ be32 t.length ++ t ∧
    SMsg.wire Z (.provide (record (t ++ [0]))) =
      [3, 0, 0, 0] ++ be32 (neg32 (4 + (Z.compress (be32 (t.length + 1) ++ t ++ [0])).length)) ++
        be32 (2 ^ 28 + 1) ++ Z.compress (be32 (t.length + 1) ++ t ++ [0]) := by
  constructor
  · rfl
  · simp [SMsg.wire, record, msgServerCutText, srvProvideFlags, bProvide, bText]

/-- non-vacuity: a mixed population (extended with small unsolicited limit, extended default,
classic, closed, still in the handshake, peer gone, classic after the failing one) -/
example : (Sys.pub8 ⟨⟨true⟩, [(0, { ext := true, maxUnsol := 2 }), (1, { ext := true }), (2, {}),
      (3, { isOpen := false }), (4, { normal := false }), (5, { peerGone := true }), (6, {})]⟩
      [65, 66, 67] (some [63])).2 =
    [(0, [.notify]), (1, [.provide (record [65, 66, 67, 0])]), (2, [.classic [63]]), (3, []), (4, []),
     (5, []), (6, [.classic [63]])] := by
  decide

/-! ## 3. capability negotiation -/

/-- **enabling**: a SetEncodings message listing the pseudo-encoding `k > 0` times enables the
extension and sends the capability message `k` times — if and only if the application installed
`setXCutTextUTF8`; otherwise (or with `k = 0`) the clipboard state is untouched. -/
theorem caps_negotiation_enable (Z : Zlib) (env : Env) (cfg : Cfg) (cl : Cl) (pad : UInt8)
    (encs : List Nat) (rest : Bytes) (hn : encs.length < 65536) (he : ∀ e ∈ encs, e < 4294967296) :
    stepMsg Z env cfg cl ((2 : UInt8) :: pad :: UInt8.ofNat (encs.length / 256) ::
        UInt8.ofNat (encs.length % 256) :: (encs.flatMap be32 ++ rest)) =
      (if cfg.cb8 = true ∧ encs.count encExtendedClipboard > 0 then
        Step.next { cl with ext := true } [] (List.replicate (encs.count encExtendedClipboard) .caps)
          (4 + 4 * encs.length)
       else Step.next cl [] [] (4 + 4 * encs.length)) := by
  have hlen := flatMap_be32_length encs
  have hcnt := countExt_flatMap encs he
  have hnn : (UInt8.ofNat (encs.length / 256)).toNat * 256 + (UInt8.ofNat (encs.length % 256)).toNat
      = encs.length := by
    simp only [UInt8.toNat_ofNat']; omega
  simp only [stepMsg]
  rw [if_neg (by decide), if_pos (by decide)]
  simp only [stepEnc, hnn, szSetEncodingsMsg]
  have htake : (encs.flatMap be32 ++ rest).take (4 * encs.length) = encs.flatMap be32 :=
    List.take_left' hlen
  rw [htake, hcnt]
  simp [hlen]

/-- **no extended traffic without negotiation** (all histories): as long as the application has not
installed `setXCutTextUTF8`, no input whatsoever enables the extension or produces a UTF-8 callback. -/
theorem caps_negotiation_required (Z : Zlib) (env : Env) (cl : Cl) (input : Bytes)
    (he : cl.ext = false) :
    (feed Z env ⟨false⟩ cl input).cl.ext = false ∧
    ∀ b, Cb.utf8 b ∉ (feed Z env ⟨false⟩ cl input).cbs := by
  fun_induction feed Z env ⟨false⟩ cl input with
  | case1 cl => simp [he]  -- no input left
  | case2 cl t rest hc => simp [he]  -- client already closed
  | case3 cl t rest hc cl' cbs out k hs r ih =>  -- step goes on
    have hstep := stepMsg_noext Z env cl (t :: rest) he
    rw [hs] at hstep
    obtain ⟨h1, h2⟩ := ih hstep.1
    refine ⟨h1, ?_⟩
    intro b hb
    rcases List.mem_append.mp hb with hb | hb
    · exact hstep.2 b hb
    · exact h2 b hb
  | case4 cl t rest hc cl' cbs out hs =>  -- step closes
    have hstep := stepMsg_noext Z env cl (t :: rest) he
    rw [hs] at hstep
    exact hstep
  | case5 cl t rest hc hs => simp [he]  -- unmodelled message

/-- **a client Caps message** (flag word with the caps bit; `nf` = number of format bits 0..15 set;
`body` = flag word followed by the size array), exact effect:
* `nf ≥ 1`, array length ≠ `nf`: the connection is closed;
* `nf ≥ 1`, right length, text format included: the server now remembers exactly the client's flag
  word and the text size limit the client sent (first array entry); the extension stays enabled;
* text format not offered (or no format at all): the extension is switched off again.
Nothing is sent and no callback is made in any case. -/
theorem caps_negotiation_update (Z : Zlib) (env : Env) (cfg : Cfg) (cl : Cl) (flags : Nat)
    (sizes : Bytes) (hfl : flags < 4294967296) (hcaps : flags.testBit bCaps = true) :
    handleExt Z env cfg cl (be32 flags ++ sizes) =
      (if popFormats flags ≠ 0 ∧ sizes.length ≠ popFormats flags * 4 then
         ⟨closeCl { cl with userCap := flags }, [], []⟩
       else if flags.testBit bText = true then
         ⟨{ cl with userCap := flags, maxUnsol := rd32 sizes,
                    ext := if popFormats flags = 0 then false else cl.ext }, [], []⟩
       else ⟨{ cl with userCap := flags, ext := false }, [], []⟩) := by
  have hlen : ¬ (4 + sizes.length < 4) := by omega
  unfold handleExt
  simp only [be32_append_length, extMinLen, hlen, if_false, rd32_be32 flags hfl sizes, hcaps, if_true,
    drop_be32]
  by_cases h0 : popFormats flags = 0
  · simp [h0]
  · by_cases hs : sizes.length = popFormats flags * 4
    · simp [h0, hs]
    · have : ¬ (4 + sizes.length = 4 + popFormats flags * 4) := by omega
      simp [h0, hs]

/-- non-vacuity: text+rtf offered with two sizes, limit 10 -/
example : handleExt ⟨fun _ => ⟨[], .err⟩, id, id⟩ ⟨0⟩ ⟨true⟩ { ext := true }
    (be32 (2 ^ 24 + 2 ^ 28 + 3) ++ be32 10 ++ be32 99) =
    ⟨{ ext := true, userCap := 2 ^ 24 + 2 ^ 28 + 3, maxUnsol := 10 }, [], []⟩ := by
  decide

/-- **nothing unsolicited beyond the negotiated capabilities**: a provide leaves the server
unasked only if the client's last capability word allows provides and the text is not longer than
the client's announced limit; a notify only if the client accepts notifies; a client that did not
enable the extension never gets an extended message (only the classic fallback). -/
theorem caps_negotiation_unsolicited (cl : Cl) (t : Bytes) (fb : Option Bytes) :
    (∀ r, SMsg.provide r ∈ (sendUtf8One cl t fb).2 →
        cl.ext = true ∧ cl.userCap.testBit bProvide = true ∧ t.length ≤ cl.maxUnsol) ∧
    (SMsg.notify ∈ (sendUtf8One cl t fb).2 → cl.ext = true ∧ cl.userCap.testBit bNotify = true) ∧
    (cl.ext = false → ∀ m ∈ (sendUtf8One cl t fb).2, ∃ f, fb = some f ∧ m = .classic f) := by
  fun_cases sendUtf8One cl t fb
  case case1 => simp  -- not fully connected: nothing sent
  case case2 he _ _ h => simpa [he] using h  -- extended, unsolicited provide allowed
  case case3 he _ _ _ hN => simp [he, hN]  -- extended, notify
  case case4 he _ _ _ _ => simp [he]  -- extended, nothing
  case case5 => simp  -- classic, fallback
  case case6 => simp  -- classic, no fallback

/-! ## 4. limits: only the offender is closed -/

/-- **classic length limit, exact**: a ClientCutText header announcing `n` bytes (not interpreted as
extended: extension off, or `n < 2^31`) is accepted iff `n ≤ srvMsgLimit`: with `n = limit` (and the
bytes present) the text is delivered; with `n = limit + 1` — or anything larger — the connection is
closed before a single body byte is read, with no callback and no reply. -/
theorem oversize_closes_classic (Z : Zlib) (env : Env) (cfg : Cfg) (cl : Cl) (p1 p2 p3 : UInt8)
    (n : Nat) (tail : Bytes) (hn : n < 4294967296)
    (hcl : cl.ext = false ∨ n < 2147483648) :
    (n ≤ srvMsgLimit → n ≤ tail.length →
      stepMsg Z env cfg cl ((6 : UInt8) :: p1 :: p2 :: p3 :: (be32 n ++ tail)) =
        .next cl (if cl.viewOnly then [] else [Cb.latin1 (tail.take n)]) [] (8 + n)) ∧
    (n > srvMsgLimit →
      stepMsg Z env cfg cl ((6 : UInt8) :: p1 :: p2 :: p3 :: (be32 n ++ tail)) =
        .closed (closeCl cl) [] []) := by
  rw [stepMsg_plain Z env cfg cl p1 p2 p3 n tail hn hcl]
  exact ⟨fun h1 h2 => if_pos ⟨h1, h2⟩, fun h1 => if_neg (fun h => Nat.not_lt.2 h.1 h1)⟩

/-- **extended messages are accepted only after negotiation**: on a client that has not enabled the
extension (never announced the pseudo-encoding, or the application has no UTF-8 callback, or its
Caps message withdrew the text format) every sign-encoded length is just a huge classic length:
the connection is closed, nothing is delivered, nothing is sent.  (Second conjunct: a new client
record starts in that state.) -/
theorem caps_negotiation (Z : Zlib) (env : Env) (cfg : Cfg) (cl : Cl) (p1 p2 p3 : UInt8) (n : Nat)
    (tail : Bytes) (he : cl.ext = false) (h1 : 2147483648 ≤ n) (h2 : n < 4294967296) :
    stepMsg Z env cfg cl ((6 : UInt8) :: p1 :: p2 :: p3 :: (be32 n ++ tail)) =
      .closed (closeCl cl) [] [] ∧
    ({} : Cl).ext = false := by
  have hlim : srvMsgLimit = 1048576 := rfl
  exact ⟨(oversize_closes_classic Z env cfg cl p1 p2 p3 n tail h2 (Or.inl he)).2 (by omega), rfl⟩

/-- the limit is exactly 1 MiB and both sides of it are inhabited -/
example : srvMsgLimit = 1048576 ∧ srvMsgLimit + 1 > srvMsgLimit ∧ srvMsgLimit + 1 < 2147483648 := by decide

/-- **extended length limit, exact**: on a client with the extension enabled a sign-encoded length
`-n` is accepted iff `n ≤ srvMsgLimit`; `n = limit + 1` (or more, up to `2^31`) closes the
connection with no callback and no reply. -/
theorem oversize_closes_extended (Z : Zlib) (env : Env) (cfg : Cfg) (cl : Cl) (p1 p2 p3 : UInt8)
    (n : Nat) (tail : Bytes) (he : cl.ext = true) (h1 : n > srvMsgLimit) (h2 : n ≤ 2147483648) :
    stepMsg Z env cfg cl ((6 : UInt8) :: p1 :: p2 :: p3 :: (be32 (neg32 n) ++ tail)) =
      .closed (closeCl cl) [] [] :=
  stepMsg_ext_oversize Z env cfg cl p1 p2 p3 n tail he h1 h2

/-- **record size limit, exact** (inside the zlib stream): a text record announcing `sz` bytes is
refused — connection closed, no callback — as soon as `sz > srvRecLimit`, whatever follows in the
stream; `sz = srvRecLimit` is accepted by `client_to_app_exact_provide`. -/
theorem oversize_closes_record (Z : Zlib) (env : Env) (cfg : Cfg) (cl : Cl) (flags sz : Nat)
    (z more : Bytes) (fin : Fin) (hfl : flags < 4294967296)
    (hcaps : flags.testBit bCaps = false) (hreq : flags.testBit bRequest = false)
    (hpeek : flags.testBit bPeek = false) (hprov : flags.testBit bProvide = true)
    (htext : flags.testBit 0 = true)
    (hz : Z.inflateAll z = ⟨be32 sz ++ more, fin⟩) (hsz : sz < 4294967296) (hbig : sz > srvRecLimit) :
    handleExt Z env cfg cl (be32 flags ++ z) = ⟨closeCl cl, [], []⟩ := by
  exact handleExt_refused Z env cfg cl flags z hfl hcaps hreq hpeek hprov htext
    (readRecord_oversize env srvRecLimit sz _ more (by simp [ZState.init, hz]) hsz hbig)

/-- **malformed: declared size larger than the data present** (the defect fixed by
fixes/C18-provide-size-check.diff): closed, no callback — the application never sees bytes that
were not in the stream. -/
theorem malformed_closes_short_record (Z : Zlib) (env : Env) (cfg : Cfg) (cl : Cl) (flags sz : Nat)
    (z have_ : Bytes) (fin : Fin) (hfl : flags < 4294967296)
    (hcaps : flags.testBit bCaps = false) (hreq : flags.testBit bRequest = false)
    (hpeek : flags.testBit bPeek = false) (hprov : flags.testBit bProvide = true)
    (htext : flags.testBit 0 = true)
    (hz : Z.inflateAll z = ⟨be32 sz ++ have_, fin⟩) (hsz : sz < 4294967296)
    (hshort : have_.length < sz) :
    handleExt Z env cfg cl (be32 flags ++ z) = ⟨closeCl cl, [], []⟩ := by
  exact handleExt_refused Z env cfg cl flags z hfl hcaps hreq hpeek hprov htext
    (readRecord_short env srvRecLimit sz _ have_ (by simp [ZState.init, hz]) hsz hshort)

/-- **malformed: too short for a flag word** (sign-encoded lengths −1, −2, −3 … and −0 is not
negative): closed. -/
theorem malformed_closes_no_flags (Z : Zlib) (env : Env) (cfg : Cfg) (cl : Cl) (body : Bytes)
    (h : body.length < 4) : handleExt Z env cfg cl body = ⟨closeCl cl, [], []⟩ := by
  unfold handleExt
  simp [extMinLen, h]

/-- **malformed: stream too short for a size word, or in error before it** (truncated zlib data,
garbage): closed, no callback — for every value the uninitialised `size` variable may hold. -/
theorem malformed_closes_truncated (Z : Zlib) (env : Env) (cfg : Cfg) (cl : Cl) (flags : Nat)
    (z : Bytes) (hfl : flags < 4294967296)
    (hcaps : flags.testBit bCaps = false) (hreq : flags.testBit bRequest = false)
    (hpeek : flags.testBit bPeek = false) (hprov : flags.testBit bProvide = true)
    (htext : flags.testBit 0 = true) (hz : (Z.inflateAll z).out.length < 4) :
    handleExt Z env cfg cl (be32 flags ++ z) = ⟨closeCl cl, [], []⟩ := by
  exact handleExt_refused Z env cfg cl flags z hfl hcaps hreq hpeek hprov htext
    (readRecord_tiny env srvRecLimit _ (by simpa [ZState.init] using hz))

/-- **only the offender**: whatever bytes arrive from client `id` — well-formed, oversized or
malformed, any number of messages — every other client's record (open/closed, capabilities, cached
text) and the screen configuration are exactly what they were; callbacks and replies of that input
belong to `id` alone (`FeedRes` carries no other client). -/
theorem oversize_closes_only_offender (Z : Zlib) (env : Env) (s : Sys) (id j : Nat) (input : Bytes)
    (hj : j ≠ id) :
    (s.feed Z env id input).1.get j = s.get j ∧ (s.feed Z env id input).1.cfg = s.cfg := by
  unfold Sys.feed
  cases hg : s.get id with
  | none => exact ⟨rfl, rfl⟩
  | some cl => exact ⟨get_set_ne s id j _ hj, rfl⟩

/-- **intact or not at all** (every flag word, every stream, every `env`): whatever a provide
message makes the handler deliver to `setXCutTextUTF8` is a record that is literally present in the
inflated stream — four bytes announcing its length, then exactly these bytes, at most
`srvRecLimit` of them.  No byte the client did not send ever reaches the application. -/
theorem client_to_app_no_invented_bytes (Z : Zlib) (env : Env) (cfg : Cfg) (cl : Cl) (flags : Nat)
    (z : Bytes) (hfl : flags < 4294967296) (hcaps : flags.testBit bCaps = false)
    (hreq : flags.testBit bRequest = false) (hpeek : flags.testBit bPeek = false) :
    (∀ b, Cb.utf8 b ∈ (handleExt Z env cfg cl (be32 flags ++ z)).cbs →
      IsRecordOf (Z.inflateAll z).out b srvRecLimit) ∧
    (∀ b, Cb.latin1 b ∉ (handleExt Z env cfg cl (be32 flags ++ z)).cbs) ∧
    ((handleExt Z env cfg cl (be32 flags ++ z)).cl = cl ∨
     (handleExt Z env cfg cl (be32 flags ++ z)).cl = closeCl cl) := by
  by_cases hp : flags.testBit bProvide = true
  · rw [handleExt_provide Z env cfg cl flags z hfl hcaps hreq hpeek hp]
    have hs := provLoop_sound env cfg cl.viewOnly flags (Z.inflateAll z).out (List.range nFormatBits)
      (ZState.init Z z) [] ⟨[], rfl⟩
    refine ⟨fun b hb => ?_, fun b hb => ?_, ?_⟩
    · rcases hs _ hb with h | ⟨b', hb', hr⟩
      · cases h
      · cases hb'; exact hr
    · rcases hs _ hb with h | ⟨b', hb', _⟩
      · cases h
      · cases hb'
    · split
      · exact Or.inl rfl
      · exact Or.inr rfl
  · have hlen : ¬ 4 + z.length < 4 := by omega
    simp [handleExt, extMinLen, be32_length, hlen, rd32_be32 _ hfl, hcaps, hreq, hpeek, hp]

/-! ## 5. request / peek after a publish -/

/-- **request → provide**: after the application published `t`, an extended client that sends a
Request (any flag word with the request bit and without the caps bit, any trailing bytes) is
answered with exactly one provide whose record is the published text plus NUL, declared size
`|t| + 1` — if and only if its capability word allows provides; its state is otherwise unchanged.
This holds whether the publish itself sent a provide, only a notify, or nothing. -/
theorem request_then_provide (Z : Zlib) (env : Env) (cfg : Cfg) (cl : Cl) (t : Bytes)
    (fb : Option Bytes) (flags : Nat) (junk : Bytes)
    (ho : cl.isOpen = true) (hn : cl.normal = true) (he : cl.ext = true) (hfl : flags < 4294967296)
    (hcaps : flags.testBit bCaps = false) (hreq : flags.testBit bRequest = true) :
    (sendUtf8One cl t fb).1 = { cl with data := some (t ++ [0]) } ∧
    handleExt Z env cfg (sendUtf8One cl t fb).1 (be32 flags ++ junk) =
      ⟨(sendUtf8One cl t fb).1, [],
       if cl.userCap.testBit bProvide = true then [.provide (record (t ++ [0]))] else []⟩ := by
  have hst : (sendUtf8One cl t fb).1 = { cl with data := some (t ++ [0]) } := by
    rw [sendUtf8One_fst, if_pos ⟨ho, hn, he⟩]
  refine ⟨hst, ?_⟩
  rw [hst, handleExt_request Z env cfg _ flags junk hfl hcaps hreq]
  cases cl.userCap.testBit bProvide <;> simp

/-- **peek → notify**: likewise a Peek is answered with one notify iff the client accepts notifies. -/
theorem peek_then_notify (Z : Zlib) (env : Env) (cfg : Cfg) (cl : Cl) (t : Bytes)
    (fb : Option Bytes) (flags : Nat) (junk : Bytes)
    (ho : cl.isOpen = true) (hn : cl.normal = true) (he : cl.ext = true) (hfl : flags < 4294967296)
    (hcaps : flags.testBit bCaps = false) (hreq : flags.testBit bRequest = false)
    (hpeek : flags.testBit bPeek = true) :
    handleExt Z env cfg (sendUtf8One cl t fb).1 (be32 flags ++ junk) =
      ⟨(sendUtf8One cl t fb).1, [], if cl.userCap.testBit bNotify = true then [.notify] else []⟩ := by
  rw [sendUtf8One_fst, if_pos ⟨ho, hn, he⟩, handleExt_peek Z env cfg _ flags junk hfl hcaps hreq hpeek]
  cases cl.userCap.testBit bNotify <;> simp

/-- before anything was published there is nothing to provide: a Request is silently ignored -/
theorem request_without_publish (Z : Zlib) (env : Env) (cfg : Cfg) (cl : Cl) (flags : Nat)
    (junk : Bytes) (hd : cl.data = none) (hfl : flags < 4294967296)
    (hcaps : flags.testBit bCaps = false) (hreq : flags.testBit bRequest = true) :
    handleExt Z env cfg cl (be32 flags ++ junk) = ⟨cl, [], []⟩ := by
  rw [handleExt_request Z env cfg cl flags junk hfl hcaps hreq, hd]

/-- non-vacuity: notify-only publish (text longer than the client's limit), then request -/
example : (sendUtf8One { ext := true, maxUnsol := 1 } [65, 66] none).2 = [.notify] ∧
    (handleExt ⟨fun _ => ⟨[], .err⟩, id, id⟩ ⟨0⟩ ⟨true⟩
      (sendUtf8One { ext := true, maxUnsol := 1 } [65, 66] none).1 (be32 (2 ^ 25 + 1))).out =
      [.provide (record [65, 66, 0])] := by decide

/-! ## 6. LibVNCClient decodes what the server encodes (and vice versa) -/

/-- **server provide → client callback** (composition under the zlib law): the wire bytes of a
provide whose record is `d` (for a publish of `t`: `d = t ++ [0]`), followed by any further server
output `rest`, make `GotXCutTextUTF8` receive exactly `d`; the client keeps the connection. -/
theorem client_roundtrip_provide (Z : Zlib) (hZ : ZLaw Z) (env : Env) (c : LC) (d rest : Bytes)
    (hu : c.hasU8 = true) (hd1 : d ≠ []) (hd2 : d.length ≤ cliRecLimit)
    (hm : 4 + (Z.compress (record d)).length ≤ cliMsgLimit) :
    cliFeed Z env c (SMsg.wire Z (.provide (record d)) ++ rest) =
      ⟨(cliFeed Z env c rest).c, CCb.utf8 d :: (cliFeed Z env c rest).cbs,
       (cliFeed Z env c rest).dropped, (cliFeed Z env c rest).unmodelled⟩ := by
  have hlim : cliRecLimit = 1048576 := rfl
  have hlim2 : cliMsgLimit = 1048576 := rfl
  rw [cliFeed_provide Z env hZ c d rest hu hd1 (by omega) (by omega), if_pos ⟨hm, hd2⟩]

/-- **classic ServerCutText → `GotXCutText`**: exactly the `|t| ≤ 1 MiB` bytes the server put in. -/
theorem client_roundtrip_classic (Z : Zlib) (env : Env) (c : LC) (t rest : Bytes)
    (hl1 : c.hasL1 = true) (hl : t.length ≤ cliMsgLimit) :
    cliFeed Z env c (SMsg.wire Z (.classic t) ++ rest) =
      ⟨(cliFeed Z env c rest).c, CCb.latin1 t :: (cliFeed Z env c rest).cbs,
       (cliFeed Z env c rest).dropped, (cliFeed Z env c rest).unmodelled⟩ := by
  have hlim : cliMsgLimit = 1048576 := rfl
  have hstep : cliStepMsg Z env c (SMsg.wire Z (.classic t) ++ rest) =
      CStep.next c [CCb.latin1 t] (8 + t.length) := by
    have hge : ¬ t.length ≥ 2147483648 := by omega
    rw [wire_classic_append, cliStepMsg_cut Z env c 0 0 0 _ (by omega) _]
    simp [hge, List.take_left' rfl, Nat.not_lt.mpr hl, hl1]
  rw [cliFeed_msg Z env c c _ rest _ _ (by simp [SMsg.wire, be32_length]; omega) (by omega) hstep]
  rfl

/-- **the server's capability message enables `SendClientCutTextUTF8`**: after it the client's
capability word is non-zero (text), no callback is made, the connection is kept. -/
theorem client_roundtrip_caps (Z : Zlib) (env : Env) (c : LC) (rest : Bytes) (hu : c.hasU8 = true) :
    cliFeed Z env c (SMsg.wire Z .caps ++ rest) =
      ⟨(cliFeed Z env { c with caps := c.caps ||| 1 } rest).c,
       (cliFeed Z env { c with caps := c.caps ||| 1 } rest).cbs,
       (cliFeed Z env { c with caps := c.caps ||| 1 } rest).dropped,
       (cliFeed Z env { c with caps := c.caps ||| 1 } rest).unmodelled⟩ ∧
    (c.caps ||| 1) ≠ 0 := by
  constructor
  · have hext : cliExt Z env c [23, 0, 0, 1, 0, 16, 0, 0] = some ({ c with caps := c.caps ||| 1 }, []) := by
      have hrd : rd32 ([23, 0, 0, 1, 0, 16, 0, 0] : Bytes) = 385875969 := by decide
      have h2 : (385875969 : Nat).testBit bProvide = true := by decide
      have h3 : (385875969 : Nat).testBit bCaps = true := by decide
      unfold cliExt
      simp [hrd, h2, h3, bText]
    have h := cliFeed_ext Z env c [23, 0, 0, 1, 0, 16, 0, 0] rest hu (by decide) (by decide)
    rw [hext] at h
    rw [wire_caps, h]
    simp
  · intro h
    have : (c.caps ||| 1).testBit 0 = true := by simp
    rw [h] at this
    simp at this

/-- **over-limit text is refused by the client alone**: a classic ServerCutText announcing more
than `cliMsgLimit` bytes makes the client give up its own connection (the server model is not
involved: other connections are untouched by construction). -/
theorem client_refuses_oversize (Z : Zlib) (env : Env) (c : LC) (p1 p2 p3 : UInt8) (n : Nat)
    (tail : Bytes) (hn : n < 2147483648) (hbig : n > cliMsgLimit) :
    cliFeed Z env c ((3 : UInt8) :: p1 :: p2 :: p3 :: (be32 n ++ tail)) = ⟨c, [], true, false⟩ := by
  have hge : ¬ n ≥ 2147483648 := by omega
  apply cliFeed_drop
  rw [cliStepMsg_cut Z env c p1 p2 p3 n (by omega) tail]
  simp [hge, hbig]

/- Full-strength statement (false of the code for incompressible texts near 1 MiB, as in section 1):
     every open extended client whose capabilities allow it receives `t ++ [0]` for every
     `t.length + 1 ≤ 2^20`.  Proved: for every text whose compressed provide message fits the
     client's message limit (`4 + |compress (record (t ++ [0]))| ≤ cliMsgLimit`); longer messages
     make the client give up its connection (`client_refuses_oversize`, same step for the
     sign-encoded length). -/

/-- **round trip for a whole population**: publish `t` (fallback `f`) on any screen; a LibVNCClient
sitting on the connection of an open extended client whose capabilities allow the unsolicited
provide gets `GotXCutTextUTF8 (t ++ [0])`; one on an open classic connection gets `GotXCutText f`.
Partial: the compressed-size hypothesis of the extended half. -/
theorem client_roundtrip_partial (Z : Zlib) (hZ : ZLaw Z) (env : Env) (cl : Cl) (c : LC) (t f : Bytes)
    (ho : cl.isOpen = true) (hn : cl.normal = true) :
    (cl.ext = true → cl.userCap.testBit bProvide = true → t.length ≤ cl.maxUnsol → c.hasU8 = true →
      t.length + 1 ≤ cliRecLimit → 4 + (Z.compress (record (t ++ [0]))).length ≤ cliMsgLimit →
      cliFeed Z env c ((expectUtf8 cl t (some f)).flatMap (SMsg.wire Z)) =
        ⟨c, [CCb.utf8 (t ++ [0])], false, false⟩) ∧
    (cl.ext = false → c.hasL1 = true → f.length ≤ cliMsgLimit →
      cliFeed Z env c ((expectUtf8 cl t (some f)).flatMap (SMsg.wire Z)) =
        ⟨c, [CCb.latin1 f], false, false⟩) := by
  constructor
  · intro he hp hle hu hs hm
    have : expectUtf8 cl t (some f) = [.provide (record (t ++ [0]))] := by
      simp [expectUtf8, ho, hn, he, hp, hle]
    rw [this]
    have h := client_roundtrip_provide Z hZ env c (t ++ [0]) [] hu (by simp) (by simpa using hs) hm
    simpa [cliFeed_nil] using h
  · intro he hl1 hl
    have : expectUtf8 cl t (some f) = [.classic f] := by
      simp [expectUtf8, ho, hn, he]
    rw [this]
    have h := client_roundtrip_classic Z env c f [] hl1 hl
    simpa [cliFeed_nil] using h


/-! ## 7. the exact set of texts that make the extended round trip -/

/-- **the texts the server accepts from `SendClientCutTextUTF8`** — a decidable predicate on
(zlib, text): the record (text plus NUL) is within the record limit AND the sync-flushed compressed
message is within the message limit.  For a text of exactly 1 MiB the first conjunct fails: the
1 MiB bound of both receive paths counts the terminating NUL, so the largest extended text is
`2^20 − 1` bytes (the classic message carries `2^20`). -/
def fitsServer (Z : Zlib) (t : Bytes) : Bool :=
  decide (t.length + 1 ≤ srvRecLimit) &&
  decide (4 + (Z.compressSync (record (t ++ [0]))).length ≤ srvMsgLimit)

/-- the texts LibVNCClient accepts from `rfbSendServerCutTextUTF8` -/
def fitsClient (Z : Zlib) (t : Bytes) : Bool :=
  decide (t.length + 1 ≤ cliRecLimit) &&
  decide (4 + (Z.compress (record (t ++ [0]))).length ≤ cliMsgLimit)

/-- the record limit seen from the sender: compressed message fits, record does not → closed -/
theorem client_to_app_record_oversize (Z : Zlib) (hZ : ZLaw Z) (env : Env) (cfg : Cfg) (cl : Cl) (c : LC)
    (t rest : Bytes) (ho : cl.isOpen = true) (he : cl.ext = true) (hc : c.caps ≠ 0)
    (hint : t.length < 2147483647) (hbig : t.length + 1 > srvRecLimit)
    (hm : 4 + (Z.compressSync (record (t ++ [0]))).length ≤ srvMsgLimit) :
    ∃ w, cliSendUtf8 Z c t = some w ∧ feed Z env cfg cl (w ++ rest) = ⟨closeCl cl, [], [], false⟩ := by
  refine ⟨cliNotifyMsg ++ cliProvideMsg (Z.compressSync (record (t ++ [0]))), by simp [cliSendUtf8, hc], ?_⟩
  rw [List.append_assoc, client_notify_ignored Z env cfg cl _ ho he, cliProvideMsg_eq,
    feed_ext Z env cfg cl _ rest _ ho he (by rw [be32_append_length]; omega)
      (by rw [be32_append_length]; omega)
      (oversize_closes_record Z env cfg cl cliProvideFlags (t.length + 1) _ (t ++ [0]) .more (by decide)
        (by decide) (by decide) (by decide) (by decide) (by decide)
        (by rw [hZ.inflate_sync (record (t ++ [0]))]; simp [record]) (by omega) hbig)]
  rfl

/-- **client → application, the full characterisation**: for every zlib satisfying the law and
every text (length below `INT_MAX`, compressed message representable as a sign-encoded length),
what `SendClientCutTextUTF8(t)` writes is
* delivered — `setXCutTextUTF8` gets exactly `t ++ [0]`, nothing else happens — if `fitsServer Z t`,
* answered by closing the sender with no callback at all otherwise;
in particular (fully connected extended client, callback installed, not view-only) the text arrives
intact **iff** `fitsServer Z t`. -/
theorem client_to_app_exact_iff (Z : Zlib) (hZ : ZLaw Z) (env : Env) (cfg : Cfg) (cl : Cl) (c : LC)
    (t : Bytes) (ho : cl.isOpen = true) (he : cl.ext = true) (hc : c.caps ≠ 0)
    (hint : t.length < 2147483647)
    (h31 : 4 + (Z.compressSync (record (t ++ [0]))).length ≤ 2147483648) :
    ∃ w, cliSendUtf8 Z c t = some w ∧
      feed Z env cfg cl w =
        (if fitsServer Z t = true then
          ⟨cl, if !cl.viewOnly && cfg.cb8 then [Cb.utf8 (t ++ [0])] else [], [], false⟩
         else ⟨closeCl cl, [], [], false⟩) ∧
      (cl.viewOnly = false → cfg.cb8 = true →
        (((feed Z env cfg cl w).cbs = [Cb.utf8 (t ++ [0])] ∧ (feed Z env cfg cl w).cl = cl) ↔
          fitsServer Z t = true)) := by
  obtain ⟨w, hw, hfeed⟩ : ∃ w, cliSendUtf8 Z c t = some w ∧
      feed Z env cfg cl w =
        (if fitsServer Z t = true then
          ⟨cl, if !cl.viewOnly && cfg.cb8 then [Cb.utf8 (t ++ [0])] else [], [], false⟩
         else ⟨closeCl cl, [], [], false⟩) := by
    by_cases hm : 4 + (Z.compressSync (record (t ++ [0]))).length ≤ srvMsgLimit
    · by_cases hrec : t.length + 1 ≤ srvRecLimit
      · obtain ⟨w, h1, h2⟩ := client_to_app_exact_partial Z hZ env cfg cl c t [] ho he hc hrec hm
        exact ⟨w, h1, by simpa [fitsServer, hrec, hm, feed_nil] using h2⟩
      · obtain ⟨w, h1, h2⟩ := client_to_app_record_oversize Z hZ env cfg cl c t [] ho he hc hint (by omega) hm
        exact ⟨w, h1, by simpa [fitsServer, hrec] using h2⟩
    · obtain ⟨w, h1, h2⟩ := client_to_app_compressed_oversize Z env cfg cl c t [] ho he hc (by omega) h31
      exact ⟨w, h1, by simpa [fitsServer, hm] using h2⟩
  refine ⟨w, hw, hfeed, fun hv hcb => ?_⟩
  rw [hfeed]
  by_cases hf : fitsServer Z t = true <;> simp [hf, hv, hcb]

/-- **server → LibVNCClient, the full characterisation**: the provide message of a publish of `t`
is delivered to `GotXCutTextUTF8` as exactly `t ++ [0]` if `fitsClient Z t`, and makes the client
give up its connection without any callback otherwise — so it arrives intact **iff** `fitsClient Z t`. -/
theorem client_roundtrip_iff (Z : Zlib) (hZ : ZLaw Z) (env : Env) (c : LC) (t : Bytes)
    (hu : c.hasU8 = true) (hint : t.length < 2147483647)
    (h31 : 4 + (Z.compress (record (t ++ [0]))).length ≤ 2147483648) :
    cliFeed Z env c (SMsg.wire Z (.provide (record (t ++ [0])))) =
      (if fitsClient Z t = true then ⟨c, [CCb.utf8 (t ++ [0])], false, false⟩ else ⟨c, [], true, false⟩) ∧
    (((cliFeed Z env c (SMsg.wire Z (.provide (record (t ++ [0]))))).cbs = [CCb.utf8 (t ++ [0])] ∧
      (cliFeed Z env c (SMsg.wire Z (.provide (record (t ++ [0]))))).dropped = false) ↔
        fitsClient Z t = true) := by
  have key : cliFeed Z env c (SMsg.wire Z (.provide (record (t ++ [0])))) =
      (if fitsClient Z t = true then ⟨c, [CCb.utf8 (t ++ [0])], false, false⟩ else ⟨c, [], true, false⟩) := by
    have h := cliFeed_provide Z env hZ c (t ++ [0]) [] hu (by simp) (by simp; omega) h31
    rw [List.append_nil, cliFeed_nil] at h
    simpa [fitsClient, and_comm] using h
  refine ⟨key, ?_⟩
  rw [key]
  by_cases hf : fitsClient Z t = true <;> simp [hf]

/-- **a text of exactly 1 MiB does not make the extended trip** (distinct from the compressed-size
bound: an off-by-one of the record limit, which counts the NUL): `fitsServer` and `fitsClient` are
false for every zlib, while the classic message of the same text is delivered
(`client_to_app_exact_classic` with `|t| = srvMsgLimit`).  The largest extended text is `2^20 − 1`. -/
theorem extended_limit_counts_the_nul (Z : Zlib) (t : Bytes) (h : t.length = srvRecLimit) :
    fitsServer Z t = false ∧ fitsClient Z t = false ∧ t.length ≤ srvMsgLimit := by
  have h1 : srvRecLimit = 1048576 := rfl
  have h2 : cliRecLimit = 1048576 := rfl
  have h3 : srvMsgLimit = 1048576 := rfl
  simp [fitsServer, fitsClient]
  omega

/-- **zero-size record**: a provide whose text record announces 0 bytes (an empty text without the
mandatory NUL) is refused whatever the stream style — `compress()`-style (the first `inflate`
already returns `Z_STREAM_END`, which the size read does not accept) or sync-flushed (the second
call has no output space) — connection closed, no callback.  The protocol requires the NUL, so
the smallest legal record has size 1 (`client_to_app_exact_provide` with `d = [0]`). -/
theorem zero_size_record_closes (Z : Zlib) (env : Env) (cfg : Cfg) (cl : Cl) (flags : Nat)
    (z more : Bytes) (fin : Fin) (hfl : flags < 4294967296)
    (hcaps : flags.testBit bCaps = false) (hreq : flags.testBit bRequest = false)
    (hpeek : flags.testBit bPeek = false) (hprov : flags.testBit bProvide = true)
    (htext : flags.testBit 0 = true) (hz : Z.inflateAll z = ⟨be32 0 ++ more, fin⟩) :
    handleExt Z env cfg cl (be32 flags ++ z) = ⟨closeCl cl, [], []⟩ := by
  exact handleExt_refused Z env cfg cl flags z hfl hcaps hreq hpeek hprov htext
    (readRecord_zero env srvRecLimit _ more (by simp [ZState.init, hz]))

/-- **a sender that vanishes**: input from a client that closed its end right after writing is
processed (callbacks are made for the texts it sent), nothing is written to it, and it ends up
closed — at the first reply that cannot be written (capability message, requested provide, notify)
or at the end of its data. -/
theorem vanished_sender_is_closed (Z : Zlib) (env : Env) (cfg : Cfg) (cl : Cl) (input : Bytes)
    (ho : cl.isOpen = true) :
    (feedGone Z env cfg cl input).out = [] ∧
    ((feedGone Z env cfg cl input).unmodelled = false → (feedGone Z env cfg cl input).cl.isOpen = false) := by
  fun_induction feedGone Z env cfg cl input with
  | case1 cl => simp [closeCl]  -- end of the data: read of 0 bytes
  | case2 cl t rest hc => simp [ho] at hc  -- client already closed
  | case3 cl t rest hc cl' cbs out k hs hout => simp [closeCl]  -- a reply is due: the write fails
  | case4 cl t rest hc cl' cbs out k hs hout r ih =>  -- step goes on without a reply
    have hwf := stepMsg_wf Z env cfg cl (t :: rest) ho
    rw [hs] at hwf
    exact ⟨rfl, (ih hwf).2⟩
  | case5 cl t rest hc cl' cbs out hs =>  -- step closes
    have hwf := stepMsg_wf Z env cfg cl (t :: rest) ho
    rw [hs] at hwf
    exact ⟨rfl, fun _ => hwf⟩
  | case6 cl t rest hc hs => simp  -- unmodelled message

/-- **a viewer that was view-only and is granted input later still delivers its clipboard**: the
server's SupportedMessages list contains ClientCutText unconditionally (T0 `srvListsCutText`, and
the harness reads the list back from LibVNCClient: `sup…:11:same`), so `SendClientCutText` writes
the message, and once `viewOnly` is cleared the handler delivers exactly `t`. -/
theorem granted_viewer_delivers (Z : Zlib) (env : Env) (cfg : Cfg) (cl : Cl) (c : LC) (t : Bytes)
    (hs : srvListsCutText = true → c.supportsCut = true)
    (ho : cl.isOpen = true) (hl : t.length ≤ srvMsgLimit) :
    ∃ w, cliSendClassicIf c t = some w ∧
      (feed Z env cfg { cl with viewOnly := false } w).cbs = [Cb.latin1 t] ∧
      (feed Z env cfg { cl with viewOnly := true } w).cbs = [] := by
  have hc : c.supportsCut = true := hs rfl
  refine ⟨cliSendClassic t, by simp [cliSendClassicIf, hc], ?_, ?_⟩
  · have h := client_to_app_exact_classic Z env cfg { cl with viewOnly := false } t [] ho hl
    rw [List.append_nil] at h
    rw [h, feed_nil]; simp
  · have h := client_to_app_exact_classic Z env cfg { cl with viewOnly := true } t [] ho hl
    rw [List.append_nil] at h
    rw [h, feed_nil]; simp

/-! ## non-vacuity: the theorems instantiated with the tagged-identity zlib -/

/-- the "compression" the driver uses for streams the two libraries exchange: a tag byte, then the
data; it satisfies `ZLaw` -/
def zId : Zlib :=
  ⟨fun z => match z with | 1 :: x => ⟨x, .done⟩ | 2 :: x => ⟨x, .more⟩ | _ => ⟨[], .err⟩,
   fun x => 1 :: x, fun x => 2 :: x⟩

theorem zId_law : ZLaw zId := ⟨fun _ => rfl, fun _ => rfl, fun _ => by simp [zId], fun _ => by simp [zId]⟩

/-- client → application, extended: "hi" with the library client as sender arrives as "hi\0" -/
example : ∃ w, cliSendUtf8 zId ⟨true, true, 1, true⟩ [104, 105] = some w ∧
    (feed zId ⟨0⟩ ⟨true⟩ { ext := true } w).cbs = [Cb.utf8 [104, 105, 0]] := by
  obtain ⟨w, h1, h2⟩ := client_to_app_exact_partial zId zId_law ⟨0⟩ ⟨true⟩ { ext := true }
    ⟨true, true, 1, true⟩ [104, 105] [] rfl rfl (by decide) (by decide) (by decide)
  refine ⟨w, h1, ?_⟩
  rw [List.append_nil] at h2
  rw [h2, feed_nil]; rfl

/-- a flag word with unknown bits (16..23, 27, 29) still counts as provide(text) -/
example : ((2 ^ 28 + 2 ^ 29 + 2 ^ 27 + 2 ^ 20 + 1 : Nat).testBit bCaps = false) ∧
    ((2 ^ 28 + 2 ^ 29 + 2 ^ 27 + 2 ^ 20 + 1 : Nat).testBit bProvide = true) ∧
    (∀ i, 1 ≤ i → i < 16 → (2 ^ 28 + 2 ^ 29 + 2 ^ 27 + 2 ^ 20 + 1 : Nat).testBit i = false) :=
  ⟨by decide, by decide, bits_of_range _ (by decide)⟩

/-- enabling: three encodings, the pseudo-encoding twice -/
example : stepMsg zId ⟨0⟩ ⟨true⟩ {} ((2 : UInt8) :: 0 ::
      UInt8.ofNat ([encExtendedClipboard, 0, encExtendedClipboard].length / 256) ::
      UInt8.ofNat ([encExtendedClipboard, 0, encExtendedClipboard].length % 256) ::
      ([encExtendedClipboard, 0, encExtendedClipboard].flatMap be32 ++ [])) =
    Step.next { ext := true } [] [.caps, .caps] 16 := by
  rw [caps_negotiation_enable zId ⟨0⟩ ⟨true⟩ {} 0 [encExtendedClipboard, 0, encExtendedClipboard] []
    (by decide) (by decide)]
  rfl

/-- record limit: the hypotheses of `oversize_closes_record` are met by size `limit + 1` -/
example : zId.inflateAll (1 :: (be32 (srvRecLimit + 1) ++ [1, 2, 3])) = ⟨be32 (srvRecLimit + 1) ++ [1, 2, 3], .done⟩ ∧
    srvRecLimit + 1 < 4294967296 ∧ srvRecLimit + 1 > srvRecLimit := ⟨rfl, by decide, by decide⟩

/-- short record: declared 100, present 3 -/
example : handleExt zId ⟨7⟩ ⟨true⟩ { ext := true } (be32 (2 ^ 28 + 1) ++ (1 :: (be32 100 ++ [1, 2, 3]))) =
    ⟨closeCl { ext := true }, [], []⟩ :=
  malformed_closes_short_record zId ⟨7⟩ ⟨true⟩ { ext := true } (2 ^ 28 + 1) 100 _ [1, 2, 3] .done
    (by decide) (by decide) (by decide) (by decide) (by decide) (by decide) rfl (by decide) (by decide)

/-- server → client: a provide of "ok\0" decodes to the same three bytes -/
example : (cliFeed zId ⟨0⟩ ⟨true, true, 0, true⟩ (SMsg.wire zId (.provide (record [111, 107, 0])))).cbs =
    [CCb.utf8 [111, 107, 0]] := by
  have h := client_roundtrip_provide zId zId_law ⟨0⟩ ⟨true, true, 0, true⟩ [111, 107, 0] [] rfl (by simp)
    (by decide) (by decide)
  rw [List.append_nil] at h
  rw [h, cliFeed_nil]


end VncModel.Props.C18
