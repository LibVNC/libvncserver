/-
C19 — File-transfer operations touch the filesystem only when permitted.

WHAT IS MODELLED (VncModel/FileXfer/Model.lean, header has the C ↔ model table): every entry point
of the UltraVNC built-in file transfer of rfbserver.c (rfbProcessFileTransfer with all content types,
rfbSendDirContent, rfbSendFileTransferChunk, rfbSendFileTransferMessage,
rfbProcessFileTransferReadBuffer, rfbFilenameTranslate2UNIX, the rfbFileTransfer case of
rfbProcessClientNormalMessage, rfbCloseClient, rfbClientConnectionGone) and of the TightVNC 1.3
extension (handleMessage gate, ConvertPath, the seven Handle*Request functions), for the code WITH
fixes/C19-ft-fd-leak.diff, fixes/C19-tight-upload-fd-leak.diff,
fixes/C19-tight-path-confinement.diff and fixes/C19-tight-name-size-sign.diff.  The permission callback is a per-call oracle
(`Cfg.cb : Option (Nat → Nat)`, the n-th call returns `f n`); results of libc calls are a script
(`S.env`); the theorems quantify over ALL oracles, scripts, client states and message bytes.
Buffer sizes and protocol numbers are regenerated from /repo on every run (VncModel/Gen/C19.lean).

WHAT THE THEOREMS SAY FOR THE PROPERTY
* `denied_no_effect`, `denied_chunk_no_effect`, `denied_session_no_effect`, `effects_guarded_*`:
  "unless enabled (and the callback agrees) no file-transfer message causes a file or directory to
  be opened, listed, created, written, renamed or deleted, no content or listing is sent, the
  connection is dropped" — for one message of any type/parameters, for every sequence of inputs
  (messages in any order, chunk-sender calls, teardown), and at the granularity of single libc
  calls when the callback changes its answer between calls.
* `effects_on_named_path_only`: when enabled, every libc call names the translated path the client
  named (or `<dir>/<entry>` for a listing).
* `overlong_rejected_not_truncated`, `overlong_no_path_effect`: over-long paths are rejected, the
  translated path is never a truncation and fits its buffer.
* `descriptors_accounted`, `transfer_dies_with_connection`, `dir_handles_released`: over every
  session (UltraVNC and TightVNC clients), each descriptor the file-transfer code opens is recorded
  in the client state or has been closed, after teardown all are closed, and every directory handle
  is closed before its handler returns.
* `tight_name_size_bounded`: the TightVNC name-size field cannot become a negative `short`.
* `refused_upload_leaves_no_name`, `remembered_name_always_accepted`,
  `later_messages_act_on_accepted_paths`: a refused request leaves no usable name in the per-client
  record; whatever follows acts only on paths accepted earlier.
* `tight_gate`, `tight_confined_to_root`: the extension acts only if enabled for the client,
  switched on and the client is not view-only, and every path it hands to libc is below its root.

NOT PROVED (stated in docs/C19.md): that teardown (`cleanup`) calls are made only by
closeClient/reapClient is by construction of the model; lexical confinement assumes a symlink-free
tree below the TightVNC root.
-/
import VncModel.FileXfer.Fds

namespace VncModel.Props.C19
open VncModel.FileXfer VncModel.Gen

/-! ## the numbers the model hard-codes are those of the current headers -/

theorem consts_agree :
    C19.rfbFileTransfer = 7 ∧ C19.sz_rfbFileTransferMsg = 12 ∧
    C19.rfbDirContentRequest = 1 ∧ C19.rfbDirPacket = 2 ∧ C19.rfbFileTransferRequest = 3 ∧
    C19.rfbFileHeader = 4 ∧ C19.rfbFilePacket = 5 ∧ C19.rfbEndOfFile = 6 ∧
    C19.rfbAbortFileTransfer = 7 ∧ C19.rfbFileTransferOffer = 8 ∧ C19.rfbFileAcceptHeader = 9 ∧
    C19.rfbCommand = 10 ∧ C19.rfbCommandReturn = 11 ∧ C19.rfbFileTransferAccess = 14 ∧
    C19.rfbRDirContent = 1 ∧ C19.rfbRDrivesList = 2 ∧ C19.rfbADirectory = 1 ∧ C19.rfbADrivesList = 3 ∧
    C19.rfbADirCreate = 4 ∧ C19.rfbAFileDelete = 7 ∧ C19.rfbAFileRename = 8 ∧
    C19.rfbCDirCreate = 1 ∧ C19.rfbCFileDelete = 4 ∧ C19.rfbCFileRename = 5 ∧
    C19.rfbTRUE = -1 ∧ C19.intMax = 2147483647 ∧
    C19.rfbFileListRequest = 130 ∧ C19.rfbFileDownloadRequest = 131 ∧ C19.rfbFileUploadRequest = 132 ∧
    C19.rfbFileUploadData = 133 ∧ C19.rfbFileDownloadCancel = 134 ∧ C19.rfbFileUploadFailed = 135 ∧
    C19.rfbFileCreateDirRequest = 136 ∧
    C19.sz_rfbFileListRequestMsg = 4 ∧ C19.sz_rfbFileDownloadRequestMsg = 8 ∧
    C19.sz_rfbFileUploadRequestMsg = 8 ∧ C19.sz_rfbFileUploadDataMsg = 6 ∧
    C19.sz_rfbFileDownloadCancelMsg = 4 ∧ C19.sz_rfbFileUploadFailedMsg = 4 ∧
    C19.sz_rfbFileCreateDirRequestMsg = 4 ∧
    C19.filename1Size = C19.MAX_PATH ∧ C19.filename2Size = C19.MAX_PATH ∧ C19.dirPathSize = C19.MAX_PATH ∧
    C19.translateCallSites = 7 ∧ C19.findDataNameOff ≤ C19.findDataFixed := by
  decide

/-! ## (1) not permitted ⇒ no effect, nothing sent, connection dropped -/

/-- **denied_no_effect** (one message).  An UltraVNC file-transfer message — ANY content type, ANY
parameters, ANY following bytes, ANY client state — whose entry test fails (`entryAllowed`: the flag
is off, or the callback's next answer is not TRUE) performs no libc file-system call, sends nothing,
processes no transfer data, leaves the transfer record alone and closes the connection. -/
theorem denied_no_effect (cfg : Cfg) (s : S) (rest : Bytes)
    (hmsg : s.cl.inbuf = 7 :: rest) (hden : entryAllowed cfg s.calls = false) (hq : Quiet s) :
    Quiet (stepMsg cfg s) ∧ (stepMsg cfg s).cl.isOpen = false ∧ (stepMsg cfg s).cl.xf = s.cl.xf := by
  have h7 : isFtType (7 : UInt8).toNat = true := by decide
  have hd := fun s' (h : s'.calls = s.calls) => macroCheck_denied cfg s' (by rw [h]; exact hden)
  have hp := fun ct cp size len s' (h : s'.calls = s.calls) =>
    processFT_denied cfg ct cp size len s' (by rw [h]; exact hden)
  unfold stepMsg
  simp only [emit_cl, hmsg, h7]
  ftsplit [Ev.isNoisy]

/-- non-vacuity: a disabled server (default configuration), a fresh client, a FileTransferRequest -/
example : ∃ (cfg : Cfg) (s : S) (rest : Bytes),
    s.cl.inbuf = 7 :: rest ∧ entryAllowed cfg s.calls = false ∧ Quiet s :=
  ⟨⟨false, none, none, true, []⟩, ⟨{ inbuf := [7, 3, 0, 0, 0, 0, 0, 0, 0, 0, 0, 1, 97] }, 0, [], 0, []⟩, _, rfl, rfl, rfl⟩

/-- **the chunk sender re-checks**: when its test fails it reads nothing and sends nothing (it does
not close the connection; the C comment says so) -/
theorem denied_chunk_no_effect (cfg : Cfg) (s : S) (hden : chunkAllowed cfg s.calls = false) (hq : Quiet s) :
    Quiet (chunkEntry cfg s).2 ∧ (chunkEntry cfg s).2.cl = s.cl := by
  have := chunkCheck_fst cfg (emit .start s)
  unfold chunkEntry chunk
  simp_all [Ev.isNoisy]

/-- **denied_no_effect** (sessions).  Induction over ALL input sequences — client bytes in any
framing and any order of offer/header/packet/abort/command/listing messages, chunk-sender calls,
peer close, teardown: while file transfer cannot be permitted, the whole accumulated trace contains
no libc call, no message to the client and no processed transfer data, and no descriptor is held. -/
theorem denied_session_no_effect (cfg : Cfg) (hn : NeverAllowed cfg) (inputs : List Input) (s : S)
    (h : Idle s) : Idle (runSession cfg s inputs) := by
  refine runSession_ind cfg Idle (fun _ _ h => ?_) (stepMsg_never cfg hn) (chunkEntry_never cfg hn)
    peerGone_never reapClient_never inputs s h
  exact ⟨by simpa using h.1, h.2⟩

example : NeverAllowed ⟨true, some (fun n => if n < 3 then 0 else 2), none, true, []⟩ :=
  Or.inr ⟨_, rfl, fun n => by show (if n < 3 then 0 else 2) ≠ 1; split <;> decide⟩
example : Idle (⟨{}, 0, [], 0, []⟩ : S) := ⟨rfl, rfl, rfl⟩

/-! ## (1') the callback may change its answer between calls: every single effect is guarded -/

/-- **effects_guarded**.  In the trace of any message handler run, every libc call other than a
release of something already open, every message sent and every zlib call on transfer data was made
while the MOST RECENT permission test of that invocation had succeeded (`guardedB`, `lastChk` in
VncModel/FileXfer/Guard.lean) — whatever the callback answers at each of its calls. -/
theorem effects_guarded_message (cfg : Cfg) (s : S) (h : s.evs = []) :
    guardedB (stepMsg cfg s).evs = true :=
  stepMsg_safe cfg s (by simp [Safe, h, guardedB])

theorem effects_guarded_chunk (cfg : Cfg) (s : S) (h : s.evs = []) :
    guardedB (chunkEntry cfg s).2.evs = true :=
  chunkEntry_safe cfg s (by simp [Safe, h, guardedB])

/-- and the same over whole sessions (each invocation starts with `Ev.start`, which resets the
"most recent test") -/
theorem effects_guarded_session (cfg : Cfg) (inputs : List Input) (s : S) (h : Safe s) :
    Safe (runSession cfg s inputs) :=
  runSession_ind cfg Safe (fun _ _ h => h) (stepMsg_safe cfg) (chunkEntry_safe cfg) peerGone_safe
    reapClient_safe inputs s h

/-- what "guarded" excludes, on a concrete trace: an `open` right after a failed test -/
example : guardedB [.fs (.open [97] .rd) "#1", .chk false, .q 0, .start] = false := by decide
example : guardedB [.wire (.ft 4 0 0 0 (.raw [])), .chk true, .q 1, .fs (.open [97] .rd) "#1", .chk true, .q 1, .start] = true := by
  decide

/-! ## (2) when permitted: only the translated path the client named -/

/-- the path(s) a message names, per content type: `buffer` is the payload; `translatePure` is the
pure part of rfbFilenameTranslate2UNIX with the size of the destination buffer the C code passes -/
def named (cfg : Cfg) (ct cp : Nat) (buffer : Bytes) (p : Path) : Prop :=
  (ct = 3 ∧ translatePure cfg.home (cstr buffer) C19.filename1Size = some p) ∨
  (ct = 8 ∧ translatePure cfg.home (offerName (cstr buffer)) C19.filename1Size = some p) ∨
  (ct = 10 ∧ (cp = 1 ∨ cp = 4) ∧ translatePure cfg.home (cstr buffer) C19.filename1Size = some p) ∨
  (ct = 10 ∧ cp = 5 ∧ ∃ a b pa pb, splitLast 42 (cstr buffer) = some (a, b) ∧
    translatePure cfg.home a C19.filename1Size = some pa ∧
    translatePure cfg.home b C19.filename2Size = some pb ∧ (p = pa ∨ p = pb)) ∨
  (ct = 1 ∧ cp = 1 ∧ ∃ d, translatePure cfg.home (cstr buffer) C19.dirPathSize = some d ∧
    (p = d ∨ ∃ entry, p = d ++ 47 :: entry))

/-- **effects_on_named_path_only**.  rfbProcessFileTransfer(contentType, contentParam, size, length)
on any client state: every path handed to libc by the handler is a path `named` by the message
whose payload is the next `length` bytes the client sent. -/
theorem effects_on_named_path_only (cfg : Cfg) (ct cp size len : Nat) (s : S)
    (h : PathsFs (named cfg ct cp (s.cl.inbuf.take len)) s) :
    PathsFs (named cfg ct cp (s.cl.inbuf.take len)) (processFT cfg ct cp size len s) := by
  have hb : ∀ b, (readBuffer cfg len (macroCheck cfg s).2).1 = some b → b = s.cl.inbuf.take len := by
    intro b hb
    have := readBuffer_buf cfg len _ b hb
    simpa using this
  have h1 : PathsFs (named cfg ct cp (s.cl.inbuf.take len)) (macroCheck cfg s).2 := by simpa using h
  unfold processFT
  simp only []
  split
  · exact h1
  · split
    · -- rfbDirContentRequest
      split
      · simpa using h1
      · split
        · split
          · simpa using h1
          · rename_i buffer heq
            have hcp : cp = 1 := by assumption
            refine sendDirContent_paths _ cfg len buffer _ ?_ (by simpa using h1)
            intro d hd
            have hbuf := hb buffer heq
            subst hbuf
            exact ⟨Or.inr (Or.inr (Or.inr (Or.inr ⟨rfl, hcp, d, hd, Or.inl rfl⟩))),
              fun name => Or.inr (Or.inr (Or.inr (Or.inr ⟨rfl, hcp, d, hd, Or.inr ⟨name, rfl⟩⟩)))⟩
        · exact h1
    · refine ftRequest_paths _ cfg size len _ ?_ h1
      intro b hbb p hp
      rw [hb b hbb] at hp
      exact Or.inl ⟨rfl, hp⟩
    · exact ftHeader_paths _ cfg size _ h1
    · exact ftPacket_paths _ cfg size len _ h1
    · exact ftEof_paths _ _ h1
    · exact ftAbort_paths _ cfg cp _ h1
    · refine ftOffer_paths _ cfg len _ ?_ h1
      intro b hbb p hp
      rw [hb b hbb] at hp
      exact Or.inr (Or.inl ⟨rfl, hp⟩)
    · refine ftCommand_paths _ cfg cp len _ ?_ ?_ h1
      · intro hcp b hbb p hp
        rw [hb b hbb] at hp
        exact Or.inr (Or.inr (Or.inl ⟨rfl, hcp, hp⟩))
      · intro hcp b hbb x y hxy pa pb hpa hpb
        rw [hb b hbb] at hxy
        exact ⟨Or.inr (Or.inr (Or.inr (Or.inl ⟨rfl, hcp, x, y, pa, pb, hxy, hpa, hpb, Or.inl rfl⟩))),
          Or.inr (Or.inr (Or.inr (Or.inl ⟨rfl, hcp, x, y, pa, pb, hxy, hpa, hpb, Or.inr rfl⟩)))⟩
    · exact h1

/-- messages that name nothing touch no path at all: file header, packet, end of file, abort, and
every content type the server only logs -/
theorem no_name_no_path (cfg : Cfg) (ct cp : Nat) (buffer : Bytes) (p : Path)
    (hct : ct ≠ 3 ∧ ct ≠ 8 ∧ ct ≠ 10 ∧ ct ≠ 1) : ¬ named cfg ct cp buffer p := by
  unfold named
  omega

example : named ⟨true, none, some [47, 104], true, []⟩ 3 0 [97, 92, 98] [47, 104, 47, 97, 47, 98] :=
  Or.inl ⟨rfl, by decide⟩

/-! ## (3) over-long paths are rejected, not truncated -/

/-- **overlong_rejected_not_truncated**, for the buffer sizes of the current source
(`C19.filename1Size` etc. are regenerated from the `char x[MAX_PATH]` declarations):
(a) a name that does not fit (`strlen ≥ size`) is rejected;
(b) with HOME, a relative name with `strlen(name) + strlen(home) + 1 ≥ size` is rejected;
(c) a translated path is the COMPLETE image of the name — "C:" stripped, or `home/name`, or the
    name — with separators converted, never a prefix of it, and it fits the buffer with its NUL. -/
theorem overlong_rejected_not_truncated (home : Option Path) (path : Path) (n : Nat) :
    (n ≤ path.length → translatePure home path n = none) ∧
    (∀ hm, home = some hm → (∀ rest, path ≠ 67 :: 58 :: rest) → n ≤ path.length + hm.length + 1 →
        translatePure home path n = none) ∧
    (∀ r, translatePure home path n = some r →
        r.length + 1 ≤ n ∧
        ((∃ rest, path = 67 :: 58 :: rest ∧ r = bs2s rest) ∨
         (∃ hm, home = some hm ∧ r = bs2s (hm ++ 47 :: path)) ∨
         (home = none ∧ r = bs2s path))) := by
  unfold translatePure
  refine ⟨?_, ?_, ?_⟩
  · intro h; simp [h]
  · intro hm hh hc hlen
    subst hh
    split
    · rfl
    · split
      · exact absurd rfl (hc _)
      · simp [hlen]
  · intro r hr
    split at hr
    · simp at hr
    · split at hr
      · cases hr; simp [bs2s_length] at *; omega
      · split at hr
        · split at hr
          · simp at hr
          · cases hr; simp [bs2s_length] at *; omega
        · cases hr; simp [bs2s_length] at *; omega

/- the exact boundary for the current MAX_PATH: 259 bytes are accepted, 260 are not; with a
   22-byte HOME, 236 bytes are accepted and 237 are not -/
set_option maxRecDepth 10000 in
example : (translatePure none (List.replicate (C19.MAX_PATH - 1) 120) C19.filename1Size).isSome = true := by
  decide
set_option maxRecDepth 10000 in
example : translatePure none (List.replicate C19.MAX_PATH 120) C19.filename1Size = none := by decide
set_option maxRecDepth 10000 in
example : translatePure (some (List.replicate 22 104)) (List.replicate (C19.MAX_PATH - 24) 120) C19.filename1Size
    ≠ none := by decide
set_option maxRecDepth 10000 in
example : translatePure (some (List.replicate 22 104)) (List.replicate (C19.MAX_PATH - 23) 120) C19.filename1Size
    = none := by decide

/-- **over-long ⇒ no effect on any path** (in particular not on a truncated one): if the name the
message carries is rejected by the translation, the handler hands NO path to libc -/
theorem overlong_no_path_effect (cfg : Cfg) (ct cp size len : Nat) (s : S)
    (hno : ∀ p, ¬ named cfg ct cp (s.cl.inbuf.take len) p) (h : PathsFs (fun _ => False) s) :
    PathsFs (fun _ => False) (processFT cfg ct cp size len s) := by
  have h' : PathsFs (named cfg ct cp (s.cl.inbuf.take len)) s := by
    intro e r hm p hp
    exact absurd (h e r hm p hp) id
  have := effects_on_named_path_only cfg ct cp size len s h'
  intro e r hm p hp
  exact hno p (this e r hm p hp)

/-- e.g. a FileTransferRequest whose name has MAX_PATH bytes or more names nothing -/
theorem overlong_request_names_nothing (cfg : Cfg) (cp : Nat) (buffer : Bytes)
    (hlong : C19.filename1Size ≤ (cstr buffer).length) (p : Path) : ¬ named cfg 3 cp buffer p := by
  unfold named
  have := (overlong_rejected_not_truncated cfg.home (cstr buffer) C19.filename1Size).1 hlong
  simp [this]

/-! ## (4) a transfer never outlives its connection -/

/-- **descriptors_accounted** (fixed code, UltraVNC transfer AND TightVNC extension).  Started in a
state where every descriptor opened so far is accounted for (`XInv`, e.g. a fresh client, with or
without the extension), at every moment of ANY session — requests and offers in any order and
number, uploads and downloads of the extension, packets, headers, aborts, chunk-sender calls,
permission changes by the callback, peer close, teardown — every descriptor the file-transfer code
ever opened is recorded in the client state (`fileTransfer.fd`, `uploadFD`, `downloadFD`) or has
been closed: no handler forgets or overwrites a descriptor without closing it. -/
theorem descriptors_accounted (cfg : Cfg) (inputs : List Input) (s0 : S) (h0 : XInv s0) :
    ∀ k, Got k (runSession cfg s0 inputs) →
      HeldC k (runSession cfg s0 inputs).cl ∨ Closed k (runSession cfg s0 inputs) :=
  (runSession_xinv cfg inputs s0 h0).1

/-- **transfer_dies_with_connection** (full strength).  After any session followed by the teardown
(peer gone: rfbCloseClient with the extension's close hook, then rfbClientConnectionGone), every
descriptor the file-transfer code ever opened has been closed, and the record is empty. -/
theorem transfer_dies_with_connection (cfg : Cfg) (inputs : List Input) (s0 : S) (h0 : XInv s0) :
    (∀ k, Got k (reapClient (peerGone (runSession cfg s0 inputs))) →
      Closed k (reapClient (peerGone (runSession cfg s0 inputs)))) ∧
    (reapClient (peerGone (runSession cfg s0 inputs))).cl.fds = [] := by
  refine ⟨fun k hk => ?_, ?_⟩
  · have hi := reapClient_xinv _ (peerGone_xinv _ (runSession_xinv cfg inputs s0 h0))
    rcases hi.1 k hk with h1 | h1
    · exact absurd h1 (teardown_not_held _ k)
    · exact h1
  · unfold reapClient peerGone Client.fds
    split <;> simp_all

/-- fresh clients satisfy the invariant: without and with the TightVNC extension -/
example : XInv (⟨{}, 0, ["#1", "100"], 0, []⟩ : S) :=
  ⟨fun k hk => by simp [Got] at hk, fun t ht => by cases ht⟩
example : XInv (⟨{ tightExt := true, tight := some {} }, 0, ["#1"], 0, []⟩ : S) :=
  ⟨fun k hk => by simp [Got] at hk,
   fun t ht => by
     cases ht
     refine ⟨?_, ?_⟩ <;> intro k hk <;> simp at hk⟩

/-- **dir_handles_released**.  Directory handles (`DIR*` of rfbSendDirContent and of the TightVNC
file list): over any session the number of handles open according to the trace does not change —
every successful opendir is matched by a closedir before its handler returns, also when sending the
path echo or an entry fails (the closedir of fixes/C19-ft-fd-leak.diff). -/
theorem dir_handles_released (cfg : Cfg) (inputs : List Input) (s0 : S) :
    dirDepth (runSession cfg s0 inputs).evs = dirDepth s0.evs :=
  dd_runSession cfg inputs s0

example : dirDepth [.fs .closedir "", .wire (.ft 2 0 0 0 (.raw [])), .dirOpened, .fs (.opendir [97]) "ok 0"] = 0 := by
  decide

/-- **tight_name_size_bounded** (fixes/C19-tight-name-size-sign.diff).  The name-size field of the
TightVNC requests is an unsigned 16-bit number: what the length-error handlers allocate and read is
at most 65535 bytes (no conversion to a negative `short`, no huge `calloc`), and the handler either
consumes exactly the announced name or closes the connection — the byte stream stays in sync. -/
theorem tight_name_size_bounded (a b : UInt8) (w : Wire) (s : S) :
    be16 a b < 65536 ∧
    ((tLengthError (be16 a b) w s).cl.isOpen = false ∨
     (tLengthError (be16 a b) w s).cl.inbuf = s.cl.inbuf.drop (be16 a b)) := by
  refine ⟨?_, ?_⟩
  · unfold be16
    have ha := a.toNat_lt
    have hb := b.toNat_lt
    omega
  · unfold tLengthError readExact
    simp only []
    (repeat' split) <;> simp_all [setCl]

/-! ## (5) the TightVNC extension: gate and confinement -/

/-- **tight_gate**.  A TightVNC file-transfer message (type 130..136) is acted upon only if the
extension is enabled for this client (which requires that it was registered when the client chose
security type 16), file transfer is switched on and the client is not view-only.  Otherwise: no
handler runs, nothing is sent, the connection is dropped. -/
theorem tight_gate (cfg : Cfg) (ty : Nat) (s : S) (hg : tightAllowed cfg s.cl = false) (hq : Quiet s) :
    Quiet (tightMsg cfg ty s) ∧ (tightMsg cfg ty s).cl.isOpen = false :=
  tightMsg_gate cfg ty s hg hq

example : tightAllowed ⟨true, none, none, true, []⟩ { tightExt := true, tight := some {}, viewOnly := true } = false := rfl
example : tightAllowed ⟨true, none, none, false, []⟩ { tightExt := true, tight := some {} } = false := rfl
example : tightAllowed ⟨true, none, none, true, []⟩ { tightExt := false } = false := rfl

/-- **tight_confined_to_root** (for the code with fixes/C19-tight-path-confinement.diff).  Every
path a TightVNC message makes the server hand to libc is `Confined` to the root: the empty string,
root ++ q with q starting with '/' and free of ".." components, or an entry other than "." / ".." of
such a directory; and the upload name the client record remembers (used later by utime / unlink)
stays of that form.  (Lexical confinement: symlink-free file system below the root is assumed.) -/
theorem tight_confined_to_root (cfg : Cfg) (ty : Nat) (s : S)
    (hu : UpOk cfg.root s) (h : PathsFs (Confined cfg.root) s) :
    PathsFs (Confined cfg.root) (tightMsg cfg ty s) ∧ UpOk cfg.root (tightMsg cfg ty s) :=
  tightMsg_confined cfg ty s hu h

/-- **refused_upload_leaves_no_name**.  An upload request whose name ConvertPath refuses — for ANY
reason: empty / leading NUL, too long once the root is prepended, not starting with '/', a ".."
component — leaves NO name in the per-client upload record (not the client's raw name, and not the
name of an upload that was in progress): the later messages that act on the record
(FileUploadData end-of-file → utime, FileUploadFailed / teardown → unlink) get the empty string. -/
theorem refused_upload_leaves_no_name (cfg : Cfg) (s : S) (hdr raw : Bytes)
    (h1 : (readExact 7 s).1 = some hdr)
    (hn : ¬(be16 (hdr.getD 1 0) (hdr.getD 2 0) = 0 ∨ be16 (hdr.getD 1 0) (hdr.getD 2 0) > C19.PATH_MAX - 1))
    (h2 : (readExact (be16 (hdr.getD 1 0) (hdr.getD 2 0)) (readExact 7 s).2).1 = some raw)
    (hrej : convertPath cfg.root (cstr raw) = none) :
    upName (tUpload cfg s) = [] := by
  unfold tUpload
  simp only [h1, hn, h2, hrej, if_false]
  unfold upName
  simp only [twire_cl, setUp_tight]
  cases (readExact (be16 (hdr.getD 1 0) (hdr.getD 2 0)) (readExact 7 s).2).2.cl.tight <;> rfl

/-- every rejection reason is a refusal in the sense of the theorem above -/
example : convertPath [47, 114] [] = none ∧ convertPath [47, 114] (cstr [0, 47, 120]) = none ∧
    convertPath [47, 114] [50, 47, 120] = none ∧ convertPath [47, 114] [47, 46, 47, 46, 46, 47, 120] = none := by
  decide
theorem too_long_is_refused (root q : Path) (h : q.length + root.length > C19.PATH_MAX - 1) :
    convertPath root q = none := by
  unfold convertPath; simp [h]

/-- **remembered_name_always_accepted**.  At every moment of ANY session (messages of both
protocols in any order, refused and accepted requests, chunk calls, teardown) the upload name the
per-client record remembers is empty or a path ConvertPath ACCEPTED for an earlier request
(`Rooted`: `root ++ q`, q starting with '/', free of "..", short enough — `rooted_below`). -/
theorem remembered_name_always_accepted (cfg : Cfg) (inputs : List Input) (s0 : S)
    (h0 : UpOk cfg.root s0) : UpOk cfg.root (runSession cfg s0 inputs) :=
  runSession_upOk cfg inputs s0 h0

/-- **after any refused request, every later message acts only on accepted paths**: in any state a
session can reach, the next TightVNC message — whatever it is — hands to libc only `Confined`
paths: names accepted in that very message, entries of an accepted directory, or the remembered
upload name, which by the theorem above is an earlier ACCEPTED path or empty. -/
theorem later_messages_act_on_accepted_paths (cfg : Cfg) (inputs : List Input) (s0 : S) (ty : Nat)
    (h0 : UpOk cfg.root s0) :
    PathsFs (Confined cfg.root) (tightMsg cfg ty { runSession cfg s0 inputs with evs := [] }) :=
  (tightMsg_confined cfg ty { runSession cfg s0 inputs with evs := [] }
    (show UpOk cfg.root { runSession cfg s0 inputs with evs := [] } from runSession_upOk cfg inputs s0 h0)
    (fun _ _ hm => by simp at hm)).1

example : UpOk [47, 114] (⟨{ tightExt := true, tight := some {} }, 0, [], 0, []⟩ : S) := Or.inl rfl

/-- the names that escape under the unfixed ConvertPath (`unfixed_convertPath_escapes`) are rejected -/
example : convertPath [47, 114] [47, 46, 46, 47, 120] = none := by decide           -- "/../x"
example : convertPath [47, 114] [50, 47, 120] = none := by decide                   -- "2/x" (sibling "/r2/x")
example : convertPath [47, 114] [47, 97, 47, 46, 46] = none := by decide            -- "/a/.."
example : convertPath [47, 114] [47, 46, 46, 120] = some [47, 114, 47, 46, 46, 120] := by decide   -- "/..x" is a name

/-- WITHOUT the fix the property fails: the unfixed ConvertPath (root ++ path, no check) maps
"/../x" to a path that is not below the root — the counterexample that motivated the fix -/
theorem unfixed_convertPath_escapes :
    let unfixed := fun (root p : Path) => root ++ p
    ¬ Rooted [47, 114] (unfixed [47, 114] [47, 46, 46, 47, 120]) := by
  intro unfixed h
  obtain ⟨q, hq, he, _⟩ := rooted_below _ _ h
  have : q = [47, 46, 46, 47, 120] := by
    simp only [unfixed] at he
    exact (List.append_cancel_left he).symm
  subst this
  revert hq
  decide

end VncModel.Props.C19
