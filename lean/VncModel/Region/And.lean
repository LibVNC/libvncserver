import VncModel.Region.Basic
/-!
`sraSpanListAnd`: the loop of the model computes the intersection (generic level).
-/
namespace VncModel.Rgn
variable {α β : Type}

/-- part of the termination measure of the And/Subtract loops: 1 while the current destination
span starts before the end of the current source span -/
def flagM (d s : List (Span α)) : Nat :=
  match d, s with
  | dc :: _, sc :: _ => if dc.s < sc.e then 1 else 0
  | _, _ => 0

theorem flagM_le (d s : List (Span α)) : flagM d s ≤ 1 := by
  unfold flagM; split <;> (try split) <;> omega

theorem flagM_cons (dc sc : Span α) (d s : List (Span α)) :
    flagM (dc :: d) (sc :: s) = if dc.s < sc.e then 1 else 0 := rfl

/-- the overlap step of `sraSpanListAnd`.  After the cut `dc` never reaches beyond `sc`, so the
loop's test `s_curr->end >= d_curr->end` always succeeds. -/
theorem and_overlap {ops : SubOps α} {G : α → Prop} {D : α → β → Prop} (L : Laws ops G D)
    {acc drest srest : List (Span α)} {dc sc : Span α} {sub' : α}
    (hz : Zip G acc (dc :: drest)) (hsc : sc.s < sc.e) (hgs : G sc.sub)
    (hsrest : SortedFrom G sc.e srest) (h1 : ¬ dc.s ≥ sc.e) (h2 : ¬ dc.e ≤ sc.s)
    (hand : ops.and dc.sub sc.sub = some sub') :
    let dc1 : Span α := if sc.s > dc.s then { dc with s := sc.s } else dc
    let drest1 := if sc.e < dc1.e then ⟨sc.e, dc1.e, dc1.sub⟩ :: drest else drest
    let dc2 : Span α := if sc.e < dc1.e then { dc1 with e := sc.e } else dc1
    let mp := mergePrev ops.eq { dc2 with sub := sub' } acc
    let s' := if sc.e ≤ mp.1.e then srest else sc :: srest
    sc.e ≥ mp.1.e ∧ Zip G (mp.1 :: mp.2) drest1 ∧ (∃ lo, SortedFrom G lo s') ∧
    3 * s'.length + 2 * drest1.length + 1 ≤ 3 * (srest.length + 1) + 2 * (drest.length + 1) ∧
    ∀ y q, (den D (mp.1 :: mp.2) y q ∨ (den D drest1 y q ∧ den D s' y q)) ↔
      (den D acc y q ∨ (den D (dc :: drest) y q ∧ den D (sc :: srest) y q)) := by
  intro dc1 drest1 dc2 mp s'
  have ⟨hacc, hdc, hgd, hdrest⟩ := hz
  obtain ⟨hgsub, hdsub⟩ := L.and_some _ _ _ hgd hgs hand
  have hx : ({ dc2 with sub := sub' } : Span α) =
      ⟨if sc.s > dc.s then sc.s else dc.s, if sc.e < dc.e then sc.e else dc.e, sub'⟩ := by
    simp only [dc2, dc1, apply_ite Span.s, apply_ite Span.e, ite_self]
  have hdr1 : drest1 = if sc.e < dc.e then ⟨sc.e, dc.e, dc.sub⟩ :: drest else drest := by
    simp only [drest1, dc1, apply_ite Span.e, apply_ite Span.sub, ite_self]
  obtain ⟨_, hdrest1, hlt0⟩ := split_sorted hz (lo := sc.s) (hi := sc.e) (by omega) (by omega) hsc
  obtain ⟨m1, m2, m3, m4, m5⟩ : mp.1.e = (if sc.e < dc.e then sc.e else dc.e) ∧ mp.1.sub = sub' ∧
      mp.1.s ≤ (if sc.s > dc.s then sc.s else dc.s) ∧ SortedTo G mp.1.s mp.2 ∧
      ∀ y q, den D (mp.1 :: mp.2) y q ↔
        den D (⟨if sc.s > dc.s then sc.s else dc.s, if sc.e < dc.e then sc.e else dc.e, sub'⟩ :: acc)
          y q := by
    simp only [mp, hx]
    exact mergePrev_spec (G := G) (D := D) ops.eq L.eq_sound acc _
      (hacc.mono (by show dc.s ≤ ite _ _ _; split <;> omega)) hlt0
  have hs' : s' = if sc.e ≤ dc.e then srest else sc :: srest := by
    simp only [s', m1]
    by_cases c : sc.e < dc.e
    · rw [if_pos c, if_pos (Int.le_refl _), if_pos (Int.le_of_lt c)]
    · rw [if_neg c]
  refine ⟨by rw [m1]; split <;> omega,
    Zip.push m4 (by omega) (m2 ▸ hgsub) (by rw [m1, hdr1]; exact hdrest1), ?_, ?_, fun y q => ?_⟩
  · rw [hs']
    split
    · exact ⟨_, hsrest⟩
    · exact ⟨sc.s, Int.le_refl _, hsc, hgs, hsrest⟩
  · have hl1 : drest1.length = drest.length + (if sc.e < dc.e then 1 else 0) := by
      rw [hdr1]; split <;> rfl
    have hl2 : s'.length = srest.length + (if sc.e ≤ dc.e then 0 else 1) := by
      rw [hs']; split <;> rfl
    rw [hl1, hl2]
    split <;> split <;> omega
  · have b1 : den D drest y q → dc.e ≤ y := den_lb hdrest
    have b2 : den D srest y q → sc.e ≤ y := den_lb hsrest
    have hq := hdsub q
    have hs'' : den D s' y q ↔ ((¬ sc.e ≤ dc.e ∧ sc.s ≤ y ∧ y < sc.e ∧ D sc.sub q) ∨ den D srest y q) := by
      rw [hs']
      split <;> simp [den_cons, *]
    rw [m5 y q, hs'']
    simp only [hdr1, den_cons, den_ite_cons, hq]
    -- only the pointwise facts stay in the context: `grind` is markedly slower with all of it
    clear_value mp s' drest1 dc2 dc1
    clear hq m5 hdsub hdrest1 hx hdr1 hs' hs'' m4 hacc hdrest hsrest hand hz m1 m2 m3
    grind

theorem andLoop_spec {ops : SubOps α} {G : α → Prop} {D : α → β → Prop} (L : Laws ops G D)
    (fuel : Nat) (acc d s : List (Span α))
    (hf : 3 * s.length + 2 * d.length + flagM d s ≤ fuel)
    (hz : Zip G acc d) (hs : ∃ lo, SortedFrom G lo s) :
    Sorted G (andLoop ops fuel acc d s) ∧
    ∀ y q, den D (andLoop ops fuel acc d s) y q ↔ (den D acc y q ∨ (den D d y q ∧ den D s y q)) := by
  fun_induction andLoop ops fuel acc d s
  case case1 acc d s =>
    have hd : d = [] := List.eq_nil_of_length_eq_zero (by omega)
    subst hd
    exact ⟨hz.sorted_acc, by simp [den_reverse]⟩
  case case2 fuel acc s =>
    exact ⟨hz.sorted_acc, by simp [den_reverse]⟩
  case case3 fuel acc dc drest =>
    exact ⟨hz.sorted_acc, by simp [den_reverse]⟩
  case case4 fuel acc dc drest sc srest h1 ih =>
    obtain ⟨lo, hlo, hsc, hgs, hsrest⟩ := hs
    have hfl := flagM_le (dc :: drest) srest
    simp only [flagM_cons, List.length_cons] at hf
    have hpre := ih (by simp only [List.length_cons]; omega) hz ⟨_, hsrest⟩
    refine ⟨hpre.1, fun y q => ?_⟩
    rw [hpre.2 y q, den_cons D sc srest]
    exact or_congr Iff.rfl (and_congr_right fun hd => (or_iff_right
      (den_sep (show SortedFrom G dc.s (dc :: drest) from ⟨Int.le_refl _, hz.2⟩) h1 hd)).symm)
  case case5 fuel acc dc drest sc srest h1 h2 ih =>
    obtain ⟨lo, hlo, hsc, hgs, hsrest⟩ := hs
    obtain ⟨hacc, hdc, hgd, hdrest⟩ := hz
    have hfl := flagM_le drest (sc :: srest)
    simp only [flagM_cons, List.length_cons] at hf
    have hpre := ih (by simp only [List.length_cons]; omega)
      (Zip.of_sep (hacc.mono (Int.le_of_lt hdc)) hdrest) ⟨lo, hlo, hsc, hgs, hsrest⟩
    refine ⟨hpre.1, fun y q => ?_⟩
    rw [hpre.2 y q, den_cons D dc drest]
    exact or_congr Iff.rfl (and_congr_left fun hS => (or_iff_right (den_sep (sp := dc)
      (show SortedFrom G sc.s (sc :: srest) from ⟨Int.le_refl _, hsc, hgs, hsrest⟩) h2 hS)).symm)
  case case6 fuel acc dc drest sc srest h1 h2 dc1 drest1 dc2 hand ih =>
    have ⟨hacc, hdc, hgd, hdrest⟩ := hz
    obtain ⟨lo, hlo, hsc, hgs, hsrest⟩ := hs
    rw [show dc2.sub = dc.sub by simp only [dc2, dc1, apply_ite Span.sub, ite_self]] at hand
    have hnone := L.and_none _ _ hgd hgs hand
    have hdr1 : drest1 = if sc.e < dc.e then ⟨sc.e, dc.e, dc.sub⟩ :: drest else drest := by
      simp only [drest1, dc1, apply_ite Span.e, apply_ite Span.sub, ite_self]
    obtain ⟨_, hdrest1, hlt0⟩ :=
      split_sorted hz (lo := sc.s) (hi := sc.e) (by omega) (by omega) hsc
    have hl1 : 2 * drest1.length + flagM drest1 (sc :: srest) ≤ 2 * drest.length + 2 := by
      rw [hdr1]; split
      · simp only [flagM_cons, List.length_cons, Int.lt_irrefl, if_false]; omega
      · have := flagM_le drest (sc :: srest); omega
    simp only [flagM_cons, List.length_cons, show dc.s < sc.e by omega, if_true] at hf
    have hpre := ih (by simp only [List.length_cons]; omega)
      (Zip.of_sep (hacc.mono (by split at hlt0 <;> omega)) (hdr1 ▸ hdrest1))
      ⟨lo, hlo, hsc, hgs, hsrest⟩
    refine ⟨hpre.1, fun y q => ?_⟩
    rw [hpre.2 y q]
    have b1 : den D drest y q → dc.e ≤ y := den_lb hdrest
    have b2 : den D srest y q → sc.e ≤ y := den_lb hsrest
    have hq := hnone q
    simp only [hdr1, den_cons, den_ite_cons]
    clear_value drest1 dc2 dc1
    clear ih hpre hf hnone hdrest1 hl1 hdr1 hz hacc hdrest hsrest
    grind
  case case7 fuel acc dc drest sc srest h1 h2 dc1 drest1 dc2 sub' hand mp s' h3 ih =>
    obtain ⟨lo, hlo, hsc, hgs, hsrest⟩ := hs
    rw [show dc2.sub = dc.sub by simp only [dc2, dc1, apply_ite Span.sub, ite_self]] at hand
    obtain ⟨_, hz', hs', hl, hden⟩ := and_overlap L hz hsc hgs hsrest h1 h2 hand
    have hl' : 3 * s'.length + 2 * drest1.length + 1 ≤
        3 * (srest.length + 1) + 2 * (drest.length + 1) := hl
    have hfl := flagM_le drest1 s'
    simp only [flagM_cons, List.length_cons, show dc.s < sc.e by omega, if_true] at hf
    have hpre := ih (by omega) hz' hs'
    exact ⟨hpre.1, fun y q => (hpre.2 y q).trans (hden y q)⟩
  case case8 fuel acc dc drest sc srest h1 h2 dc1 drest1 dc2 sub' hand mp s' h3 ih =>
    -- dead branch of the C code
    obtain ⟨lo, hlo, hsc, hgs, hsrest⟩ := hs
    rw [show dc2.sub = dc.sub by simp only [dc2, dc1, apply_ite Span.sub, ite_self]] at hand
    exact absurd (and_overlap L hz hsc hgs hsrest h1 h2 hand).1 h3

theorem spanAnd_spec {ops : SubOps α} {G : α → Prop} {D : α → β → Prop} (L : Laws ops G D)
    (dest src : List (Span α)) (hd : Sorted G dest) (hs : Sorted G src) :
    Sorted G (spanAnd ops dest src) ∧
    ∀ y q, den D (spanAnd ops dest src) y q ↔ (den D dest y q ∧ den D src y q) := by
  have h := andLoop_spec L (3 * src.length + 2 * dest.length + 1) [] dest src
    (by have := flagM_le dest src; omega) (Zip.of_sorted hd) hs.to_from
  refine ⟨h.1, fun y q => ?_⟩
  rw [spanAnd, h.2 y q]
  simp

end VncModel.Rgn
