import VncModel.Region.Model
/-!
Basic lemmas of the generic span-list layer: denotation, sortedness (forward lists and the reversed
"already processed" part of the zipper), `mergePrev` / `mergeNext`.
-/
namespace VncModel.Rgn

variable {α β : Type}

/-- reversed list (nearest first) of spans that all end at or before `hi` -/
def SortedTo (G : α → Prop) : Int → List (Span α) → Prop
  | _, [] => True
  | hi, sp :: l => sp.e ≤ hi ∧ sp.s < sp.e ∧ G sp.sub ∧ SortedTo G sp.s l

/-- the zipper `(acc, d)` is a sorted list: `acc` (reversed) lies before `d` -/
def Zip (G : α → Prop) (acc : List (Span α)) : List (Span α) → Prop
  | [] => ∃ m, SortedTo G m acc
  | dc :: drest => SortedTo G dc.s acc ∧ dc.s < dc.e ∧ G dc.sub ∧ SortedFrom G dc.e drest

/-- what the laws of the sub-level operations must provide (`G` = well-formed sub-level value,
`D` = its denotation) -/
structure Laws (ops : SubOps α) (G : α → Prop) (D : α → β → Prop) : Prop where
  eq_sound : ∀ a b, ops.eq a b = true → ∀ q, D a q ↔ D b q
  or_good : ∀ a b, G a → G b → G (ops.or a b)
  or_den : ∀ a b, G a → G b → ∀ q, D (ops.or a b) q ↔ (D a q ∨ D b q)
  and_some : ∀ a b c, G a → G b → ops.and a b = some c → G c ∧ ∀ q, D c q ↔ (D a q ∧ D b q)
  and_none : ∀ a b, G a → G b → ops.and a b = none → ∀ q, ¬ (D a q ∧ D b q)
  sub_some : ∀ a b c, G a → G b → ops.sub a b = some c → G c ∧ ∀ q, D c q ↔ (D a q ∧ ¬ D b q)
  sub_none : ∀ a b, G a → G b → ops.sub a b = none → ∀ q, ¬ (D a q ∧ ¬ D b q)

@[simp] theorem den_nil (D : α → β → Prop) (y : Int) (q : β) : den D [] y q ↔ False := by
  simp [den]

theorem den_cons (D : α → β → Prop) (sp : Span α) (l : List (Span α)) (y : Int) (q : β) :
    den D (sp :: l) y q ↔ ((sp.s ≤ y ∧ y < sp.e ∧ D sp.sub q) ∨ den D l y q) := by
  simp [den]

theorem den_append (D : α → β → Prop) (l1 l2 : List (Span α)) (y : Int) (q : β) :
    den D (l1 ++ l2) y q ↔ (den D l1 y q ∨ den D l2 y q) := by
  simp only [den, List.mem_append]
  constructor
  · rintro ⟨sp, h | h, r⟩
    · exact Or.inl ⟨sp, h, r⟩
    · exact Or.inr ⟨sp, h, r⟩
  · rintro (⟨sp, h, r⟩ | ⟨sp, h, r⟩)
    · exact ⟨sp, Or.inl h, r⟩
    · exact ⟨sp, Or.inr h, r⟩

theorem den_reverse (D : α → β → Prop) (l : List (Span α)) (y : Int) (q : β) :
    den D l.reverse y q ↔ den D l y q := by
  simp [den]

theorem den_ite_cons (D : α → β → Prop) (c : Prop) [Decidable c] (sp : Span α) (l : List (Span α))
    (y : Int) (q : β) :
    den D (if c then sp :: l else l) y q ↔
      ((c ∧ sp.s ≤ y ∧ y < sp.e ∧ D sp.sub q) ∨ den D l y q) := by
  split <;> simp [den_cons, *]

theorem SortedFrom.mono {G : α → Prop} {lo lo' : Int} {l : List (Span α)}
    (h : SortedFrom G lo l) (hle : lo' ≤ lo) : SortedFrom G lo' l := by
  cases l with
  | nil => trivial
  | cons sp l => simp only [SortedFrom] at *; exact ⟨by omega, h.2⟩

theorem SortedTo.mono {G : α → Prop} {hi hi' : Int} {l : List (Span α)}
    (h : SortedTo G hi l) (hle : hi ≤ hi') : SortedTo G hi' l := by
  cases l with
  | nil => trivial
  | cons sp l => simp only [SortedTo] at *; exact ⟨by omega, h.2⟩

theorem Sorted.of_from {G : α → Prop} {lo : Int} {l : List (Span α)} (h : SortedFrom G lo l) :
    Sorted G l := by
  cases l with
  | nil => trivial
  | cons sp l => simp only [SortedFrom, Sorted] at *; exact h.2

theorem Sorted.to_from {G : α → Prop} {l : List (Span α)} (h : Sorted G l) :
    ∃ lo, SortedFrom G lo l := by
  cases l with
  | nil => exact ⟨0, trivial⟩
  | cons sp l => exact ⟨sp.s, by simp only [SortedFrom, Sorted] at *; exact ⟨Int.le_refl _, h⟩⟩

theorem SortedFrom.tail {G : α → Prop} {lo : Int} {sp : Span α} {l : List (Span α)}
    (h : SortedFrom G lo (sp :: l)) : SortedFrom G sp.e l := h.2.2.2

theorem den_lb {G : α → Prop} {D : α → β → Prop} {lo : Int} {l : List (Span α)}
    (h : SortedFrom G lo l) {y : Int} {q : β} (hd : den D l y q) : lo ≤ y := by
  induction l generalizing lo with
  | nil => simp at hd
  | cons sp l ih =>
    simp only [SortedFrom] at h
    rw [den_cons] at hd
    rcases hd with hd | hd
    · omega
    · have := ih h.2.2.2 hd; omega

theorem den_sep {G : α → Prop} {D : α → β → Prop} {lo : Int} {l : List (Span α)}
    (h : SortedFrom G lo l) {sp : Span α} (hle : sp.e ≤ lo) {y : Int} {q : β}
    (hd : den D l y q) : ¬ (sp.s ≤ y ∧ y < sp.e ∧ D sp.sub q) := by
  have := den_lb h hd
  omega

theorem den_ub {G : α → Prop} {D : α → β → Prop} {hi : Int} {l : List (Span α)}
    (h : SortedTo G hi l) {y : Int} {q : β} (hd : den D l y q) : y < hi := by
  induction l generalizing hi with
  | nil => simp at hd
  | cons sp l ih =>
    simp only [SortedTo] at h
    rw [den_cons] at hd
    rcases hd with hd | hd
    · omega
    · have := ih h.2.2.2 hd; omega

theorem sorted_reverse_append {G : α → Prop} {m : Int} {acc d : List (Span α)}
    (ha : SortedTo G m acc) (hd : SortedFrom G m d) : Sorted G (acc.reverse ++ d) := by
  induction acc generalizing m d with
  | nil => simpa using Sorted.of_from hd
  | cons a acc ih =>
    simp only [SortedTo] at ha
    rw [List.reverse_cons, List.append_assoc]
    apply ih ha.2.2.2
    simp only [List.singleton_append, SortedFrom]
    exact ⟨Int.le_refl _, ha.2.1, ha.2.2.1, hd.mono ha.1⟩

theorem Zip.sorted {G : α → Prop} {acc d : List (Span α)} (h : Zip G acc d) :
    Sorted G (acc.reverse ++ d) := by
  cases d with
  | nil =>
    obtain ⟨m, hm⟩ := h
    exact sorted_reverse_append hm trivial
  | cons dc drest =>
    simp only [Zip] at h
    exact sorted_reverse_append h.1 (by simp only [SortedFrom]; exact ⟨Int.le_refl _, h.2⟩)

theorem Zip.of_sorted {G : α → Prop} {d : List (Span α)} (h : Sorted G d) : Zip G [] d := by
  cases d with
  | nil => exact ⟨0, trivial⟩
  | cons dc drest => simp only [Sorted] at h; exact ⟨trivial, h⟩

theorem Zip.acc {G : α → Prop} {acc d : List (Span α)} (h : Zip G acc d) :
    ∃ m, SortedTo G m acc := by
  cases d with
  | nil => exact h
  | cons dc drest => exact ⟨_, h.1⟩

theorem Zip.sorted_acc {G : α → Prop} {acc d : List (Span α)} (h : Zip G acc d) :
    Sorted G acc.reverse := by
  obtain ⟨m, hm⟩ := h.acc
  simpa using sorted_reverse_append hm (d := []) trivial

theorem Zip.push {G : α → Prop} {x : Span α} {acc d : List (Span α)}
    (ha : SortedTo G x.s acc) (hx : x.s < x.e) (hg : G x.sub) (hd : SortedFrom G x.e d) :
    Zip G (x :: acc) d := by
  cases d with
  | nil => exact ⟨x.e, Int.le_refl _, hx, hg, ha⟩
  | cons d2 d =>
    simp only [SortedFrom] at hd
    exact ⟨⟨hd.1, hx, hg, ha⟩, hd.2⟩

theorem Zip.advance {G : α → Prop} {acc : List (Span α)} {dc : Span α} {drest : List (Span α)}
    (h : Zip G acc (dc :: drest)) : Zip G (dc :: acc) drest :=
  Zip.push h.1 h.2.1 h.2.2.1 h.2.2.2

theorem Zip.of_sep {G : α → Prop} {m : Int} {acc d : List (Span α)} (ha : SortedTo G m acc)
    (hd : SortedFrom G m d) : Zip G acc d := by
  cases d with
  | nil => exact ⟨m, ha⟩
  | cons dc drest => exact ⟨ha.mono hd.1, hd.2⟩

/-- the cut of the current span `dc` at `lo` and `hi` that all three loops make -/
theorem split_sorted {G : α → Prop} {acc drest : List (Span α)} {dc : Span α}
    (hz : Zip G acc (dc :: drest)) {lo hi : Int} (hlo : lo < dc.e) (hhi : dc.s < hi)
    (hlh : lo < hi) :
    SortedTo G (if lo > dc.s then lo else dc.s) (if lo > dc.s then ⟨dc.s, lo, dc.sub⟩ :: acc else acc) ∧
    SortedFrom G (if hi < dc.e then hi else dc.e)
      (if hi < dc.e then ⟨hi, dc.e, dc.sub⟩ :: drest else drest) ∧
    (if lo > dc.s then lo else dc.s) < (if hi < dc.e then hi else dc.e) := by
  obtain ⟨hacc, hdc, hgd, hdrest⟩ := hz
  refine ⟨?_, ?_, by split <;> split <;> omega⟩
  · split
    · exact ⟨Int.le_refl _, by assumption, hgd, hacc⟩
    · exact hacc
  · split
    · exact ⟨Int.le_refl _, by assumption, hgd, hdrest⟩
    · exact hdrest

theorem span_join {P : Prop} {a b c y : Int} (hab : a ≤ b) (hbc : b ≤ c) :
    ((a ≤ y ∧ y < b ∧ P) ∨ (b ≤ y ∧ y < c ∧ P)) ↔ (a ≤ y ∧ y < c ∧ P) := by
  constructor
  · rintro (⟨h1, h2, h3⟩ | ⟨h1, h2, h3⟩)
    · exact ⟨h1, by omega, h3⟩
    · exact ⟨by omega, h2, h3⟩
  · rintro ⟨h1, h2, h3⟩
    by_cases hy : y < b
    · exact Or.inl ⟨h1, hy, h3⟩
    · exact Or.inr ⟨by omega, h2, h3⟩

theorem mergePrev_spec {G : α → Prop} {D : α → β → Prop} (eq : α → α → Bool)
    (heq : ∀ a b, eq a b = true → ∀ q, D a q ↔ D b q)
    (acc : List (Span α)) (dc : Span α) (hacc : SortedTo G dc.s acc) (hdc : dc.s < dc.e) :
    (mergePrev eq dc acc).1.e = dc.e ∧ (mergePrev eq dc acc).1.sub = dc.sub ∧
    (mergePrev eq dc acc).1.s ≤ dc.s ∧
    SortedTo G (mergePrev eq dc acc).1.s (mergePrev eq dc acc).2 ∧
    ∀ y q, den D ((mergePrev eq dc acc).1 :: (mergePrev eq dc acc).2) y q ↔ den D (dc :: acc) y q := by
  induction acc generalizing dc with
  | nil => simp [mergePrev, SortedTo]
  | cons p acc ih =>
    simp only [SortedTo] at hacc
    unfold mergePrev
    split
    · rename_i hc
      have := ih { dc with s := p.s } (by simpa using hacc.2.2.2) (by simp; omega)
      obtain ⟨h1, h2, h3, h4, h5⟩ := this
      refine ⟨h1, h2, by simp at h3; omega, h4, ?_⟩
      intro y q
      rw [h5 y q]
      simp only [den_cons]
      rw [heq _ _ hc.2 q, ← hc.1, ← span_join (b := p.e) (Int.le_of_lt hacc.2.1) (by omega),
        or_assoc, or_left_comm]
    · exact ⟨rfl, rfl, Int.le_refl _, hacc, fun _ _ => Iff.rfl⟩

theorem mergeNext_spec {G : α → Prop} {D : α → β → Prop} (eq : α → α → Bool)
    (heq : ∀ a b, eq a b = true → ∀ q, D a q ↔ D b q)
    (rest : List (Span α)) (dc : Span α) (hrest : SortedFrom G dc.e rest) (hdc : dc.s < dc.e) :
    (mergeNext eq dc rest).1.s = dc.s ∧ (mergeNext eq dc rest).1.sub = dc.sub ∧
    dc.e ≤ (mergeNext eq dc rest).1.e ∧
    SortedFrom G (mergeNext eq dc rest).1.e (mergeNext eq dc rest).2 ∧
    (mergeNext eq dc rest).2.length ≤ rest.length ∧
    ∀ y q, den D ((mergeNext eq dc rest).1 :: (mergeNext eq dc rest).2) y q ↔ den D (dc :: rest) y q := by
  induction rest generalizing dc with
  | nil => simp [mergeNext, SortedFrom]
  | cons n rest ih =>
    simp only [SortedFrom] at hrest
    unfold mergeNext
    split
    · rename_i hc
      have := ih { dc with e := n.e } (by simpa using hrest.2.2.2) (by simp; omega)
      obtain ⟨h1, h2, h3, h4, h5, h6⟩ := this
      refine ⟨h1, h2, by simp at h3; omega, h4, by simp; omega, ?_⟩
      intro y q
      rw [h6 y q]
      simp only [den_cons]
      rw [heq _ _ hc.2 q, hc.1, ← span_join (b := dc.e) (Int.le_of_lt hdc) (by omega), or_assoc]
    · exact ⟨rfl, rfl, Int.le_refl _, hrest, Nat.le_refl _, fun _ _ => Iff.rfl⟩

theorem mergePrev_suffix {G : α → Prop} (eq : α → α → Bool) (acc : List (Span α)) (dc : Span α)
    (X : Int) (h : SortedTo G X acc) : SortedTo G X (mergePrev eq dc acc).2 := by
  induction acc generalizing dc with
  | nil => trivial
  | cons p acc ih =>
    unfold mergePrev
    split
    · simp only [SortedTo] at h
      exact ih _ (h.2.2.2.mono (by omega))
    · exact h

theorem merge_spec {G : α → Prop} {D : α → β → Prop} (eq : α → α → Bool)
    (heq : ∀ a b, eq a b = true → ∀ q, D a q ↔ D b q) {x : Span α} {acc d : List (Span α)}
    (ha : SortedTo G x.s acc) (hx : x.s < x.e) (hd : SortedFrom G x.e d) :
    (mergeNext eq (mergePrev eq x acc).1 d).1.sub = x.sub ∧
    (mergeNext eq (mergePrev eq x acc).1 d).1.s ≤ x.s ∧
    x.e ≤ (mergeNext eq (mergePrev eq x acc).1 d).1.e ∧
    SortedTo G (mergeNext eq (mergePrev eq x acc).1 d).1.s (mergePrev eq x acc).2 ∧
    SortedFrom G (mergeNext eq (mergePrev eq x acc).1 d).1.e (mergeNext eq (mergePrev eq x acc).1 d).2 ∧
    (mergeNext eq (mergePrev eq x acc).1 d).2.length ≤ d.length ∧
    ∀ y q, (den D ((mergeNext eq (mergePrev eq x acc).1 d).1 :: (mergePrev eq x acc).2) y q ∨
        den D (mergeNext eq (mergePrev eq x acc).1 d).2 y q) ↔
      (den D (x :: acc) y q ∨ den D d y q) := by
  obtain ⟨m1, m2, m3, m4, m5⟩ := mergePrev_spec (G := G) (D := D) eq heq acc x ha hx
  obtain ⟨n1, n2, n3, n4, n5, n6⟩ := mergeNext_spec (G := G) (D := D) eq heq d
    (mergePrev eq x acc).1 (m1 ▸ hd) (by omega)
  refine ⟨n2.trans m2, by omega, by omega, n1 ▸ m4, n4, n5, fun y q => ?_⟩
  rw [den_cons, or_right_comm, ← den_cons, n6 y q, den_cons, or_right_comm, ← den_cons, m5 y q]

/-- `retarget sstart s`: the part of the source still to be or-ed in, when `s_start` was overridden -/
def retarget (sstart : Int) : List (Span α) → List (Span α)
  | [] => []
  | sc :: srest => { sc with s := sstart } :: srest

theorem retarget_startOf (s : List (Span α)) : retarget (startOf s) s = s := by
  cases s <;> rfl

theorem SortedFrom.startOf {G : α → Prop} {lo : Int} {s : List (Span α)} (h : SortedFrom G lo s) :
    SortedFrom G (startOf s) s := by
  cases s with
  | nil => trivial
  | cons sc srest => exact ⟨Int.le_refl _, h.2⟩

theorem sortedTo_startOf {G : α → Prop} {e : Int} {srest acc : List (Span α)}
    (hsrest : SortedFrom G e srest) (h : ∀ X, e ≤ X → SortedTo G X acc) :
    srest ≠ [] → SortedTo G (startOf srest) acc := by
  cases srest with
  | nil => exact fun hne => (hne rfl).elim
  | cons sc srest => exact fun _ => h _ hsrest.1

end VncModel.Rgn
