import VncModel.Region.Sub
import VncModel.Region.Or
/-!
The two instances of the generic span-list layer: x level (`α = Unit`) and y level (`α = XList`),
and the resulting statements about `Region.or / and / sub`.
-/
namespace VncModel.Rgn

def DUnit : Unit → Unit → Prop := fun _ _ => True
def GUnit : Unit → Prop := fun _ => True

theorem unitLaws : Laws unitOps GUnit DUnit where
  eq_sound := fun _ _ _ _ => Iff.rfl
  or_good := fun _ _ _ _ => trivial
  or_den := fun _ _ _ _ _ => by simp [DUnit]
  and_some := fun _ _ _ _ _ _ => ⟨trivial, fun _ => by simp [DUnit]⟩
  and_none := fun _ _ _ _ h => by simp [unitOps] at h
  sub_some := fun _ _ _ _ _ h => by simp [unitOps] at h
  sub_none := fun _ _ _ _ _ _ => by simp [DUnit]

theorem xden_iff (l : XList) (x : Int) : XList.den l x ↔ den DUnit l x () := by
  simp [XList.den, den, DUnit]

theorem xwf_iff (l : XList) : XList.WF l ↔ Sorted GUnit l := Iff.rfl

theorem ne_nil_iff_den {α β : Type} {G : α → Prop} {D : α → β → Prop}
    (hne : ∀ a, G a → ∃ q, D a q) {l : List (Span α)} (h : Sorted G l) :
    l ≠ [] ↔ ∃ y q, den D l y q := by
  cases l with
  | nil => simp
  | cons sp l =>
    simp only [ne_eq, reduceCtorEq, not_false_eq_true, true_iff]
    obtain ⟨q, hq⟩ := hne _ h.2.1
    exact ⟨sp.s, q, by rw [den_cons]; exact Or.inl ⟨Int.le_refl _, h.1, hq⟩⟩

theorem x_ne_nil_iff {l : XList} (h : XList.WF l) : l ≠ [] ↔ ∃ x, XList.den l x := by
  rw [ne_nil_iff_den (D := DUnit) (fun _ _ => ⟨(), trivial⟩) h]
  simp only [xden_iff]
  exact ⟨fun ⟨y, _, h⟩ => ⟨y, h⟩, fun ⟨y, h⟩ => ⟨y, (), h⟩⟩

theorem xOr_spec (a b : XList) (ha : XList.WF a) (hb : XList.WF b) :
    XList.WF (xOr a b) ∧ ∀ x, XList.den (xOr a b) x ↔ (XList.den a x ∨ XList.den b x) := by
  have h := spanOr_spec unitLaws a b ha hb
  exact ⟨h.1, fun x => by simp only [xden_iff]; exact h.2 x ()⟩

theorem xAnd_spec (a b : XList) (ha : XList.WF a) (hb : XList.WF b) :
    XList.WF (xAnd a b) ∧ ∀ x, XList.den (xAnd a b) x ↔ (XList.den a x ∧ XList.den b x) := by
  have h := spanAnd_spec unitLaws a b ha hb
  exact ⟨h.1, fun x => by simp only [xden_iff]; exact h.2 x ()⟩

theorem xSub_spec (a b : XList) (ha : XList.WF a) (hb : XList.WF b) :
    XList.WF (xSub a b) ∧ ∀ x, XList.den (xSub a b) x ↔ (XList.den a x ∧ ¬ XList.den b x) := by
  have h := spanSub_spec unitLaws a b ha hb
  exact ⟨h.1, fun x => by simp only [xden_iff]; exact h.2 x ()⟩

theorem xEq_eq (a b : XList) (h : xEq a b = true) : a = b := by
  unfold xEq at h
  induction a generalizing b with
  | nil => cases b with
    | nil => rfl
    | cons _ _ => simp [spanListEq] at h
  | cons x a ih =>
    cases b with
    | nil => simp [spanListEq] at h
    | cons y b =>
      simp only [spanListEq] at h
      split at h
      · simp at h
      · rename_i hc
        simp only [Bool.not_true, Bool.or_false, Bool.or_eq_true, bne_iff_ne, ne_eq, not_or,
          Decidable.not_not] at hc
        rw [ih b h]
        cases x; cases y
        simp_all

def GX : XList → Prop := fun xl => XList.WF xl ∧ xl ≠ []

theorem keepNonempty {r : XList} {P : Int → Prop} (hs : XList.WF r ∧ ∀ x, XList.den r x ↔ P x) :
    (∀ c, (if r.isEmpty then none else some r) = some c → GX c ∧ ∀ q, XList.den c q ↔ P q) ∧
    ((if r.isEmpty then none else some r) = none → ∀ q, ¬ P q) := by
  cases r with
  | nil =>
    exact ⟨fun c h => by simp at h, fun _ q hq => by simpa [XList.den] using (hs.2 q).mpr hq⟩
  | cons a l =>
    refine ⟨fun c h => ?_, fun h => by simp at h⟩
    simp only [List.isEmpty_cons, Bool.false_eq_true, if_false, Option.some.injEq] at h
    subst h
    exact ⟨⟨hs.1, by simp⟩, hs.2⟩

theorem xLaws : Laws xOps GX XList.den where
  eq_sound := fun a b h q => by rw [xEq_eq a b h]
  or_good := fun a b ha hb => by
    have h := xOr_spec a b ha.1 hb.1
    refine ⟨h.1, ?_⟩
    show xOr a b ≠ []
    rw [x_ne_nil_iff h.1]
    obtain ⟨x, hx⟩ := (x_ne_nil_iff ha.1).mp ha.2
    exact ⟨x, (h.2 x).mpr (Or.inl hx)⟩
  or_den := fun a b ha hb q => (xOr_spec a b ha.1 hb.1).2 q
  and_some := fun a b c ha hb h => (keepNonempty (xAnd_spec a b ha.1 hb.1)).1 c h
  and_none := fun a b ha hb h => (keepNonempty (xAnd_spec a b ha.1 hb.1)).2 h
  sub_some := fun a b c ha hb h => (keepNonempty (xSub_spec a b ha.1 hb.1)).1 c h
  sub_none := fun a b ha hb h => (keepNonempty (xSub_spec a b ha.1 hb.1)).2 h

theorem rden_iff (r : Region) (x y : Int) : Region.den r x y ↔ den XList.den r y x := by
  simp [Region.den, den]

theorem rwf_iff (r : Region) : Region.WF r ↔ Sorted GX r := Iff.rfl

theorem r_ne_nil_iff {r : Region} (h : Region.WF r) : r ≠ [] ↔ ∃ x y, Region.den r x y := by
  rw [ne_nil_iff_den (D := XList.den) (fun a ha => (x_ne_nil_iff ha.1).mp ha.2) h]
  simp only [rden_iff]
  exact ⟨fun ⟨y, x, h⟩ => ⟨x, y, h⟩, fun ⟨x, y, h⟩ => ⟨y, x, h⟩⟩

theorem rOr_spec (a b : Region) (ha : Region.WF a) (hb : Region.WF b) :
    Region.WF (Region.or a b) ∧
    ∀ x y, Region.den (Region.or a b) x y ↔ (Region.den a x y ∨ Region.den b x y) := by
  have h := spanOr_spec xLaws a b ha hb
  exact ⟨h.1, fun x y => by simp only [rden_iff]; exact h.2 y x⟩

theorem rAnd_spec (a b : Region) (ha : Region.WF a) (hb : Region.WF b) :
    Region.WF (Region.and a b).1 ∧
    (∀ x y, Region.den (Region.and a b).1 x y ↔ (Region.den a x y ∧ Region.den b x y)) ∧
    ((Region.and a b).2 = true ↔ ∃ x y, Region.den (Region.and a b).1 x y) := by
  have h := spanAnd_spec xLaws a b ha hb
  refine ⟨h.1, fun x y => by simp only [rden_iff]; exact h.2 y x, ?_⟩
  rw [← r_ne_nil_iff (show Region.WF (Region.and a b).1 from h.1)]
  simp [Region.and]

theorem rSub_spec (a b : Region) (ha : Region.WF a) (hb : Region.WF b) :
    Region.WF (Region.sub a b).1 ∧
    (∀ x y, Region.den (Region.sub a b).1 x y ↔ (Region.den a x y ∧ ¬ Region.den b x y)) ∧
    ((Region.sub a b).2 = true ↔ ∃ x y, Region.den (Region.sub a b).1 x y) := by
  have h := spanSub_spec xLaws a b ha hb
  refine ⟨h.1, fun x y => by simp only [rden_iff]; exact h.2 y x, ?_⟩
  rw [← r_ne_nil_iff (show Region.WF (Region.sub a b).1 from h.1)]
  simp [Region.sub]

end VncModel.Rgn
