import VncModel.Region.IterModel
import VncModel.Region.Misc
/-!
Refinement proof for the small-step iterator model (`IterModel.lean`): running
`sraRgnIteratorNext` to exhaustion from `sraRgnGetReverseIterator(r, rx, ry)` yields exactly
`Region.rects r rx ry`, without ever dereferencing a sentinel or following a NULL link.
-/
namespace VncModel.Rgn

section cursor
variable {γ : Type}

/-- elements strictly after cursor `c` in traversal order -/
def remAfter (l : List γ) (rev : Bool) (c : Nat) : List γ :=
  if rev then (l.take (c - 1)).reverse else l.drop c
def endOf (l : List γ) (rev : Bool) : Nat := if rev then 0 else l.length + 1
def startOfDir (l : List γ) (rev : Bool) : Nat := if rev then l.length + 1 else 0
def nextC (rev : Bool) (c : Nat) : Nat := if rev then c - 1 else c + 1
/-- the cursor may be stepped once more without following a NULL link -/
def CValid (l : List γ) (rev : Bool) (c : Nat) : Prop :=
  if rev then 1 ≤ c ∧ c ≤ l.length + 1 else c ≤ l.length

theorem remAfter_start (l : List γ) (rev : Bool) :
    remAfter l rev (startOfDir l rev) = dir l rev ∧ CValid l rev (startOfDir l rev) := by
  cases rev <;> simp [remAfter, startOfDir, CValid, dir]

theorem rem_nil_iff (l : List γ) (rev : Bool) (c : Nat) (hv : CValid l rev c) :
    remAfter l rev c = [] ↔ nextC rev c = endOf l rev := by
  cases rev
  · have hv' : c ≤ l.length := by simpa [CValid] using hv
    show l.drop c = [] ↔ c + 1 = l.length + 1
    rw [List.drop_eq_nil_iff]; omega
  · have hv' : 1 ≤ c ∧ c ≤ l.length + 1 := by simpa [CValid] using hv
    show (l.take (c - 1)).reverse = [] ↔ c - 1 = 0
    rw [List.reverse_eq_nil_iff, List.take_eq_nil_iff]
    constructor
    · rintro (h | h)
      · exact h
      · subst h; simp at hv'; omega
    · intro h; exact Or.inl h

theorem rem_cons (l : List γ) (rev : Bool) (c : Nat) (hv : CValid l rev c) (a : γ) (t : List γ)
    (h : remAfter l rev c = a :: t) :
    nextC rev c ≠ 0 ∧ l[nextC rev c - 1]? = some a ∧ remAfter l rev (nextC rev c) = t ∧
    CValid l rev (nextC rev c) ∧ nextC rev c ≠ endOf l rev := by
  cases rev
  · have hv' : c ≤ l.length := by simpa [CValid] using hv
    change l.drop c = a :: t at h
    show c + 1 ≠ 0 ∧ l[c + 1 - 1]? = some a ∧ l.drop (c + 1) = t ∧ CValid l false (c + 1) ∧
      c + 1 ≠ l.length + 1
    have hc : c < l.length := by
      apply Classical.byContradiction; intro hn
      have : l.drop c = [] := List.drop_eq_nil_iff.mpr (by omega)
      rw [this] at h; cases h
    rw [List.drop_eq_getElem_cons hc] at h
    simp only [List.cons.injEq] at h
    refine ⟨by omega, ?_, h.2, by simp [CValid]; omega, by omega⟩
    simp [hc, h.1]
  · have hv' : 1 ≤ c ∧ c ≤ l.length + 1 := by simpa [CValid] using hv
    change (l.take (c - 1)).reverse = a :: t at h
    show c - 1 ≠ 0 ∧ l[c - 1 - 1]? = some a ∧ (l.take (c - 1 - 1)).reverse = t ∧
      CValid l true (c - 1) ∧ c - 1 ≠ 0
    have hk : 1 ≤ c - 1 := by
      apply Classical.byContradiction; intro hn
      have : c - 1 = 0 := by omega
      rw [this] at h; simp at h
    have hk2 : c - 1 - 1 < l.length := by omega
    have ht : l.take (c - 1) = l.take (c - 1 - 1) ++ [l[c - 1 - 1]] := by
      have := List.take_succ_eq_append_getElem hk2
      rw [← this]; congr 1; omega
    rw [ht, List.reverse_append] at h
    simp only [List.reverse_cons, List.reverse_nil, List.nil_append, List.cons_append,
      List.cons.injEq] at h
    refine ⟨by omega, ?_, h.2, by simp [CValid]; omega, by omega⟩
    simp [hk2, h.1]

end cursor
def mkRect (b : Span XList) (x : Span Unit) : Rect := ⟨x.s, b.s, x.e, b.e⟩
def bandRects (rx : Bool) (b : Span XList) : List Rect :=
  (dir b.sub rx).map (mkRect b)

-- Level 0 = the cursor `s0` walks the band list, level 2 = `s2` walks the x-list of the band `b` at
-- `s0`.  `pend0 it` / `pend2 it b` = the rectangles still to come from state `it`; `L0nil/L0cons/
-- L2nil/L2cons` = one call of `sraRgnIteratorNext` at that level with that `remAfter` shape.
structure Inv0 (it : Iter) : Prop where
  v0 : CValid it.rgn it.reverseY it.s0
  e0 : it.s1 = endOf it.rgn it.reverseY
  ne : ∀ b ∈ it.rgn, b.sub ≠ []

def pend0 (it : Iter) : List Rect :=
  (remAfter it.rgn it.reverseY it.s0).flatMap (bandRects it.reverseX)

structure Inv2 (it : Iter) (b : Span XList) : Prop where
  inv0 : Inv0 it
  pos : it.ptrPos = 2
  hb : spanAt it.rgn it.s0 = some b
  v2 : CValid b.sub it.reverseX it.s2
  e2 : it.s3 = endOf b.sub it.reverseX

def pend2 (it : Iter) (b : Span XList) : List Rect :=
  (remAfter b.sub it.reverseX it.s2).map (mkRect b) ++ pend0 it

theorem sraReverse_0 (it : Iter) (h : it.ptrPos = 0) : sraReverse it = it.reverseY := by
  simp [sraReverse, h]
theorem sraReverse_2 (it : Iter) (h : it.ptrPos = 2) : sraReverse it = it.reverseX := by
  simp [sraReverse, h]

theorem nextSpan_0 (it : Iter) (h : it.ptrPos = 0) (hv : CValid it.rgn it.reverseY it.s0) :
    nextSpan? it = some (nextC it.reverseY it.s0) := by
  simp only [nextSpan?, levelLen, h, if_true, sraReverse_0 it h, Iter.sGet, nextC]
  cases hr : it.reverseY <;> simp [CValid, hr] at hv ⊢ <;> omega

theorem nextSpan_2 (it : Iter) (b : Span XList) (h : it.ptrPos = 2)
    (hb : spanAt it.rgn it.s0 = some b) (hv : CValid b.sub it.reverseX it.s2) :
    nextSpan? it = some (nextC it.reverseX it.s2) := by
  simp only [nextSpan?, levelLen, h, hb, Option.map_some, sraReverse_2 it h, Iter.sGet, nextC]
  cases hr : it.reverseX <;> simp [CValid, hr] at hv ⊢ <;> omega


theorem spanAt_of {α : Type} {l : List (Span α)} {c : Nat} {a : Span α} (h0 : c ≠ 0)
    (h : l[c - 1]? = some a) : spanAt l c = some a := by
  simp [spanAt, h0, h]

theorem mem_of_spanAt {α : Type} {l : List (Span α)} {c : Nat} {a : Span α}
    (h : spanAt l c = some a) : a ∈ l := by
  unfold spanAt at h
  split at h
  · cases h
  · exact List.mem_of_getElem? h

theorem L2cons (it : Iter) (b : Span XList) (hi : Inv2 it b) (x : Span Unit) (t : List (Span Unit))
    (hr : remAfter b.sub it.reverseX it.s2 = x :: t) (f : Nat) :
    ascend (f + 1) it = some (some it) ∧
    ∃ it', advance it = .yield it' (mkRect b x) ∧ Inv2 it' b ∧
      pend2 it' b = t.map (mkRect b) ++ pend0 it := by
  obtain ⟨hn0, hget, hrem, hval, hne⟩ := rem_cons _ _ _ hi.v2 _ _ hr
  have hns := nextSpan_2 it b hi.pos hi.hb hi.v2
  have hx := spanAt_of hn0 hget
  refine ⟨?_, { it with s2 := nextC it.reverseX it.s2 }, ?_, ?_, ?_⟩
  · simp only [ascend, hns, Iter.sGet, hi.pos]
    rw [if_neg (by rw [hi.e2]; exact hne)]
  · simp [advance, hns, Iter.sSet, Iter.sGet, descend, hi.pos, hi.hb, hx, mkRect]
  · exact ⟨⟨hi.inv0.v0, hi.inv0.e0, hi.inv0.ne⟩, hi.pos, hi.hb, hval, hi.e2⟩
  · simp only [pend2, hrem, pend0]

theorem L2nil (it : Iter) (b : Span XList) (hi : Inv2 it b)
    (hr : remAfter b.sub it.reverseX it.s2 = []) (f : Nat) :
    ascend (f + 2) it = ascend (f + 1) { it with ptrPos := 0 } := by
  have hns := nextSpan_2 it b hi.pos hi.hb hi.v2
  have hend := (rem_nil_iff _ _ _ hi.v2).mp hr
  rw [ascend]
  simp [hns, Iter.sGet, hi.pos, hi.e2, hend]

theorem L0nil (it : Iter) (hi : Inv0 it) (hp : it.ptrPos = 0)
    (hr : remAfter it.rgn it.reverseY it.s0 = []) (f : Nat) :
    ascend (f + 1) it = some none := by
  have hns := nextSpan_0 it hp hi.v0
  have hend := (rem_nil_iff _ _ _ hi.v0).mp hr
  simp [ascend, hns, Iter.sGet, hp, hi.e0, hend]

theorem L0cons (it : Iter) (hi : Inv0 it) (hp : it.ptrPos = 0) (b : Span XList)
    (t : List (Span XList)) (hr : remAfter it.rgn it.reverseY it.s0 = b :: t) (f : Nat) :
    ascend (f + 1) it = some (some it) ∧
    ∃ it' x xs, dir b.sub it.reverseX = x :: xs ∧
      advance it = .yield it' (mkRect b x) ∧ Inv2 it' b ∧
      pend2 it' b = xs.map (mkRect b) ++ t.flatMap (bandRects it.reverseX) := by
  obtain ⟨hn0, hget, hrem, hval, hne⟩ := rem_cons _ _ _ hi.v0 _ _ hr
  have hns := nextSpan_0 it hp hi.v0
  have hbs := spanAt_of hn0 hget
  have hbne := hi.ne b (mem_of_spanAt hbs)
  obtain ⟨hst, hstv⟩ := remAfter_start b.sub it.reverseX
  obtain ⟨x, xs, hxs⟩ := List.exists_cons_of_ne_nil
    (show dir b.sub it.reverseX ≠ [] by cases it.reverseX <;> simpa [dir] using hbne)
  rw [hxs] at hst
  obtain ⟨gn0, gget, grem, gval, gne⟩ := rem_cons _ _ _ hstv _ _ hst
  have hxsp := spanAt_of gn0 gget
  refine ⟨?_, { it with ptrPos := 2, s0 := nextC it.reverseY it.s0,
                        s2 := nextC it.reverseX (startOfDir b.sub it.reverseX),
                        s3 := endOf b.sub it.reverseX }, x, xs, hxs, ?_, ?_, ?_⟩
  · simp only [ascend, hns, Iter.sGet, hp]
    rw [if_neg (by rw [hi.e0]; exact hne)]
  · generalize nextC it.reverseY it.s0 = n0 at *
    cases hrx : it.reverseX <;>
      simp [advance, hns, Iter.sSet, Iter.sGet, descend, hp, hbs, sraReverse, nextC, startOfDir,
        endOf, mkRect, hrx] at hxsp ⊢ <;> (try simp [hxsp])
  · exact ⟨⟨hval, hi.e0, hi.ne⟩, rfl, hbs, gval, rfl⟩
  · simp only [pend2, grem, pend0, hrem]

def nextFrom (a : Option (Option Iter)) : Step :=
  match a with
  | none => .fault
  | some none => .done
  | some (some it) => advance it

theorem iterNext_eq (it : Iter) : iterNext it = nextFrom (ascend 3 it) := by
  unfold iterNext nextFrom; rfl

/-- what one call of `sraRgnIteratorNext` must do, given the rectangles still to come -/
def StepOK (s : Step) (pend : List Rect) : Prop :=
  match pend with
  | [] => s = .done
  | rc :: rest => ∃ it' b', s = .yield it' rc ∧ Inv2 it' b' ∧ pend2 it' b' = rest

theorem step_level0 (it : Iter) (hi : Inv0 it) (hp : it.ptrPos = 0) (f : Nat) :
    StepOK (nextFrom (ascend (f + 1) it)) (pend0 it) := by
  cases hr : remAfter it.rgn it.reverseY it.s0 with
  | nil =>
    simp only [pend0, hr, List.flatMap_nil, StepOK, L0nil it hi hp hr f, nextFrom]
  | cons b t =>
    obtain ⟨ha, it', x, xs, hxs, hadv, hinv, hpend⟩ := L0cons it hi hp b t hr f
    simp only [pend0, hr, List.flatMap_cons, bandRects, hxs, List.map_cons, List.cons_append, StepOK,
      ha, nextFrom]
    exact ⟨it', b, hadv, hinv, by rw [hpend]⟩

theorem step_level2 (it : Iter) (b : Span XList) (hi : Inv2 it b) :
    StepOK (iterNext it) (pend2 it b) := by
  rw [iterNext_eq]
  cases hr : remAfter b.sub it.reverseX it.s2 with
  | nil =>
    rw [L2nil it b hi hr 1]
    have h0 : Inv0 { it with ptrPos := 0 } := ⟨hi.inv0.v0, hi.inv0.e0, hi.inv0.ne⟩
    have := step_level0 { it with ptrPos := 0 } h0 rfl 1
    simpa [pend2, hr, pend0] using this
  | cons x t =>
    obtain ⟨ha, it', hadv, hinv, hpend⟩ := L2cons it b hi x t hr 2
    simp only [pend2, hr, List.map_cons, List.cons_append, StepOK, ha, nextFrom]
    exact ⟨it', b, hadv, hinv, hpend⟩

theorem iterRun_ok (fuel : Nat) (it : Iter) (pend : List Rect) (hs : StepOK (iterNext it) pend)
    (hf : pend.length < fuel) : iterRun fuel it = some pend := by
  induction fuel generalizing it pend with
  | zero => omega
  | succ fuel ih =>
    cases pend with
    | nil =>
      simp only [StepOK] at hs
      simp [iterRun, hs]
    | cons rc rest =>
      obtain ⟨it', b', hy, hinv, hpend⟩ := hs
      simp only [iterRun, hy]
      rw [ih it' rest (hpend ▸ step_level2 it' b' hinv) (by simp at hf; omega)]
      rfl

/-- **refinement**: stepping the C iterator's state machine to exhaustion yields exactly
`Region.rects` — for all four direction pairs, with no fault (no sentinel is ever dereferenced, no
NULL link followed), on every region whose bands have non-empty x-lists (in particular every
well-formed region) -/
theorem iterAll_eq_rects (r : Region) (hne : ∀ b ∈ r, b.sub ≠ []) (rx ry : Bool) :
    Region.iterAll r rx ry = some (Region.rects r rx ry) := by
  have hstart := remAfter_start r ry
  have hi : Inv0 (getReverseIterator r rx ry) := by
    cases ry <;> exact ⟨by simpa [getReverseIterator, getIterator, startOfDir] using hstart.2,
      by simp [getReverseIterator, getIterator, endOf], hne⟩
  have hp : (getReverseIterator r rx ry).ptrPos = 0 := by
    cases ry <;> rfl
  have hpend : pend0 (getReverseIterator r rx ry) = Region.rects r rx ry := by
    rw [rects_eq_dir]
    cases ry <;> simp [pend0, getReverseIterator, getIterator, remAfter, dir] <;> rfl
  unfold Region.iterAll
  have hs := step_level0 _ hi hp 2
  rw [← iterNext_eq, hpend] at hs
  exact iterRun_ok _ _ _ hs (by rw [rects_length]; omega)

theorem getIterator_eq (r : Region) : getIterator r = getReverseIterator r false false := rfl

end VncModel.Rgn
