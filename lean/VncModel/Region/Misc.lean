import VncModel.Region.Inst
/-!
Everything about regions that is not one of the three span-list loops: sortedness as `Pairwise`,
offset, emptiness, iteration (`rects`), the two clippers, the bounding box, `popRect`.
-/
namespace VncModel.Rgn

theorem sortedFrom_iff {α : Type} {G : α → Prop} {lo : Int} {l : List (Span α)} :
    SortedFrom G lo l ↔ (l.Pairwise (fun a b => a.e ≤ b.s) ∧
      ∀ sp ∈ l, lo ≤ sp.s ∧ sp.s < sp.e ∧ G sp.sub) := by
  induction l generalizing lo with
  | nil => simp [SortedFrom]
  | cons a l ih =>
    simp only [SortedFrom, ih, List.pairwise_cons, List.forall_mem_cons]
    constructor
    · rintro ⟨h1, h2, h3, hp, hall⟩
      exact ⟨⟨fun b hb => (hall b hb).1, hp⟩, ⟨h1, h2, h3⟩,
        fun b hb => ⟨by have := (hall b hb).1; omega, (hall b hb).2⟩⟩
    · rintro ⟨⟨hlt, hp⟩, ⟨h1, h2, h3⟩, hall⟩
      exact ⟨h1, h2, h3, hp, fun b hb => ⟨hlt b hb, (hall b hb).2⟩⟩

theorem SortedFrom.all {α : Type} {G : α → Prop} {lo : Int} {l : List (Span α)}
    (h : SortedFrom G lo l) : ∀ sp ∈ l, lo ≤ sp.s ∧ sp.s < sp.e ∧ G sp.sub :=
  (sortedFrom_iff.mp h).2

theorem SortedFrom.pairwise {α : Type} {G : α → Prop} {lo : Int} {l : List (Span α)}
    (h : SortedFrom G lo l) : l.Pairwise (fun a b => a.e ≤ b.s) :=
  (sortedFrom_iff.mp h).1

theorem sorted_iff {α : Type} {G : α → Prop} {l : List (Span α)} :
    Sorted G l ↔ (l.Pairwise (fun a b => a.e ≤ b.s) ∧ ∀ sp ∈ l, sp.s < sp.e ∧ G sp.sub) := by
  cases l with
  | nil => simp [Sorted]
  | cons a l =>
    simp only [Sorted, sortedFrom_iff, List.pairwise_cons, List.forall_mem_cons]
    constructor
    · rintro ⟨h2, h3, hp, hall⟩
      exact ⟨⟨fun b hb => (hall b hb).1, hp⟩, ⟨h2, h3⟩, fun b hb => (hall b hb).2⟩
    · rintro ⟨⟨hlt, hp⟩, ⟨h2, h3⟩, hall⟩
      exact ⟨h2, h3, hp, fun b hb => ⟨hlt b hb, hall b hb⟩⟩

theorem Sorted.pairwise {α : Type} {G : α → Prop} {l : List (Span α)} (h : Sorted G l) :
    l.Pairwise (fun a b => a.e ≤ b.s) :=
  (sorted_iff.mp h).1

theorem Sorted.all {α : Type} {G : α → Prop} {l : List (Span α)} (h : Sorted G l) :
    ∀ sp ∈ l, sp.s < sp.e ∧ G sp.sub :=
  (sorted_iff.mp h).2

theorem xoffset_den (l : XList) (dx x : Int) :
    XList.den (l.map fun sp => (⟨sp.s + dx, sp.e + dx, ()⟩ : Span Unit)) x ↔ XList.den l (x - dx) := by
  simp only [XList.den, List.mem_map]
  constructor
  · rintro ⟨sp, ⟨sp0, h0, rfl⟩, h1, h2⟩
    exact ⟨sp0, h0, by simp at h1 h2 ⊢; omega⟩
  · rintro ⟨sp, h0, h1, h2⟩
    exact ⟨_, ⟨sp, h0, rfl⟩, by simp; omega⟩

theorem sortedFrom_map {α γ : Type} {G : α → Prop} {G' : γ → Prop} (f : α → γ) (d : Int)
    (hG : ∀ a, G a → G' (f a)) (lo : Int) (l : List (Span α)) (h : SortedFrom G lo l) :
    SortedFrom G' (lo + d) (l.map fun sp => ⟨sp.s + d, sp.e + d, f sp.sub⟩) := by
  induction l generalizing lo with
  | nil => trivial
  | cons a l ih =>
    exact ⟨by have := h.1; simp; omega, by have := h.2.1; simp; omega, hG _ h.2.2.1, ih _ h.2.2.2⟩

theorem sorted_map {α γ : Type} {G : α → Prop} {G' : γ → Prop} (f : α → γ) (d : Int)
    (hG : ∀ a, G a → G' (f a)) (l : List (Span α)) (h : Sorted G l) :
    Sorted G' (l.map fun sp => ⟨sp.s + d, sp.e + d, f sp.sub⟩) := by
  obtain ⟨lo, hlo⟩ := h.to_from
  exact Sorted.of_from (sortedFrom_map f d hG lo l hlo)

theorem offset_den (r : Region) (dx dy x y : Int) :
    Region.den (Region.offset r dx dy) x y ↔ Region.den r (x - dx) (y - dy) := by
  simp only [Region.den, Region.offset, List.mem_map]
  constructor
  · rintro ⟨b, ⟨b0, h0, rfl⟩, h1, h2, h3⟩
    exact ⟨b0, h0, by simp at h1; omega, by simp at h2; omega, (xoffset_den _ _ _).mp h3⟩
  · rintro ⟨b, h0, h1, h2, h3⟩
    exact ⟨_, ⟨b, h0, rfl⟩, by simp; omega, by simp; omega, (xoffset_den _ _ _).mpr h3⟩

theorem offset_wf (r : Region) (dx dy : Int) (h : Region.WF r) :
    Region.WF (Region.offset r dx dy) := by
  apply sorted_map (G := GX) (G' := GX)
    (fun xl => xl.map fun sp => (⟨sp.s + dx, sp.e + dx, ()⟩ : Span Unit)) dy _ r h
  intro xl hxl
  exact ⟨sorted_map (G := GUnit) (G' := GUnit) (fun _ => ()) dx (fun _ _ => trivial) xl hxl.1,
    by simpa using hxl.2⟩

theorem isEmpty_iff (r : Region) (h : Region.WF r) :
    Region.isEmpty r = true ↔ ∀ x y, ¬ Region.den r x y := by
  simp only [Region.isEmpty, List.isEmpty_iff]
  constructor
  · rintro rfl x y ⟨b, hb, _⟩
    cases hb
  · intro hn
    exact Classical.byContradiction fun hne =>
      let ⟨x, y, hd⟩ := (r_ne_nil_iff h).mp hne
      hn x y hd

theorem empty_wf : Region.WF Region.empty := trivial

theorem empty_den (x y : Int) : ¬ Region.den Region.empty x y := by
  simp [Region.empty, Region.den]

theorem rect_den (x1 y1 x2 y2 x y : Int) :
    Region.den (Region.rect x1 y1 x2 y2) x y ↔ (x1 ≤ x ∧ x < x2 ∧ y1 ≤ y ∧ y < y2) := by
  unfold Region.rect
  split <;> simp [Region.den, XList.den] <;> omega

theorem rect_wf (x1 y1 x2 y2 : Int) : Region.WF (Region.rect x1 y1 x2 y2) := by
  unfold Region.rect
  split
  · trivial
  · rename_i h
    exact ⟨show y1 < y2 by omega, ⟨⟨show x1 < x2 by omega, trivial, trivial⟩, by simp⟩, trivial⟩

section
variable {γ : Type}

/-- traversal order -/
def dir (l : List γ) (rev : Bool) : List γ := if rev then l.reverse else l

theorem mem_dir {l : List γ} {rev : Bool} {a : γ} : a ∈ dir l rev ↔ a ∈ l := by
  cases rev <;> simp [dir]

theorem pairwise_dir {R : γ → γ → Prop} {l : List γ} (h : l.Pairwise R) (rev : Bool) :
    (dir l rev).Pairwise (fun a b => if rev then R b a else R a b) := by
  cases rev
  · simpa [dir] using h
  · simpa [dir, List.pairwise_reverse] using h

end

theorem rects_eq_dir (r : Region) (rx ry : Bool) :
    Region.rects r rx ry =
      (dir r ry).flatMap fun b => (dir b.sub rx).map fun x => (⟨x.s, b.s, x.e, b.e⟩ : Rect) := rfl

/-- order of the iteration: within a band x-monotone, across bands y-monotone, both in the requested
direction (the relation holds for ALL pairs `a` before `b`, not only neighbours) -/
def Mono (rx ry : Bool) (a b : Rect) : Prop :=
  (a.y1 = b.y1 ∧ a.y2 = b.y2 ∧ (if rx then b.x2 ≤ a.x1 else a.x2 ≤ b.x1)) ∨
  (if ry then b.y2 ≤ a.y1 else a.y2 ≤ b.y1)

theorem rects_cover (r : Region) (rx ry : Bool) (x y : Int) :
    Region.den r x y ↔ ∃ rc ∈ Region.rects r rx ry, Rect.den rc x y := by
  simp only [Region.den, XList.den, rects_eq_dir, List.mem_flatMap, List.mem_map, mem_dir, Rect.den]
  constructor
  · rintro ⟨b, hb, h1, h2, sp, hsp, h3, h4⟩
    exact ⟨_, ⟨b, hb, sp, hsp, rfl⟩, h3, h4, h1, h2⟩
  · rintro ⟨rc, ⟨b, hb, sp, hsp, rfl⟩, h3, h4, h1, h2⟩
    exact ⟨b, hb, h1, h2, sp, hsp, h3, h4⟩

theorem countRects_eq (r : Region) : Region.countRects r = (r.map fun b => b.sub.length).sum := by
  induction r with
  | nil => rfl
  | cons b r ih => simp [Region.countRects, xCount, ih]

theorem rects_length (r : Region) (rx ry : Bool) :
    (Region.rects r rx ry).length = Region.countRects r := by
  rw [countRects_eq]
  simp only [Region.rects, List.length_flatMap, List.length_map]
  cases ry <;> cases rx <;> simp [List.sum_reverse]

theorem rects_nonempty (r : Region) (h : Region.WF r) (rx ry : Bool) :
    ∀ rc ∈ Region.rects r rx ry, rc.x1 < rc.x2 ∧ rc.y1 < rc.y2 := by
  intro rc hrc
  simp only [rects_eq_dir, List.mem_flatMap, List.mem_map, mem_dir] at hrc
  obtain ⟨b, hb, sp, hsp, rfl⟩ := hrc
  have hB := Sorted.all h b hb
  exact ⟨(Sorted.all hB.2.1 sp hsp).1, hB.1⟩

theorem rects_monotone (r : Region) (h : Region.WF r) (rx ry : Bool) :
    (Region.rects r rx ry).Pairwise (Mono rx ry) := by
  rw [rects_eq_dir, List.pairwise_flatMap]
  constructor
  · intro b hb
    rw [List.pairwise_map]
    exact (pairwise_dir (Sorted.pairwise (Sorted.all h b (mem_dir.mp hb)).2.1) rx).imp
      fun hac => Or.inl ⟨rfl, rfl, hac⟩
  · refine (pairwise_dir (Sorted.pairwise h) ry).imp ?_
    intro b1 b2 h12 x hx y hy
    obtain ⟨_, _, rfl⟩ := List.mem_map.mp hx
    obtain ⟨_, _, rfl⟩ := List.mem_map.mp hy
    exact Or.inr h12

theorem rects_disjoint (r : Region) (h : Region.WF r) (rx ry : Bool) :
    (Region.rects r rx ry).Pairwise (fun a b => ∀ x y, ¬ (Rect.den a x y ∧ Rect.den b x y)) := by
  refine (rects_monotone r h rx ry).imp ?_
  intro a b hab x y hd
  simp only [Rect.den] at hd
  rcases hab with ⟨_, _, h3⟩ | h3
  · cases rx <;> simp at h3 <;> omega
  · cases ry <;> simp at h3 <;> omega

theorem clipRect_spec (x y w h cx cy cw ch : Int) :
    (clipRect x y w h cx cy cw ch).1 = max x cx ∧ (clipRect x y w h cx cy cw ch).2.1 = max y cy ∧
    (clipRect x y w h cx cy cw ch).1 + (clipRect x y w h cx cy cw ch).2.2.1 = min (x + w) (cx + cw) ∧
    (clipRect x y w h cx cy cw ch).2.1 + (clipRect x y w h cx cy cw ch).2.2.2.1
      = min (y + h) (cy + ch) ∧
    ((clipRect x y w h cx cy cw ch).2.2.2.2 = true ↔
      ((clipRect x y w h cx cy cw ch).2.2.1 > 0 ∧ (clipRect x y w h cx cy cw ch).2.2.2.1 > 0)) := by
  simp only [clipRect]
  refine ⟨by omega, by omega, ?_, ?_, by simp⟩ <;> (split <;> split <;> omega)

theorem clipRect_mem (x y w h cx cy cw ch px py : Int) :
    ((clipRect x y w h cx cy cw ch).1 ≤ px ∧
      px < (clipRect x y w h cx cy cw ch).1 + (clipRect x y w h cx cy cw ch).2.2.1 ∧
      (clipRect x y w h cx cy cw ch).2.1 ≤ py ∧
      py < (clipRect x y w h cx cy cw ch).2.1 + (clipRect x y w h cx cy cw ch).2.2.2.1) ↔
    ((x ≤ px ∧ px < x + w ∧ y ≤ py ∧ py < y + h) ∧
      (cx ≤ px ∧ px < cx + cw ∧ cy ≤ py ∧ py < cy + ch)) := by
  obtain ⟨h1, h2, h3, h4, _⟩ := clipRect_spec x y w h cx cy cw ch
  rw [h3, h4, h1, h2, Int.max_le, Int.max_le, Int.lt_min, Int.lt_min]
  exact ⟨fun ⟨⟨a, b⟩, ⟨c, d⟩, ⟨e, f⟩, g, i⟩ => ⟨⟨a, c, e, g⟩, b, d, f, i⟩,
    fun ⟨⟨a, c, e, g⟩, b, d, f, i⟩ => ⟨⟨a, b⟩, ⟨c, d⟩, ⟨e, f⟩, g, i⟩⟩

theorem clipRect_true_iff (x y w h cx cy cw ch : Int) :
    (clipRect x y w h cx cy cw ch).2.2.2.2 = true ↔
      ∃ px py, (x ≤ px ∧ px < x + w ∧ y ≤ py ∧ py < y + h) ∧
        (cx ≤ px ∧ px < cx + cw ∧ cy ≤ py ∧ py < cy + ch) := by
  rw [(clipRect_spec x y w h cx cy cw ch).2.2.2.2]
  have hp := clipRect_mem x y w h cx cy cw ch
  generalize clipRect x y w h cx cy cw ch = r at hp ⊢
  constructor
  · intro hpos
    exact ⟨r.1, r.2.1, (hp r.1 r.2.1).mp ⟨Int.le_refl _, by omega, Int.le_refl _, by omega⟩⟩
  · rintro ⟨px, py, hin⟩
    have := (hp px py).mpr hin
    omega

/-- one axis of `sraClipRect2`, lower corner -/
def clampLo (x cx cx2 : Int) : Int :=
  let xa := if x < cx then cx else x
  if xa ≥ cx2 then cx2 - 1 else xa

/-- one axis of `sraClipRect2`, upper corner -/
def clampHi (x2 cx cx2 : Int) : Int :=
  let x2a := if x2 ≤ cx then cx + 1 else x2
  if x2a > cx2 then cx2 else x2a

theorem clipRect2_eq (x y x2 y2 cx cy cx2 cy2 : Int) :
    clipRect2 x y x2 y2 cx cy cx2 cy2 =
      (clampLo x cx cx2, clampLo y cy cy2, clampHi x2 cx cx2, clampHi y2 cy cy2,
        decide (clampHi x2 cx cx2 > clampLo x cx cx2) &&
          decide (clampHi y2 cy cy2 > clampLo y cy cy2)) := rfl

theorem clampLo_eq (x cx cx2 : Int) : clampLo x cx cx2 = min (max x cx) (cx2 - 1) := by
  simp only [clampLo]
  split <;> split <;> omega

theorem clampHi_eq (x2 cx cx2 : Int) : clampHi x2 cx cx2 = min (max x2 (cx + 1)) cx2 := by
  simp only [clampHi]
  split <;> split <;> omega

theorem clamp_inter {x x2 cx cx2 : Int} (h : max x cx < min x2 cx2) :
    clampLo x cx cx2 = max x cx ∧ clampHi x2 cx cx2 = min x2 cx2 := by
  rw [clampLo_eq, clampHi_eq]
  omega

theorem clampLo_bounds (x : Int) {cx cx2 : Int} (hc : cx < cx2) :
    cx ≤ clampLo x cx cx2 ∧ clampLo x cx cx2 < cx2 := by
  rw [clampLo_eq]
  omega

theorem clampHi_bounds (x2 : Int) {cx cx2 : Int} (hc : cx < cx2) :
    cx < clampHi x2 cx cx2 ∧ clampHi x2 cx cx2 ≤ cx2 := by
  rw [clampHi_eq]
  omega

theorem clamp_lt {x x2 cx cx2 : Int} (hx : x < x2) (hc : cx < cx2) :
    clampLo x cx cx2 < clampHi x2 cx cx2 := by
  rw [clampLo_eq, clampHi_eq]
  omega

theorem clipRect2_true_iff (x y x2 y2 cx cy cx2 cy2 : Int) :
    (clipRect2 x y x2 y2 cx cy cx2 cy2).2.2.2.2 = true ↔
      ((clipRect2 x y x2 y2 cx cy cx2 cy2).2.2.1 > (clipRect2 x y x2 y2 cx cy cx2 cy2).1 ∧
        (clipRect2 x y x2 y2 cx cy cx2 cy2).2.2.2.1 > (clipRect2 x y x2 y2 cx cy cx2 cy2).2.1) := by
  simp only [clipRect2_eq, Bool.and_eq_true, decide_eq_true_eq]

theorem clipRect2_inter {x y x2 y2 cx cy cx2 cy2 : Int} (hx : max x cx < min x2 cx2)
    (hy : max y cy < min y2 cy2) :
    clipRect2 x y x2 y2 cx cy cx2 cy2 = (max x cx, max y cy, min x2 cx2, min y2 cy2, true) := by
  simp only [clipRect2_eq, clamp_inter hx, clamp_inter hy, hx, hy, decide_true, Bool.and_self]

theorem clipRect2_nonempty {x y x2 y2 cx cy cx2 cy2 : Int} (hx : x < x2) (hy : y < y2)
    (hcx : cx < cx2) (hcy : cy < cy2) :
    (clipRect2 x y x2 y2 cx cy cx2 cy2).2.2.2.2 = true ∧
    cx ≤ (clipRect2 x y x2 y2 cx cy cx2 cy2).1 ∧
    (clipRect2 x y x2 y2 cx cy cx2 cy2).1 < (clipRect2 x y x2 y2 cx cy cx2 cy2).2.2.1 ∧
    (clipRect2 x y x2 y2 cx cy cx2 cy2).2.2.1 ≤ cx2 ∧
    cy ≤ (clipRect2 x y x2 y2 cx cy cx2 cy2).2.1 ∧
    (clipRect2 x y x2 y2 cx cy cx2 cy2).2.1 < (clipRect2 x y x2 y2 cx cy cx2 cy2).2.2.2.1 ∧
    (clipRect2 x y x2 y2 cx cy cx2 cy2).2.2.2.1 ≤ cy2 :=
  ⟨(clipRect2_true_iff ..).mpr ⟨clamp_lt hx hcx, clamp_lt hy hcy⟩, (clampLo_bounds x hcx).1,
    clamp_lt hx hcx, (clampHi_bounds x2 hcx).2, (clampLo_bounds y hcy).1, clamp_lt hy hcy,
    (clampHi_bounds y2 hcy).2⟩

section running
variable {γ : Type}

/-- the running minimum `sraRgnBBox` keeps: `if (v < min) min = v` over a list, from seed `a` -/
def runMin (f : γ → Int) (l : List γ) (a : Int) : Int :=
  l.foldl (fun m x => if f x < m then f x else m) a

def runMax (f : γ → Int) (l : List γ) (b : Int) : Int :=
  l.foldl (fun m x => if f x > m then f x else m) b

theorem runMin_spec (f : γ → Int) (l : List γ) (a : Int) :
    runMin f l a ≤ a ∧ (∀ x ∈ l, runMin f l a ≤ f x) ∧
    (runMin f l a = a ∨ ∃ x ∈ l, f x = runMin f l a) := by
  induction l generalizing a with
  | nil => simp [runMin]
  | cons h l ih =>
    obtain ⟨a', ea, a1, a2, a3⟩ : ∃ a', a' = (if f h < a then f h else a) ∧ a' ≤ a ∧ a' ≤ f h ∧
        (a' = a ∨ a' = f h) :=
      ⟨_, rfl, by split <;> omega, by split <;> omega, by split <;> simp⟩
    obtain ⟨i1, i2, i3⟩ := ih a'
    rw [show runMin f (h :: l) a = runMin f l a' by rw [ea]; rfl]
    refine ⟨by omega, ?_, ?_⟩
    · intro x hx
      rcases List.mem_cons.mp hx with rfl | hm
      · omega
      · exact i2 x hm
    · rcases i3 with i3 | ⟨x, hx, i3⟩
      · rcases a3 with a3 | a3
        · exact Or.inl (by omega)
        · exact Or.inr ⟨h, by simp, by omega⟩
      · exact Or.inr ⟨x, by simp [hx], i3⟩

theorem runMax_spec (f : γ → Int) (l : List γ) (b : Int) :
    b ≤ runMax f l b ∧ (∀ x ∈ l, f x ≤ runMax f l b) ∧
    (runMax f l b = b ∨ ∃ x ∈ l, f x = runMax f l b) := by
  induction l generalizing b with
  | nil => simp [runMax]
  | cons h l ih =>
    obtain ⟨b', eb, b1, b2, b3⟩ : ∃ b', b' = (if f h > b then f h else b) ∧ b ≤ b' ∧ f h ≤ b' ∧
        (b' = b ∨ b' = f h) :=
      ⟨_, rfl, by split <;> omega, by split <;> omega, by split <;> simp⟩
    obtain ⟨i1, i2, i3⟩ := ih b'
    rw [show runMax f (h :: l) b = runMax f l b' by rw [eb]; rfl]
    refine ⟨by omega, ?_, ?_⟩
    · intro x hx
      rcases List.mem_cons.mp hx with rfl | hm
      · omega
      · exact i2 x hm
    · rcases i3 with i3 | ⟨x, hx, i3⟩
      · rcases b3 with b3 | b3
        · exact Or.inl (by omega)
        · exact Or.inr ⟨h, by simp, by omega⟩
      · exact Or.inr ⟨x, by simp [hx], i3⟩

end running

theorem bboxX_eq (l : XList) (a b : Int) :
    bboxX l (a, b) = (runMin (·.s) l a, runMax (·.e) l b) := by
  induction l generalizing a b with
  | nil => rfl
  | cons h l ih => rw [bboxX, ih]; rfl

/-- the four components of `sraRgnBBox`'s state are independent running extrema: of the x-spans of
all bands, and of the bands -/
theorem bboxY_eq (r : Region) (a c b d : Int) :
    bboxY r (a, c, b, d) =
      (runMin (·.s) (r.flatMap (·.sub)) a, runMin (·.s) r c,
        runMax (·.e) (r.flatMap (·.sub)) b, runMax (·.e) r d) := by
  induction r generalizing a c b d with
  | nil => rfl
  | cons v r ih =>
    rw [bboxY, bboxX_eq, ih]
    simp only [runMin, runMax, List.flatMap_cons, List.foldl_append, List.foldl_cons]

/-- all coordinates are C `int`s (`INT_MIN ≤ s`, `e ≤ INT_MAX`) — true of every region the C code
can hold; needed because the model computes in unbounded `Int` while `sraRgnBBox` starts from the
seeds `INT_MAX` / `INT_MIN` -/
def InRange (r : Region) : Prop :=
  ∀ v ∈ r, -intMax - 1 ≤ v.s ∧ v.e ≤ intMax ∧ ∀ sp ∈ v.sub, -intMax - 1 ≤ sp.s ∧ sp.e ≤ intMax

theorem bbox_nil : Region.bbox [] = [] := by
  simp [Region.bbox, bboxY, intMax, Region.empty]

theorem bbox_wf_all (r : Region) : Region.WF (Region.bbox r) := by
  unfold Region.bbox
  simp only []
  split
  · trivial
  · exact rect_wf _ _ _ _

theorem bbox_eq (r : Region) :
    Region.bbox r =
      if runMax (·.e) (r.flatMap (·.sub)) (-intMax - 1) < runMin (·.s) (r.flatMap (·.sub)) intMax ∨
          runMax (·.e) r (-intMax - 1) < runMin (·.s) r intMax then Region.empty
      else Region.rect (runMin (·.s) (r.flatMap (·.sub)) intMax) (runMin (·.s) r intMax)
        (runMax (·.e) (r.flatMap (·.sub)) (-intMax - 1)) (runMax (·.e) r (-intMax - 1)) := by
  simp only [Region.bbox, bboxY_eq]

/-- for EVERY region: the seeds only matter for tightness -/
theorem bbox_covers (r : Region) (x y : Int) (h : Region.den r x y) : Region.den (Region.bbox r) x y := by
  obtain ⟨v, hv, h1, h2, sp, hsp, h3, h4⟩ := h
  have hm : sp ∈ r.flatMap (·.sub) := List.mem_flatMap.mpr ⟨v, hv, hsp⟩
  have a1 := (runMin_spec (·.s) (r.flatMap (·.sub)) intMax).2.1 sp hm
  have a2 := (runMax_spec (·.e) (r.flatMap (·.sub)) (-intMax - 1)).2.1 sp hm
  have a3 := (runMin_spec (·.s) r intMax).2.1 v hv
  have a4 := (runMax_spec (·.e) r (-intMax - 1)).2.1 v hv
  rw [bbox_eq, if_neg (by omega)]
  exact (rect_den _ _ _ _ x y).mpr ⟨by omega, by omega, by omega, by omega⟩

theorem wf_touch (r : Region) (hwf : Region.WF r) :
    (∀ sp ∈ r.flatMap (·.sub), (∃ y, Region.den r sp.s y) ∧ ∃ y, Region.den r (sp.e - 1) y) ∧
    (∀ v ∈ r, (∃ x, Region.den r x v.s) ∧ ∃ x, Region.den r x (v.e - 1)) := by
  have hall := Sorted.all hwf
  constructor
  · intro sp hsp
    obtain ⟨v, hv, hm⟩ := List.mem_flatMap.mp hsp
    have hlt := (Sorted.all (hall v hv).2.1 sp hm).1
    exact ⟨⟨v.s, v, hv, Int.le_refl _, (hall v hv).1, sp, hm, Int.le_refl _, hlt⟩,
      ⟨v.s, v, hv, Int.le_refl _, (hall v hv).1, sp, hm, by omega, by omega⟩⟩
  · intro v hv
    obtain ⟨sp, hm⟩ := List.exists_mem_of_ne_nil _ (hall v hv).2.2
    have hlt := (Sorted.all (hall v hv).2.1 sp hm).1
    have hvlt := (hall v hv).1
    exact ⟨⟨sp.s, v, hv, Int.le_refl _, hvlt, sp, hm, Int.le_refl _, hlt⟩,
      ⟨sp.s, v, hv, by omega, by omega, sp, hm, Int.le_refl _, hlt⟩⟩

theorem bbox_spec (r : Region) (hwf : Region.WF r) (hr : InRange r) (hne : r ≠ []) :
    ∃ x1 y1 x2 y2, Region.bbox r = [⟨y1, y2, [⟨x1, x2, ()⟩]⟩] ∧ x1 < x2 ∧ y1 < y2 ∧
      (∀ x y, Region.den (Region.bbox r) x y ↔ (x1 ≤ x ∧ x < x2 ∧ y1 ≤ y ∧ y < y2)) ∧
      (∀ x y, Region.den r x y → Region.den (Region.bbox r) x y) ∧
      (∃ y, Region.den r x1 y) ∧ (∃ y, Region.den r (x2 - 1) y) ∧
      (∃ x, Region.den r x y1) ∧ (∃ x, Region.den r x (y2 - 1)) := by
  obtain ⟨-, X2, X3⟩ := runMin_spec (·.s) (r.flatMap (·.sub)) intMax
  obtain ⟨-, X5, X6⟩ := runMax_spec (·.e) (r.flatMap (·.sub)) (-intMax - 1)
  obtain ⟨-, Y2, Y3⟩ := runMin_spec (·.s) r intMax
  obtain ⟨-, Y5, Y6⟩ := runMax_spec (·.e) r (-intMax - 1)
  have hall := Sorted.all hwf
  obtain ⟨v0, r', rfl⟩ : ∃ v0 r', r = v0 :: r' := by
    cases r with
    | nil => exact absurd rfl hne
    | cons v0 r' => exact ⟨v0, r', rfl⟩
  have hv0 := hall v0 (by simp)
  obtain ⟨s0, hs0m⟩ := List.exists_mem_of_ne_nil _ hv0.2.2
  have hs0f : s0 ∈ (v0 :: r').flatMap (·.sub) := List.mem_flatMap.mpr ⟨v0, by simp, hs0m⟩
  have hs0lt := (Sorted.all hv0.2.1 s0 hs0m).1
  have hr0 := hr v0 (by simp)
  have hr0s := hr0.2.2 s0 hs0m
  have hb := bbox_eq (v0 :: r')
  generalize runMin (·.s) ((v0 :: r').flatMap (·.sub)) intMax = x1 at *
  generalize runMax (·.e) ((v0 :: r').flatMap (·.sub)) (-intMax - 1) = x2 at *
  generalize runMin (·.s) (v0 :: r') intMax = y1 at *
  generalize runMax (·.e) (v0 :: r') (-intMax - 1) = y2 at *
  have x2s := X2 s0 hs0f
  have x5s := X5 s0 hs0f
  have y2s := Y2 v0 (by simp)
  have y5s := Y5 v0 (by simp)
  -- the seeds were replaced
  obtain ⟨sa, hsa, hX3⟩ := X3.resolve_left (by omega)
  obtain ⟨sb, hsb, hX6⟩ := X6.resolve_left (by omega)
  obtain ⟨va, hva, hY3⟩ := Y3.resolve_left (by omega)
  obtain ⟨vb, hvb, hY6⟩ := Y6.resolve_left (by omega)
  obtain ⟨tx, ty⟩ := wf_touch _ hwf
  rw [if_neg (by omega)] at hb
  refine ⟨x1, y1, x2, y2, ?_, by omega, by omega, fun x y => ?_, bbox_covers _,
    hX3 ▸ (tx sa hsa).1, hX6 ▸ (tx sb hsb).2, hY3 ▸ (ty va hva).1, hY6 ▸ (ty vb hvb).2⟩
  · rw [hb, Region.rect, if_neg (by omega)]
  · rw [hb]
    exact rect_den x1 y1 x2 y2 x y

section dir
variable {γ : Type}

def first? (l : List γ) (rev : Bool) : Option γ := if rev then l.getLast? else l.head?
def rest (l : List γ) (rev : Bool) : List γ := if rev then l.dropLast else l.tail
def put (l : List γ) (rev : Bool) (a : γ) : List γ := if rev then l.dropLast ++ [a] else a :: l.tail

theorem first?_none {l : List γ} {rev : Bool} (h : first? l rev = none) : l = [] := by
  cases rev <;> simp_all [first?]

theorem first?_some {l : List γ} {rev : Bool} {a : γ} (h : first? l rev = some a) :
    dir l rev = a :: dir (rest l rev) rev ∧ (∀ a', dir (put l rev a') rev = a' :: dir (rest l rev) rev) ∧
    a ∈ l ∧ (rest l rev).Sublist l := by
  cases rev
  · simp only [first?, Bool.false_eq_true, if_false] at h
    cases l with
    | nil => simp at h
    | cons x t =>
      simp only [List.head?_cons, Option.some.injEq] at h
      subst h
      simp [dir, rest, put]
  · simp only [first?, if_true] at h
    obtain ⟨ys, rfl⟩ := List.getLast?_eq_some_iff.mp h
    simp [dir, rest, put]

end dir

theorem popRect_eq (r : Region) (flags : Nat) :
    Region.popRect r flags =
      (match first? r (flags &&& 1 == 1) with
       | none => (r, none)
       | some v =>
         match first? v.sub (flags &&& 2 == 2) with
         | none => (r, none)
         | some h =>
           (if (rest v.sub (flags &&& 2 == 2)).isEmpty then rest r (flags &&& 1 == 1)
            else put r (flags &&& 1 == 1) { v with sub := rest v.sub (flags &&& 2 == 2) },
            some ⟨h.s, v.s, h.e, v.e⟩)) := by
  simp only [Region.popRect]
  generalize (flags &&& 1 == 1) = ry
  generalize (flags &&& 2 == 2) = rx
  cases ry <;> cases rx <;> rfl

theorem sorted_sublist {α : Type} {G : α → Prop} {l l' : List (Span α)} (h : Sorted G l)
    (hs : l'.Sublist l) : Sorted G l' := by
  rw [sorted_iff] at h ⊢
  exact ⟨h.1.sublist hs, fun sp hsp => h.2 sp (hs.subset hsp)⟩

theorem sorted_dir {α : Type} {G : α → Prop} {l : List (Span α)} (rev : Bool) :
    Sorted G l ↔ ((dir l rev).Pairwise (fun a b => if rev then b.e ≤ a.s else a.e ≤ b.s) ∧
      ∀ sp ∈ dir l rev, sp.s < sp.e ∧ G sp.sub) := by
  rw [sorted_iff]
  cases rev <;> simp [dir, List.pairwise_reverse]

theorem popRect_spec (r : Region) (hwf : Region.WF r) (flags : Nat) :
    match Region.rects r (flags &&& 2 == 2) (flags &&& 1 == 1) with
    | [] => r = [] ∧ Region.popRect r flags = (r, none)
    | rc :: rs =>
      (Region.popRect r flags).2 = some rc ∧
      Region.rects (Region.popRect r flags).1 (flags &&& 2 == 2) (flags &&& 1 == 1) = rs ∧
      Region.WF (Region.popRect r flags).1 := by
  rw [popRect_eq]
  generalize (flags &&& 2 == 2) = rx
  generalize (flags &&& 1 == 1) = ry
  cases hv : first? r ry with
  | none =>
    have := first?_none hv
    subst this
    simp [Region.rects]
  | some v =>
    obtain ⟨d1, d2, hvm, hrs⟩ := first?_some hv
    have hV := Sorted.all hwf v hvm
    cases hh : first? v.sub rx with
    | none => exact absurd (first?_none hh) hV.2.2
    | some h =>
      obtain ⟨e1, e2, hhm, hss⟩ := first?_some hh
      simp only [hh, rects_eq_dir, d1, e1, List.flatMap_cons, List.map_cons, List.cons_append]
      refine ⟨trivial, ?_, ?_⟩
      · by_cases hemp : (rest v.sub rx).isEmpty = true
        · simp only [hemp, if_true]
          have : rest v.sub rx = [] := by simpa using hemp
          simp [this, dir]
        · simp only [hemp]
          simp only [Bool.false_eq_true, if_false, d2, List.flatMap_cons]
      · by_cases hemp : (rest v.sub rx).isEmpty = true
        · simp only [hemp, if_true]
          exact sorted_sublist hwf hrs
        · simp only [hemp]
          simp only [Bool.false_eq_true, if_false]
          have hsub : GX (rest v.sub rx) :=
            ⟨sorted_sublist hV.2.1 hss, by simpa using hemp⟩
          rw [Region.WF, sorted_dir ry, d2]
          have hw := (sorted_dir ry).mp hwf
          rw [d1, List.pairwise_cons] at hw
          refine ⟨List.pairwise_cons.mpr ⟨hw.1.1, hw.1.2⟩, fun sp hsp => ?_⟩
          rcases List.mem_cons.mp hsp with rfl | hm
          · exact ⟨hV.1, hsub⟩
          · exact hw.2 sp (List.mem_cons_of_mem _ hm)

theorem popRect_none_iff (r : Region) (hwf : Region.WF r) (flags : Nat) :
    (Region.popRect r flags).2 = none ↔ r = [] := by
  have hs := popRect_spec r hwf flags
  constructor
  · intro hn
    cases hl : Region.rects r (flags &&& 2 == 2) (flags &&& 1 == 1) with
    | nil => rw [hl] at hs; exact hs.1
    | cons rc rs => rw [hl] at hs; rw [hs.1] at hn; cases hn
  · rintro rfl
    rw [popRect_eq]
    cases (flags &&& 1 == 1) <;> rfl

theorem popRect_den (r : Region) (hwf : Region.WF r) (flags : Nat) (r' : Region) (rc : Rect)
    (h : Region.popRect r flags = (r', some rc)) :
    Region.WF r' ∧
    (Region.rects r (flags &&& 2 == 2) (flags &&& 1 == 1)).head? = some rc ∧
    Region.rects r' (flags &&& 2 == 2) (flags &&& 1 == 1)
      = (Region.rects r (flags &&& 2 == 2) (flags &&& 1 == 1)).tail ∧
    (rc.x1 < rc.x2 ∧ rc.y1 < rc.y2) ∧
    (∀ x y, Rect.den rc x y → Region.den r x y) ∧
    (∀ x y, Region.den r' x y ↔ (Region.den r x y ∧ ¬ Rect.den rc x y)) := by
  have hs := popRect_spec r hwf flags
  have hne := rects_nonempty r hwf (flags &&& 2 == 2) (flags &&& 1 == 1)
  have hdj := rects_disjoint r hwf (flags &&& 2 == 2) (flags &&& 1 == 1)
  have hc := rects_cover r (flags &&& 2 == 2) (flags &&& 1 == 1)
  have hc' := rects_cover r' (flags &&& 2 == 2) (flags &&& 1 == 1)
  generalize Region.rects r (flags &&& 2 == 2) (flags &&& 1 == 1) = l at *
  cases l with
  | nil => simp [hs.2] at h
  | cons rc0 rs =>
    simp only [h, Option.some.injEq] at hs
    obtain ⟨rfl, hrs, hwf'⟩ := hs
    rw [List.pairwise_cons] at hdj
    refine ⟨hwf', rfl, hrs, hne _ (by simp), ?_, ?_⟩
    · intro x y hd
      exact (hc x y).mpr ⟨_, by simp, hd⟩
    · intro x y
      rw [hc' x y, hrs, hc x y]
      constructor
      · rintro ⟨c, hcm, hcd⟩
        exact ⟨⟨c, by simp [hcm], hcd⟩, fun hr => hdj.1 c hcm x y ⟨hr, hcd⟩⟩
      · rintro ⟨⟨c, hcm, hcd⟩, hn⟩
        rcases List.mem_cons.mp hcm with rfl | hm
        · exact absurd hcd hn
        · exact ⟨c, hm, hcd⟩

end VncModel.Rgn
