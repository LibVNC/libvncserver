import VncModel.Region.Basic
/-!
`sraSpanListOr`: the loop of the model computes the union (generic level).
-/
namespace VncModel.Rgn
variable {α β : Type}

/-- the overlap step of `sraSpanListOr`.  If the source span reaches beyond the merged span `mn.1`,
the loop goes on with what is left of it (`sstart := mn.1.e`), otherwise with the next source span. -/
theorem or_overlap {ops : SubOps α} {G : α → Prop} {D : α → β → Prop} (L : Laws ops G D)
    {acc drest srest : List (Span α)} {dc sc : Span α} {sstart : Int}
    (hz : Zip G acc (dc :: drest)) (hacc : SortedTo G sstart acc) (hlt : sstart < sc.e)
    (hgs : G sc.sub) (hsrest : SortedFrom G sc.e srest) (h2 : sstart < dc.e ∧ sc.e > dc.s) :
    let mp1 := if sstart < dc.s then mergePrev ops.eq dc (⟨sstart, dc.s, sc.sub⟩ :: acc)
               else (dc, acc)
    let dcA := mp1.1
    let accA := mp1.2
    let drestB := if sc.e < dcA.e then ⟨sc.e, dcA.e, dcA.sub⟩ :: drest else drest
    let dcB : Span α := if sc.e < dcA.e then { dcA with e := sc.e } else dcA
    let accC := if sstart > dcB.s then ⟨dcB.s, sstart, dcB.sub⟩ :: accA else accA
    let dcC : Span α := if sstart > dcB.s then { dcB with s := sstart } else dcB
    let dcD : Span α := { dcC with sub := ops.or dcC.sub sc.sub }
    let mp := mergePrev ops.eq dcD accC
    let mn := mergeNext ops.eq mp.1 drestB
    Zip G mp.2 (mn.1 :: mn.2) ∧ (∀ X, sc.e ≤ X → SortedTo G X mp.2) ∧
    mn.2.length ≤ drest.length + 1 ∧ (sc.e > mn.1.e → mn.2.length ≤ drest.length) ∧
    ∀ y q,
      (¬ sc.e > mn.1.e →
        ((den D mp.2 y q ∨ den D (mn.1 :: mn.2) y q ∨ den D srest y q) ↔
          (den D acc y q ∨ den D (dc :: drest) y q ∨
            den D (⟨sstart, sc.e, sc.sub⟩ :: srest) y q))) ∧
      (sc.e > mn.1.e →
        ((den D (mn.1 :: mp.2) y q ∨ den D mn.2 y q ∨
            den D (⟨mn.1.e, sc.e, sc.sub⟩ :: srest) y q) ↔
          (den D acc y q ∨ den D (dc :: drest) y q ∨
            den D (⟨sstart, sc.e, sc.sub⟩ :: srest) y q))) := by
  intro mp1 dcA accA drestB dcB accC dcC dcD mp mn
  obtain ⟨hdacc, hdc, hgd, hdrest⟩ := hz
  obtain ⟨a1, a2, a3, a4, a5, a6⟩ : dcA.e = dc.e ∧ dcA.sub = dc.sub ∧ dcA.s ≤ dc.s ∧
      SortedTo G dcA.s accA ∧ (∀ X, sc.e ≤ X → SortedTo G X accA) ∧
      ∀ y q, den D (dcA :: accA) y q ↔
        (den D (dc :: acc) y q ∨ (sstart < dc.s ∧ sstart ≤ y ∧ y < dc.s ∧ D sc.sub q)) := by
    by_cases b1 : sstart < dc.s
    · have hp : SortedTo G dc.s ({ s := sstart, e := dc.s, sub := sc.sub } :: acc) :=
        ⟨Int.le_refl _, b1, hgs, hacc⟩
      have := mergePrev_spec (G := G) (D := D) ops.eq L.eq_sound _ dc hp hdc
      simp only [dcA, accA, mp1, b1, if_true]
      refine ⟨this.1, this.2.1, this.2.2.1, this.2.2.2.1,
        fun X hX => mergePrev_suffix ops.eq _ dc X (hp.mono (by omega)), fun y q => ?_⟩
      rw [this.2.2.2.2 y q]
      simp only [den_cons, true_and]
      exact ⟨fun h => h.elim (fun h => Or.inl (Or.inl h))
          (fun h => h.elim Or.inr (fun h => Or.inl (Or.inr h))),
        fun h => h.elim (fun h => h.elim Or.inl (fun h => Or.inr (Or.inr h)))
          (fun h => Or.inr (Or.inl h))⟩
    · simp only [dcA, accA, mp1, b1, if_false]
      exact ⟨trivial, trivial, Int.le_refl _, hdacc, fun X hX => hacc.mono (by omega),
        fun y q => by simp⟩
  have hx : dcD = ⟨if sstart > dcA.s then sstart else dcA.s,
      if sc.e < dc.e then sc.e else dc.e, ops.or dc.sub sc.sub⟩ := by
    simp only [dcD, dcC, dcB, apply_ite Span.s, apply_ite Span.e, apply_ite Span.sub, ite_self,
      a1, a2]
  have hdrB : drestB = if sc.e < dc.e then ⟨sc.e, dc.e, dc.sub⟩ :: drest else drest := by
    simp only [drestB, a1, a2]
  have haC : accC = if sstart > dcA.s then ⟨dcA.s, sstart, dc.sub⟩ :: accA else accA := by
    simp only [accC, dcB, apply_ite Span.s, apply_ite Span.sub, ite_self, a2]
  obtain ⟨haccC, hdrestB, hlt0⟩ := split_sorted (G := G) (acc := accA) (drest := drest) (dc := dcA)
    ⟨a4, by omega, a2 ▸ hgd, a1 ▸ hdrest⟩ (lo := sstart) (hi := sc.e) (by omega) (by omega) hlt
  simp only [a1, a2] at haccC hdrestB hlt0
  have hgor := L.or_good _ _ hgd hgs
  have hdor := L.or_den _ _ hgd hgs
  obtain ⟨k1, k2, k3, k4, k5, k6, k7⟩ : mn.1.sub = ops.or dc.sub sc.sub ∧
      mn.1.s ≤ (if sstart > dcA.s then sstart else dcA.s) ∧
      (if sc.e < dc.e then sc.e else dc.e) ≤ mn.1.e ∧ SortedTo G mn.1.s mp.2 ∧
      SortedFrom G mn.1.e mn.2 ∧ mn.2.length ≤ drestB.length ∧
      ∀ y q, (den D (mn.1 :: mp.2) y q ∨ den D mn.2 y q) ↔
        (den D (⟨if sstart > dcA.s then sstart else dcA.s, if sc.e < dc.e then sc.e else dc.e,
            ops.or dc.sub sc.sub⟩ :: accC) y q ∨ den D drestB y q) := by
    simp only [mn, mp, hx]
    exact merge_spec (G := G) (D := D) ops.eq L.eq_sound (haC ▸ haccC) hlt0 (hdrB ▸ hdrestB)
  have hl1 : drestB.length ≤ drest.length + 1 := by rw [hdrB]; split <;> simp
  refine ⟨⟨k4, by omega, k1 ▸ hgor, k5⟩, fun X hX => ?_, by omega, fun h3 => ?_, fun y q => ?_⟩
  · apply mergePrev_suffix
    rw [haC]
    split
    · exact ⟨show sstart ≤ X by omega, by assumption, hgd, a4⟩
    · exact a5 X hX
  · have : ¬ sc.e < dc.e := by intro c; rw [if_pos c] at k3; omega
    rw [hdrB, if_neg this] at k6
    exact k6
  · have b1 : den D drest y q → dc.e ≤ y := den_lb hdrest
    have b2 : den D srest y q → sc.e ≤ y := den_lb hsrest
    have b3 : den D mp.2 y q → y < mn.1.s := den_ub k4
    have b4 : den D mn.2 y q → mn.1.e ≤ y := den_lb k5
    have b5 : den D acc y q → y < dc.s := den_ub hdacc
    have b6 : den D acc y q → y < sstart := den_ub hacc
    have b7 : den D accA y q → y < dcA.s := den_ub a4
    have hq := hdor q
    have e0 := a6 y q
    have e := k7 y q
    simp only [hdrB, haC, den_cons, den_ite_cons, k1, a1, a2, hq] at e0 e ⊢
    -- only the pointwise facts stay in the context: `grind` is markedly slower with all of it
    clear_value mp mn mp1 dcA accA drestB dcB accC dcC dcD
    clear hq k7 a6 hdor haccC hdrestB hx hdrB haC hl1 k6 k4 k5 hacc hdacc hdrest hsrest a4 a5 hgor
    constructor
    · intro h3
      grind
    · intro h3
      grind

theorem orLoop_spec {ops : SubOps α} {G : α → Prop} {D : α → β → Prop} (L : Laws ops G D)
    (fuel : Nat) (acc d : List (Span α)) (sstart : Int) (s : List (Span α))
    (hf : 2 * s.length + d.length ≤ fuel)
    (hz : Zip G acc d) (hb : s ≠ [] → SortedTo G sstart acc)
    (hs : SortedFrom G sstart (retarget sstart s)) :
    Sorted G (orLoop ops fuel acc d sstart s) ∧
    ∀ y q, den D (orLoop ops fuel acc d sstart s) y q ↔
      (den D acc y q ∨ den D d y q ∨ den D (retarget sstart s) y q) := by
  fun_induction orLoop ops fuel acc d sstart s
  case case1 acc d sstart s =>
    have hs0 : s = [] := List.eq_nil_of_length_eq_zero (by omega)
    subst hs0
    exact ⟨hz.sorted, by simp [den_append, den_reverse, retarget]⟩
  case case2 fuel acc d sstart =>
    exact ⟨hz.sorted, by simp [den_append, den_reverse, retarget]⟩
  case case3 fuel acc sstart sc srest ih =>
    obtain ⟨_, hlt, hgs, hsrest⟩ := hs
    have hacc := hb (by simp)
    have hpre := ih (by simp only [List.length_cons] at hf ⊢; omega)
      ⟨sc.e, Int.le_refl _, hlt, hgs, hacc⟩
      (sortedTo_startOf hsrest fun X hX => ⟨hX, hlt, hgs, hacc⟩)
      (by rw [retarget_startOf]; exact hsrest.startOf)
    refine ⟨hpre.1, ?_⟩
    intro y q
    rw [hpre.2 y q, retarget_startOf]
    simp only [retarget, den_cons, den_nil]
    grind
  case case4 fuel acc dc drest sstart sc srest h1 mp ih =>
    obtain ⟨_, hlt, hgs, hsrest⟩ := hs
    have hacc := hb (by simp)
    obtain ⟨hdacc, hdc, hgd, hdrest⟩ := hz
    have hnew : SortedTo G dc.s ({ s := sstart, e := sc.e, sub := sc.sub } :: acc) :=
      ⟨by simpa using h1, hlt, hgs, hacc⟩
    obtain ⟨m1, m2, m3, m4, m5⟩ : mp.1.e = dc.e ∧ mp.1.sub = dc.sub ∧ mp.1.s ≤ dc.s ∧
        SortedTo G mp.1.s mp.2 ∧ ∀ y q, den D (mp.1 :: mp.2) y q ↔
          den D (dc :: { s := sstart, e := sc.e, sub := sc.sub } :: acc) y q :=
      mergePrev_spec (G := G) (D := D) ops.eq L.eq_sound _ dc hnew hdc
    have hpre := ih (by simp only [List.length_cons] at hf ⊢; omega)
      ⟨m4, by omega, m2 ▸ hgd, m1 ▸ hdrest⟩
      (sortedTo_startOf hsrest fun X hX => mergePrev_suffix ops.eq _ dc X
        (show SortedTo G X ({ s := sstart, e := sc.e, sub := sc.sub } :: acc) from
          ⟨hX, hlt, hgs, hacc⟩))
      (by rw [retarget_startOf]; exact hsrest.startOf)
    refine ⟨hpre.1, ?_⟩
    intro y q
    rw [hpre.2 y q, retarget_startOf]
    have e1 := m5 y q
    simp only [retarget, den_cons] at e1 ⊢
    clear_value mp
    clear ih hpre m5 hf
    grind
  case case7 fuel acc dc drest sstart sc srest h1 h2 ih =>
    obtain ⟨_, hlt, hgs, hsrest⟩ := hs
    have hacc := hb (by simp)
    have hz' := hz
    obtain ⟨hdacc, hdc, hgd, hdrest⟩ := hz
    have hle : dc.e ≤ sstart := by
      by_cases c : sstart < dc.e
      · exact absurd ⟨c, by omega⟩ h2
      · omega
    have hpre := ih (by simp only [List.length_cons] at hf ⊢; omega) hz'.advance
      (fun _ => ⟨hle, hdc, hgd, hdacc⟩) ⟨Int.le_refl _, hlt, hgs, hsrest⟩
    refine ⟨hpre.1, ?_⟩
    intro y q
    rw [hpre.2 y q]
    simp only [retarget, den_cons]
    grind
  case case5 fuel acc dc drest sstart sc srest h1 h2 mp1 dcA accA drestB dcB accC dcC dcD mp mn h3 ih =>
    obtain ⟨_, hlt, hgs, hsrest⟩ := hs
    obtain ⟨hz', _, _, hl, hden⟩ := or_overlap L hz (hb (by simp)) hlt hgs hsrest h2
    have hl' : mn.2.length ≤ drest.length := hl h3
    have hzA : Zip G (mn.1 :: mp.2) mn.2 := hz'.advance
    have hpre := ih (by simp only [List.length_cons] at hf ⊢; omega) hzA
      (fun _ => ⟨Int.le_refl _, hz'.2.1, hz'.2.2.1, hz'.1⟩) ⟨Int.le_refl _, h3, hgs, hsrest⟩
    exact ⟨hpre.1, fun y q => (hpre.2 y q).trans ((hden y q).2 h3)⟩
  case case6 fuel acc dc drest sstart sc srest h1 h2 mp1 dcA accA drestB dcB accC dcC dcD mp mn h3 ih =>
    obtain ⟨_, hlt, hgs, hsrest⟩ := hs
    obtain ⟨hz', hsuf, hl, _, hden⟩ := or_overlap L hz (hb (by simp)) hlt hgs hsrest h2
    have hl' : mn.2.length ≤ drest.length + 1 := hl
    have hpre := ih (by simp only [List.length_cons] at hf ⊢; omega) hz'
      (sortedTo_startOf hsrest hsuf)
      (by rw [retarget_startOf]; exact hsrest.startOf)
    refine ⟨hpre.1, fun y q => ?_⟩
    rw [hpre.2 y q, retarget_startOf]
    exact (hden y q).1 h3

theorem spanOr_spec {ops : SubOps α} {G : α → Prop} {D : α → β → Prop} (L : Laws ops G D)
    (dest src : List (Span α)) (hd : Sorted G dest) (hs : Sorted G src) :
    Sorted G (spanOr ops dest src) ∧
    ∀ y q, den D (spanOr ops dest src) y q ↔ (den D dest y q ∨ den D src y q) := by
  obtain ⟨lo, hlo⟩ := hs.to_from
  have h := orLoop_spec L (2 * src.length + dest.length) [] dest (startOf src) src
    (Nat.le_refl _) (Zip.of_sorted hd) (fun _ => trivial)
    (by rw [retarget_startOf]; exact hlo.startOf)
  refine ⟨h.1, fun y q => ?_⟩
  rw [spanOr, h.2 y q, retarget_startOf]
  simp

end VncModel.Rgn
