import VncModel.Region.And
/-!
`sraSpanListSubtract`: the loop of the model computes the set difference (generic level).
-/
namespace VncModel.Rgn
variable {α β : Type}

/-- the overlap step of `sraSpanListSubtract`.  The merged span `mn.1` may have swallowed spans of
`drest` that still lie under `sc`: they are equal to `sub'` at the sub-level, hence disjoint from
`sc`, which is why `mn.1` may be moved to `acc` unexamined. -/
theorem sub_overlap {ops : SubOps α} {G : α → Prop} {D : α → β → Prop} (L : Laws ops G D)
    {acc drest srest : List (Span α)} {dc sc : Span α} {sub' : α}
    (hz : Zip G acc (dc :: drest)) (hsc : sc.s < sc.e) (hgs : G sc.sub)
    (hsrest : SortedFrom G sc.e srest) (h1 : ¬ dc.s ≥ sc.e) (h2 : ¬ dc.e ≤ sc.s)
    (hsub : ops.sub dc.sub sc.sub = some sub') :
    let acc1 := if sc.s > dc.s then ⟨dc.s, sc.s, dc.sub⟩ :: acc else acc
    let dc1 : Span α := if sc.s > dc.s then { dc with s := sc.s } else dc
    let drest1 := if sc.e < dc1.e then ⟨sc.e, dc1.e, dc1.sub⟩ :: drest else drest
    let dc2 : Span α := if sc.e < dc1.e then { dc1 with e := sc.e } else dc1
    let mp := mergePrev ops.eq { dc2 with sub := sub' } acc1
    let mn := mergeNext ops.eq mp.1 drest1
    Zip G mp.2 (mn.1 :: mn.2) ∧ mn.2.length ≤ drest.length + 1 ∧
    (sc.e > mn.1.e → mn.2.length ≤ drest.length) ∧
    ∀ y q,
      (¬ sc.e > mn.1.e →
        ((den D mp.2 y q ∨ (den D (mn.1 :: mn.2) y q ∧ ¬ den D srest y q)) ↔
          (den D acc y q ∨ (den D (dc :: drest) y q ∧ ¬ den D (sc :: srest) y q)))) ∧
      (sc.e > mn.1.e →
        ((den D (mn.1 :: mp.2) y q ∨ (den D mn.2 y q ∧ ¬ den D (sc :: srest) y q)) ↔
          (den D acc y q ∨ (den D (dc :: drest) y q ∧ ¬ den D (sc :: srest) y q)))) := by
  intro acc1 dc1 drest1 dc2 mp mn
  have ⟨hacc, hdc, hgd, hdrest⟩ := hz
  obtain ⟨hgsub, hdsub⟩ := L.sub_some _ _ _ hgd hgs hsub
  have hx : ({ dc2 with sub := sub' } : Span α) =
      ⟨if sc.s > dc.s then sc.s else dc.s, if sc.e < dc.e then sc.e else dc.e, sub'⟩ := by
    simp only [dc2, dc1, apply_ite Span.s, apply_ite Span.e, ite_self]
  have hdr1 : drest1 = if sc.e < dc.e then ⟨sc.e, dc.e, dc.sub⟩ :: drest else drest := by
    simp only [drest1, dc1, apply_ite Span.e, apply_ite Span.sub, ite_self]
  obtain ⟨hacc1, hdrest1, hlt0⟩ := split_sorted hz (lo := sc.s) (hi := sc.e) (by omega) (by omega) hsc
  obtain ⟨k1, k2, k3, k4, k5, k6, k7⟩ : mn.1.sub = sub' ∧
      mn.1.s ≤ (if sc.s > dc.s then sc.s else dc.s) ∧
      (if sc.e < dc.e then sc.e else dc.e) ≤ mn.1.e ∧ SortedTo G mn.1.s mp.2 ∧
      SortedFrom G mn.1.e mn.2 ∧ mn.2.length ≤ drest1.length ∧
      ∀ y q, (den D (mn.1 :: mp.2) y q ∨ den D mn.2 y q) ↔
        (den D (⟨if sc.s > dc.s then sc.s else dc.s, if sc.e < dc.e then sc.e else dc.e, sub'⟩ :: acc1)
          y q ∨ den D drest1 y q) := by
    simp only [mn, mp, hx]
    exact merge_spec (G := G) (D := D) ops.eq L.eq_sound hacc1 hlt0 (hdr1 ▸ hdrest1)
  have hlt : mn.1.s < mn.1.e := by omega
  have hl1 : drest1.length ≤ drest.length + 1 := by rw [hdr1]; split <;> simp
  refine ⟨⟨k4, hlt, k1 ▸ hgsub, k5⟩, by omega, ?_, fun y q => ?_⟩
  · intro h3
    have : ¬ sc.e < dc.e := by intro c; rw [if_pos c] at k3; omega
    rw [hdr1, if_neg this] at k6
    exact k6
  · have b1 : den D drest y q → dc.e ≤ y := den_lb hdrest
    have b2 : den D srest y q → sc.e ≤ y := den_lb hsrest
    have b3 : den D mp.2 y q → y < mn.1.s := den_ub k4
    have b4 : den D mn.2 y q → mn.1.e ≤ y := den_lb k5
    have b5 : den D acc y q → y < dc.s := den_ub hacc
    have hq := hdsub q
    have e := k7 y q
    simp only [hdr1, acc1, den_cons, den_ite_cons, k1, hq] at e ⊢
    -- only the pointwise facts stay in the context: `grind` is markedly slower with all of it
    clear_value mp mn drest1 dc2 dc1 acc1
    clear hq k7 hdsub hacc1 hdrest1 hx hdr1 hl1 k6 k4 k5 hacc hdrest hsrest hsub
    constructor
    · intro h3
      grind
    · intro h3
      grind

theorem subLoop_spec {ops : SubOps α} {G : α → Prop} {D : α → β → Prop} (L : Laws ops G D)
    (fuel : Nat) (acc d s : List (Span α))
    (hf : 3 * s.length + 2 * d.length + flagM d s ≤ fuel)
    (hz : Zip G acc d) (hs : ∃ lo, SortedFrom G lo s) :
    Sorted G (subLoop ops fuel acc d s) ∧
    ∀ y q, den D (subLoop ops fuel acc d s) y q ↔
      (den D acc y q ∨ (den D d y q ∧ ¬ den D s y q)) := by
  fun_induction subLoop ops fuel acc d s
  case case1 acc d s =>
    have hd : d = [] := List.eq_nil_of_length_eq_zero (by omega)
    subst hd
    exact ⟨by simpa using hz.sorted_acc, by simp [den_reverse]⟩
  case case2 fuel acc s =>
    exact ⟨hz.sorted_acc, by simp [den_reverse]⟩
  case case3 fuel acc dc drest =>
    exact ⟨hz.sorted, by simp [den_append, den_reverse]⟩
  case case4 fuel acc dc drest sc srest h1 ih =>
    obtain ⟨lo, hlo, hsc, hgs, hsrest⟩ := hs
    have hfl := flagM_le (dc :: drest) srest
    simp only [flagM_cons, List.length_cons] at hf
    have hpre := ih (by simp only [List.length_cons]; omega) hz ⟨_, hsrest⟩
    refine ⟨hpre.1, fun y q => ?_⟩
    rw [hpre.2 y q, den_cons D sc srest]
    exact or_congr Iff.rfl (and_congr_right fun hd => not_congr (or_iff_right
      (den_sep (show SortedFrom G dc.s (dc :: drest) from ⟨Int.le_refl _, hz.2⟩) h1 hd)).symm)
  case case5 fuel acc dc drest sc srest h1 h2 ih =>
    obtain ⟨lo, hlo, hsc, hgs, hsrest⟩ := hs
    have hfl := flagM_le drest (sc :: srest)
    simp only [flagM_cons, List.length_cons] at hf
    have hpre := ih (by simp only [List.length_cons]; omega) hz.advance ⟨lo, hlo, hsc, hgs, hsrest⟩
    refine ⟨hpre.1, fun y q => ?_⟩
    have hsep : den D (sc :: srest) y q → ¬ _ :=
      den_sep (sp := dc) (show SortedFrom G sc.s (sc :: srest) from ⟨Int.le_refl _, hsc, hgs, hsrest⟩) h2
    rw [hpre.2 y q, den_cons D dc acc, den_cons D dc drest]
    constructor
    · rintro ((h | h) | ⟨h, n⟩)
      · exact Or.inr ⟨Or.inl h, fun hS => hsep hS h⟩
      · exact Or.inl h
      · exact Or.inr ⟨Or.inr h, n⟩
    · rintro (h | ⟨h | h, n⟩)
      · exact Or.inl (Or.inr h)
      · exact Or.inl (Or.inl h)
      · exact Or.inr ⟨h, n⟩
  case case6 fuel acc dc drest sc srest h1 h2 acc1 dc1 drest1 dc2 hsub ih =>
    obtain ⟨lo, hlo, hsc, hgs, hsrest⟩ := hs
    have ⟨hacc, hdc, hgd, hdrest⟩ := hz
    rw [show dc2.sub = dc.sub by simp only [dc2, dc1, apply_ite Span.sub, ite_self]] at hsub
    have hnone := L.sub_none _ _ hgd hgs hsub
    have hdr1 : drest1 = if sc.e < dc.e then ⟨sc.e, dc.e, dc.sub⟩ :: drest else drest := by
      simp only [drest1, dc1, apply_ite Span.e, apply_ite Span.sub, ite_self]
    obtain ⟨hacc1, hdrest1, hlt0⟩ :=
      split_sorted hz (lo := sc.s) (hi := sc.e) (by omega) (by omega) hsc
    have hl1 : 2 * drest1.length + flagM drest1 (sc :: srest) ≤ 2 * drest.length + 2 := by
      rw [hdr1]; split
      · simp only [flagM_cons, List.length_cons, Int.lt_irrefl, if_false]; omega
      · have := flagM_le drest (sc :: srest); omega
    simp only [flagM_cons, List.length_cons, show dc.s < sc.e by omega, if_true] at hf
    have hpre := ih (by simp only [List.length_cons]; omega)
      (Zip.of_sep (hacc1.mono (Int.le_of_lt hlt0)) (hdr1 ▸ hdrest1)) ⟨lo, hlo, hsc, hgs, hsrest⟩
    refine ⟨hpre.1, fun y q => ?_⟩
    rw [hpre.2 y q]
    have b1 : den D drest y q → dc.e ≤ y := den_lb hdrest
    have b2 : den D srest y q → sc.e ≤ y := den_lb hsrest
    have hq := hnone q
    simp only [hdr1, acc1, den_cons, den_ite_cons]
    clear_value drest1 dc2 dc1 acc1
    clear ih hpre hf hnone hacc1 hdrest1 hl1 hdr1 hz hacc hdrest hsrest
    grind
  case case7 fuel acc dc drest sc srest h1 h2 acc1 dc1 drest1 dc2 sub' hsub mp mn h3 ih =>
    obtain ⟨lo, hlo, hsc, hgs, hsrest⟩ := hs
    rw [show dc2.sub = dc.sub by simp only [dc2, dc1, apply_ite Span.sub, ite_self]] at hsub
    obtain ⟨hz', _, hl, hden⟩ := sub_overlap L hz hsc hgs hsrest h1 h2 hsub
    have hl' : mn.2.length ≤ drest.length := hl h3
    have hfl := flagM_le mn.2 (sc :: srest)
    simp only [flagM_cons, List.length_cons, show dc.s < sc.e by omega, if_true] at hf
    have hpre := ih (by simp only [List.length_cons]; omega) hz'.advance
      ⟨lo, hlo, hsc, hgs, hsrest⟩
    exact ⟨hpre.1, fun y q => (hpre.2 y q).trans ((hden y q).2 h3)⟩
  case case8 fuel acc dc drest sc srest h1 h2 acc1 dc1 drest1 dc2 sub' hsub mp mn h3 ih =>
    obtain ⟨lo, hlo, hsc, hgs, hsrest⟩ := hs
    rw [show dc2.sub = dc.sub by simp only [dc2, dc1, apply_ite Span.sub, ite_self]] at hsub
    obtain ⟨hz', hl, _, hden⟩ := sub_overlap L hz hsc hgs hsrest h1 h2 hsub
    have hl' : mn.2.length ≤ drest.length + 1 := hl
    have hfl := flagM_le (mn.1 :: mn.2) srest
    simp only [flagM_cons, List.length_cons, show dc.s < sc.e by omega, if_true] at hf
    have hpre := ih (by simp only [List.length_cons]; omega) hz' ⟨_, hsrest⟩
    exact ⟨hpre.1, fun y q => (hpre.2 y q).trans ((hden y q).1 h3)⟩

theorem spanSub_spec {ops : SubOps α} {G : α → Prop} {D : α → β → Prop} (L : Laws ops G D)
    (dest src : List (Span α)) (hd : Sorted G dest) (hs : Sorted G src) :
    Sorted G (spanSub ops dest src) ∧
    ∀ y q, den D (spanSub ops dest src) y q ↔ (den D dest y q ∧ ¬ den D src y q) := by
  have h := subLoop_spec L (3 * src.length + 2 * dest.length + 1) [] dest src
    (by have := flagM_le dest src; omega) (Zip.of_sorted hd) hs.to_from
  refine ⟨h.1, fun y q => ?_⟩
  rw [spanSub, h.2 y q]
  simp

end VncModel.Rgn
