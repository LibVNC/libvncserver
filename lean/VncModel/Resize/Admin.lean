import VncModel.Resize.Flow
/-!
Invariants over the "administrative" part of the state (buffer tokens, pixel-format tokens,
geometry): which operations can change them and how.  All of them follow from `step_admin`.
-/
namespace VncModel.Resize
open VncModel.Rgn VncModel.Update

theorem newFramebuffer_scr (st : State) (w h bpp : Int) (tok : Nat) :
    (newFramebuffer st w h bpp tok).scr.fb = tok ∧
    (newFramebuffer st w h bpp tok).scr.bpp = bpp ∧
    (newFramebuffer st w h bpp tok).scr.base.width = w ∧
    (newFramebuffer st w h bpp tok).scr.base.height = h ∧
    (newFramebuffer st w h bpp tok).scr.base.progSlice = st.scr.base.progSlice ∧
    (newFramebuffer st w h bpp tok).scr.base.maxRects = st.scr.base.maxRects ∧
    (newFramebuffer st w h bpp tok).scr.base.cursor = st.scr.base.cursor :=
  ⟨rfl, rfl, rfl, rfl, rfl, rfl, rfl⟩

/-! ### T6: geometry, depth and buffer change only by the application's call -/

theorem Op.resizesTo.appResize {op : Op} {w h bpp : Int} {tok : Nat} (h : op.resizesTo w h bpp tok) :
    op.appResize = true := by
  unfold Op.resizesTo at h
  split at h <;> first | rfl | exact h.elim

theorem step_geometry (st : State) (op : Op) (h : op.appResize = false) :
    geometry (step st op).1 = geometry st := by
  rcases step_admin st op with ⟨hg, _⟩ | ⟨_, _, _, _, hr, _⟩
  · exact hg
  · rw [hr.appResize] at h; cases h

/-! ### T1: buffer tokens -/

/-- no part of the state refers to the buffer `old` -/
def NoTok (old : Nat) (st : State) : Prop :=
  st.scr.fb ≠ old ∧ ∀ a ∈ admins st, a.ssrc ≠ old

/-- the operation installs no buffer called `old` -/
def Op.avoids (old : Nat) : Op → Prop
  | .newFramebuffer _ _ _ tok => tok ≠ old
  | .setDesktopSize _ _ _ _ (some (_, some (_, _, _, tok))) => tok ≠ old
  | _ => True

theorem Op.resizesTo.avoids {op : Op} {w h bpp : Int} {tok old : Nat} (h : op.resizesTo w h bpp tok)
    (ho : op.avoids old) : tok ≠ old := by
  unfold Op.resizesTo at h
  split at h
  · cases h; exact ho
  · cases h; exact ho
  · exact h.elim

theorem noTok_newFramebuffer (old : Nat) (st : State) (w h bpp : Int) (tok : Nat) (ht : tok ≠ old) :
    NoTok old (newFramebuffer st w h bpp tok) := by
  refine ⟨ht, forall_mem_admins.mpr fun d hd => ?_⟩
  obtain ⟨c, _, rfl⟩ := List.mem_map.mp hd
  rw [newFbClient_admin]
  exact ht

theorem setPixelFormat_ssrc (s : Screen) (c : Client) (f : Int) : (setPixelFormat s c f).ssrc = c.ssrc := rfl

/-- a record's scaled version is rendered from the current buffer, which a replacement installs -/
theorem noTok_step (old : Nat) (st : State) (op : Op) (h : NoTok old st) (ho : op.avoids old) :
    NoTok old (step st op).1 := by
  obtain ⟨hfb, hcl⟩ := h
  rw [forall_mem_admins] at hcl
  have hnew : ∀ d ∈ stepNew st op, (admin d).ssrc ≠ old := by
    intro d hd
    obtain ⟨id, _, rfl, _⟩ := mem_stepNew hd
    exact hfb
  unfold NoTok
  rw [forall_mem_admins, forall_mem_step]
  rcases step_admin st op with ⟨hg, _, hc⟩ | ⟨w, h, bpp, tok, hr, hg, hc⟩
  · rw [show (step st op).1.scr.fb = st.scr.fb from congrArg Geometry.fb hg]
    refine ⟨hfb, fun c hm => ?_, hnew⟩
    rcases (hc c).ssrc with e | e <;> rw [e]
    · exact hcl c hm
    · exact hfb
  · rw [show (step st op).1.scr.fb = tok from congrArg Geometry.fb hg]
    refine ⟨hr.avoids ho, fun c _ => ?_, hnew⟩
    rw [(hc c).2, newFbClient_admin]
    exact hr.avoids ho

/-- what an update touches: the framebuffer (soft cursor, encoders of an unscaled client) or the
client's scaled version -/
theorem updateClient_acc {s : Screen} {c : Client} {t : Nat} (ht : t ∈ (updateClient s c).2.acc) :
    t = s.fb ∨ t = c.ssrc := by
  unfold updateClient at ht
  split at ht
  · unfold sendUpdate at ht
    split at ht
    · cases ht
    · split at ht
      · cases ht
      · rcases List.mem_append.mp ht with ht | ht <;> split at ht
        · cases ht
        · exact Or.inl (List.mem_singleton.mp ht)
        · cases ht
        · rw [List.mem_singleton.mp ht, readToken]
          split
          · exact Or.inr rfl
          · exact Or.inl rfl
  · cases ht

theorem step_acc (st : State) (op : Op) :
    ∀ t ∈ (step st op).2.acc, t = st.scr.fb ∨ ∃ a ∈ admins st, t = a.ssrc := by
  intro t ht
  have upd : ∀ {id : Nat} {c : Client}, getClient st id = some c → t ∈ (updateClient st.scr c).2.acc →
      t = st.scr.fb ∨ ∃ a ∈ admins st, t = a.ssrc := fun hc h =>
    (updateClient_acc h).imp_right fun e => ⟨admin _, List.mem_map.mpr ⟨_, (getClient_some hc).1, rfl⟩, e⟩
  cases op with
  | newClient | setDesktopSize | pointer => simp only [step] at ht; split at ht <;> cases ht
  | setEncodings | setPixelFormat | request | newFramebuffer | drop => cases ht
  | copy => exact Or.inl (List.mem_singleton.mp ht)
  | setScale | mark =>
    simp only [step] at ht
    split at ht
    · simp only at ht
      split at ht
      · exact Or.inl (List.mem_singleton.mp ht)
      · cases ht
    · cases ht
  | update id | updateFail id =>
    simp only [step] at ht
    split at ht
    · rename_i c hc
      exact upd hc ht
    · cases ht
  | updateExtFail id =>
    simp only [step] at ht
    split at ht
    · rename_i c hc
      split at ht
      · cases ht
      · exact upd hc ht
    · cases ht

/-! ### T4: the installed translation maps (current server format → client format) -/

def XlateOk (st : State) : Prop :=
  ∀ a ∈ admins st, a.isOpen = true → a.xlate = (st.scr.bpp, a.fmt)

theorem xlateOk_newFramebuffer (st : State) (w h bpp : Int) (tok : Nat) (hx : XlateOk st) :
    XlateOk (newFramebuffer st w h bpp tok) := by
  refine forall_mem_admins.mpr fun d hd => ?_
  obtain ⟨c, hc, rfl⟩ := List.mem_map.mp hd
  rw [newFbClient_admin]
  intro ho
  have hx' : c.xlate = (st.scr.bpp, c.fmt) := forall_mem_admins.mp hx c hc ho
  show (if c.base.isOpen && bpp != st.scr.bpp then (bpp, c.fmt) else c.xlate) = (bpp, c.fmt)
  split
  · rfl
  · rename_i hb
    have : bpp = st.scr.bpp := by simpa [show c.base.isOpen = true from ho] using hb
    rw [hx', this]

theorem xlateOk_step (st : State) (op : Op) (h : XlateOk st) : XlateOk (step st op).1 := by
  unfold XlateOk at h ⊢
  rw [forall_mem_admins] at h
  rw [forall_mem_admins, forall_mem_step]
  rcases step_admin st op with ⟨hg, _, hc⟩ | ⟨w, h', bpp, tok, hr, hg, hc⟩
  · rw [show (step st op).1.scr.bpp = st.scr.bpp from congrArg Geometry.bpp hg]
    refine ⟨fun c hm => (hc c).xlate (h c hm), fun d hd _ => ?_⟩
    obtain ⟨id, _, rfl, _⟩ := mem_stepNew hd
    rfl
  · rw [show (step st op).1.scr.bpp = bpp from congrArg Geometry.bpp hg]
    refine ⟨fun c hm => ?_, fun d hd => ?_⟩
    · rw [(hc c).2]
      exact forall_mem_admins.mp (xlateOk_newFramebuffer st w h' bpp tok (forall_mem_admins.mpr h)) _
        (List.mem_map.mpr ⟨c, hm, rfl⟩)
    · obtain ⟨id, rfl, _⟩ := mem_stepNew hd
      exact hr.elim

end VncModel.Resize
