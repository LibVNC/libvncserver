import VncModel.Resize.Admin
/-!
Two instances of `first_relevant`: a pending size message comes before anything else, and the
ExtendedDesktopSize reason / status reach the client with the next size message.  Both rest on `Uniq`
(one record per client id), `uniq_msgs` and `stepClient_frame` (what a silent step keeps).
-/
namespace VncModel.Resize
open VncModel.Rgn VncModel.Update

/-- `c0` is THE record of client `id` -/
def Uniq (id : Nat) (st : State) (c0 : Client) : Prop :=
  c0 ∈ st.clients ∧ c0.id = id ∧ ∀ c ∈ st.clients, c.id = id → c = c0

theorem uniq_step {id : Nat} {st : State} {c0 : Client} (op : Op) (h : Uniq id st c0) :
    Uniq id (step st op).1 (stepClient st op c0) := by
  obtain ⟨hm, hid, hu⟩ := h
  rw [Uniq, step_clients]
  refine ⟨List.mem_append_left _ (List.mem_map.mpr ⟨c0, hm, rfl⟩), by rw [stepClient_id]; exact hid, ?_⟩
  intro d hd hdid
  rcases List.mem_append.mp hd with hd | hd
  · obtain ⟨c, hc, rfl⟩ := List.mem_map.mp hd
    rw [stepClient_id] at hdid
    rw [hu c hc hdid]
  · obtain ⟨id', _, rfl, hfresh⟩ := mem_stepNew hd
    exact absurd (hid.trans hdid.symm) (hfresh c0 hm)

theorem Uniq.getClient {id : Nat} {st : State} {c0 : Client} (h : Uniq id st c0) :
    getClient st id = some c0 := by
  obtain ⟨c1, hc1⟩ := Option.isSome_iff_exists.mp (getClient_isSome_of_mem ⟨c0, h.1, h.2.1⟩)
  obtain ⟨hm1, hi1⟩ := getClient_some hc1
  rw [hc1, h.2.2 c1 hm1 hi1]

theorem updateClient_to {s : Screen} {c : Client} {i : Nat} {m : Msg}
    (h : (i, m) ∈ (updateClient s c).2.msgs) : i = c.id := by
  rcases updateClient_msgs s c with ⟨h0, _⟩ | ⟨_, _, h1, _⟩ | ⟨_, _, cs, cp, rs, h1⟩
  · rw [h0] at h; cases h
  · rw [h1] at h; exact (Prod.mk.inj (List.mem_singleton.mp h)).1
  · rw [h1] at h; exact (Prod.mk.inj (List.mem_singleton.mp h)).1

/-- only its own update (also the variant in which the screen hook would fail but no extended size
message is due) or its own SetScale send client `id` anything -/
theorem uniq_msgs {id : Nat} {st : State} {c0 : Client} {op : Op} {m : Msg} (hu : Uniq id st c0)
    (h : (id, m) ∈ (step st op).2.msgs) :
    ((op = .update id ∨ (op = .updateExtFail id ∧ extFails c0 = false)) ∧
      (id, m) ∈ (updateClient st.scr c0).2.msgs) ∨
    (∃ k, op = .setScale id k ∧ (setScale st.scr c0 k).2 = some m) := by
  have own : ∀ {id' : Nat} {c : Client}, getClient st id' = some c →
      (id, m) ∈ (updateClient st.scr c).2.msgs → id' = id ∧ c = c0 := by
    intro id' c hc hm
    obtain rfl : id' = id := (getClient_some hc).2.symm.trans (updateClient_to hm).symm
    exact ⟨rfl, Option.some.inj (hc.symm.trans hu.getClient)⟩
  cases op with
  | newClient | setDesktopSize | pointer | mark | updateFail =>
    simp only [step] at h; split at h <;> cases h
  | setEncodings | setPixelFormat | request | newFramebuffer | copy | drop => cases h
  | setScale id' k =>
    simp only [step] at h
    split at h
    · rename_i c hc
      simp only [Option.mem_toList, Option.map_eq_some_iff, Prod.mk.injEq] at h
      obtain ⟨m', hm', rfl, rfl⟩ := h
      obtain rfl := Option.some.inj (hc.symm.trans hu.getClient)
      exact Or.inr ⟨k, rfl, hm'⟩
    · cases h
  | update id' =>
    simp only [step] at h
    split at h
    · rename_i c hc
      obtain ⟨rfl, rfl⟩ := own hc h
      exact Or.inl ⟨Or.inl rfl, h⟩
    · cases h
  | updateExtFail id' =>
    simp only [step] at h
    split at h
    · rename_i c hc
      split at h
      · cases h
      · rename_i hx
        obtain ⟨rfl, rfl⟩ := own hc h
        exact Or.inl ⟨Or.inr ⟨rfl, by simpa using hx⟩, h⟩
    · cases h

/-- SetEncodings of client `id` keeps resize support -/
def Op.keepsCap (id : Nat) : Op → Prop
  | .setEncodings id' _ _ nf ext => id' = id → (nf || ext) = true
  | _ => True

/-- SetEncodings of client `id` keeps ExtendedDesktopSize -/
def Op.keepsExt (id : Nat) : Op → Prop
  | .setEncodings id' _ _ _ ext => id' = id → ext = true
  | _ => True

def Op.noRescale (id : Nat) : Op → Prop
  | .setScale id' _ => id' ≠ id
  | _ => True

/-- the connection of client `id` is not lost and the application's screen hook does not fail for it -/
def Op.noFailure (id : Nat) : Op → Prop
  | .updateFail id' | .updateExtFail id' | .drop id' => id' ≠ id
  | _ => True

def Op.noSds : Op → Prop
  | .setDesktopSize .. => False
  | _ => True

/-- resize-capable, size change pending, scaled geometry `tw × th` -/
def PendF (tw th : Int) (c : Client) : Prop :=
  c.useNewFBSize = true ∧ c.pending = true ∧ c.sw = tw ∧ c.sh = th

def IsSizeOf (tw th : Int) (m : Msg) : Prop :=
  m = .size tw th ∨ ∃ r s, m = .ext r s tw th [(1, 0, 0, tw, th, 0)]

theorem sizeMessage_isSizeOf (c : Client) : IsSizeOf c.sw c.sh (sizeMessage c).2 := by
  rw [sizeMessage_msg]
  split
  · exact Or.inr ⟨_, _, rfl⟩
  · exact Or.inl rfl

theorem sizeMessage_isSize (c : Client) : (sizeMessage c).2.isSize = true := by
  rw [sizeMessage_msg]; split <;> rfl

/-- what a step keeps of the flags of a record `c` of client `id` (`d` = the record afterwards):
resize support and the extension unless its own SetEncodings drops them, a pending size change and
the scaled geometry unless it rescales (or the application resizes), reason and status unless a
SetDesktopSize arrives -/
def Frame (id : Nat) (op : Op) (c d : Client) : Prop :=
  (op.keepsCap id → c.useNewFBSize = true → d.useNewFBSize = true) ∧
  (op.keepsExt id → c.useExt = true → d.useExt = true) ∧
  (op.noRescale id → c.pending = true → d.pending = true) ∧
  (op.noRescale id → op.appResize = false → d.sw = c.sw ∧ d.sh = c.sh) ∧
  (op.noSds → d.reqChange = c.reqChange ∧ d.lastErr = c.lastErr)

theorem Frame.of_flags {id : Nat} {op : Op} {c d : Client} (h : flags d = flags c) :
    Frame id op c d := by
  simp only [flags, Flags.mk.injEq] at h
  obtain ⟨_, h1, h2, h3, h4, h5, h6, h7⟩ := h
  exact ⟨fun _ hh => h1.trans hh, fun _ hh => h2.trans hh, fun _ hh => h3.trans hh,
    fun _ _ => ⟨h6, h7⟩, fun _ => ⟨h4, h5⟩⟩

theorem hookClient_flags (s : Screen) (hook : Hook) (c : Client) :
    (hookClient s hook c).useNewFBSize = c.useNewFBSize ∧
    (hookClient s hook c).useExt = c.useExt ∧ (hookClient s hook c).reqChange = c.reqChange ∧
    (hookClient s hook c).lastErr = c.lastErr ∧
    (hookClient s hook c).base.isOpen = c.base.isOpen ∧
    (c.pending = true → (hookClient s hook c).pending = true) := by
  unfold hookClient
  split
  · obtain ⟨_, _, _, e, hb, hp⟩ := newFbClient_touch s _ _ _ _ c
    rw [e]
    exact ⟨rfl, rfl, rfl, rfl, hb, hp⟩
  · exact ⟨rfl, rfl, rfl, rfl, rfl, id⟩

/-- **the frame of one step** for the record of client `id`, as long as its connection does not
fail and the step sends it no size message (sending one clears the flag and the fields) -/
theorem stepClient_frame {id : Nat} {st : State} {op : Op} {c : Client} (hu : Uniq id st c)
    (hl : op.noFailure id) (hno : ∀ m, (id, m) ∈ (step st op).2.msgs → m.isSize = false) :
    Frame id op c (stepClient st op c) := by
  have hid := hu.2.1
  have own : ∀ {id' : Nat}, (c.id == id') = true → id' = id :=
    fun he => (beq_iff_eq.mp he).symm.trans hid
  cases op with
  | newClient | pointer => exact .of_flags rfl
  | updateFail id' | updateExtFail id' | drop id' =>
    simp only [stepClient]
    split
    · rename_i he; exact absurd (own he) hl
    · exact .of_flags rfl
  | setPixelFormat => simp only [stepClient]; split <;> exact .of_flags rfl
  | copy => simp only [stepClient]; split <;> exact .of_flags rfl
  | mark x1 y1 x2 y2 =>
    simp only [stepClient]
    split
    · split <;> exact .of_flags rfl
    · exact .of_flags rfl
  | setEncodings id' cr cs nf ext =>
    simp only [stepClient]
    split
    · rename_i he
      exact ⟨fun hk _ => hk (own he), fun hk _ => hk (own he), fun _ h => h,
        fun _ _ => ⟨rfl, rfl⟩, fun _ => ⟨rfl, rfl⟩⟩
    · exact .of_flags rfl
  | setScale id' k =>
    simp only [stepClient]
    split
    · rename_i he
      obtain ⟨_, _, _, _, _, e⟩ := setScale_touch st.scr c k
      rw [e]
      exact ⟨fun _ h => h, fun _ h => h, fun hs => absurd (own he) hs,
        fun hs => absurd (own he) hs, fun _ => ⟨rfl, rfl⟩⟩
    · exact .of_flags rfl
  | request id' incr x y w h =>
    simp only [stepClient]
    split
    · obtain ⟨_, _, e, hp⟩ := request_touch st.scr c incr x y w h
      rw [e]
      exact ⟨fun _ h => h, fun _ h => h, fun _ => hp, fun _ _ => ⟨rfl, rfl⟩, fun _ => ⟨rfl, rfl⟩⟩
    · exact .of_flags rfl
  | newFramebuffer w h bpp tok =>
    obtain ⟨_, _, _, e, _, hp⟩ := newFbClient_touch st.scr w h bpp tok c
    simp only [stepClient]
    rw [e]
    exact ⟨fun _ h => h, fun _ h => h, fun _ => hp, fun _ hr => Bool.noConfusion hr,
      fun _ => ⟨rfl, rfl⟩⟩
  | update id' =>
    simp only [stepClient]
    split
    · rename_i he
      obtain rfl := own he
      rcases updateClient_msgs st.scr c with ⟨_, hfl⟩ | ⟨_, _, h1, _⟩ | ⟨_, hfl, _⟩
      · exact .of_flags hfl
      · have := hno (sizeMessage c).2 (by
          simp only [step]
          rw [hu.getClient]
          simp only
          rw [h1]
          simp [hid])
        rw [sizeMessage_isSize] at this
        cases this
      · exact .of_flags hfl
    · exact .of_flags rfl
  | setDesktopSize id' w h ns hook =>
    simp only [stepClient]
    split
    · generalize hc' : (if c.id == id' then { c with reqChange := reasonClient } else c) = c'
      have e : c'.useNewFBSize = c.useNewFBSize ∧ c'.useExt = c.useExt ∧ c'.pending = c.pending ∧
          c'.sw = c.sw ∧ c'.sh = c.sh := by
        subst hc'; split <;> exact ⟨rfl, rfl, rfl, rfl, rfl⟩
      obtain ⟨_, _, _, ha, a7⟩ := afterHook_touch id'
        (runHook (modClient st id' fun c => { c with reqChange := reasonClient }) hook).1
        (hookClient st.scr hook c')
      obtain ⟨b1, b2, _, _, _, b6⟩ := hookClient_flags st.scr hook c'
      rw [ha]
      refine ⟨fun _ h => b1.trans (e.1.trans h), fun _ h => b2.trans (e.2.1.trans h),
        fun _ h => a7 (b6 (e.2.2.1.trans h)), fun _ hr => ?_, fun hs => hs.elim⟩
      show (hookClient st.scr hook c').sw = c.sw ∧ (hookClient st.scr hook c').sh = c.sh
      rw [hookClient_of_appResize hr]
      exact ⟨e.2.2.2.1, e.2.2.2.2⟩
    · exact .of_flags rfl

theorem size_first (id : Nat) (tw th : Int) (ops : List Op) (st : State) (c0 : Client)
    (hu : Uniq id st c0) (hF : PendF tw th c0)
    (hA : ∀ op ∈ ops, op.appResize = false ∧ op.keepsCap id ∧ op.noRescale id ∧ op.noFailure id) :
    ∀ m, (msgsTo id (run st ops).2).head? = some m → IsSizeOf tw th m := by
  intro m hm
  refine first_relevant id (fun _ => true) (fun st => ∃ c0, Uniq id st c0 ∧ PendF tw th c0)
    (IsSizeOf tw th) (fun op => op.appResize = false ∧ op.keepsCap id ∧ op.noRescale id ∧ op.noFailure id)
    ?_ ops st ⟨c0, hu, hF⟩ hA m ?_
  · intro st op ⟨c, hu, hF⟩ ⟨ha1, ha2, ha3, ha4⟩
    constructor
    · intro m hm _
      rcases uniq_msgs hu hm with ⟨_, hmm⟩ | ⟨k, ho, _⟩
      · rcases updateClient_msgs st.scr c with ⟨h0, _⟩ | ⟨_, _, h1, _⟩ | ⟨hn, _⟩
        · rw [h0] at hmm; simp at hmm
        · rw [h1] at hmm
          simp only [List.mem_singleton, Prod.mk.injEq] at hmm
          rw [hmm.2, ← hF.2.2.1, ← hF.2.2.2]
          exact sizeMessage_isSizeOf c
        · exact absurd ⟨hF.1, hF.2.1⟩ hn
      · subst ho; exact absurd rfl ha3
    · intro hno
      obtain ⟨f1, _, f3, f4, _⟩ := stepClient_frame hu ha4 (fun m hm => by cases hno m hm)
      obtain ⟨e1, e2⟩ := f4 ha3 ha1
      exact ⟨stepClient st op c, uniq_step op hu, f1 ha2 hF.1, f3 ha3 hF.2.1, e1.trans hF.2.2.1,
        e2.trans hF.2.2.2⟩
  · cases hl : msgsTo id (run st ops).2 with
    | nil => rw [hl] at hm; simp at hm
    | cons a l => rw [hl] at hm; simp at hm; subst hm; simp

/-- ExtendedDesktopSize client whose reason / status fields hold `r` / `s` -/
def ExtF (r s : Int) (c : Client) : Prop := c.useExt = true ∧ c.reqChange = r ∧ c.lastErr = s

theorem ext_fields_delivered (id : Nat) (r s : Int) (ops : List Op) (st : State) (c0 : Client)
    (hu : Uniq id st c0) (hF : ExtF r s c0)
    (hA : ∀ op ∈ ops, op.keepsExt id ∧ op.noSds ∧ op.noFailure id) :
    ∀ m, (msgsTo id (run st ops).2).find? Msg.isSize = some m → ∃ w h l, m = .ext r s w h l := by
  refine first_relevant id Msg.isSize (fun st => ∃ c0, Uniq id st c0 ∧ ExtF r s c0)
    (fun m => ∃ w h l, m = .ext r s w h l) (fun op => op.keepsExt id ∧ op.noSds ∧ op.noFailure id)
    ?_ ops st ⟨c0, hu, hF⟩ hA
  intro st op ⟨c, hu, hF⟩ ⟨ha1, ha2, ha3⟩
  constructor
  · intro m hm hrel
    rcases uniq_msgs hu hm with ⟨_, hmm⟩ | ⟨k, _, hmm⟩
    · rcases updateClient_msgs st.scr c with ⟨h0, _⟩ | ⟨_, _, h1, _⟩ | ⟨_, _, cs, cp, rs, h1⟩
      · rw [h0] at hmm; simp at hmm
      · rw [h1] at hmm
        simp only [List.mem_singleton, Prod.mk.injEq] at hmm
        rw [hmm.2, sizeMessage_msg, if_pos hF.1, hF.2.1, hF.2.2]
        exact ⟨_, _, _, rfl⟩
      · rw [h1] at hmm
        simp only [List.mem_singleton, Prod.mk.injEq] at hmm
        rw [hmm.2] at hrel
        simp [Msg.isSize] at hrel
    · have := (setScale_msg st.scr c k).2 m hmm
      rw [this] at hrel
      exact Bool.noConfusion hrel
  · intro hno
    obtain ⟨_, f2, _, _, f5⟩ := stepClient_frame hu ha3 hno
    obtain ⟨e1, e2⟩ := f5 ha2
    exact ⟨stepClient st op c, uniq_step op hu, f2 ha1 hF.1, e1.trans hF.2.1, e2.trans hF.2.2⟩

end VncModel.Resize
