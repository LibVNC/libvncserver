import VncModel.Resize.Flow
import VncModel.Update.Refine
/-!
Region-level invariant: for every open client, modifiedRegion and copyRegion are well-formed and lie
inside the CURRENT screen; requestedRegion is well-formed (but may be stale: it is NOT clipped when
the framebuffer shrinks).  Consequence: every rectangle of every update lies inside the current
screen, whatever the requested region is.
-/
namespace VncModel.Resize
open VncModel.Rgn VncModel.Update

/-- all pixels of the region lie in `[0,w) × [0,h)` -/
def Inside (w h : Int) (r : Region) : Prop := ∀ x y, r.den x y → 0 ≤ x ∧ x < w ∧ 0 ≤ y ∧ y < h

theorem inside_empty (w h : Int) : Inside w h Region.empty := by
  intro x y hd; simp [Region.den, Region.empty] at hd

theorem wf_empty : Region.WF Region.empty := trivial

theorem inside_or {w h : Int} {a b : Region} (ha : a.WF) (hb : b.WF) (ia : Inside w h a)
    (ib : Inside w h b) : (a.or b).WF ∧ Inside w h (a.or b) := by
  obtain ⟨h1, h2⟩ := rOr_spec a b ha hb
  exact ⟨h1, fun x y hd => ((h2 x y).mp hd).elim (ia x y) (ib x y)⟩

theorem inside_and_right {w h : Int} {a b : Region} (ha : a.WF) (hb : b.WF) (ib : Inside w h b) :
    (a.and b).1.WF ∧ Inside w h (a.and b).1 := by
  obtain ⟨h1, h2, _⟩ := rAnd_spec a b ha hb
  exact ⟨h1, fun x y hd => ib x y ((h2 x y).mp hd).2⟩

theorem inside_sub {w h : Int} {a b : Region} (ha : a.WF) (hb : b.WF) (ia : Inside w h a) :
    (a.sub b).1.WF ∧ Inside w h (a.sub b).1 := by
  obtain ⟨h1, h2, _⟩ := rSub_spec a b ha hb
  exact ⟨h1, fun x y hd => ia x y ((h2 x y).mp hd).1⟩

theorem inside_rect {w h x1 y1 x2 y2 : Int} (hx1 : 0 ≤ x1) (hx2 : x2 ≤ w) (hy1 : 0 ≤ y1)
    (hy2 : y2 ≤ h) : Inside w h (Region.rect x1 y1 x2 y2) := by
  intro x y hd
  have := (rect_den x1 y1 x2 y2 x y).mp hd
  omega

theorem rects_inside {w h : Int} {r : Region} (hw : r.WF) (hi : Inside w h r) (fx fy : Bool) :
    ∀ q ∈ r.rects fx fy, 0 ≤ q.x1 ∧ q.x1 < q.x2 ∧ q.x2 ≤ w ∧ 0 ≤ q.y1 ∧ q.y1 < q.y2 ∧ q.y2 ≤ h := by
  intro q hq
  simp only [Region.rects, List.mem_flatMap, List.mem_map] at hq
  obtain ⟨b, hb, x, hx, rfl⟩ := hq
  have hb' : b ∈ r := by
    cases fy <;> simp at hb <;> exact hb
  have hx' : x ∈ b.sub := by
    cases fx <;> simp at hx <;> exact hx
  obtain ⟨hbs, hbwf, _⟩ := Sorted.all hw b hb'
  obtain ⟨hxs, _⟩ := Sorted.all hbwf x hx'
  have p1 : r.den x.s b.s := ⟨b, hb', Int.le_refl _, hbs, x, hx', Int.le_refl _, hxs⟩
  have p2 : r.den (x.e - 1) (b.e - 1) :=
    ⟨b, hb', by omega, by omega, x, hx', by omega, by omega⟩
  have i1 := hi _ _ p1
  have i2 := hi _ _ p2
  simp only
  omega

theorem markClip_inside {s : Update.Screen} {x1 y1 x2 y2 a b c d : Int}
    (h : markClip s x1 y1 x2 y2 = some (a, b, c, d)) :
    0 ≤ a ∧ c ≤ s.width ∧ 0 ≤ b ∧ d ≤ s.height := by
  obtain ⟨ha, hc, _, hb, hd, _⟩ := Refine.markClip_some s x1 y1 x2 y2 a b c d h
  exact ⟨ha ▸ Int.le_max_right _ _, hc ▸ Int.min_le_right _ _,
    hb ▸ Int.le_max_right _ _, hd ▸ Int.min_le_right _ _⟩

theorem cursorBox_inside {s : Update.Screen} {cx cy : Int} {b : Region}
    (hw : 1 ≤ s.width) (hh : 1 ≤ s.height) (h : cursorBox s cx cy = some b) :
    b.WF ∧ Inside s.width s.height b := by
  unfold cursorBox at h
  simp only at h
  split at h
  · obtain rfl := Option.some.inj h
    rw [clipRect2_eq]
    exact ⟨rect_wf _ _ _ _, inside_rect (clampLo_bounds _ hw).1 (clampHi_bounds _ hw).2
      (clampLo_bounds _ hh).1 (clampHi_bounds _ hh).2⟩
  · cases h

theorem clipReq_inside {same : Bool} {W H tw th : Nat} {r q : VncModel.Scale.Rect}
    (h : VncModel.Scale.clipReq same W H tw th r = some q) :
    0 ≤ q.x ∧ q.x + q.w ≤ W ∧ 0 ≤ q.y ∧ q.y + q.h ≤ H := by
  unfold VncModel.Scale.clipReq at h
  simp only [VncModel.Scale.u16] at h
  generalize VncModel.Scale.corr same tw th W H r = cc at h
  simp at h
  obtain ⟨h1, h2, rfl⟩ := h
  simp only
  refine ⟨by omega, by omega, by omega, by omega⟩

structure Good (w h : Int) (b : Update.Client) : Prop where
  mwf : b.M.WF
  cwf : b.C.WF
  rwf : b.R.WF
  min : Inside w h b.M
  cin : Inside w h b.C

theorem good_newClient (s : Update.Screen) : Good s.width s.height (Update.newClient s) :=
  ⟨rect_wf _ _ _ _, wf_empty, wf_empty,
   inside_rect (Int.le_refl _) (Int.le_refl _) (Int.le_refl _) (Int.le_refl _), inside_empty _ _⟩

theorem good_markRegion {w h : Int} {b : Update.Client} {r : Region} (hg : Good w h b)
    (hr : r.WF) (hi : Inside w h r) : Good w h (markRegion b r) := by
  obtain ⟨h1, h2⟩ := inside_or hg.mwf hr hg.min hi
  exact ⟨h1, hg.cwf, hg.rwf, h2, hg.cin⟩

theorem good_setEncodings0 {s : Update.Screen} {b : Update.Client} (cr cs : Bool)
    (hw : 1 ≤ s.width) (hh : 1 ≤ s.height) (hg : Good s.width s.height b) :
    Good s.width s.height (Update.setEncodings0 s b cr cs) := by
  unfold Update.setEncodings0
  simp only
  split
  · cases hc : cursorBox s b.cursorX b.cursorY with
    | none => exact ⟨hg.mwf, hg.cwf, hg.rwf, hg.min, hg.cin⟩
    | some bx =>
      obtain ⟨h1, h2⟩ := cursorBox_inside hw hh hc
      obtain ⟨h3, h4⟩ := inside_or hg.mwf h1 hg.min h2
      exact ⟨h3, hg.cwf, hg.rwf, h4, hg.cin⟩
  · exact ⟨hg.mwf, hg.cwf, hg.rwf, hg.min, hg.cin⟩

/-- the tail of the SetEncodings handler (a client dropping CopyRect): the pending copy becomes
modified region — still inside the screen -/
theorem good_dropCopy {w h : Int} {b : Update.Client} (hg : Good w h b) :
    Good w h (Update.dropCopy b) := by
  unfold Update.dropCopy
  split
  · obtain ⟨h1, h2⟩ := inside_or hg.mwf hg.cwf hg.min hg.cin
    exact ⟨h1, wf_empty, hg.rwf, h2, inside_empty _ _⟩
  · exact hg

theorem good_setEncodings {s : Update.Screen} {b : Update.Client} (cr cs : Bool)
    (hw : 1 ≤ s.width) (hh : 1 ≤ s.height) (hg : Good s.width s.height b) :
    Good s.width s.height (Update.setEncodings s b cr cs) :=
  good_dropCopy (good_setEncodings0 cr cs hw hh hg)

theorem good_scheduleCopy {s : Update.Screen} {b : Update.Client} {rg : Region} (dx dy : Int)
    (hg : Good s.width s.height b) (hr : rg.WF) (hi : Inside s.width s.height rg) :
    Good s.width s.height (scheduleCopy s b rg dx dy) := by
  unfold scheduleCopy
  split
  · obtain ⟨h1, h2⟩ := inside_or hg.mwf hr hg.min hi
    exact ⟨h1, hg.cwf, hg.rwf, h2, hg.cin⟩
  · -- (m1, c1): the pending copy
    split
    rename_i m1 c1 heq
    have hmc : m1.WF ∧ Inside s.width s.height m1 ∧ c1.WF ∧ Inside s.width s.height c1 := by
      split at heq
      · split at heq
        · simp only [Prod.mk.injEq] at heq
          obtain ⟨rfl, rfl⟩ := heq
          obtain ⟨h1, h2⟩ := inside_or hg.mwf hg.cwf hg.min hg.cin
          exact ⟨h1, h2, wf_empty, inside_empty _ _⟩
        · simp only [Prod.mk.injEq, Region.dup] at heq
          obtain ⟨rfl, rfl⟩ := heq
          obtain ⟨h1, h2⟩ := inside_and_right (offset_wf rg (-dx) (-dy) hr) hg.cwf hg.cin
          obtain ⟨h3, h4⟩ := inside_or hg.mwf h1 hg.min h2
          exact ⟨h3, h4, hg.cwf, hg.cin⟩
      · simp only [Prod.mk.injEq] at heq
        obtain ⟨rfl, rfl⟩ := heq
        exact ⟨hg.mwf, hg.min, hg.cwf, hg.cin⟩
    obtain ⟨hm1, im1, hc1, ic1⟩ := hmc
    simp only [Region.dup]
    obtain ⟨hc2, ic2⟩ := inside_or hc1 hr ic1 hi
    obtain ⟨hbk, ibk⟩ := inside_and_right (offset_wf m1 dx dy hm1) hc2 ic2
    obtain ⟨hm2, im2⟩ := inside_or hm1 hbk im1 ibk
    suffices h : _ ∧ _ from ⟨h.1, hc2, hg.rwf, h.2, ic2⟩
    -- the cursor rectangles are only ever added intersected with the new copy region
    split
    · obtain ⟨ha1, ia1⟩ := inside_and_right (rect_wf _ _ _ _) hc2 ic2
      obtain ⟨ha2, ia2⟩ := inside_and_right (offset_wf _ dx dy (rect_wf _ _ _ _)) hc2 ic2
      split <;> split
      · exact inside_or (inside_or hm2 ha1 im2 ia1).1 ha2 (inside_or hm2 ha1 im2 ia1).2 ia2
      · exact inside_or hm2 ha2 im2 ia2
      · exact inside_or hm2 ha1 im2 ia1
      · exact ⟨hm2, im2⟩
    · exact ⟨hm2, im2⟩

end VncModel.Resize
