import VncModel.Resize.Bounds
/-!
`Good` (Bounds.lean) through requests, `updateClient` and the replacement; the state invariant
`GoodSt` and its preservation by every operation the application performs sanely (`Op.sane`,
`goodSt_step`).  `good_sendUpdate` also bounds what an update emits: C02's `Refine.su*_spec` place
every sent region inside modifiedRegion ∪ copyRegion, the cursor boxes are clipped to the screen.
-/
namespace VncModel.Resize
open VncModel.Rgn VncModel.Update

/-- a pixel rectangle / CopyRect destination inside `[0,w) × [0,h)`, non-empty -/
def RectIn (w h : Int) (q : Rect) : Prop :=
  0 ≤ q.x1 ∧ q.x1 < q.x2 ∧ q.x2 ≤ w ∧ 0 ≤ q.y1 ∧ q.y1 < q.y2 ∧ q.y2 ≤ h

def CopyIn (w h : Int) (k : CopyRectMsg) : Prop :=
  0 ≤ k.x ∧ 0 < k.w ∧ k.x + k.w ≤ w ∧ 0 ≤ k.y ∧ 0 < k.h ∧ k.y + k.h ≤ h

theorem inside_iff {s : Update.Screen} {r : Region} :
    Inside s.width s.height r ↔ ∀ p, Refine.dset r p → Refine.S s p :=
  ⟨fun h p => h p.1 p.2, fun h x y => h (x, y)⟩

/-- whatever the requested region is: it is only ever intersected with -/
theorem good_sendUpdate {s : Update.Screen} {b : Update.Client}
    (hm : s.maxRects = 0) (hw : 1 ≤ s.width) (hh : 1 ≤ s.height)
    (hg : Good s.width s.height b) :
    Good s.width s.height (Update.sendUpdate s b).1 ∧
    ∀ m, (Update.sendUpdate s b).2 = some m →
      (∀ q ∈ m.raws, RectIn s.width s.height q) ∧ (∀ k ∈ m.copies, CopyIn s.width s.height k) := by
  have wf : Refine.WFc b := ⟨hg.mwf, hg.cwf, hg.rwf⟩
  have inMC : ∀ p, Refine.dset b.M p ∨ Refine.dset b.C p → Refine.S s p := fun p h =>
    h.elim (inside_iff.mp hg.min p) (inside_iff.mp hg.cin p)
  cases he : Refine.suEarly s b
  · rw [Refine.sendUpdate_late s b he]
    obtain ⟨wm3, dm3⟩ := Refine.suM3_spec s b wf (fun _ => ()) (fun _ => ())
    obtain ⟨wuc, duc⟩ := Refine.suUC_spec b wf (fun _ => ()) (fun _ => ())
    obtain ⟨wu4, du4⟩ := Refine.suUpd4_spec s b wf (fun _ => ()) (fun _ => ())
    have iuc : Inside s.width s.height (Refine.suUC b) :=
      inside_iff.mpr fun p hp => inMC p (Or.inr ((duc p).mp hp).1.1)
    have iu4 : Inside s.width s.height (Refine.suUpd4 s b) :=
      inside_iff.mpr fun p hp => inMC p (((du4 p).mp hp).1.imp (·.1) (·.1))
    refine ⟨⟨wm3, wf_empty, wf_empty, inside_iff.mpr fun p hp => ?_, inside_empty _ _⟩,
      fun m hm' => ?_⟩
    · exact inMC p (((dm3 p).mp hp).1.imp id (·.1))
    · obtain rfl := Option.some.inj hm'
      have hbox : ∀ (u : Region) (cx cy : Int), u.WF ∧ Inside s.width s.height u →
          (match cursorBox s cx cy with | some bx => u.or bx | none => u).WF ∧
          Inside s.width s.height (match cursorBox s cx cy with | some bx => u.or bx | none => u) := by
        intro u cx cy hu
        cases hc : cursorBox s cx cy with
        | none => exact hu
        | some bx =>
          obtain ⟨h1, h2⟩ := cursorBox_inside hw hh hc
          exact inside_or hu.1 h1 hu.2 h2
      have hu5 : (Refine.suCur s b).1.WF ∧ Inside s.width s.height (Refine.suCur s b).1 := by
        unfold Refine.suCur
        split
        · split
          · exact hbox _ _ _ (hbox _ _ _ ⟨wu4, iu4⟩)
          · exact ⟨wu4, iu4⟩
        · exact ⟨wu4, iu4⟩
      have h6 : Refine.suUpd6 s b = (Refine.suCur s b).1 := by
        unfold Refine.suUpd6
        rw [if_neg]
        rw [hm]
        exact fun hc => absurd hc.1 (by decide)
      refine ⟨fun q hq => ?_, fun k hk => ?_⟩
      · simp only [h6] at hq
        exact rects_inside hu5.1 hu5.2 false false q hq
      · obtain ⟨q, hq, rfl⟩ := List.mem_map.mp hk
        have := rects_inside wuc iuc _ _ q hq
        simp only [CopyIn]
        omega
  · rw [Refine.sendUpdate_early s b he]
    obtain ⟨wc1, dc1⟩ := Refine.suC1_spec b wf
    exact ⟨⟨hg.mwf, wc1, hg.rwf, hg.min,
      inside_iff.mpr fun p hp => inside_iff.mp hg.cin p ((dc1 p).mp hp).1⟩, fun m hm' => nomatch hm'⟩

theorem updateClient_fbu {s : Screen} {c : Client} {i : Nat} {cs : Bool} {cp : List CopyRectMsg}
    {rs : List Rect} (h : (i, Msg.fbu cs cp rs) ∈ (updateClient s c).2.msgs) :
    ∃ m, (Update.sendUpdate s.base c.base).2 = some m ∧ cp = m.copies ∧
      rs = m.raws.map (wireRect s c) := by
  unfold updateClient at h
  split at h
  · unfold sendUpdate at h
    split at h
    · have := (List.mem_singleton.mp h)
      rw [sizeMessage_msg] at this
      split at this <;> cases this
    · split at h
      · cases h
      · rename_i m hm
        simp only [List.mem_singleton, Prod.mk.injEq, Msg.fbu.injEq] at h
        exact ⟨m, hm, h.2.2.1, h.2.2.2⟩
  · cases h

theorem wireRect_unscaled (s : Screen) {c : Client} (hs : c.scaled = false) (q : Rect) :
    wireRect s c q = q := by
  obtain ⟨x1, y1, x2, y2⟩ := q
  simp only [wireRect, hs, Bool.not_false, VncModel.Scale.corr, if_true, Rect.mk.injEq]
  exact ⟨trivial, trivial, by omega, by omega⟩

theorem wireRect_scaled (s : Screen) {c : Client} (hs : c.scaled = true) (q : Rect) :
    (wireRect s c q).x2 ≤ c.sw.toNat ∧ (wireRect s c q).y2 ≤ c.sh.toNat := by
  simp only [wireRect, hs, Bool.not_true, VncModel.Scale.corr, Bool.false_eq_true, if_false,
    VncModel.Scale.corr1, VncModel.Scale.corrFix]
  constructor <;> (split <;> omega)

theorem good_request {s : Screen} {c : Client} (incr : Bool) (x y w h : Int)
    (hg : Good s.base.width s.base.height c.base) :
    Good s.base.width s.base.height (request s c incr x y w h).base := by
  unfold request
  split
  · exact hg
  · rename_i r hr
    have hb := clipReq_inside hr
    have itmp : Inside s.base.width s.base.height (Region.rect r.x r.y (r.x + r.w) (r.y + r.h)) := by
      intro px py hd
      have := (rect_den _ _ _ _ px py).mp hd
      omega
    have wtmp := rect_wf r.x r.y (r.x + r.w) (r.y + r.h)
    obtain ⟨wr, _⟩ := rOr_spec _ _ hg.rwf wtmp
    split
    · obtain ⟨w1, i1⟩ := inside_or hg.mwf wtmp hg.min itmp
      obtain ⟨w2, i2⟩ := inside_sub hg.cwf wtmp hg.cin
      exact ⟨w1, w2, wr, i1, i2⟩
    · exact ⟨hg.mwf, hg.cwf, wr, hg.min, hg.cin⟩

theorem good_newFbClient (s : Screen) (w h bpp : Int) (tok : Nat) (c : Client)
    (ho : c.base.isOpen = true) (hr : c.base.R.WF) :
    Good w h (newFbClient s w h bpp tok c).base := by
  unfold newFbClient
  simp only [ho, Bool.not_true, Bool.false_eq_true, if_false]
  exact ⟨rect_wf _ _ _ _, wf_empty, hr,
    inside_rect (Int.le_refl _) (Int.le_refl _) (Int.le_refl _) (Int.le_refl _), inside_empty _ _⟩

def ScrOk (s : Screen) : Prop :=
  s.base.progSlice = 0 ∧ s.base.maxRects = 0 ∧ 1 ≤ s.base.width ∧ 1 ≤ s.base.height

def GoodSt (st : State) : Prop :=
  ScrOk st.scr ∧
  ∀ c ∈ st.clients, c.base.isOpen = true → Good st.scr.base.width st.scr.base.height c.base

/-- what the application must respect: a replacement has at least one pixel; a copy region is a
well-formed region inside the current framebuffer -/
def Op.sane (st : State) : Op → Prop
  | .newFramebuffer w h _ _ => 1 ≤ w ∧ 1 ≤ h
  | .setDesktopSize _ _ _ _ (some (_, some (w, h, _, _))) => 1 ≤ w ∧ 1 ≤ h
  | .copy rgn _ _ => rgn.WF ∧ Inside st.scr.base.width st.scr.base.height rgn
  | _ => True

theorem updateClient_good {s : Screen} {c : Client} (hs : ScrOk s)
    (hg : Good s.base.width s.base.height c.base) :
    Good s.base.width s.base.height (updateClient s c).1.base := by
  unfold updateClient
  split
  · unfold sendUpdate
    split
    · rw [(sizeMessage_state c).2.1]; exact hg
    · have := (good_sendUpdate hs.2.1 hs.2.2.1 hs.2.2.2 hg).1
      split <;> exact this
  · exact hg

theorem Op.resizesTo.sane {op : Op} {w h bpp : Int} {tok : Nat} {st : State}
    (hr : op.resizesTo w h bpp tok) (hs : op.sane st) : 1 ≤ w ∧ 1 ≤ h := by
  unfold Op.resizesTo at hr
  split at hr
  · cases hr; exact hs
  · cases hr; exact hs
  · exact hr.elim

theorem updateClientFail_open {s : Screen} {c : Client} (ho : (updateClientFail s c).base.isOpen = true) :
    updateClientFail s c = (updateClient s c).1 ∧ (updateClient s c).2.msgs = [] := by
  unfold updateClientFail at ho ⊢
  by_cases hm : (updateClient s c).2.msgs.isEmpty = true
  · exact ⟨if_pos hm, List.isEmpty_iff.mp hm⟩
  · rw [if_neg hm] at ho; cases ho

theorem good_stepClient {st : State} {op : Op} {c : Client} (hs : ScrOk st.scr) (hsane : op.sane st)
    (hr : op.appResize = false) (ho : (stepClient st op c).base.isOpen = true)
    (hg : Good st.scr.base.width st.scr.base.height c.base) :
    Good st.scr.base.width st.scr.base.height (stepClient st op c).base := by
  have W := hs.2.2.1
  have H := hs.2.2.2
  cases op with
  | newClient | pointer => exact hg
  | newFramebuffer => cases hr
  | setEncodings id cr cs nf ext =>
    simp only [stepClient]
    split
    · exact good_setEncodings cr cs W H hg
    · exact hg
  | setPixelFormat id f =>
    simp only [stepClient]
    split
    · exact ⟨hg.mwf, hg.cwf, hg.rwf, hg.min, hg.cin⟩
    · exact hg
  | setScale id k =>
    simp only [stepClient]
    split
    · rw [setScale_base]; exact hg
    · exact hg
  | mark x1 y1 x2 y2 =>
    simp only [stepClient]
    split
    · rename_i a b c' d hm
      obtain ⟨ha, hc', hb, hd⟩ := markClip_inside hm
      split
      · exact good_markRegion hg (rect_wf _ _ _ _) (inside_rect ha hc' hb hd)
      · exact hg
    · exact hg
  | copy rgn dx dy =>
    simp only [stepClient]
    split
    · exact good_scheduleCopy dx dy hg hsane.1 hsane.2
    · exact hg
  | request id incr x y w h =>
    simp only [stepClient]
    split
    · exact good_request incr x y w h hg
    · exact hg
  | update id | updateExtFail id =>
    simp only [stepClient]
    split
    · exact updateClient_good hs hg
    · exact hg
  | updateFail id =>
    simp only [stepClient] at ho ⊢
    by_cases he : (c.id == id) = true
    · rw [if_pos he] at ho ⊢
      rw [(updateClientFail_open ho).1]; exact updateClient_good hs hg
    · rw [if_neg he]; exact hg
  | drop id =>
    simp only [stepClient] at ho ⊢
    by_cases he : (c.id == id) = true
    · rw [if_pos he] at ho; cases ho
    · rw [if_neg he]; exact hg
  | setDesktopSize id w h ns hook =>
    rw [stepClient_sds_base hr]; exact hg

theorem step_scr_consts (st : State) (op : Op) :
    (step st op).1.scr.base.progSlice = st.scr.base.progSlice ∧
    (step st op).1.scr.base.maxRects = st.scr.base.maxRects := by
  cases op with
  | newClient | pointer | mark => simp only [step]; split <;> exact ⟨rfl, rfl⟩
  | setDesktopSize id w h ns hook =>
    simp only [step]
    split
    · simp only [setDesktopSize]
      split
      · exact ⟨rfl, rfl⟩
      · match hook with
        | none | some (_, none) | some (_, some (_, _, _, _)) => exact ⟨rfl, rfl⟩
    · exact ⟨rfl, rfl⟩
  | _ => exact ⟨rfl, rfl⟩

theorem goodSt_step (st : State) (op : Op) (hg : GoodSt st) (hs : op.sane st) :
    GoodSt (step st op).1 := by
  obtain ⟨hp, hm⟩ := step_scr_consts st op
  unfold GoodSt ScrOk
  rw [hp, hm, forall_mem_step]
  have hopen : ∀ c, (stepClient st op c).base.isOpen = true → c.base.isOpen = true := fun c ho =>
    ((stepClient_isOpen st op c).resolve_right (by rw [ho]; decide)).symm.trans ho
  rcases step_admin st op with ⟨hgeo, hrs, _⟩ | ⟨w, h, bpp, tok, hr, hgeo, hc⟩
  · rw [show (step st op).1.scr.base.width = st.scr.base.width from congrArg Geometry.width hgeo,
      show (step st op).1.scr.base.height = st.scr.base.height from congrArg Geometry.height hgeo]
    refine ⟨hg.1, fun c hm ho => ?_, fun d hd _ => ?_⟩
    · rcases hrs with hr | hsk
      · exact good_stepClient hg.1 hs hr ho (hg.2 c hm (hopen c ho))
      · rw [stepClient_skipped hsk] at ho ⊢; exact hg.2 c hm ho
    · obtain ⟨id, _, rfl, _⟩ := mem_stepNew hd
      exact good_newClient st.scr.base
  · rw [show (step st op).1.scr.base.width = w from congrArg Geometry.width hgeo,
      show (step st op).1.scr.base.height = h from congrArg Geometry.height hgeo]
    obtain ⟨hw, hh⟩ := hr.sane hs
    refine ⟨⟨hg.1.1, hg.1.2.1, hw, hh⟩, fun c hm ho => ?_, fun d hd => ?_⟩
    · have hco := hopen c ho
      rw [(hc c).1]
      exact good_newFbClient st.scr w h bpp tok c hco (hg.2 c hm hco).rwf
    · obtain ⟨id, rfl, _⟩ := mem_stepNew hd
      exact hr.elim

end VncModel.Resize
