import VncModel.Resize.History
/-!
`step` as a pointwise map on the client list (`stepClient`, `step_clients`), what one step does to
the geometry and to each record's administrative fields (`step_admin`: the one case analysis over
the operations that the token, translation, region, convergence and teardown invariants share).
-/
namespace VncModel.Resize
open VncModel.Rgn VncModel.Update

def admins (st : State) : List Admin := st.clients.map admin

/-- the operation performs (or contains) the application's rfbNewFramebuffer call -/
def Op.appResize : Op → Bool
  | .newFramebuffer .. => true
  | .setDesktopSize _ _ _ _ (some (_, some _)) => true
  | _ => false

structure Geometry where
  width : Int
  height : Int
  bpp : Int
  fb : Nat
  deriving DecidableEq

def geometry (st : State) : Geometry := ⟨st.scr.base.width, st.scr.base.height, st.scr.bpp, st.scr.fb⟩

/-- the application's hook as a per-client function (`s` = screen before the hook) -/
def hookClient (s : Screen) : Hook → Client → Client
  | some (_, some (w, h, bpp, tok)) => newFbClient s w h bpp tok
  | _ => fun c => c

/-- what one operation does to one (existing) client record -/
def stepClient (st : State) : Op → Client → Client
  | .newClient _ => fun c => c
  | .setEncodings id cr cs nf ext => fun c => if c.id == id then setEncodings st.scr c cr cs nf ext else c
  | .setPixelFormat id f => fun c => if c.id == id then setPixelFormat st.scr c f else c
  | .setScale id k => fun c => if c.id == id then (setScale st.scr c k).1 else c
  | .pointer .. => fun c => c
  | .mark x1 y1 x2 y2 => fun cl =>
    match markClip st.scr.base x1 y1 x2 y2 with
    | some (a, b, c, d) =>
      if cl.base.isOpen then { cl with base := markRegion cl.base (Region.rect a b c d) } else cl
    | none => cl
  | .copy rgn dx dy => fun cl =>
    if cl.base.isOpen then { cl with base := scheduleCopy st.scr.base cl.base rgn dx dy } else cl
  | .request id incr x y w h => fun c => if c.id == id then request st.scr c incr x y w h else c
  | .setDesktopSize id _ _ ns hook => fun c =>
    if (getClient st id).isSome && ns != 0 then
      afterHook id (runHook (modClient st id fun c => { c with reqChange := reasonClient }) hook).1
        (hookClient st.scr hook (if c.id == id then { c with reqChange := reasonClient } else c))
    else c
  | .newFramebuffer w h bpp tok => newFbClient st.scr w h bpp tok
  | .update id => fun c => if c.id == id then (updateClient st.scr c).1 else c
  | .updateFail id => fun c => if c.id == id then updateClientFail st.scr c else c
  | .updateExtFail id => fun c => if c.id == id then (updateClient st.scr c).1 else c
  | .drop id => fun c => if c.id == id then closeClient c else c

def stepNew (st : State) : Op → List Client
  | .newClient id => if (getClient st id).isSome then [] else [newClient st.scr id]
  | _ => []

theorem runHook_clients (st : State) (hook : Hook) :
    (runHook st hook).2.clients = st.clients.map (hookClient st.scr hook) := by
  match hook with
  | none => simp [runHook, hookClient]
  | some (code, none) => simp [runHook, hookClient]
  | some (code, some (w, h, bpp, tok)) => simp [runHook, hookClient, newFramebuffer]

theorem step_clients (st : State) (op : Op) :
    (step st op).1.clients = st.clients.map (stepClient st op) ++ stepNew st op := by
  cases op with
  | newClient id =>
    simp only [step, stepClient, stepNew]
    split <;> simp
  | setEncodings | setPixelFormat | setScale | request | update | updateFail | updateExtFail | drop =>
    simp [step, stepClient, stepNew, modClient]
  | pointer id x y =>
    simp only [step, stepClient, stepNew]
    split <;> simp
  | mark x1 y1 x2 y2 =>
    simp only [step, stepClient, stepNew]
    cases hm : markClip st.scr.base x1 y1 x2 y2 with
    | none => simp
    | some r => obtain ⟨a, b, c, d⟩ := r; simp [mapOpen]
  | copy => simp [step, stepClient, stepNew, mapOpen]
  | newFramebuffer => simp [step, stepClient, stepNew, newFramebuffer]
  | setDesktopSize id w h ns hook =>
    simp only [step, stepClient, stepNew, List.append_nil]
    cases hg : (getClient st id).isSome
    · simp
    · by_cases hns : ns = 0
      · simp [setDesktopSize, hns]
      · simp only [setDesktopSize, beq_iff_eq, hns, if_false, Bool.true_and, bne_iff_ne, ne_eq,
          not_false_eq_true, decide_true, if_true]
        rw [runHook_clients]
        simp [modClient, List.map_map, Function.comp_def]

theorem forall_mem_step {P : Client → Prop} (st : State) (op : Op) :
    (∀ d ∈ (step st op).1.clients, P d) ↔
      (∀ c ∈ st.clients, P (stepClient st op c)) ∧ ∀ d ∈ stepNew st op, P d := by
  rw [step_clients, List.forall_mem_append, List.forall_mem_map]

theorem getClient_isSome_of_mem {st : State} {id : Nat} (h : ∃ c ∈ st.clients, c.id = id) :
    (getClient st id).isSome = true := by
  obtain ⟨c, hc, hid⟩ := h
  unfold getClient
  rw [List.find?_isSome]
  exact ⟨c, hc, by simp [hid]⟩

theorem mem_stepNew {st : State} {op : Op} {d : Client} (h : d ∈ stepNew st op) :
    ∃ id, op = .newClient id ∧ d = newClient st.scr id ∧ ∀ c ∈ st.clients, c.id ≠ id := by
  cases op with
  | newClient id =>
    simp only [stepNew] at h
    split at h
    · cases h
    · rename_i hn
      exact ⟨id, rfl, List.mem_singleton.mp h, fun c hc hid => hn (getClient_isSome_of_mem ⟨c, hc, hid⟩)⟩
  | _ => cases h

/-- the operation is, or carries in its hook, the application's `rfbNewFramebuffer(w, h, bpp, tok)` -/
def Op.resizesTo (w h bpp : Int) (tok : Nat) : Op → Prop
  | .newFramebuffer w' h' bpp' tok' => (w', h', bpp', tok') = (w, h, bpp, tok)
  | .setDesktopSize _ _ _ _ (some (_, some r)) => r = (w, h, bpp, tok)
  | _ => False

/-- how an operation other than a replacement can change a record's administrative fields: not at
all, by closing the connection, by a new client format (the translation is rebuilt for it), or by
rendering a scaled version from the current buffer -/
def AdminStep (s : Screen) (a a' : Admin) : Prop :=
  a' = a ∨ a' = { a with isOpen := false } ∨ (∃ f, a' = { a with fmt := f, xlate := (s.bpp, f) }) ∨
  ∃ sc w h, a' = { a with scaled := sc, sw := w, sh := h, ssrc := s.fb }

theorem AdminStep.id {s : Screen} {a a' : Admin} (h : AdminStep s a a') : a'.id = a.id := by
  rcases h with rfl | rfl | ⟨f, rfl⟩ | ⟨sc, w, h, rfl⟩ <;> rfl

theorem AdminStep.isOpen {s : Screen} {a a' : Admin} (h : AdminStep s a a') :
    a'.isOpen = a.isOpen ∨ a'.isOpen = false := by
  rcases h with rfl | rfl | ⟨f, rfl⟩ | ⟨sc, w, h, rfl⟩
  · exact Or.inl rfl
  · exact Or.inr rfl
  · exact Or.inl rfl
  · exact Or.inl rfl

theorem AdminStep.ssrc {s : Screen} {a a' : Admin} (h : AdminStep s a a') :
    a'.ssrc = a.ssrc ∨ a'.ssrc = s.fb := by
  rcases h with rfl | rfl | ⟨f, rfl⟩ | ⟨sc, w, h, rfl⟩
  · exact Or.inl rfl
  · exact Or.inl rfl
  · exact Or.inl rfl
  · exact Or.inr rfl

theorem AdminStep.xlate {s : Screen} {a a' : Admin} (h : AdminStep s a a')
    (hx : a.isOpen = true → a.xlate = (s.bpp, a.fmt)) (ho : a'.isOpen = true) :
    a'.xlate = (s.bpp, a'.fmt) := by
  rcases h with rfl | rfl | ⟨f, rfl⟩ | ⟨sc, w, h, rfl⟩
  · exact hx ho
  · cases ho
  · rfl
  · exact hx ho

theorem forall_mem_admins {st : State} {P : Admin → Prop} :
    (∀ a ∈ admins st, P a) ↔ ∀ c ∈ st.clients, P (admin c) := List.forall_mem_map

theorem setScale_admin (s : Screen) (c : Client) (k : Int) :
    AdminStep s (admin c) (admin (setScale s c k).1) := by
  unfold setScale
  simp only
  split <;> split <;> (try split) <;>
    first | exact Or.inl rfl | exact Or.inr (Or.inr (Or.inr ⟨_, _, _, rfl⟩))

theorem newFbClient_admin (s : Screen) (w h bpp : Int) (tok : Nat) (c : Client) :
    admin (newFbClient s w h bpp tok c) =
      { admin c with sw := if c.scaled then rescale s.base.width w c.sw else w,
                     sh := if c.scaled then rescale s.base.height h c.sh else h,
                     ssrc := tok,
                     xlate := if c.base.isOpen && bpp != s.bpp then (bpp, c.fmt) else c.xlate } := by
  unfold newFbClient
  cases ho : c.base.isOpen <;> simp [admin, ho]

theorem newFbClient_id (s : Screen) (w h bpp : Int) (tok : Nat) (c : Client) :
    (newFbClient s w h bpp tok c).id = c.id :=
  congrArg Admin.id (newFbClient_admin s w h bpp tok c)

theorem hookClient_of_appResize {id : Nat} {w h ns : Int} {hook : Hook}
    (hr : (Op.setDesktopSize id w h ns hook).appResize = false) (s : Screen) (c : Client) :
    hookClient s hook c = c := by
  match hook, hr with
  | none, _ | some (_, none), _ => rfl

theorem newFbClient_isOpen (s : Screen) (w h bpp : Int) (tok : Nat) (c : Client) :
    (newFbClient s w h bpp tok c).base.isOpen = c.base.isOpen :=
  congrArg Admin.isOpen (newFbClient_admin s w h bpp tok c)

theorem hookClient_id (s : Screen) (hook : Hook) (c : Client) : (hookClient s hook c).id = c.id := by
  unfold hookClient
  split
  · exact newFbClient_id _ _ _ _ _ c
  · rfl

theorem newFbClient_base (s : Screen) (w h bpp : Int) (tok : Nat) (c : Client) :
    (newFbClient s w h bpp tok c).base =
      if c.base.isOpen then { c.base with M := Region.rect 0 0 w h, C := Region.empty, dx := 0, dy := 0 }
      else c.base := by
  unfold newFbClient
  cases ho : c.base.isOpen <;> simp [ho]

theorem newFbClient_open (s : Screen) (w h bpp : Int) (tok : Nat) (c : Client)
    (ho : c.base.isOpen = true) :
    newFbClient s w h bpp tok c =
      { c with sw := if c.scaled then rescale s.base.width w c.sw else w,
               sh := if c.scaled then rescale s.base.height h c.sh else h,
               ssrc := tok,
               xlate := if bpp != s.bpp then (bpp, c.fmt) else c.xlate,
               base := { c.base with M := Region.rect 0 0 w h, C := Region.empty, dx := 0, dy := 0 },
               pending := if c.useNewFBSize || VncModel.Gen.C16.pendingForAll then true else c.pending } := by
  unfold newFbClient
  simp [ho]

/-- a SetDesktopSize from an unknown client, or one that names no screen: the hook is not called -/
def Op.skipped (st : State) : Op → Prop
  | .setDesktopSize id _ _ ns _ => ¬ ((getClient st id).isSome && ns != 0) = true
  | _ => False

theorem setDesktopSize_skipped {st : State} {id : Nat} {ns : Int} (w h : Int) (hook : Hook)
    (hrun : (Op.setDesktopSize id w h ns hook).skipped st) :
    (step st (.setDesktopSize id w h ns hook)).1 = st := by
  unfold Op.skipped at hrun
  simp only [step]
  split
  · rename_i hg
    simp only [hg, Bool.true_and, bne_iff_ne, ne_eq, Decidable.not_not] at hrun
    simp [setDesktopSize, hrun]
  · rfl

theorem stepClient_skipped {st : State} {op : Op} (h : op.skipped st) (c : Client) :
    stepClient st op c = c := by
  cases op with
  | setDesktopSize id w h' ns hook => simp only [stepClient, if_neg h]
  | _ => exact h.elim

theorem stepClient_sds_base {st : State} {id : Nat} {w h ns : Int} {hook : Hook}
    (hr : (Op.setDesktopSize id w h ns hook).appResize = false) (c : Client) :
    (stepClient st (.setDesktopSize id w h ns hook) c).base = c.base := by
  simp only [stepClient]
  split
  · rw [afterHook_base, hookClient_of_appResize hr]
    split <;> rfl
  · rfl

/-- **what one step does to the administrative part of the state**: either the geometry stays and
every record changes as `AdminStep` allows (no replacement carried, or the hook that carries one was
not called), or the application's replacement takes place and every record is treated by `newFbClient` -/
theorem step_admin (st : State) (op : Op) :
    (geometry (step st op).1 = geometry st ∧ (op.appResize = false ∨ op.skipped st) ∧
      ∀ c, AdminStep st.scr (admin c) (admin (stepClient st op c))) ∨
    ∃ w h bpp tok, op.resizesTo w h bpp tok ∧ geometry (step st op).1 = ⟨w, h, bpp, tok⟩ ∧
      ∀ c, (stepClient st op c).base = (newFbClient st.scr w h bpp tok c).base ∧
        admin (stepClient st op c) = admin (newFbClient st.scr w h bpp tok c) := by
  have own : ∀ (id : Nat) (c x : Client), AdminStep st.scr (admin c) (admin x) →
      AdminStep st.scr (admin c) (admin (if c.id == id then x else c)) := by
    intro id c x h
    split
    · exact h
    · exact Or.inl rfl
  cases op with
  | newFramebuffer w h bpp tok => exact Or.inr ⟨w, h, bpp, tok, rfl, rfl, fun _ => ⟨rfl, rfl⟩⟩
  | setDesktopSize id w h ns hook =>
    by_cases hrun : ((getClient st id).isSome && ns != 0) = true
    · have hst : (step st (.setDesktopSize id w h ns hook)).1.scr =
          (runHook (modClient st id fun c => { c with reqChange := reasonClient }) hook).2.scr := by
        simp only [Bool.and_eq_true, bne_iff_ne, ne_eq] at hrun
        simp [step, setDesktopSize, hrun.1, hrun.2]
      have pre : ∀ c : Client, admin (if c.id == id then { c with reqChange := reasonClient } else c) = admin c := by
        intro c; split <;> rfl
      match hook with
      | some (code, some (w', h', bpp, tok)) =>
        refine Or.inr ⟨w', h', bpp, tok, rfl, by simp only [geometry, hst]; rfl, fun c => ?_⟩
        simp only [stepClient, hrun, if_true, hookClient]
        rw [afterHook_admin, afterHook_base, newFbClient_admin, newFbClient_admin, newFbClient_base, newFbClient_base]
        split <;> exact ⟨rfl, rfl⟩
      | none | some (code, none) =>
        refine Or.inl ⟨by simp only [geometry, hst]; rfl, Or.inl rfl, fun c => Or.inl ?_⟩
        simp only [stepClient, hrun, if_true, hookClient]
        rw [afterHook_admin, pre]
    · have hsk : (Op.setDesktopSize id w h ns hook).skipped st := hrun
      exact Or.inl ⟨by rw [setDesktopSize_skipped w h hook hsk], Or.inr hsk,
        fun c => Or.inl (by rw [stepClient_skipped hsk])⟩
  | newClient id => exact Or.inl ⟨by simp only [step]; split <;> rfl, Or.inl rfl, fun _ => Or.inl rfl⟩
  | pointer id x y => exact Or.inl ⟨by simp only [step]; split <;> rfl, Or.inl rfl, fun _ => Or.inl rfl⟩
  | setEncodings id cr cs nf ext =>
    exact Or.inl ⟨rfl, Or.inl rfl, fun c => own id c _ (Or.inl (setEncodings_admin st.scr c cr cs nf ext))⟩
  | setPixelFormat id f => exact Or.inl ⟨rfl, Or.inl rfl, fun c => own id c _ (Or.inr (Or.inr (Or.inl ⟨f, rfl⟩)))⟩
  | setScale id k => exact Or.inl ⟨rfl, Or.inl rfl, fun c => own id c _ (setScale_admin st.scr c k)⟩
  | request id incr x y w h =>
    exact Or.inl ⟨rfl, Or.inl rfl, fun c => own id c _ (Or.inl (request_admin st.scr c incr x y w h))⟩
  | update id => exact Or.inl ⟨rfl, Or.inl rfl, fun c => own id c _ (Or.inl (updateClient_admin st.scr c))⟩
  | updateExtFail id => exact Or.inl ⟨rfl, Or.inl rfl, fun c => own id c _ (Or.inl (updateClient_admin st.scr c))⟩
  | updateFail id =>
    exact Or.inl ⟨rfl, Or.inl rfl, fun c => own id c _ ((updateClientFail_admin st.scr c).imp_right Or.inl)⟩
  | drop id => exact Or.inl ⟨rfl, Or.inl rfl, fun c => own id c _ (Or.inr (Or.inl rfl))⟩
  | mark x1 y1 x2 y2 =>
    refine Or.inl ⟨by simp only [step]; split <;> rfl, Or.inl rfl, fun cl => Or.inl ?_⟩
    simp only [stepClient]
    split
    · split <;> rfl
    · rfl
  | copy rgn dx dy =>
    refine Or.inl ⟨rfl, Or.inl rfl, fun cl => Or.inl ?_⟩
    simp only [stepClient]
    split
    · exact copy_admin _ cl _ _ _
    · rfl

theorem stepClient_id (st : State) (op : Op) (c : Client) : (stepClient st op c).id = c.id := by
  rcases step_admin st op with ⟨_, _, h⟩ | ⟨w, h', bpp, tok, _, _, h⟩
  · exact (h c).id
  · exact (congrArg Admin.id (h c).2).trans (newFbClient_id _ _ _ _ _ c)

theorem stepClient_isOpen (st : State) (op : Op) (c : Client) :
    (stepClient st op c).base.isOpen = c.base.isOpen ∨ (stepClient st op c).base.isOpen = false := by
  rcases step_admin st op with ⟨_, _, h⟩ | ⟨w, h', bpp, tok, _, _, h⟩
  · exact (h c).isOpen
  · exact Or.inl ((congrArg Admin.isOpen (h c).2).trans (congrArg Admin.isOpen (newFbClient_admin _ _ _ _ _ c)))

theorem sizeMessage_id (c : Client) : (sizeMessage c).1.id = c.id :=
  congrArg Admin.id (sizeMessage_admin c)

theorem pred_step (id : Nat) (F : Client → Prop) (st : State) (op : Op)
    (hex : ∃ c ∈ st.clients, c.id = id) (hall : ∀ c ∈ st.clients, c.id = id → F c)
    (hF : ∀ c ∈ st.clients, c.id = id → F c → F (stepClient st op c)) :
    (∃ d ∈ (step st op).1.clients, d.id = id) ∧ ∀ d ∈ (step st op).1.clients, d.id = id → F d := by
  rw [step_clients]
  constructor
  · obtain ⟨c, hc, hid⟩ := hex
    exact ⟨stepClient st op c, List.mem_append_left _ (List.mem_map.mpr ⟨c, hc, rfl⟩),
      by rw [stepClient_id]; exact hid⟩
  · intro d hd hid
    rcases List.mem_append.mp hd with hd | hd
    · obtain ⟨c, hc, rfl⟩ := List.mem_map.mp hd
      rw [stepClient_id] at hid
      exact hF c hc hid (hall c hc hid)
    · obtain ⟨id', _, rfl, hfresh⟩ := mem_stepNew hd
      obtain ⟨c, hc, hcid⟩ := hex
      exact absurd (hcid.trans hid.symm) (hfresh c hc)

end VncModel.Resize
