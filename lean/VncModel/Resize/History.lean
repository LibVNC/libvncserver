import VncModel.Resize.Lemmas
/-!
The messages one client receives during a history, the induction `first_relevant` for "the first
message of a given kind satisfies Q", and per handler which fields of a record it can touch.
-/
namespace VncModel.Resize
open VncModel.Rgn VncModel.Update

def Obs.to (o : Obs) (id : Nat) : List Msg :=
  o.msgs.filterMap fun m => if m.1 == id then some m.2 else none

/-- all messages sent to client `id` during a history, oldest first -/
def msgsTo (id : Nat) : List Obs → List Msg
  | [] => []
  | o :: os => o.to id ++ msgsTo id os

def Msg.isSize : Msg → Bool
  | .size .. | .ext .. => true
  | _ => false

theorem mem_to {o : Obs} {id : Nat} {m : Msg} : m ∈ o.to id ↔ (id, m) ∈ o.msgs := by
  simp only [Obs.to, List.mem_filterMap]
  constructor
  · rintro ⟨⟨i, m'⟩, hm, h⟩
    by_cases hi : i = id
    · simp [hi] at h; subst hi; subst h; exact hm
    · simp [hi] at h
  · intro h
    exact ⟨(id, m), h, by simp⟩

/-- **first relevant message**: `P` need only be kept by the steps that send `id` no relevant message -/
theorem first_relevant (id : Nat) (Rel : Msg → Bool) (P : State → Prop) (Q : Msg → Prop)
    (A : Op → Prop)
    (hstep : ∀ st op, P st → A op →
      (∀ m, (id, m) ∈ (step st op).2.msgs → Rel m = true → Q m) ∧
      ((∀ m, (id, m) ∈ (step st op).2.msgs → Rel m = false) → P (step st op).1)) :
    ∀ (ops : List Op) (st : State), P st → (∀ op ∈ ops, A op) →
      ∀ m, (msgsTo id (run st ops).2).find? Rel = some m → Q m := by
  intro ops
  induction ops with
  | nil => intro st _ _ m h; simp [run, msgsTo] at h
  | cons op ops ih =>
    intro st hP hA m hm
    have hA1 := hA op (by simp)
    obtain ⟨h1, h2⟩ := hstep st op hP hA1
    simp only [run, msgsTo, List.find?_append] at hm
    cases hf : ((step st op).2.to id).find? Rel with
    | some m' =>
      rw [hf] at hm
      simp at hm
      subst hm
      exact h1 m' (mem_to.mp (List.mem_of_find?_eq_some hf)) (List.find?_some hf)
    | none =>
      rw [hf] at hm
      simp only [Option.none_or] at hm
      refine ih (step st op).1 (h2 ?_) (fun o ho => hA o (by simp [ho])) m hm
      intro m' hm'
      have := List.find?_eq_none.mp hf m' (mem_to.mpr hm')
      simpa using this

theorem sizeMessage_msg (c : Client) :
    (sizeMessage c).2 =
      if c.useExt then Msg.ext c.reqChange c.lastErr c.sw c.sh [(1, 0, 0, c.sw, c.sh, 0)]
      else Msg.size c.sw c.sh := by
  unfold sizeMessage; split <;> rfl

theorem sizeMessage_state (c : Client) :
    (sizeMessage c).1.pending = false ∧ (sizeMessage c).1.base = c.base ∧
    (sizeMessage c).1.useNewFBSize = c.useNewFBSize ∧ (sizeMessage c).1.useExt = c.useExt ∧
    (c.useExt = true → (sizeMessage c).1.reqChange = 0 ∧ (sizeMessage c).1.lastErr = 0) ∧
    (c.useExt = false → (sizeMessage c).1.reqChange = c.reqChange ∧ (sizeMessage c).1.lastErr = c.lastErr) := by
  unfold sizeMessage
  split <;> simp_all

/-- the flags / bookkeeping fields an operation on the regions leaves alone -/
structure Flags where
  id : Nat
  useNewFBSize : Bool
  useExt : Bool
  pending : Bool
  reqChange : Int
  lastErr : Int
  sw : Int
  sh : Int
  deriving DecidableEq

def flags (c : Client) : Flags := ⟨c.id, c.useNewFBSize, c.useExt, c.pending, c.reqChange, c.lastErr, c.sw, c.sh⟩

theorem updateClient_msgs (s : Screen) (c : Client) :
    ((updateClient s c).2.msgs = [] ∧ flags (updateClient s c).1 = flags c) ∨
    (c.useNewFBSize = true ∧ c.pending = true ∧
      (updateClient s c).2.msgs = [(c.id, (sizeMessage c).2)] ∧ (updateClient s c).1 = (sizeMessage c).1) ∨
    (¬ (c.useNewFBSize = true ∧ c.pending = true) ∧ flags (updateClient s c).1 = flags c ∧
      ∃ cs cp rs, (updateClient s c).2.msgs = [(c.id, Msg.fbu cs cp rs)]) := by
  unfold updateClient
  split
  · unfold sendUpdate
    split
    · rename_i h
      simp only [Bool.and_eq_true] at h
      exact Or.inr (Or.inl ⟨h.1, h.2, rfl, rfl⟩)
    · rename_i h
      simp only [Bool.and_eq_true] at h
      split
      · exact Or.inl ⟨rfl, rfl⟩
      · exact Or.inr (Or.inr ⟨h, rfl, _, _, _, rfl⟩)
  · exact Or.inl ⟨rfl, rfl⟩

theorem setScale_touch (s : Screen) (c : Client) (k : Int) :
    ∃ sc w h src p, (setScale s c k).1 =
      { c with scaled := sc, sw := w, sh := h, ssrc := src, pending := p } := by
  unfold setScale
  simp only
  split <;> split <;> (try split) <;> exact ⟨_, _, _, _, _, rfl⟩

theorem setScale_base (s : Screen) (c : Client) (k : Int) : (setScale s c k).1.base = c.base := by
  obtain ⟨_, _, _, _, _, e⟩ := setScale_touch s c k
  rw [e]

/-- a client that is owed a size message is told nothing directly (the flag stays); what SetScale
does send is never a size message -/
theorem setScale_msg (s : Screen) (c : Client) (k : Int) :
    (c.useNewFBSize = true → c.pending = true →
      (setScale s c k).2 = none ∧ (setScale s c k).1.pending = true) ∧
    (∀ m, (setScale s c k).2 = some m → m.isSize = false) := by
  unfold setScale
  simp only
  split <;> split <;> (try split) <;> simp_all [Msg.isSize]

theorem request_touch (s : Screen) (c : Client) (incr : Bool) (x y w h : Int) :
    ∃ b p, request s c incr x y w h = { c with base := b, pending := p } ∧
      (c.pending = true → p = true) := by
  unfold request
  split
  · exact ⟨_, _, rfl, fun h => h⟩
  · split
    · exact ⟨_, _, rfl, fun h => by rw [h]; split <;> rfl⟩
    · exact ⟨_, _, rfl, fun h => h⟩

theorem newFbClient_touch (s : Screen) (w h bpp : Int) (tok : Nat) (c : Client) :
    ∃ x b p, newFbClient s w h bpp tok c =
      { c with sw := if c.scaled then rescale s.base.width w c.sw else w,
               sh := if c.scaled then rescale s.base.height h c.sh else h,
               ssrc := tok, xlate := x, base := b, pending := p } ∧
      b.isOpen = c.base.isOpen ∧ (c.pending = true → p = true) := by
  unfold newFbClient
  simp only
  by_cases ho : (!c.base.isOpen) = true
  · rw [if_pos ho]
    exact ⟨_, _, _, rfl, rfl, fun h => h⟩
  · rw [if_neg ho]
    exact ⟨_, _, _, rfl, rfl, fun h => by rw [h]; split <;> rfl⟩

end VncModel.Resize
