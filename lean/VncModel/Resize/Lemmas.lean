import VncModel.Resize.Model
/-!
What `modClient` / `mapOpen` do to the client list, the projection `admin` of a record with the
handlers that leave it alone, and `run_inv`, the one induction over histories.
-/
namespace VncModel.Resize
open VncModel.Rgn VncModel.Update

theorem getClient_some {st : State} {id : Nat} {c : Client} (h : getClient st id = some c) :
    c ∈ st.clients ∧ c.id = id := by
  unfold getClient at h
  exact ⟨List.mem_of_find?_eq_some h, by simpa using List.find?_some h⟩

theorem modClient_scr (st : State) (id : Nat) (f : Client → Client) :
    (modClient st id f).scr = st.scr := rfl

theorem mapOpen_scr (st : State) (f : Update.Client → Update.Client) :
    (mapOpen st f).scr = st.scr := rfl

theorem modClient_inv {P : Client → Prop} {st : State} {id : Nat} {f : Client → Client}
    (h : ∀ c ∈ st.clients, P c) (hf : ∀ c ∈ st.clients, c.id = id → P (f c)) :
    ∀ d ∈ (modClient st id f).clients, P d := by
  intro d hd
  obtain ⟨c, hc, rfl⟩ := List.mem_map.mp hd
  split
  · rename_i hid
    exact hf c hc (beq_iff_eq.mp hid)
  · exact h c hc

theorem mapOpen_inv {P : Client → Prop} {st : State} {f : Update.Client → Update.Client}
    (h : ∀ c ∈ st.clients, P c)
    (hf : ∀ c ∈ st.clients, c.base.isOpen = true → P { c with base := f c.base }) :
    ∀ d ∈ (mapOpen st f).clients, P d := by
  intro d hd
  obtain ⟨c, hc, rfl⟩ := List.mem_map.mp hd
  split
  · rename_i ho
    exact hf c hc ho
  · exact h c hc

theorem dropCopy_isOpen (b : Update.Client) : (Update.dropCopy b).isOpen = b.isOpen := by
  unfold Update.dropCopy
  split <;> rfl

theorem setEncodings0_isOpen (s : Update.Screen) (b : Update.Client) (cr cs : Bool) :
    (Update.setEncodings0 s b cr cs).isOpen = b.isOpen := by
  unfold Update.setEncodings0
  rfl

@[simp] theorem setEncodings_isOpen (s : Screen) (c : Client) (cr cs nf ext : Bool) :
    (setEncodings s c cr cs nf ext).base.isOpen = c.base.isOpen := by
  show (Update.dropCopy (Update.setEncodings0 s.base c.base cr cs)).isOpen = c.base.isOpen
  rw [dropCopy_isOpen, setEncodings0_isOpen]

theorem markRegion_isOpen (b : Update.Client) (r : Region) : (markRegion b r).isOpen = b.isOpen := rfl

theorem scheduleCopy_isOpen (s : Update.Screen) (b : Update.Client) (r : Region) (dx dy : Int) :
    (scheduleCopy s b r dx dy).isOpen = b.isOpen := by
  unfold scheduleCopy
  split <;> rfl

theorem Update_sendUpdate_isOpen (s : Update.Screen) (b : Update.Client) :
    (Update.sendUpdate s b).1.isOpen = b.isOpen := by
  unfold Update.sendUpdate
  extract_lets sc c1 upd0
  split
  extract_lets upd2
  split
  split <;> rfl

/-- the projection of a client the "administrative" invariants talk about; operations that only
touch regions / flags leave it alone -/
structure Admin where
  id : Nat
  fmt : Int
  xlate : Int × Int
  isOpen : Bool
  scaled : Bool
  sw : Int
  sh : Int
  ssrc : Nat
  deriving DecidableEq

def admin (c : Client) : Admin :=
  ⟨c.id, c.fmt, c.xlate, c.base.isOpen, c.scaled, c.sw, c.sh, c.ssrc⟩

theorem setEncodings_admin (s : Screen) (c : Client) (cr cs nf ext : Bool) :
    admin (setEncodings s c cr cs nf ext) = admin c := by
  simp [admin, setEncodings_isOpen]
  simp [setEncodings]

theorem request_admin (s : Screen) (c : Client) (incr : Bool) (x y w h : Int) :
    admin (request s c incr x y w h) = admin c := by
  unfold request
  split
  · rfl
  · split <;> rfl

theorem sizeMessage_admin (c : Client) : admin (sizeMessage c).1 = admin c := by
  unfold sizeMessage
  split <;> rfl

theorem sendUpdate_admin (s : Screen) (c : Client) : admin (sendUpdate s c).1 = admin c := by
  unfold sendUpdate
  split
  · exact sizeMessage_admin c
  · split <;> simp [admin, Update_sendUpdate_isOpen]

theorem updateClient_admin (s : Screen) (c : Client) : admin (updateClient s c).1 = admin c := by
  unfold updateClient
  split
  · exact sendUpdate_admin s c
  · rfl

theorem afterHook_touch (id : Nat) (code : Int) (d : Client) :
    ∃ e r p, afterHook id code d = { d with lastErr := e, reqChange := r, pending := p } ∧
      (d.pending = true → p = true) := by
  unfold afterHook
  split
  · exact ⟨_, _, _, rfl, fun h => by rw [h]; split <;> rfl⟩
  · split
    · exact ⟨_, _, _, rfl, fun h => h⟩
    · exact ⟨_, _, _, rfl, fun h => h⟩

theorem afterHook_admin (id : Nat) (code : Int) (d : Client) : admin (afterHook id code d) = admin d := by
  obtain ⟨e, r, p, h, _⟩ := afterHook_touch id code d
  rw [h]
  rfl

theorem afterHook_base (id : Nat) (code : Int) (d : Client) : (afterHook id code d).base = d.base := by
  obtain ⟨e, r, p, h, _⟩ := afterHook_touch id code d
  rw [h]

theorem copy_admin (s : Update.Screen) (c : Client) (r : Region) (dx dy : Int) :
    admin { c with base := scheduleCopy s c.base r dx dy } = admin c := by
  simp [admin, scheduleCopy_isOpen]

theorem closeClient_admin (c : Client) : admin (closeClient c) = { admin c with isOpen := false } := rfl

theorem updateClientFail_admin (s : Screen) (c : Client) :
    admin (updateClientFail s c) = admin c ∨
    admin (updateClientFail s c) = { admin c with isOpen := false } := by
  unfold updateClientFail
  split
  · exact Or.inl (updateClient_admin s c)
  · right; rw [closeClient_admin, updateClient_admin]

/-- `A` may look at the state the operation meets; `Q` is what `I` gives for one step's observations -/
theorem run_inv {I : State → Prop} {A : State → Op → Prop} {Q : Obs → Prop}
    (hstep : ∀ st op, I st → A st op → I (step st op).1 ∧ Q (step st op).2) :
    ∀ (ops : List Op) (st : State), I st →
      (∀ pre op post, ops = pre ++ op :: post → A (run st pre).1 op) →
      I (run st ops).1 ∧ ∀ o ∈ (run st ops).2, Q o := by
  intro ops
  induction ops with
  | nil => exact fun st h _ => ⟨h, fun o ho => by cases ho⟩
  | cons op ops ih =>
    intro st h hA
    obtain ⟨h1, q1⟩ := hstep st op h (hA [] op ops rfl)
    obtain ⟨h2, q2⟩ := ih (step st op).1 h1 fun pre o post e => by
      simpa [run] using hA (op :: pre) o post (by rw [e]; rfl)
    simp only [run]
    exact ⟨h2, fun o ho => (List.mem_cons.mp ho).elim (fun e => e ▸ q1) (q2 o)⟩

theorem run_inv_forall {I : State → Prop} {A : Op → Prop} {Q : Obs → Prop}
    (hstep : ∀ st op, I st → A op → I (step st op).1 ∧ Q (step st op).2)
    (ops : List Op) (st : State) (h : I st) (hA : ∀ op ∈ ops, A op) :
    I (run st ops).1 ∧ ∀ o ∈ (run st ops).2, Q o :=
  run_inv (A := fun _ => A) hstep ops st h fun pre op post e => hA op (e ▸ by simp)

end VncModel.Resize
