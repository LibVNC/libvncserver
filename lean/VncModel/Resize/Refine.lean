import VncModel.Resize.Runs
import VncModel.Update.Refine
/-!
The convergence invariant of C02 (`USpec.Inv`) for EVERY state of EVERY history of the C16 model,
across any number of framebuffer replacements.

C02's `Update/Refine.lean` shows that each region-level operation of the update model is simulated
by the set-level specification (`absS`, `Reach`).  Here the operations of the C16 model are mapped
onto that: the per-client effect `stepClient st op c` of every operation is, on the client's base
record, either one of C02's operations, or leaves the abstraction unchanged, or is a replacement —
which re-establishes the invariant from scratch (`Inv_init`: M = whole new screen) for ANY new
framebuffer contents and ANY client picture.

Pixels are ghost state: `fb` (server framebuffer contents) and `pic` (the picture client `id`
holds).  `FbOk` says how the APPLICATION may change `fb` during an operation (it draws only inside
what it marks, a copy copies, a replacement installs anything); `PicOk` says what the CLIENT does
with what it receives (applies an update; keeps its picture otherwise; anything at a replacement).
-/
namespace VncModel.Resize
open VncModel.Rgn VncModel.Update VncModel.USpec VncModel.Update.Refine

variable {V : Type}
open Classical

theorem S_congr (a b : Update.Screen) (hw : a.width = b.width) (hh : a.height = b.height) :
    Refine.S a = Refine.S b := by
  funext p; simp [Refine.S, hw, hh]

theorem request_refines (Sc : PSet) (s : Screen) (c : Client) (incr : Bool) (x y w h : Int)
    (hc : WFc c.base) (fb pic : Pix → V) :
    WFc (request s c incr x y w h).base ∧
    Reach Sc (absS c.base fb pic) (absS (request s c incr x y w h).base fb pic) := by
  unfold request
  split
  · exact ⟨hc, Reach.refl _⟩
  · rename_i r _
    have hr := rect_wf r.x r.y (r.x + r.w) (r.y + r.h)
    have step := Step.request (S := Sc) (absS c.base fb pic) incr
      (dset (Region.rect r.x r.y (r.x + r.w) (r.y + r.h)))
    cases incr
    · exact ⟨⟨wf_or hc.1 hr, wf_sub hc.2.1 hr, wf_or hc.2.2 hr⟩,
        Reach.single (Step.cast step rfl rfl (fun p => by simp [absS, dset_or hc.1 hr])
          (fun p => by simp [absS, dset_sub hc.2.1 hr]) (fun p => by simp [absS, dset_or hc.2.2 hr]) rfl)⟩
    · exact ⟨⟨hc.1, hc.2.1, wf_or hc.2.2 hr⟩,
        Reach.single (Step.cast step rfl rfl (fun p => by simp [absS]) (fun p => by simp [absS])
          (fun p => by simp [absS, dset_or hc.2.2 hr]) rfl)⟩

/-- the client's picture after `updateClient`: it applies the rectangles of an ordinary update; a
size message carries no pixels -/
noncomputable def picAfterUpdate (s : Screen) (c : Client) (fb pic : Pix → V) : Pix → V :=
  if updatePending s c = true ∧ ¬ (c.useNewFBSize = true ∧ c.pending = true) then
    afterSend fb pic (Update.sendUpdate s.base c.base).2
  else pic

theorem updateClient_refines (s : Screen) (c : Client) (hc : WFc c.base) (fb pic : Pix → V) :
    WFc (updateClient s c).1.base ∧
    Reach (Refine.S s.base) (absS c.base fb pic)
      (absS (updateClient s c).1.base fb (picAfterUpdate s c fb pic)) := by
  unfold updateClient picAfterUpdate
  by_cases hp : updatePending s c = true
  · simp only [hp, if_true, true_and]
    unfold sendUpdate
    by_cases hs : c.useNewFBSize = true ∧ c.pending = true
    · simp only [hs, Bool.and_self, if_true, not_true_eq_false, if_false]
      rw [(sizeMessage_state c).2.1]
      exact ⟨hc, Reach.refl _⟩
    · have hs' : (c.useNewFBSize && c.pending) = false := by
        cases h1 : c.useNewFBSize <;> cases h2 : c.pending <;> simp_all
      simp only [hs', Bool.false_eq_true, if_false, hs, not_false_eq_true, if_true]
      split <;> exact ⟨sendUpdate_wf s.base c.base hc, send_sound s.base c.base fb pic hc⟩
  · simp only [hp, Bool.false_eq_true, if_false, false_and]
    exact ⟨hc, Reach.refl _⟩

/-- how the application may change the framebuffer CONTENTS during one operation -/
def FbOk (st : State) (op : Op) (fb fb' : Pix → V) : Prop :=
  match op with
  | .mark x1 y1 x2 y2 =>
    match markClip st.scr.base x1 y1 x2 y2 with
    | some (a, b, c, d) =>
      ∀ p, Refine.S st.scr.base p → ¬ dset (Region.rect a b c d) p → fb' p = fb p
    | none => fb' = fb
  | .copy rgn dx dy =>
    rgn.WF ∧ (∀ p, dset rgn p → Refine.S st.scr.base (psub p (dx, dy))) ∧
    fb' = fun p => if dset rgn p then fb (psub p (dx, dy)) else fb p
  | .newFramebuffer .. => True
  | .setDesktopSize id _ _ ns (some (_, some _)) =>
    -- the hook (and with it the application's replacement) runs only for an existing client
    -- and a request that names at least one screen
    if (getClient st id).isSome && ns != 0 then True else fb' = fb
  | _ => fb' = fb

/-- what client `id` does to its picture during one operation -/
def PicOk (id : Nat) (st : State) (op : Op) (fb pic pic' : Pix → V) : Prop :=
  match op with
  | .update id' | .updateExtFail id' =>
    -- (a dropped extended size message carried no pixels anyway)
    if id' = id then ∀ c0, Uniq id st c0 → pic' = picAfterUpdate st.scr c0 fb pic else pic' = pic
  | .newFramebuffer .. => True
  | .setDesktopSize id' _ _ ns (some (_, some _)) =>
    if (getClient st id').isSome && ns != 0 then True else pic' = pic
  | _ => pic' = pic

/-- the convergence invariant for client `id` (while its connection is open) -/
def CInv (id : Nat) (st : State) (fb pic : Pix → V) : Prop :=
  ∃ c0, Uniq id st c0 ∧
    (c0.base.isOpen = true → WFc c0.base ∧ Inv (Refine.S st.scr.base) (absS c0.base fb pic))

/-- a replacement re-establishes the invariant for ANY new contents and ANY client picture -/
theorem cinv_newFb (s : Screen) (w h bpp : Int) (tok : Nat) (c : Client) (ho : c.base.isOpen = true)
    (hr : c.base.R.WF) (scr' : Update.Screen) (hw : scr'.width = w) (hh : scr'.height = h)
    (fb pic : Pix → V) :
    WFc (newFbClient s w h bpp tok c).base ∧
    Inv (Refine.S scr') (absS (newFbClient s w h bpp tok c).base fb pic) := by
  rw [newFbClient_base, if_pos ho]
  refine ⟨⟨rect_wf _ _ _ _, wf_empty, hr⟩, Inv_init _ _ ?_⟩
  intro p hp
  show dset (Region.rect 0 0 w h) p
  rw [dset_rect]
  simp only [Refine.S, hw, hh] at hp
  exact hp

theorem picAfterUpdate_of_no_msgs (s : Screen) (c : Client) (fb pic : Pix → V)
    (h : (updateClient s c).2.msgs = []) : picAfterUpdate s c fb pic = pic := by
  unfold picAfterUpdate
  split
  · rename_i hc
    unfold updateClient at h
    rw [if_pos hc.1] at h
    unfold sendUpdate at h
    have hs' : (c.useNewFBSize && c.pending) = false := by
      cases h1 : c.useNewFBSize <;> cases h2 : c.pending <;> simp_all
    rw [hs'] at h
    simp only [Bool.false_eq_true, if_false] at h
    cases hso : (Update.sendUpdate s.base c.base).2 with
    | none => rfl
    | some m => rw [hso] at h; simp at h
  · rfl

/-- **every operation that is no replacement is simulated by the set-level specification** on the
record of client `id`, for the framebuffer contents and the picture that `FbOk` / `PicOk` allow -/
theorem stepClient_refines {id : Nat} {st : State} {op : Op} {c0 : Client} {fb pic fb' pic' : Pix → V}
    (hu : Uniq id st c0) (hw : WFc c0.base) (ho : c0.base.isOpen = true)
    (ho' : (stepClient st op c0).base.isOpen = true) (hnr : op.appResize = false ∨ op.skipped st)
    (hfb : FbOk st op fb fb') (hpic : PicOk id st op fb pic pic') :
    WFc (stepClient st op c0).base ∧
    Reach (Refine.S st.scr.base) (absS c0.base fb pic) (absS (stepClient st op c0).base fb' pic') := by
  have idle : WFc c0.base ∧ Reach (Refine.S st.scr.base) (absS c0.base fb pic) (absS c0.base fb pic) :=
    ⟨hw, Reach.refl _⟩
  cases op with
  | newClient | pointer => obtain rfl := hfb; obtain rfl := hpic; exact idle
  | newFramebuffer => exact hnr.elim (fun h => Bool.noConfusion h) False.elim
  | setEncodings id' cr cs nf ext =>
    obtain rfl := hfb; obtain rfl := hpic
    simp only [stepClient]
    split
    · exact ⟨setEncodings_wf _ _ cr cs hw, setEncodings_reach _ st.scr.base c0.base cr cs hw fb' pic'⟩
    · exact idle
  | setPixelFormat id' f =>
    obtain rfl := hfb; obtain rfl := hpic
    simp only [stepClient]
    split <;> exact idle
  | setScale id' k =>
    obtain rfl := hfb; obtain rfl := hpic
    simp only [stepClient]
    split
    · rw [setScale_base]; exact idle
    · exact idle
  | mark x1 y1 x2 y2 =>
    obtain rfl := hpic
    simp only [FbOk] at hfb
    simp only [stepClient]
    split
    · rename_i a b c' d hm
      rw [hm] at hfb
      rw [if_pos ho]
      exact ⟨markRegion_wf _ _ hw (rect_wf _ _ _ _),
        Reach.single (markRegion_step _ c0.base _ hw (rect_wf _ _ _ _) fb fb' pic' hfb)⟩
    · rename_i hm
      rw [hm] at hfb
      obtain rfl := hfb
      exact idle
  | copy rgn dx dy =>
    obtain rfl := hpic
    obtain ⟨hD, hsrc, rfl⟩ := hfb
    simp only [stepClient, ho, if_true]
    exact ⟨scheduleCopy_wf _ _ rgn dx dy hw hD,
      Reach.single (scheduleCopy_step st.scr.base c0.base rgn dx dy hw hD hsrc fb pic')⟩
  | request id' incr x y w h =>
    obtain rfl := hfb; obtain rfl := hpic
    simp only [stepClient]
    split
    · exact request_refines (Refine.S st.scr.base) st.scr c0 incr x y w h hw fb' pic'
    · exact idle
  | update id' | updateExtFail id' =>
    obtain rfl := hfb
    simp only [PicOk] at hpic
    simp only [stepClient]
    split
    · rename_i he
      rw [if_pos ((beq_iff_eq.mp he).symm.trans hu.2.1)] at hpic
      rw [hpic c0 hu]
      exact updateClient_refines st.scr c0 hw fb' pic
    · rename_i he
      rw [if_neg fun h => he (beq_iff_eq.mpr (hu.2.1.trans h.symm))] at hpic
      rw [hpic]
      exact idle
  | updateFail id' =>
    obtain rfl := hfb; obtain rfl := hpic
    simp only [stepClient] at ho' ⊢
    by_cases he : (c0.id == id') = true
    · rw [if_pos he] at ho' ⊢
      obtain ⟨e, hm⟩ := updateClientFail_open ho'
      have h := updateClient_refines st.scr c0 hw fb' pic'
      rw [picAfterUpdate_of_no_msgs st.scr c0 fb' pic' hm] at h
      rw [e]; exact h
    · rw [if_neg he]; exact idle
  | drop id' =>
    obtain rfl := hfb; obtain rfl := hpic
    simp only [stepClient] at ho' ⊢
    by_cases he : (c0.id == id') = true
    · rw [if_pos he] at ho'; cases ho'
    · rw [if_neg he]; exact idle
  | setDesktopSize id' w h ns hook =>
    -- no replacement, or the hook is not called: the ghost pixels stay
    obtain ⟨rfl, rfl⟩ : fb' = fb ∧ pic' = pic := by
      match hook, hnr, hfb, hpic with
      | none, _, h, h' | some (_, none), _, h, h' => exact ⟨h, h'⟩
      | some (_, some _), .inr hsk, h, h' => simp only [FbOk, PicOk, if_neg hsk] at h h'; exact ⟨h, h'⟩
      | some (_, some _), .inl hr, _, _ => cases hr
    rcases hnr with hr | hsk
    · rw [stepClient_sds_base hr]; exact idle
    · rw [stepClient_skipped hsk]; exact idle

/-- an operation that is no replacement is simulated on a screen of the same size; a replacement
restarts the invariant -/
theorem cinv_step (id : Nat) (st : State) (op : Op) (fb pic fb' pic' : Pix → V)
    (hI : CInv id st fb pic) (hfb : FbOk st op fb fb') (hpic : PicOk id st op fb pic pic') :
    CInv id (step st op).1 fb' pic' := by
  obtain ⟨c0, hu, hinv⟩ := hI
  refine ⟨stepClient st op c0, uniq_step op hu, fun ho' => ?_⟩
  have ho : c0.base.isOpen = true :=
    ((stepClient_isOpen st op c0).resolve_right (by rw [ho']; decide)).symm.trans ho'
  obtain ⟨hw, hi⟩ := hinv ho
  rcases step_admin st op with ⟨hgeo, hnr, _⟩ | ⟨w, h, bpp, tok, _, hgeo, hc⟩
  · rw [S_congr _ st.scr.base (congrArg Geometry.width hgeo) (congrArg Geometry.height hgeo)]
    obtain ⟨h1, h2⟩ := stepClient_refines hu hw ho ho' hnr hfb hpic
    exact ⟨h1, Inv_reach _ _ _ hi h2⟩
  · rw [(hc c0).1]
    exact cinv_newFb st.scr w h bpp tok c0 ho hw.2.2 _ (congrArg Geometry.width hgeo)
      (congrArg Geometry.height hgeo) fb' pic'

/-- a history of the model together with the ghost pixels: the application changes the framebuffer
contents as `FbOk` allows, client `id` treats its picture as `PicOk` says -/
inductive GRun (id : Nat) : State → (Pix → V) → (Pix → V) → List Op → State → (Pix → V) → (Pix → V) → Prop
  | nil (st : State) (fb pic : Pix → V) : GRun id st fb pic [] st fb pic
  | cons {st : State} {fb pic fb1 pic1 : Pix → V} {op : Op} {ops : List Op} {st' : State}
      {fb' pic' : Pix → V} :
      FbOk st op fb fb1 → PicOk id st op fb pic pic1 →
      GRun id (step st op).1 fb1 pic1 ops st' fb' pic' → GRun id st fb pic (op :: ops) st' fb' pic'

theorem GRun.state {id : Nat} {st st' : State} {fb pic fb' pic' : Pix → V} {ops : List Op}
    (h : GRun id st fb pic ops st' fb' pic') : st' = (run st ops).1 := by
  induction h with
  | nil => rfl
  | cons _ _ _ ih => simp only [run]; exact ih

theorem cinv_run {id : Nat} {st st' : State} {fb pic fb' pic' : Pix → V} {ops : List Op}
    (h : GRun id st fb pic ops st' fb' pic') (hI : CInv id st fb pic) : CInv id st' fb' pic' := by
  induction h with
  | nil => exact hI
  | cons hf hp _ ih => exact ih (cinv_step id _ _ _ _ _ _ hI hf hp)

end VncModel.Resize
