import VncModel.Resize.Admin
import VncModel.Resize.Answers
import VncModel.Resize.Bounds2
import VncModel.Update.USpecProofs
/-!
History-level corollaries (`run`) of the step lemmas, the SetDesktopSize bookkeeping facts, the
link to the set-level convergence specification of C02, and the model of the UNFIXED
rfbNewFramebuffer used for the counter-example.
-/
namespace VncModel.Resize
open VncModel.Rgn VncModel.Update

theorem run_append (st : State) (a b : List Op) :
    (run st (a ++ b)).1 = (run (run st a).1 b).1 ∧
    (run st (a ++ b)).2 = (run st a).2 ++ (run (run st a).1 b).2 := by
  induction a generalizing st with
  | nil => simp [run]
  | cons op a ih =>
    simp only [List.cons_append, run]
    exact ⟨(ih _).1, by rw [(ih _).2]⟩

theorem noTok_run (old : Nat) (ops : List Op) (st : State) (h : NoTok old st)
    (ha : ∀ op ∈ ops, op.avoids old) :
    NoTok old (run st ops).1 ∧ ∀ o ∈ (run st ops).2, old ∉ o.acc :=
  run_inv_forall (Q := fun o => old ∉ o.acc)
    (fun st op h ha => ⟨noTok_step old st op h ha, fun hm =>
      (step_acc st op old hm).elim (fun e => h.1 e.symm) fun ⟨a, ha', e⟩ => h.2 a ha' e.symm⟩)
    ops st h ha

theorem xlateOk_run (ops : List Op) (st : State) (h : XlateOk st) : XlateOk (run st ops).1 :=
  (run_inv_forall (A := fun _ => True) (Q := fun _ => True)
    (fun st op h _ => ⟨xlateOk_step st op h, trivial⟩) ops st h fun _ _ => trivial).1

/-- unscaled clients are served at the screen's own size -/
def GeomOk (st : State) : Prop :=
  ∀ a ∈ admins st, a.scaled = false → a.sw = st.scr.base.width ∧ a.sh = st.scr.base.height

theorem newFbClient_geom (s : Screen) (w h bpp : Int) (tok : Nat) (c : Client) :
    (newFbClient s w h bpp tok c).scaled = c.scaled ∧
    (newFbClient s w h bpp tok c).sw = (if c.scaled then rescale s.base.width w c.sw else w) ∧
    (newFbClient s w h bpp tok c).sh = (if c.scaled then rescale s.base.height h c.sh else h) := by
  obtain ⟨_, _, _, e, _⟩ := newFbClient_touch s w h bpp tok c
  rw [e]
  exact ⟨rfl, rfl, rfl⟩

/-- what the hook answers -/
def hookCode : Hook → Int
  | none => defaultHookResult
  | some (code, _) => code

theorem runHook_fst (st : State) (hook : Hook) : (runHook st hook).1 = hookCode hook := by
  match hook with
  | none => rfl
  | some (code, none) => rfl
  | some (code, some (w, h, bpp, tok)) => rfl

theorem sds_requester (st : State) (id : Nat) (w h ns : Int) (hook : Hook) (c : Client)
    (hc : c ∈ st.clients) (hid : c.id = id) (hns : ns ≠ 0) :
    let d := stepClient st (.setDesktopSize id w h ns hook) c
    d.reqChange = reasonClient ∧ d.lastErr = hookCode hook ∧ d.useExt = c.useExt ∧
    (hookCode hook ≠ 0 → d.pending = true) := by
  subst hid
  have hg : (getClient st c.id).isSome = true := getClient_isSome_of_mem ⟨c, hc, rfl⟩
  simp only [stepClient, hg, Bool.true_and, bne_iff_ne, ne_eq, hns, not_false_eq_true, decide_true, if_true,
    beq_self_eq_true, runHook_fst]
  obtain ⟨_, h1, h2, _, _, _⟩ := hookClient_flags st.scr hook { c with reqChange := reasonClient }
  unfold afterHook
  rw [if_pos (by rw [hookClient_id]; exact beq_self_eq_true _)]
  refine ⟨h2, rfl, h1, fun hne => ?_⟩
  show (if hookCode hook == 0 then _ else true) = true
  rw [if_neg (by simpa using hne)]

theorem sds_others (st : State) (id : Nat) (w h ns : Int) (hook : Hook) (c : Client)
    (hg : (getClient st id).isSome = true) (hid : c.id ≠ id) (hns : ns ≠ 0) (ho : c.base.isOpen = true)
    (hcode : hookCode hook = 0) :
    let d := stepClient st (.setDesktopSize id w h ns hook) c
    d.reqChange = reasonOther ∧ d.lastErr = c.lastErr ∧ d.useExt = c.useExt := by
  have hb : (c.id == id) = false := by simpa using hid
  simp only [stepClient, hg, Bool.true_and, bne_iff_ne, ne_eq, hns, not_false_eq_true, decide_true, if_true,
    hb, runHook_fst, hcode, Bool.false_eq_true, if_false]
  obtain ⟨_, h1, _, h3, h4, _⟩ := hookClient_flags st.scr hook c
  unfold afterHook
  rw [if_neg (by rw [hookClient_id]; simpa using hid), if_pos (by rw [h4, ho]; rfl)]
  exact ⟨rfl, h3, h1⟩

open VncModel.USpec in
/-- the set-level state a client record denotes (any server framebuffer, any client picture) -/
def toSpec {V : Type} (fb pic : Pix → V) (b : Update.Client) : SState V :=
  { fb := fb, pic := pic, M := fun p => b.M.den p.1 p.2, C := fun p => b.C.den p.1 p.2,
    R := fun p => b.R.den p.1 p.2, d := (b.dx, b.dy) }

/-- the pixels of a `w × h` screen -/
def screenSet (w h : Int) : VncModel.USpec.PSet := fun p => 0 ≤ p.1 ∧ p.1 < w ∧ 0 ≤ p.2 ∧ p.2 < h

open VncModel.USpec Classical in
theorem full_request_completes {V : Type} (S : PSet) (s : SState V) (hI : Inv S s) (r : PSet)
    (hr : ∀ p, S p → r p) :
    ∃ t, Reach S s t ∧ (∀ p, S p → t.pic p = t.fb p) ∧ t.fb = s.fb := by
  let s1 : SState V := { s with R := fun p => s.R p ∨ r p, M := fun p => s.M p ∨ (false = false ∧ r p),
                                C := fun p => s.C p ∧ ¬ (false = false ∧ r p) }
  have h1 : Step S s s1 := Step.request s false r
  have h2 := Step.send (S := S) s1 (fun _ => True) (fun _ => False)
  have hI2 := Inv_step S _ _ (Inv_step S s s1 hI h1) h2
  refine ⟨_, Reach.tail (Reach.tail (Reach.refl s) h1) h2, ?_, rfl⟩
  intro p hS
  have hrp : r p := hr p hS
  have hR : s1.R p := Or.inr hrp
  have hM1 : s1.M p := Or.inr ⟨rfl, hrp⟩
  have hM : ¬ ((s1.M p ∨ sendC1 s1 p) ∧ ¬ sendU0 s1 (fun _ => True) p ∧ ¬ sendUC s1 p) := by
    intro hm
    exact hm.2.1 ⟨Or.inl ⟨hM1, trivial⟩, hR, hm.2.2⟩
  exact ((hI2 p hS hM).2 (fun hc => hc)).symm

/-- rfbNewFramebuffer as in the tree before fixes/C16-newfb-scaled-screens.diff: the scaled versions
(size, format, contents) are not touched -/
def newFbClientUnfixed (s : Screen) (w h bpp : Int) (tok : Nat) (c : Client) : Client :=
  let c1 : Client := if c.scaled then c else { c with sw := w, sh := h, ssrc := tok }
  if !c.base.isOpen then c1 else
  { c1 with
    xlate := if bpp != s.bpp then (bpp, c.fmt) else c.xlate,
    base := { c.base with M := Region.rect 0 0 w h, C := Region.empty, dx := 0, dy := 0 },
    pending := if c.useNewFBSize then true else c.pending }

end VncModel.Resize
