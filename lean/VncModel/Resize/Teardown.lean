import VncModel.Resize.Answers
/-!
Teardown after a replacement, and the buffer discipline of the size-message emitters.

* A client whose connection was closed (failed write of the pending size message or update, failed
  read of one of its messages) is never served again: no message, in any later history.
* `emit`: the flush rule at the head of rfbSendNewFBSize / rfbSendExtDesktopSize
  (`if (cl->ublen + need > UPDATE_BUF_SIZE) rfbSendUpdateBuf(cl)`), over the regenerated constants.
-/
namespace VncModel.Resize
open VncModel.Rgn VncModel.Update

theorem updateClient_closed (s : Screen) (c : Client) (h : c.base.isOpen = false) :
    (updateClient s c).2.msgs = [] ∧ (updateClient s c).2.acc = [] ∧ (updateClient s c).1 = c := by
  unfold updateClient updatePending
  simp [h]

theorem stepClient_stays_closed (st : State) (op : Op) (c : Client) (h : c.base.isOpen = false) :
    (stepClient st op c).base.isOpen = false := by
  rcases stepClient_isOpen st op c with h1 | h1
  · rw [h1]; exact h
  · exact h1

/-- a client cannot speak after its connection is gone -/
def Op.notFrom (id : Nat) : Op → Prop
  | .setScale id' _ => id' ≠ id
  | _ => True

theorem msgsTo_eq_nil {id : Nat} {os : List Obs} (h : ∀ o ∈ os, o.to id = []) : msgsTo id os = [] := by
  induction os with
  | nil => rfl
  | cons o os ih =>
    simp only [msgsTo]
    rw [h o (by simp), ih fun o' ho' => h o' (by simp [ho'])]
    rfl

theorem closed_client_never_served (id : Nat) (ops : List Op) (st : State) (c0 : Client)
    (hu : Uniq id st c0) (hc : c0.base.isOpen = false) (hA : ∀ op ∈ ops, op.notFrom id) :
    msgsTo id (run st ops).2 = [] ∧
    ∃ c1, Uniq id (run st ops).1 c1 ∧ c1.base.isOpen = false := by
  refine (run_inv_forall (I := fun st => ∃ c1, Uniq id st c1 ∧ c1.base.isOpen = false)
    (A := Op.notFrom id) (Q := fun o => o.to id = []) ?_ ops st ⟨c0, hu, hc⟩ hA).symm.imp_left msgsTo_eq_nil
  intro st op ⟨c, hu, hc⟩ ha
  refine ⟨⟨_, uniq_step op hu, stepClient_stays_closed st op c hc⟩, ?_⟩
  apply List.eq_nil_iff_forall_not_mem.mpr
  intro m hm
  rcases uniq_msgs hu (mem_to.mp hm) with ⟨_, hmm⟩ | ⟨k, ho, _⟩
  · rw [(updateClient_closed st.scr c hc).1] at hmm; cases hmm
  · subst ho; exact ha rfl

theorem updateFail_closes (s : Screen) (c : Client) (h : (updateClient s c).2.msgs ≠ []) :
    (updateClientFail s c).base.isOpen = false := by
  unfold updateClientFail
  rw [if_neg (by simpa using h)]
  rfl

theorem pending_size_is_written (s : Screen) (c : Client) (hp : updatePending s c = true)
    (hnf : c.useNewFBSize = true) (hpe : c.pending = true) : (updateClient s c).2.msgs ≠ [] := by
  unfold updateClient
  rw [if_pos hp]
  rw [(show (sendUpdate s c).2.msgs = [(c.id, (sizeMessage c).2)] by
    unfold sendUpdate; simp [hnf, hpe])]
  simp

open VncModel.Gen.C16 in
/-- bytes the NewFBSize pseudo-rectangle needs -/
def needNewFB : Nat := sz_rfbFramebufferUpdateRectHeader

open VncModel.Gen.C16 in
/-- bytes the ExtendedDesktopSize pseudo-rectangle with `n` screens needs -/
def needExt (n : Nat) : Nat :=
  sz_rfbFramebufferUpdateRectHeader + sz_rfbExtDesktopSizeMsg + sz_rfbExtDesktopScreen * n

open VncModel.Gen.C16 in
/-- the flush rule: (bytes flushed first, `ublen` after the rectangle was appended) -/
def emit (ublen need : Nat) : Nat × Nat :=
  if ublen + need > UPDATE_BUF_SIZE then (ublen, need) else (0, ublen + need)

end VncModel.Resize
