import VncModel.Robust.Stream
/-!
# Robust/Lemmas — what Props/C04.lean rests on

The handlers are nested `if`/`match` trees: a proof walks the tree and closes each leaf.  Long `if` chains
are walked with `by_cases` and `rw [if_pos/if_neg]` because `split` rewrites the whole remaining tree at
every step.
-/
namespace VncModel.Robust
open VncModel.Gen.C04

/-- `B` bounds the allocation, `n` bounds the unread rest of a handler that continues -/
def Good (B n : Nat) (r : Res) : Prop :=
  r.alloc ≤ r.allocAlt ∧ r.allocAlt ≤ B ∧ (r.out = .cont → r.rest.length ≤ n)

theorem Good.mono {B B' n n' : Nat} {r : Res} (h : Good B n r) (hB : B ≤ B') (hn : n ≤ n') :
    Good B' n' r := by
  obtain ⟨h1, h2, h3⟩ := h
  exact ⟨h1, Nat.le_trans h2 hB, fun hc => Nat.le_trans (h3 hc) hn⟩

theorem Good.skip {B n : Nat} {r : Res} (k : Nat) (h : Good B n r) : Good B (n + k) r :=
  h.mono (Nat.le_refl _) (Nat.le_add_right _ _)

/-- `goesOn` and `halts` are stated on the shape `Good` and `GoodRound` unfold to, so that they close a
leaf of either, also one with further fields set (`{ mkCont … with cb := … }`) -/
theorem goesOn {B a : Nat} {P : Prop} (ha : a ≤ B) (hp : P) :
    a ≤ a ∧ a ≤ B ∧ (Outcome.cont = Outcome.cont → P) :=
  ⟨Nat.le_refl _, ha, fun _ => hp⟩

theorem halts {B a : Nat} {P : Prop} {out : Outcome} (ha : a ≤ B)
    (ho : out ≠ .cont := by intro h; cases h) :
    a ≤ a ∧ a ≤ B ∧ (out = Outcome.cont → P) :=
  ⟨Nat.le_refl _, ha, fun h => absurd h ho⟩

theorem readN_len {n : Nat} {inp a b : List UInt8} (h : readN n inp = some (a, b)) :
    b.length + n = inp.length := by
  obtain ⟨hn, _, rfl⟩ := readN_some h
  rw [List.length_drop, Nat.sub_add_cancel hn]

theorem readN_le {n : Nat} {inp a b : List UInt8} (h : readN n inp = some (a, b)) :
    b.length ≤ inp.length :=
  Nat.le.intro (readN_len h)

theorem good_hFixed (k : Nat) (c : Conn) (inp : List UInt8) (cb : Nat) : Good 0 inp.length (hFixed k c inp cb) := by
  unfold hFixed
  split
  · exact goesOn (Nat.le_refl _) (readN_le ‹_›)
  · exact halts (Nat.le_refl _)

theorem good_hFixColourMap (c : Conn) (inp : List UInt8) : Good 0 inp.length (hFixColourMap c inp) := by
  unfold hFixColourMap
  split <;> exact halts (Nat.le_refl _)


/-! ### SetPixelFormat: the table is sized by the SERVER format -/

theorem tableBytes_le (entries outBpp : Nat) (h : outBpp ≤ 32) :
    tableBytes entries outBpp ≤ entries * 4 + 1 := by
  unfold tableBytes
  split
  · omega
  · have : outBpp / 8 ≤ 4 := by omega
    have := Nat.mul_le_mul_left entries this
    omega

theorem validBpp_le {b : Nat} (h : validBpp b = true) : b ≤ 32 ∧ 8 ≤ b := by
  simp only [validBpp, Bool.or_eq_true, beq_iff_eq] at h
  omega

theorem effFormat_bpp {f : PixFmt} (h : formatOk f = true) : (effFormat f).bpp ≤ 32 := by
  unfold effFormat
  split
  · simp only [formatOk, Bool.and_eq_true] at h
    exact (validBpp_le h.1.1).1
  · simp [bgr233Format]

/-- table size for the three server formats of the harness: at most 2^16 entries of 4 bytes (+1) -/
def tableMax : Nat := 65536 * 4 + 1

theorem serverFormat_cases (bytespp : Nat) :
    serverFormat bytespp = ⟨8, 8, false, true, 7, 7, 3, 0, 3, 6⟩ ∨
    serverFormat bytespp = ⟨16, 16, false, true, 31, 31, 31, 0, 5, 10⟩ ∨
    serverFormat bytespp = ⟨32, 32, false, true, 255, 255, 255, 0, 8, 16⟩ := by
  unfold serverFormat
  split
  · exact Or.inl rfl
  · split
    · exact Or.inr (Or.inl rfl)
    · exact Or.inr (Or.inr rfl)

theorem tableSize_le (bytespp : Nat) (f' : PixFmt) (hb : f'.bpp ≤ 32) :
    tableSize (serverFormat bytespp) f' ≤ tableMax := by
  unfold tableSize
  split
  · simp [tableMax]
  · rcases serverFormat_cases bytespp with h | h | h <;> rw [h] <;> simp only [tableMax]
    · have := tableBytes_le 256 f'.bpp hb
      simp; omega
    · have := tableBytes_le 65536 f'.bpp hb
      simp; omega
    · have := tableBytes_le 768 f'.bpp hb
      simp; omega

theorem setTranslate_accepted {srv f f' : PixFmt} {t : Nat} {w : Bool}
    (h : setTranslate srv f = .accepted f' t w) :
    formatOk f = true ∧ f' = effFormat f ∧ t = tableSize srv (effFormat f) := by
  unfold setTranslate at h
  split at h
  · cases h; exact ⟨‹_›, rfl, rfl⟩
  · cases h

theorem good_hSetPixelFormat (cfg : Cfg) (c : Conn) (inp : List UInt8) :
    Good tableMax inp.length (hSetPixelFormat cfg c inp) := by
  unfold hSetPixelFormat
  split
  · dsimp only
    split
    · exact halts (Nat.zero_le _)
    · obtain ⟨hok, _, rfl⟩ := setTranslate_accepted ‹_›
      exact goesOn (tableSize_le _ _ (effFormat_bpp hok)) (Nat.le_add_right _ 19)
  · exact halts (Nat.zero_le _)


/-! ### SetEncodings: the encodings are read one by one; no allocation depends on the count -/

theorem encLoop_rest (cfg : Cfg) (n : Nat) (inp : List UInt8) (c : Conn) (w : Bool) (k kl : Nat)
    {rest : List UInt8} {c' : Conn} {w' : Bool} {k' kl' : Nat}
    (h : encLoop cfg n inp c w k kl = (some rest, c', w', k', kl')) : rest.length + 4 * n = inp.length := by
  induction n generalizing inp c w k kl with
  | zero => simp only [encLoop, Prod.mk.injEq, Option.some.injEq] at h; simp [h.1]
  | succ m ih =>
    match inp with
    | a :: b :: cc :: d :: tl =>
      simp only [encLoop] at h
      have := ih _ _ _ _ _ h
      simp only [List.length_cons]; omega
    | [] | [_] | [_, _] | [_, _, _] => simp [encLoop] at h

theorem good_hSetEncodings (cfg : Cfg) (c : Conn) (inp : List UInt8) :
    Good 0 inp.length (hSetEncodings cfg c inp) := by
  unfold hSetEncodings
  split
  · split
    · exact .skip 3 (goesOn (Nat.le_refl _) (Nat.le.intro (encLoop_rest _ _ _ _ _ _ _ ‹_›)))
    · exact halts (Nat.le_refl _)
  · exact halts (Nat.le_refl _)

theorem good_hUpdateRequest (cfg : Cfg) (c : Conn) (inp : List UInt8) :
    Good 0 inp.length (hUpdateRequest cfg c inp) := by
  unfold hUpdateRequest
  split
  · exact goesOn (Nat.le_refl _) (Nat.le_add_right _ 9)
  · exact halts (Nat.le_refl _)

/-- the largest request the UltraVNC file-transfer code makes: `realloc(length + 18)`, length ≤ INT_MAX -/
def ftMax : Nat := intMax + ftTimespecExtra

theorem ftReadBuffer_spec (length : Nat) (inp : List UInt8) :
    match ftReadBuffer length inp with
    | .closed => length > intMax
    | .empty => length = 0
    | .starved a => a = length + 1 ∧ length ≤ intMax
    | .got a rest => a = length + 1 ∧ length ≤ intMax ∧ rest.length ≤ inp.length := by
  by_cases h1 : length > intMax
  · simp [ftReadBuffer, h1]
  · by_cases h2 : length = 0
    · simp [ftReadBuffer, h2]
    · cases h3 : readN length inp with
      | none => simp [ftReadBuffer, h1, h2, h3]; omega
      | some p =>
        obtain ⟨a, b⟩ := p
        have := readN_le h3
        simp [ftReadBuffer, h1, h2, h3]; omega

theorem good_ftBody (c : Conn) (ct param size length : Nat) (rest : List UInt8) :
    Good ftMax rest.length (ftBody c ct param size length rest) := by
  have h18 : ftTimespecExtra = 18 := rfl
  have h0 {w : Bool} : Good ftMax rest.length (mkCont c rest 0 w) := goesOn (Nat.zero_le _) (Nat.le_refl _)
  unfold ftBody
  dsimp only
  by_cases hbuf : (ct = rfbDirContentRequest ∧ param = rfbRDirContent) ∨ ct = rfbFileTransferRequest ∨
      ct = rfbFileTransferOffer ∨ ct = rfbFilePacket ∨ ct = rfbCommand
  · rw [if_pos hbuf]
    have hs := ftReadBuffer_spec length rest
    cases hb : ftReadBuffer length rest with
    | closed => exact halts (Nat.zero_le _)
    | empty => exact h0
    | starved a =>
      rw [hb] at hs
      exact halts (show a ≤ ftMax by unfold ftMax; omega)
    | got a rest' =>
      rw [hb] at hs
      obtain ⟨ha, hl, hr⟩ := hs
      have hB : length + 1 ≤ ftMax := by unfold ftMax; omega
      subst ha
      dsimp only
      by_cases h1 : ct = rfbFileTransferOffer
      · rw [if_pos h1]
        split
        · exact goesOn hB (Nat.le_trans (readN_le ‹_›) hr)
        · exact halts hB
      rw [if_neg h1]
      by_cases h2 : ct = rfbFileTransferRequest
      · rw [if_pos h2]
        exact ⟨by show length + 1 ≤ length + ftTimespecExtra; omega,
          by show length + ftTimespecExtra ≤ ftMax; unfold ftMax; omega, fun _ => hr⟩
      rw [if_neg h2]
      split <;> exact goesOn hB hr
  · rw [if_neg hbuf]
    split
    · exact h0
    · split
      · exact h0
      · split
        · split
          · exact h0
          · exact goesOn (Nat.zero_le _) (Nat.le_refl _)
        · exact h0

theorem good_hFileTransfer (cfg : Cfg) (c : Conn) (inp : List UInt8) :
    Good ftMax inp.length (hFileTransfer cfg c inp) := by
  unfold hFileTransfer
  split
  · split
    · exact halts (Nat.zero_le _)
    · exact .skip 11 (good_ftBody c _ _ _ _ _)
  · exact halts (Nat.zero_le _)

theorem hFileTransfer_denied (cfg : Cfg) (c : Conn) (inp : List UInt8) (h : cfg.ft = false) :
    (hFileTransfer cfg c inp).alloc = 0 ∧ (hFileTransfer cfg c inp).allocAlt = 0 ∧
    (hFileTransfer cfg c inp).out ≠ .cont := by
  unfold hFileTransfer
  split
  · simp [h, mkClosed]
  · simp [mkStarved]


/-- bytes of a `w`×`h` framebuffer with rows padded to 4 bytes -/
def fbBytes (w h bytespp : Nat) : Nat := ((w * bytespp + 3) / 4 * 4) * h

theorem fbBytes_mono {w w' h h' b : Nat} (hw : w' ≤ w) (hh : h' ≤ h) : fbBytes w' h' b ≤ fbBytes w h b := by
  unfold fbBytes
  have h1 : w' * b ≤ w * b := Nat.mul_le_mul_right b hw
  have h2 : (w' * b + 3) / 4 ≤ (w * b + 3) / 4 := Nat.div_le_div_right (by omega)
  have h3 : (w' * b + 3) / 4 * 4 ≤ (w * b + 3) / 4 * 4 := Nat.mul_le_mul_right 4 h2
  exact Nat.mul_le_mul h3 hh

/-- what a scale request may allocate: a scaled copy of the framebuffer (never larger than the
framebuffer itself) or the screen record -/
def scaleMax (cfg : Cfg) : Nat := max (fbBytes cfg.w cfg.h cfg.bytespp) sizeofScreenInfo

theorem good_hSetScale (cfg : Cfg) (c : Conn) (inp : List UInt8) :
    Good (scaleMax cfg) inp.length (hSetScale cfg c inp) := by
  unfold hSetScale
  split
  · split
    · exact halts (Nat.zero_le _)
    · rename_i scale _ _ rest hs
      have := fbBytes_mono (b := cfg.bytespp) (Nat.div_le_self cfg.w scale.toNat)
        (Nat.div_le_self cfg.h scale.toNat)
      refine goesOn ?_ (Nat.le_add_right _ 3)
      dsimp only [mkCont]
      unfold scaleMax
      unfold fbBytes at this ⊢
      split <;> omega
  · exact halts (Nat.zero_le _)

theorem hSetScale_zero (cfg : Cfg) (c : Conn) (p1 p2 : UInt8) (rest : List UInt8) :
    (hSetScale cfg c (0 :: p1 :: p2 :: rest)).out = .closed := by
  simp [hSetScale, mkClosed]

theorem good_hTextChat (c : Conn) (inp : List UInt8) :
    Good (rfbTextMaxSize - 1) inp.length (hTextChat c inp) := by
  unfold hTextChat
  split
  · refine .skip 7 ?_
    dsimp only
    split
    · exact goesOn (Nat.zero_le _) (Nat.le_refl _)
    · split
      · have hB : be32 _ _ _ _ ≤ rfbTextMaxSize - 1 := Nat.le_sub_one_of_lt (And.right ‹_›)
        split
        · exact goesOn hB (readN_le ‹_›)
        · exact halts hB
      · exact halts (Nat.zero_le _)
  · exact halts (Nat.zero_le _)

/-- bound for everything a ClientCutText message (classic or extended) can make the server allocate -/
def cutMax : Nat := max cutTextMax extClipMax

theorem cutAlloc_le {length : Nat} (h : length ≤ cutTextMax) : cutAlloc length ≤ cutMax := by
  have h1 : cutTextMax ≤ cutMax := Nat.le_max_left _ _
  have h2 : 1 ≤ cutTextMax := by decide
  unfold cutAlloc
  split <;> omega

theorem good_extClipAction (c : Conn) (flags length a n : Nat) (rest' : List UInt8)
    (ha : a ≤ cutMax) (hn : rest'.length ≤ n) : Good cutMax n (extClipAction c flags length a rest') := by
  unfold extClipAction
  by_cases hCaps : flags.testBit 24 = true
  · rw [if_pos hCaps]
    dsimp only
    split
    · exact goesOn ha hn
    · split
      · exact halts ha
      · split <;> exact goesOn ha hn
  rw [if_neg hCaps]
  by_cases hReq : flags.testBit 25 = true
  · rw [if_pos hReq]; exact goesOn ha hn
  rw [if_neg hReq]
  by_cases hPeek : flags.testBit 26 = true
  · rw [if_pos hPeek]; exact goesOn ha hn
  rw [if_neg hPeek]
  by_cases hProv : flags.testBit 28 = true
  · rw [if_pos hProv]
    split
    · exact goesOn ha hn
    · exact halts (Nat.max_le.mpr ⟨ha, Nat.le_max_right _ _⟩)
  rw [if_neg hProv]
  exact goesOn ha hn

theorem good_cutBody (c : Conn) (ext : Bool) (length : Nat) (rest : List UInt8) (view : Bool) :
    Good cutMax rest.length (cutBody c ext length rest view) := by
  unfold cutBody
  split
  · exact halts (Nat.zero_le _)
  · rename_i hle
    have hA := cutAlloc_le (Nat.le_of_not_gt hle)
    split
    · exact halts hA
    · have hr := readN_le ‹_›
      split
      · exact goesOn hA hr
      · split
        · exact halts hA
        · exact good_extClipAction c _ _ _ _ _ hA hr

theorem good_hCutText (c : Conn) (inp : List UInt8) (view : Bool) : Good cutMax inp.length (hCutText c inp view) := by
  unfold hCutText
  split
  · dsimp only
    split <;> exact .skip 7 (good_cutBody c _ _ _ view)
  · exact halts (Nat.zero_le _)

theorem good_hXvp (cfg : Cfg) (c : Conn) (inp : List UInt8) : Good 0 inp.length (hXvp cfg c inp) := by
  unfold hXvp
  split
  · exact goesOn (Nat.le_refl _) (Nat.le_add_right _ 3)
  · exact halts (Nat.le_refl _)

/-- `numberOfScreens` is one byte -/
def sdsMax : Nat := 255 * sz_rfbExtDesktopScreen

theorem good_hSetDesktopSize (c : Conn) (inp : List UInt8) (hook : Bool) : Good sdsMax inp.length (hSetDesktopSize c inp hook) := by
  unfold hSetDesktopSize
  split
  · rename_i n _ rest
    have hn : n.toNat * sz_rfbExtDesktopScreen ≤ sdsMax :=
      Nat.mul_le_mul_right _ (Nat.le_of_lt_succ n.toNat_lt)
    refine .skip 7 ?_
    split
    · exact goesOn (Nat.zero_le _) (Nat.le_refl _)
    · dsimp only
      split
      · exact goesOn hn (readN_le ‹_›)
      · exact halts hn
  · exact halts (Nat.zero_le _)


/-! ### TightVNC file-transfer extension: every size is a 16-bit field -/

def tightMax : Nat := 65536

theorem good_tLengthError (c : Conn) (size : Nat) (rest : List UInt8) (hs : size ≤ tightMax) :
    Good tightMax rest.length (tLengthError c size rest) := by
  unfold tLengthError
  split
  · exact goesOn hs (readN_le ‹_›)
  · exact halts hs

theorem good_hTight (cfg : Cfg) (c : Conn) (t : Nat) (inp : List UInt8) :
    Good tightMax inp.length (hTight cfg c t inp) := by
  have z := Nat.zero_le tightMax
  have h16 (a b : UInt8) : be16 a b ≤ tightMax := Nat.le_of_lt (be16_lt a b)
  unfold hTight
  by_cases hv : cfg.view = true
  · rw [if_pos hv]; exact halts z
  rw [if_neg hv]
  by_cases h1 : t = rfbFileListRequest
  · rw [if_pos h1]
    split
    · refine .skip 3 ?_
      dsimp only
      split
      · exact goesOn z (Nat.le_refl _)
      · split
        · exact goesOn z (readN_le ‹_›)
        · exact halts z
    · exact halts z
  rw [if_neg h1]
  by_cases h2 : t = rfbFileDownloadRequest ∨ t = rfbFileUploadRequest
  · rw [if_pos h2]
    split
    · refine .skip 7 ?_
      dsimp only
      split
      · exact good_tLengthError c _ _ (h16 _ _)
      · split
        · exact goesOn z (readN_le ‹_›)
        · exact halts z
    · exact halts z
  rw [if_neg h2]
  by_cases h3 : t = rfbFileUploadData
  · rw [if_pos h3]
    split
    · refine .skip 5 ?_
      dsimp only
      split
      · split
        · exact goesOn z (readN_le ‹_›)
        · exact halts z
      · split
        · exact goesOn (h16 _ _) (readN_le ‹_›)
        · exact halts (h16 _ _)
    · exact halts z
  rw [if_neg h3]
  by_cases h4 : t = rfbFileDownloadCancel ∨ t = rfbFileUploadFailed
  · rw [if_pos h4]
    split
    · refine .skip 3 ?_
      dsimp only
      split
      · exact goesOn z (Nat.le_refl _)
      · split
        · exact goesOn (be16_lt _ _) (readN_le ‹_›)
        · exact halts (be16_lt _ _)
    · exact halts z
  rw [if_neg h4]
  by_cases h5 : t = rfbFileCreateDirRequest
  · rw [if_pos h5]
    split
    · refine .skip 3 ?_
      dsimp only
      split
      · exact halts z
      · split
        · exact goesOn z (readN_le ‹_›)
        · exact halts z
    · exact halts z
  rw [if_neg h5]
  exact halts z

/-- bound for one message when file transfer is NOT permitted -/
def msgMax (cfg : Cfg) : Nat := max (max cutMax tableMax) (max (scaleMax cfg) (max sdsMax (max tightMax rfbTextMaxSize)))

/-- bound for one message when file transfer is permitted -/
def msgMaxFt (cfg : Cfg) : Nat := max (msgMax cfg) ftMax

/-- only the file-transfer bound is not in `msgMax`; without permission that message allocates nothing -/
theorem good_handleNormal_of_le (cfg : Cfg) (c : Conn) (t : Nat) (inp : List UInt8) {B : Nat}
    (hB : msgMax cfg ≤ B) (hft : cfg.ft = true → ftMax ≤ B) :
    Good B inp.length (handleNormal cfg c t inp) := by
  unfold msgMax at hB
  simp only [Nat.max_le] at hB
  obtain ⟨⟨eCut, eTable⟩, eScale, eSds, eTight, eText⟩ := hB
  have z := Nat.zero_le B
  have up {A : Nat} {r : Res} (h : Good A inp.length r) (hA : A ≤ B) : Good B inp.length r :=
    h.mono hA (Nat.le_refl _)
  unfold handleNormal
  cases kindOf c t <;> dsimp only
  · exact up (good_hSetPixelFormat cfg c inp) eTable
  · exact up (good_hFixColourMap c inp) z
  · exact up (good_hSetEncodings cfg c inp) z
  · exact up (good_hUpdateRequest cfg c inp) z
  · exact up (good_hFixed _ c inp _) z
  · exact up (good_hFixed _ c inp _) z
  · exact up (good_hCutText c inp _) eCut
  · cases h : cfg.ft with
    | true => exact up (good_hFileTransfer cfg c inp) (hft h)
    | false =>
      obtain ⟨h1, h2, h3⟩ := hFileTransfer_denied cfg c inp h
      exact ⟨by omega, by omega, fun h => absurd h h3⟩
  · exact up (good_hSetScale cfg c inp) eScale
  · exact up (good_hFixed _ c inp _) z
  · exact up (good_hFixed _ c inp _) z
  · exact up (good_hTextChat c inp) (Nat.le_trans (Nat.sub_le _ 1) eText)
  · exact up (good_hXvp cfg c inp) z
  · exact up (good_hSetDesktopSize c inp _) eSds
  · exact up (good_hTight cfg c t inp) eTight
  · exact halts z

theorem good_handleNormal (cfg : Cfg) (c : Conn) (t : Nat) (inp : List UInt8) :
    Good (msgMaxFt cfg) inp.length (handleNormal cfg c t inp) :=
  good_handleNormal_of_le cfg c t inp (Nat.le_max_left _ _) (fun _ => Nat.le_max_right _ _)

theorem good_handleNormal_noft (cfg : Cfg) (c : Conn) (t : Nat) (inp : List UInt8) (hft : cfg.ft = false) :
    Good (msgMax cfg) inp.length (handleNormal cfg c t inp) :=
  good_handleNormal_of_le cfg c t inp (Nat.le_refl _) (fun h => by rw [hft] at h; cases h)

/-- like `Good`, for a whole round: a round that continues has consumed at least one byte -/
def GoodRound (B : Nat) (inp : List UInt8) (r : Res) : Prop :=
  r.alloc ≤ r.allocAlt ∧ r.allocAlt ≤ B ∧ (r.out = .cont → r.rest.length < inp.length)

theorem goodRound_of_normal {B : Nat} {r : Res} {t : UInt8} {rest : List UInt8}
    (h : Good B rest.length r) : GoodRound B (t :: rest) r := by
  obtain ⟨h1, h2, h3⟩ := h
  exact ⟨h1, h2, fun hc => Nat.lt_succ_of_le (h3 hc)⟩

/-- the phases before RFB_NORMAL allocate nothing, so a round is as good as the normal-phase
messages are -/
theorem handle_round_of (cfg : Cfg) (c : Conn) (inp : List UInt8) {B : Nat}
    (hN : ∀ t rest, Good B rest.length (handleNormal cfg c t rest)) :
    GoodRound B inp (handle cfg c inp) := by
  have h0 := Nat.zero_le B
  unfold handle
  cases c.phase <;> dsimp only
  · -- version
    split
    · exact halts h0
    · rename_i pv rest h
      have hl : rest.length < inp.length := by
        have := readN_len h
        have : sz_rfbProtocolVersionMsg = 12 := rfl
        omega
      split
      · exact halts h0
      · split
        · exact halts h0
        · split
          · split <;> exact goesOn h0 hl
          · exact goesOn h0 hl
  · -- security type
    split
    · exact halts h0
    · rename_i b rest
      have hl : rest.length < (b :: rest).length := Nat.lt_succ_self _
      by_cases h1 : b.toNat = rfbSecTypeNone ∧ (!cfg.pw) = true
      · rw [if_pos h1]
        split <;> exact goesOn h0 hl
      rw [if_neg h1]
      by_cases h2 : b.toNat = rfbSecTypeVncAuth ∧ cfg.pw = true
      · rw [if_pos h2]; exact goesOn h0 hl
      rw [if_neg h2]
      by_cases h3 : b.toNat = rfbSecTypeTight ∧ cfg.tight = true
      · rw [if_pos h3]
        split
        · split
          · split
            · exact halts h0
            · split <;> exact halts h0
          · exact halts h0
        · exact goesOn h0 hl
      rw [if_neg h3]
      exact halts h0
  · -- authentication
    split <;> exact halts h0
  · -- ClientInit
    split
    · exact halts h0
    · exact goesOn h0 (Nat.lt_succ_self _)
  · -- normal
    split
    · exact halts h0
    · exact goodRound_of_normal (hN _ _)

theorem handle_round (cfg : Cfg) (c : Conn) (inp : List UInt8) :
    GoodRound (msgMaxFt cfg) inp (handle cfg c inp) :=
  handle_round_of cfg c inp (good_handleNormal cfg c)

theorem handle_round_noft (cfg : Cfg) (c : Conn) (inp : List UInt8) (hft : cfg.ft = false) :
    (handle cfg c inp).allocAlt ≤ msgMax cfg :=
  (handle_round_of cfg c inp (fun t rest => good_handleNormal_noft cfg c t rest hft)).2.1

/-! `Ends` is the graph of `run` without its fuel; what is said about the totals of a stream is proved by
induction on it. -/

/-- `t1` of `run` -/
def Tot.account (t : Tot) (r : Res) : Tot :=
  { t with n := t.n + 1, amax := max t.amax r.alloc, amaxAlt := max t.amaxAlt r.allocAlt,
           updWrite := t.updWrite || r.updWrite, updReq := t.updReq || r.updReq, cb := t.cb + r.cb }

/-- The exits of a round that spend no wait differ only in status and callback count: one constructor.
That the input of a round is not empty plays no part and is left out. -/
inductive Ends (cfg : Cfg) (m : Mode) : Conn → List UInt8 → Tot → Status × Tot → Prop
  | idle (c inp t) : Ends cfg m c inp t (.isOpen c, t)
  | gone (c t) : Ends cfg m c [] t (.closed, { t with n := t.n + 1 })
  | quiet (c inp t st k) : Ends cfg m c inp t (st, { t.account (handle cfg c inp) with cb := k })
  | writeFailed (c inp t k) :
      Ends cfg m c inp t (.closed, writeFail cfg m { t.account (handle cfg c inp) with cb := k })
  | readBlocked (c inp t) : ¬ (m.eof || m.selErr) = true →
      Ends cfg m c inp t (.closed, readBlocked cfg (t.account (handle cfg c inp)))
  | next (c inp t res) : (handle cfg c inp).out = .cont →
      Ends cfg m (handle cfg c inp).conn (handle cfg c inp).rest (t.account (handle cfg c inp)) res →
      Ends cfg m c inp t res

theorem run_ends (cfg : Cfg) (m : Mode) (fuel : Nat) (c : Conn) (inp : List UInt8) (t : Tot) :
    Ends cfg m c inp t (run cfg m fuel c inp t) := by
  induction fuel generalizing c inp t with
  | zero => exact .idle c inp t
  | succ k ih =>
    match inp with
    | [] =>
      rw [run]
      split
      · exact .gone c t
      · exact .idle c [] t
    | b :: tl =>
      rw [run]
      dsimp only
      by_cases h1 : ((handle cfg c (b :: tl)).wroteMaybe && (m.eof || m.stopread)) = true
      · rw [if_pos h1]; exact .quiet ..
      rw [if_neg h1]
      by_cases h2 : ((handle cfg c (b :: tl)).wrote && m.eof) = true
      · rw [if_pos h2]; exact .quiet ..
      rw [if_neg h2]
      by_cases h3 : ((handle cfg c (b :: tl)).wrote && m.stopread) = true
      · rw [if_pos h3]; exact .writeFailed ..
      rw [if_neg h3]
      split
      · exact .next _ _ _ _ ‹_› (ih ..)
      · exact .quiet ..
      · split
        · exact .quiet ..
        · exact .readBlocked _ _ _ ‹_›
      · exact .quiet ..

/-- the blocking structure of a stream, relative to the totals `t` it starts from:
at most one read wait is added, a read wait or a write wait ends with the connection closed,
a write wait is exactly `writeRounds` rounds and excludes a read wait -/
def Waits (cfg : Cfg) (t : Tot) (res : Status × Tot) : Prop :=
  res.2.rw ≤ t.rw + 1 ∧
  (res.2.rw = t.rw + 1 → res.1.isClosed = true ∧ res.2.ww = t.ww ∧ res.2.vt = t.vt + clientWait cfg) ∧
  (res.2.ww ≠ t.ww → res.1.isClosed = true ∧ res.2.ww = writeRounds cfg ∧ res.2.rw = t.rw ∧
                      res.2.vt = t.vt + writeRounds cfg * writeRetryMs) ∧
  res.2.vt ≤ t.vt + max (clientWait cfg) (writeRounds cfg * writeRetryMs)

theorem Waits.of_same {cfg : Cfg} {t t' : Tot} {st : Status} (hr : t'.rw = t.rw) (hw : t'.ww = t.ww)
    (hv : t'.vt = t.vt) : Waits cfg t (st, t') := by
  unfold Waits
  dsimp only
  rw [hr, hw, hv]
  exact ⟨Nat.le_succ _, fun h => absurd h (Nat.ne_of_lt (Nat.lt_succ_self _)), fun h => absurd rfl h,
    Nat.le_add_right _ _⟩

section
variable {cfg : Cfg} {m : Mode} {c : Conn} {inp : List UInt8} {t : Tot} {res : Status × Tot}

theorem ends_waits (h : Ends cfg m c inp t res) : Waits cfg t res := by
  induction h with
  | idle | gone | quiet => exact .of_same rfl rfl rfl
  | writeFailed =>
    unfold writeFail
    split
    · exact .of_same rfl rfl rfl
    · exact ⟨Nat.le_succ _, fun h => absurd h (Nat.ne_of_lt (Nat.lt_succ_self _)),
        fun _ => ⟨rfl, rfl, rfl, rfl⟩, Nat.add_le_add_left (Nat.le_max_right _ _) _⟩
  | readBlocked =>
    exact ⟨Nat.le_refl _, fun _ => ⟨rfl, rfl, rfl⟩, fun h => absurd rfl h,
      Nat.add_le_add_left (Nat.le_max_left _ _) _⟩
  | next _ _ _ _ _ _ ih => exact ih

theorem ends_alloc {B : Nat} (hB : ∀ c inp, (handle cfg c inp).allocAlt ≤ B)
    (h : Ends cfg m c inp t res) : res.2.amaxAlt ≤ max t.amaxAlt B := by
  have step (c : Conn) (inp : List UInt8) (t : Tot) :
      max (t.account (handle cfg c inp)).amaxAlt B = max t.amaxAlt B := by
    have := hB c inp
    show max (max t.amaxAlt (handle cfg c inp).allocAlt) B = max t.amaxAlt B
    omega
  induction h with
  | idle | gone => exact Nat.le_max_left _ _
  | quiet c inp t | readBlocked c inp t => rw [← step c inp t]; exact Nat.le_max_left _ _
  | writeFailed c inp t =>
    rw [← step c inp t]
    unfold writeFail
    split <;> exact Nat.le_max_left _ _
  | next c inp t _ _ _ ih => rw [← step c inp t]; exact ih

theorem ends_rounds (h : Ends cfg m c inp t res) : res.2.n ≤ t.n + inp.length + 1 := by
  induction h with
  | idle => exact Nat.le_trans (Nat.le_add_right _ _) (Nat.le_succ _)
  | gone => exact Nat.le_refl _
  | quiet | readBlocked => exact Nat.succ_le_succ (Nat.le_add_right _ _)
  | writeFailed =>
    unfold writeFail
    split <;> exact Nat.succ_le_succ (Nat.le_add_right _ _)
  | next c inp t _ hc _ ih =>
    have hlt := (handle_round cfg c inp).2.2 hc
    have : (t.account (handle cfg c inp)).n = t.n + 1 := rfl
    omega

theorem ends_no_wait (hm : (m.eof || m.selErr) = true) (h : Ends cfg m c inp t res) :
    res.2.rw = t.rw := by
  induction h with
  | idle | gone | quiet => rfl
  | writeFailed => unfold writeFail; split <;> rfl
  | readBlocked _ _ _ h => exact absurd hm h
  | next _ _ _ _ _ _ ih => exact ih

end

/-- every round that continues consumes at least one byte; the end-of-file round needs one more step -/
theorem run_fuel (cfg : Cfg) (m : Mode) (fuel : Nat) (c : Conn) (inp : List UInt8) (t : Tot)
    (h : inp.length < fuel) : run cfg m (fuel + 1) c inp t = run cfg m fuel c inp t := by
  induction fuel generalizing c inp t with
  | zero => omega
  | succ k ih =>
    match inp with
    | [] => simp [run]
    | b :: tl =>
      have hr := (handle_round cfg c (b :: tl)).2.2
      rw [run, run]
      dsimp only
      generalize handle cfg c (b :: tl) = r at hr
      by_cases h1 : (r.wroteMaybe && (m.eof || m.stopread)) = true
      · rw [if_pos h1, if_pos h1]
      rw [if_neg h1, if_neg h1]
      by_cases h2 : (r.wrote && m.eof) = true
      · rw [if_pos h2, if_pos h2]
      rw [if_neg h2, if_neg h2]
      by_cases h3 : (r.wrote && m.stopread) = true
      · rw [if_pos h3, if_pos h3]
      rw [if_neg h3, if_neg h3]
      split
      · have hlt := hr ‹_›
        simp only [List.length_cons] at hlt h
        exact ih _ _ _ (by omega)
      all_goals rfl

theorem AList.get_set_ne {α : Type} (s : AList α) (i j : Nat) (v : α) (h : j ≠ i) :
    (s.set i v).get j = s.get j := by
  unfold AList.set AList.get
  -- the new head is skipped, and looking for `j` among the entries other than `i` is looking for `j`
  rw [List.find?_cons_of_neg (by simpa using Ne.symm h), List.find?_filter]
  congr 2
  funext p
  by_cases hp : p.1 = j
  · simp [hp, h]
  · simp [hp]

theorem AList.get_set_eq {α : Type} (s : AList α) (i : Nat) (v : α) : (s.set i v).get i = some v := by
  simp [AList.set, AList.get]

/-! ### rectSwapIfLEAndClip (unscaled client) -/

theorem clipAxis_some {size pos len len1 : Int} (hl : 0 ≤ len)
    (h : clipAxis size pos len = some len1) : 0 ≤ len1 ∧ pos + len1 ≤ size ∧ len1 ≤ len := by
  have hw : 0 ≤ wrap16 (size - pos) := by unfold wrap16; omega
  by_cases h1 : len > size - pos
  · by_cases h2 : wrap16 (size - pos) > size - pos
    · simp [clipAxis, h1, h2] at h
    · simp [clipAxis, h1, h2] at h
      subst h
      omega
  · simp [clipAxis, h1] at h
    subst h
    omega

theorem clipAxis_16 {size pos len : Int} (hs : 0 ≤ size ∧ size < 65536) (hp : 0 ≤ pos ∧ pos < 65536)
    (hl : 0 ≤ len ∧ len < 65536) :
    clipAxis size pos len = if pos > size then none else some (min len (size - pos)) := by
  unfold clipAxis wrap16
  dsimp only
  by_cases h0 : pos > size
  · -- the difference is negative: it wraps to a value above itself and the re-check rejects
    rw [if_pos h0, if_pos (by omega)]
  · rw [if_neg h0, Int.emod_eq_of_lt (by omega) (by omega)]
    by_cases h1 : len > size - pos
    · rw [if_pos h1, if_neg (Int.lt_irrefl _), Int.min_eq_right (Int.le_of_lt h1)]
    · rw [if_neg h1, if_neg h1, Int.min_eq_left (Int.not_lt.mp h1)]

end VncModel.Robust
