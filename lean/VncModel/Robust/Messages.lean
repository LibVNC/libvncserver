import VncModel.Gen.C04
/-!
# Robust/Messages — length / size handling of every client→server message

Model of what `rfbProcessClientMessage` (src/libvncserver/rfbserver.c), the authentication phases
(auth.c, tightvnc-filetransfer/rfbtightserver.c) and the TightVNC file-transfer handlers
(tightvnc-filetransfer/handlefiletransferrequest.c) do with the *sizes* in client input:

* which fixed header is read, which length/count fields are taken from it,
* the guard applied to each field (and the guards that are absent),
* the `malloc`/`calloc`/`realloc` request the field leads to (`Res.alloc`, `Res.allocAlt`),
* whether the handler goes on (`cont`), closes the client (`closed`) or runs out of input in the
  middle of a read (`starved`: `rfbReadExact` fails → the handler closes the client and returns —
  every read in the model returns at the FIRST failed read because running out of input ends the
  pattern match),
* whether the handler writes to the client (needed for peers that stopped reading).

C ↔ model
  one call of rfbProcessClientMessage(cl)         ↔ `handle cfg c input` (one *round*)
  the unread part of the socket buffer            ↔ `Res.rest` (a suffix of the input)
  rfbReadExact(cl, buf, n) on a silent peer       ↔ input shorter than the pattern ⇒ `starved`
  malloc(n)/calloc(n,1)                           ↔ `alloc := n`
  cl->state                                       ↔ `Conn.phase`
  cl->enableExtendedClipboard, tight extension    ↔ `Conn.extClip`, `Conn.tightExt`

The pixel-format channel check models the FIXED code (fixes/C04-pixfmt-validate.diff); the
zero-width scale check is in the tree since 916387d.  `Gen.C04.pixfmtChannelsChecked` and
`Gen.C04.scaleRejectsZeroWidth` (regenerated from the tree on every run) say whether the tree has
them; Props/C04.lean has one `tree_*` theorem per flag, which breaks on a tree without the check.
Core Lean only.
-/
namespace VncModel.Robust
open VncModel.Gen.C04

/-! ## configuration and connection state -/

structure Cfg where
  w : Nat
  h : Nat
  bytespp : Nat          -- 1, 2 or 4 (server pixel size)
  pw : Bool              -- screen has a password
  ft : Bool              -- screen->permitFileTransfer
  tight : Bool           -- TightVNC file-transfer extension registered
  xvp : Bool             -- xvpHook installed
  utf8 : Bool            -- setXCutTextUTF8 installed (extended clipboard available)
  view : Bool            -- clients are view-only
  wait : Nat             -- screen->maxClientWait in ms (0 = use rfbMaxClientWait)
  sdh : Bool := false    -- the application installed a setDesktopSizeHook that is counted
  deriving Repr

inductive Phase where
  | version | secType | auth | init | normal
  deriving DecidableEq, Repr

structure Conn where
  phase : Phase := .version
  minor : Int := 0
  extClip : Bool := false     -- cl->enableExtendedClipboard
  tightExt : Bool := false    -- TightVNC extension enabled for this client (chose security type 16)
  useNewFB : Bool := false    -- cl->useNewFBSize
  scaled : Bool := false      -- client has sent a (successful or not) scale request
  deriving Repr

inductive Outcome where
  | cont      -- handler returned, connection stays open
  | closed    -- handler called rfbCloseClient
  | starved   -- a read ran out of input: the peer is silent (or gone) in the middle of a message
  | unknown   -- outcome depends on something the model does not contain (zlib stream, TLS, WebSocket)
  deriving DecidableEq, Repr

structure Res where
  rest : List UInt8          -- unread input (meaningful when `out = cont`)
  out : Outcome
  alloc : Nat := 0           -- largest allocation request made on behalf of this message
  allocAlt : Nat := 0        -- upper variant when the size also depends on the file system (≥ alloc)
  wrote : Bool := false      -- the handler wrote to the client
  wroteMaybe : Bool := false -- whether it wrote depends on the file system / path translation
  updWrite : Bool := false   -- the message makes the next update non-empty (non-incremental request)
  updReq : Bool := false     -- the message is a FramebufferUpdateRequest
  cbLate : Nat := 0          -- those of `cb` that come after the handler's first write (they do not
                             -- happen when that write fails: the client is closed, the next read fails)
  cb : Nat := 0              -- application callbacks invoked (keyboard, cut text, text chat, single
                             -- window, server input, xvp, desktop size; pointer events are C06's)
  conn : Conn
  deriving Repr

def be16 (a b : UInt8) : Nat := a.toNat * 256 + b.toNat
def be32 (a b c d : UInt8) : Nat := ((a.toNat * 256 + b.toNat) * 256 + c.toNat) * 256 + d.toNat

theorem be16_lt (a b : UInt8) : be16 a b < 65536 := by
  have := a.toNat_lt; have := b.toNat_lt; simp only [be16]; omega
theorem be32_lt (a b c d : UInt8) : be32 a b c d < 4294967296 := by
  have := a.toNat_lt; have := b.toNat_lt; have := c.toNat_lt; have := d.toNat_lt
  simp only [be32]; omega

/-- `rfbReadExact(cl, buf, n)`: the next `n` bytes, or `none` when the peer went silent first -/
def readN (n : Nat) (inp : List UInt8) : Option (List UInt8 × List UInt8) :=
  if n ≤ inp.length then some (inp.take n, inp.drop n) else none

theorem readN_some {n : Nat} {inp a b : List UInt8} (h : readN n inp = some (a, b)) :
    n ≤ inp.length ∧ a = inp.take n ∧ b = inp.drop n := by
  unfold readN at h
  split at h
  · cases h; exact ⟨‹_›, rfl, rfl⟩
  · cases h

theorem readN_rest {n : Nat} {inp a b : List UInt8} (h : readN n inp = some (a, b)) :
    b = inp.drop n ∧ a.length = n := by
  obtain ⟨hn, rfl, rfl⟩ := readN_some h
  exact ⟨rfl, List.length_take_of_le hn⟩

def mkCont (c : Conn) (rest : List UInt8) (alloc : Nat := 0) (wrote : Bool := false) : Res :=
  { rest, out := .cont, alloc, allocAlt := alloc, wrote, conn := c }
def mkClosed (c : Conn) (alloc : Nat := 0) (wrote : Bool := false) : Res :=
  { rest := [], out := .closed, alloc, allocAlt := alloc, wrote, conn := c }
def mkStarved (c : Conn) (alloc : Nat := 0) (wrote : Bool := false) : Res :=
  { rest := [], out := .starved, alloc, allocAlt := alloc, wrote, conn := c }
def mkUnknown (c : Conn) (alloc : Nat := 0) : Res :=
  { rest := [], out := .unknown, alloc, allocAlt := alloc, conn := c }

/-! ## pixel formats (translate.c) -/

structure PixFmt where
  bpp : Nat
  depth : Nat
  be : Bool
  tc : Bool
  rmax : Nat
  gmax : Nat
  bmax : Nat
  rs : Nat
  gs : Nat
  bs : Nat
  deriving DecidableEq, Repr

/-- `rfbInitServerFormat` for the three screens the harness creates (little-endian host) -/
def serverFormat (bytespp : Nat) : PixFmt :=
  if bytespp = 1 then ⟨8, 8, false, true, 7, 7, 3, 0, 3, 6⟩
  else if bytespp = 2 then ⟨16, 16, false, true, 31, 31, 31, 0, 5, 10⟩
  else ⟨32, 32, false, true, 255, 255, 255, 0, 8, 16⟩

def bgr233Format : PixFmt := ⟨8, 8, false, true, 7, 7, 3, 0, 3, 6⟩

/-- `PF_EQ` -/
def pfEq (x y : PixFmt) : Bool :=
  x.bpp == y.bpp && x.depth == y.depth && (x.be == y.be || x.bpp == 8) && (x.tc == y.tc) &&
  (!x.tc || (x.rmax == y.rmax && x.gmax == y.gmax && x.bmax == y.bmax &&
             x.rs == y.rs && x.gs == y.gs && x.bs == y.bs))

/-- `rfbChannelFitsPixel` (fix): the shifted channel maximum fits into the pixel -/
def channelFits (max shift bpp : Nat) : Bool :=
  decide (shift < bpp) && decide (max * 2 ^ shift < 2 ^ bpp)

def validBpp (b : Nat) : Bool := b == 8 || b == 16 || b == 24 || b == 32

inductive XlateResult where
  | rejected                                   -- rfbCloseClient
  | accepted (fmt : PixFmt) (table : Nat) (wroteColourMap : Bool)
  deriving DecidableEq, Repr

def tableBytes (entries outBpp : Nat) : Nat :=
  if outBpp = 24 then entries * 3 + 1 else entries * (outBpp / 8)

/-- the checks of `rfbSetTranslateFunction` that end in `rfbCloseClient` (fixed code):
bits per pixel 8/16/24/32; a colour-map client must be 8 bpp; every true-colour channel fits -/
def formatOk (f : PixFmt) : Bool :=
  validBpp f.bpp && (f.tc || f.bpp == 8) &&
  (!f.tc || (channelFits f.rmax f.rs f.bpp && channelFits f.gmax f.gs f.bpp && channelFits f.bmax f.bs f.bpp))

/-- a colour-map client is switched to BGR233 (`rfbSetClientColourMapBGR233`) -/
def effFormat (f : PixFmt) : PixFmt := if f.tc then f else bgr233Format

/-- size of the lookup table(s) `rfbSetTranslateFunction` allocates -/
def tableSize (srv f' : PixFmt) : Nat :=
  if pfEq f' srv then 0
  else if srv.bpp ≤ 16 then tableBytes (2 ^ srv.bpp) f'.bpp
  else tableBytes (srv.rmax + srv.gmax + srv.bmax + 3) f'.bpp

/-- `rfbSetTranslateFunction` for a client format `f` on a screen with format `srv` (fixed code) -/
def setTranslate (srv f : PixFmt) : XlateResult :=
  if formatOk f then .accepted (effFormat f) (tableSize srv (effFormat f)) (!f.tc) else .rejected

/-! ## rectangle of a FramebufferUpdateRequest: `rectSwapIfLEAndClip` for an unscaled client

`x y w h` are the 16-bit wire values, `W H` the screen size (C `int`).  The C code compares in
`int` and assigns the difference back into a `uint16_t` (wrap-around), then re-checks. -/

def wrap16 (v : Int) : Int := v % 65536

def clipAxis (size : Int) (pos len : Int) : Option Int :=
  let len1 := if len > size - pos then wrap16 (size - pos) else len
  if len1 > size - pos then none else some len1

/-- `some (x, y, w, h)` = rectangle accepted, `none` = request ignored -/
def clipRequest (W H : Int) (x y w h : Int) : Option (Int × Int × Int × Int) :=
  match clipAxis W x w with
  | none => none
  | some w1 =>
    match clipAxis H y h with
    | none => none
    | some h1 => some (x, y, w1, h1)

/-! ## extended clipboard helpers -/

def popcount16 (flags : Nat) : Nat := ((List.range 16).filter (fun i => flags.testBit i)).length

/-! ## message handlers in state RFB_NORMAL (`rfbProcessClientNormalMessage`)

`t` is the message type byte (already read), `inp` what follows. -/

def hSetPixelFormat (cfg : Cfg) (c : Conn) (inp : List UInt8) : Res :=
  match inp with
  | _ :: _ :: _ :: bpp :: depth :: be :: tc :: r1 :: r0 :: g1 :: g0 :: b1 :: b0 :: rs :: gs :: bs ::
      _ :: _ :: _ :: rest =>
    let f : PixFmt := ⟨bpp.toNat, depth.toNat, be != 0, tc != 0, be16 r1 r0, be16 g1 g0, be16 b1 b0,
                       rs.toNat, gs.toNat, bs.toNat⟩
    match setTranslate (serverFormat cfg.bytespp) f with
    | .rejected => mkClosed c
    | .accepted _ table wroteCM => mkCont c rest table wroteCM
  | _ => mkStarved c

def hFixColourMap (c : Conn) (inp : List UInt8) : Res :=
  match inp with
  | _ :: _ :: _ :: _ :: _ :: _ => mkClosed c
  | _ => mkStarved c

/-- pseudo-encoding of the harness application's protocol extension (its enable callback is counted) -/
def appPseudoEncoding : Nat := 0x43303400

/-- the loop `for (i = 0; i < nEncodings; i++) rfbReadExact(cl, &enc, 4)`: stops at the first
failed read.  Returns the remaining input (`none` if the input ran out), the connection flags the
encodings switched on, whether the server answered on the way and the extension callbacks made. -/
def encLoop (cfg : Cfg) : Nat → List UInt8 → Conn → Bool → Nat → Nat → (Option (List UInt8) × Conn × Bool × Nat × Nat)
  | 0, inp, c, w, k, kl => (some inp, c, w, k, kl)
  | n + 1, a :: b :: cc :: d :: rest, c, w, k, kl =>
    let enc := be32 a b cc d
    let c1 := if enc = rfbEncodingExtendedClipboard ∧ cfg.utf8 then { c with extClip := true } else c
    let c2 := if enc = rfbEncodingNewFBSize ∨ enc = rfbEncodingExtDesktopSize then { c1 with useNewFB := true } else c1
    let w1 := w || (enc = rfbEncodingXvp ∧ cfg.xvp) || (enc = rfbEncodingExtendedClipboard ∧ cfg.utf8)
    let hit := if enc = appPseudoEncoding then 1 else 0
    encLoop cfg n rest c2 w1 (k + hit) (if w then kl + hit else kl)
  | _ + 1, _, c, w, k, kl => (none, c, w, k, kl)

def hSetEncodings (cfg : Cfg) (c : Conn) (inp : List UInt8) : Res :=
  match inp with
  | _ :: n1 :: n0 :: rest =>
    -- SetEncodings resets useNewFBSize (not enableExtendedClipboard)
    match encLoop cfg (be16 n1 n0) rest { c with useNewFB := false } false 0 0 with
    | (some rest', c', w, k, kl) => { mkCont c' rest' 0 w with cb := k, cbLate := kl }
    | (none, _, w, k, kl) => { mkStarved c 0 w with cb := k, cbLate := kl }
  | _ => mkStarved c

def hUpdateRequest (cfg : Cfg) (c : Conn) (inp : List UInt8) : Res :=
  match inp with
  | incr :: x1 :: x0 :: y1 :: y0 :: w1 :: w0 :: h1 :: h0 :: rest =>
    let r := clipRequest cfg.w cfg.h (be16 x1 x0) (be16 y1 y0) (be16 w1 w0) (be16 h1 h0)
    let nonEmpty := match r with
      | some (_, _, w, h) => decide (w > 0 ∧ h > 0)
      | none => false
    { mkCont c rest with updWrite := incr == 0 && nonEmpty, updReq := true }
  | _ => mkStarved c

def hFixed (n : Nat) (c : Conn) (inp : List UInt8) (cb : Nat := 0) : Res :=
  match readN n inp with
  | some (_, rest) => { mkCont c rest with cb := cb }
  | none => mkStarved c

/-- `rfbProcessFileTransferReadBuffer`: the guard, the allocation and the read -/
inductive FtBuf where
  | closed                     -- length > INT_MAX
  | empty                      -- length = 0: no buffer, the caller returns FALSE without closing
  | starved (alloc : Nat)      -- malloc(length+1) done, peer silent
  | got (alloc : Nat) (rest : List UInt8)

def ftReadBuffer (length : Nat) (inp : List UInt8) : FtBuf :=
  if length > intMax then .closed
  else if length = 0 then .empty
  else match readN length inp with
    | some (_, rest) => .got (length + 1) rest
    | none => .starved (length + 1)

/-- `strlen(timespec) + 2` of the realloc in the rfbFileTransferRequest branch ("%m/%d/%Y %H:%M") -/
def ftTimespecExtra : Nat := 18

/-- `rfbProcessFileTransfer` (file transfer permitted) -/
def ftBody (c : Conn) (ct param size length : Nat) (rest : List UInt8) : Res :=
  let needsBuf := (ct = rfbDirContentRequest ∧ param = rfbRDirContent) ∨
    ct = rfbFileTransferRequest ∨ ct = rfbFileTransferOffer ∨ ct = rfbFilePacket ∨ ct = rfbCommand
  if needsBuf then
    match ftReadBuffer length rest with
    | .closed => mkClosed c
    | .empty => mkCont c rest
    | .starved a => mkStarved c a
    | .got a rest' =>
      -- whether a reply is written depends on rfbFilenameTranslate2UNIX / the file system
      if ct = rfbFileTransferOffer then
        match readN 4 rest' with      -- sizeHtmp
        | some (_, rest'') => { mkCont c rest'' a with wroteMaybe := true }
        | none => mkStarved c a
      else if ct = rfbFileTransferRequest then
        { mkCont c rest' a with allocAlt := length + ftTimespecExtra, wroteMaybe := true }
      else if ct = rfbFilePacket then mkCont c rest' a false
      else { mkCont c rest' a with wroteMaybe := true }
  else if ct = rfbDirContentRequest ∧ param = rfbRDrivesList then mkCont c rest 0 true
  else if ct = rfbAbortFileTransfer then mkCont c rest 0 true
  else if ct = rfbFileHeader then
    if size = 4294967295 then mkCont c rest else { mkCont c rest with wroteMaybe := true }
  else mkCont c rest

def hFileTransfer (cfg : Cfg) (c : Conn) (inp : List UInt8) : Res :=
  match inp with
  | ctype :: param :: _ :: s3 :: s2 :: s1 :: s0 :: l3 :: l2 :: l1 :: l0 :: rest =>
    if !cfg.ft then mkClosed c           -- FILEXFER_ALLOWED_OR_CLOSE_AND_RETURN
    else ftBody c ctype.toNat param.toNat (be32 s3 s2 s1 s0) (be32 l3 l2 l1 l0) rest
  | _ => mkStarved c

def hSetScale (cfg : Cfg) (c : Conn) (inp : List UInt8) : Res :=
  match inp with
  | scale :: _ :: _ :: rest =>
    if scale.toNat = 0 then mkClosed c
    else
      let w' := cfg.w / scale.toNat
      let h' := cfg.h / scale.toNat
      -- rfbScaledScreenAllocate: rejected when a dimension is 0 (width check = fix)
      let ok := decide (w' ≠ 0 ∧ h' ≠ 0)
      let fb := if ok then ((w' * cfg.bytespp + 3) / 4 * 4) * h' else 0
      let a := if ok then max fb sizeofScreenInfo else sizeofScreenInfo
      -- rfbSendNewScaleSize writes unless the size change is left to a NewFBSize pseudo-rectangle
      let wrote := !(c.useNewFB && ok)
      mkCont { c with scaled := true } rest a wrote
  | _ => mkStarved c

def hTextChat (c : Conn) (inp : List UInt8) : Res :=
  match inp with
  | _ :: _ :: _ :: l3 :: l2 :: l1 :: l0 :: rest =>
    let length := be32 l3 l2 l1 l0
    if length = rfbTextChatOpen ∨ length = rfbTextChatClose ∨ length = rfbTextChatFinished then
      { mkCont c rest with cb := 1 }
    else if 0 < length ∧ length < rfbTextMaxSize then
      match readN length rest with
      | some (_, rest') => { mkCont c rest' length with cb := 1 }
      | none => mkStarved c length
    else mkClosed c
  | _ => mkStarved c

/-- the first four bytes of an extended clipboard message -/
def flagsOf : List UInt8 → Option Nat
  | a :: b :: c :: d :: _ => some (be32 a b c d)
  | _ => none

/-- `calloc(length ? length : 1, 1)` -/
def cutAlloc (length : Nat) : Nat := if length = 0 then 1 else length

/-- the extended-clipboard branch once the `length` bytes (starting with the flags word) are read -/
def extClipAction (c : Conn) (flags length a : Nat) (rest' : List UInt8) : Res :=
  if flags.testBit 24 then                           -- Caps
    let formats := popcount16 flags
    if formats = 0 then mkCont { c with extClip := false } rest' a
    else if length ≠ 4 + formats * 4 then mkClosed c a
    else if flags.testBit 0 then mkCont c rest' a
    else mkCont { c with extClip := false } rest' a
  -- Request / Peek: answered when the application has published clipboard data
  else if flags.testBit 25 then { mkCont c rest' a with wroteMaybe := true }
  else if flags.testBit 26 then { mkCont c rest' a with wroteMaybe := true }
  else if flags.testBit 28 then                       -- Provide: depends on the zlib stream
    if flags % 65536 = 0 then mkCont c rest' a        -- no format bit: the loop body never runs
    else mkUnknown c (max a extClipMax)
  else mkCont c rest' a

/-- ClientCutText after the 8-byte header: `ext` = extended format (negative length), `length` =
the (negated) length field -/
def cutBody (c : Conn) (ext : Bool) (length : Nat) (rest : List UInt8) (view : Bool := false) : Res :=
  if length > cutTextMax then mkClosed c
  else match readN length rest with
    | none => mkStarved c (cutAlloc length)
    | some (str, rest') =>
      if !ext then { mkCont c rest' (cutAlloc length) with cb := if view then 0 else 1 }
      else match flagsOf str with
        | none => mkClosed c (cutAlloc length)           -- length < 4
        | some flags => extClipAction c flags length (cutAlloc length) rest'

def hCutText (c : Conn) (inp : List UInt8) (view : Bool := false) : Res :=
  match inp with
  | _ :: _ :: _ :: l3 :: l2 :: l1 :: l0 :: rest =>
    let raw := be32 l3 l2 l1 l0
    -- a length with the top bit set means "extended format, -length bytes" once the extension is on
    if c.extClip && decide (raw ≥ 2147483648) then cutBody c true ((4294967296 - raw) % 4294967296) rest view
    else cutBody c false raw rest view
  | _ => mkStarved c

def hXvp (cfg : Cfg) (c : Conn) (inp : List UInt8) : Res :=
  match inp with
  | _ :: version :: code :: rest =>
    let wrote := version.toNat != 1 || (cfg.xvp && code.toNat % 2 == 0)
    { mkCont c rest 0 wrote with cb := if version.toNat = 1 ∧ cfg.xvp then 1 else 0 }
  | _ => mkStarved c

def hSetDesktopSize (c : Conn) (inp : List UInt8) (hook : Bool := false) : Res :=
  match inp with
  | _ :: _ :: _ :: _ :: _ :: n :: _ :: rest =>
    if n.toNat = 0 then mkCont c rest
    else
      let a := n.toNat * sz_rfbExtDesktopScreen
      match readN a rest with
      | some (_, rest') => { mkCont c rest' a with cb := if hook then 1 else 0 }
      | none => mkStarved c a
  | _ => mkStarved c

/-! ### TightVNC file-transfer extension (handlefiletransferrequest.c) -/

/-- `HandleFileDownloadLengthError` / `HandleFileUploadLengthError` (size is an `unsigned short`
since 241d6b1): `calloc(size)`, the over-long name is read and dropped, an error reply is sent -/
def tLengthError (c : Conn) (size : Nat) (rest : List UInt8) : Res :=
  match readN size rest with
  | some (_, rest') => { mkCont c rest' size with wroteMaybe := true }
  | none => mkStarved c size

def hTight (cfg : Cfg) (c : Conn) (t : Nat) (inp : List UInt8) : Res :=
  if cfg.view then mkClosed c       -- handleMessage: file transfer disabled or view-only client
  else if t = rfbFileListRequest then
    match inp with
    | _ :: n1 :: n0 :: rest =>
      let size := be16 n1 n0
      if size = 0 ∨ size > pathMax - 1 then mkCont c rest
      else match readN size rest with
        | some (_, rest') => { mkCont c rest' with wroteMaybe := true }
        | none => mkStarved c
    | _ => mkStarved c
  else if t = rfbFileDownloadRequest ∨ t = rfbFileUploadRequest then
    match inp with
    | _ :: n1 :: n0 :: _ :: _ :: _ :: _ :: rest =>
      let size := be16 n1 n0
      if size = 0 ∨ size > pathMax - 1 then tLengthError c size rest
      else match readN size rest with
        | some (_, rest') => { mkCont c rest' with wroteMaybe := true }
        | none => mkStarved c
    | _ => mkStarved c
  else if t = rfbFileUploadData then
    match inp with
    | _ :: r1 :: r0 :: c1 :: c0 :: rest =>
      let real := be16 r1 r0
      let comp := be16 c1 c0
      if real = 0 ∧ comp = 0 then
        match readN 4 rest with
        | some (_, rest') => { mkCont c rest' with wroteMaybe := true }
        | none => mkStarved c
      else match readN comp rest with
        | some (_, rest') => { mkCont c rest' comp with wroteMaybe := true }
        | none => mkStarved c comp
    | _ => mkStarved c
  else if t = rfbFileDownloadCancel ∨ t = rfbFileUploadFailed then
    match inp with
    | _ :: n1 :: n0 :: rest =>
      let len := be16 n1 n0
      if len = 0 then mkCont c rest
      else match readN len rest with
        | some (_, rest') => mkCont c rest' (len + 1)
        | none => mkStarved c (len + 1)
    | _ => mkStarved c
  else if t = rfbFileCreateDirRequest then
    match inp with
    | _ :: n1 :: n0 :: rest =>
      let len := be16 n1 n0
      if len ≥ pathMax - 1 then mkClosed c
      else match readN len rest with
        | some (_, rest') => { mkCont c rest' with wroteMaybe := true }
        | none => mkStarved c
    | _ => mkStarved c
  else mkClosed c

def isTightType (t : Nat) : Bool :=
  t == rfbFileListRequest || t == rfbFileDownloadRequest || t == rfbFileUploadRequest ||
  t == rfbFileUploadData || t == rfbFileDownloadCancel || t == rfbFileUploadFailed ||
  t == rfbFileCreateDirRequest

/-- the `switch (msg.type)` of `rfbProcessClientNormalMessage` (+ the extension dispatch in `default:`) -/
inductive Kind where
  | setPixelFormat | fixColourMap | setEncodings | updateRequest | key | pointer | cutText
  | fileTransfer | scale | serverInput | setSW | textChat | xvp | desktopSize | tight | unknown
  deriving DecidableEq, Repr

def kindOf (c : Conn) (t : Nat) : Kind :=
  if t = rfbSetPixelFormat then .setPixelFormat
  else if t = rfbFixColourMapEntries then .fixColourMap
  else if t = rfbSetEncodings then .setEncodings
  else if t = rfbFramebufferUpdateRequest then .updateRequest
  else if t = rfbKeyEvent then .key
  else if t = rfbPointerEvent then .pointer
  else if t = rfbClientCutText then .cutText
  else if t = rfbFileTransfer then .fileTransfer
  else if t = rfbSetScale ∨ t = rfbPalmVNCSetScaleFactor then .scale
  else if t = rfbSetServerInput then .serverInput
  else if t = rfbSetSW then .setSW
  else if t = rfbTextChat then .textChat
  else if t = rfbXvp then .xvp
  else if t = rfbSetDesktopSize then .desktopSize
  else if c.tightExt && isTightType t then .tight
  else .unknown

/-- `rfbProcessClientNormalMessage` after the type byte -/
def handleNormal (cfg : Cfg) (c : Conn) (t : Nat) (inp : List UInt8) : Res :=
  match kindOf c t with
  | .setPixelFormat => hSetPixelFormat cfg c inp
  | .fixColourMap => hFixColourMap c inp
  | .setEncodings => hSetEncodings cfg c inp
  | .updateRequest => hUpdateRequest cfg c inp
  | .key => hFixed (sz_rfbKeyEventMsg - 1) c inp (if cfg.view then 0 else 1)
  | .pointer => hFixed (sz_rfbPointerEventMsg - 1) c inp
  | .cutText => hCutText c inp cfg.view
  | .fileTransfer => hFileTransfer cfg c inp
  | .scale => hSetScale cfg c inp
  | .serverInput => hFixed (sz_rfbSetServerInputMsg - 1) c inp 1
  | .setSW => hFixed (sz_rfbSetSWMsg - 1) c inp 1
  | .textChat => hTextChat c inp
  | .xvp => hXvp cfg c inp
  | .desktopSize => hSetDesktopSize c inp cfg.sdh
  | .tight => hTight cfg c t inp
  | .unknown => mkClosed c                     -- unknown message type

/-! ## the phases before RFB_NORMAL -/

def isSpace (b : UInt8) : Bool := b == 32 || (9 ≤ b.toNat && b.toNat ≤ 13)
def isDigit (b : UInt8) : Bool := 48 ≤ b.toNat && b.toNat ≤ 57

def skipWs : List UInt8 → List UInt8
  | b :: rest => if isSpace b then skipWs rest else b :: rest
  | [] => []

def scanDigits : Nat → List UInt8 → Nat → Nat → (Nat × Nat × List UInt8)
  | 0, l, acc, cnt => (acc, cnt, l)
  | w + 1, b :: rest, acc, cnt =>
    if isDigit b then scanDigits w rest (acc * 10 + (b.toNat - 48)) (cnt + 1) else (acc, cnt, b :: rest)
  | _ + 1, [], acc, cnt => (acc, cnt, [])

/-- `%03d` of sscanf: skip white space, optional sign (counts towards the width), at least one digit -/
def scanInt3 (l : List UInt8) : Option (Int × List UInt8) :=
  match skipWs l with
  | [] => none
  | b :: rest =>
    let (neg, w, l1) := if b = 45 then (true, 2, rest) else if b = 43 then (false, 2, rest) else (false, 3, b :: rest)
    let (v, cnt, l2) := scanDigits w l1 0 0
    if cnt = 0 then none else some (if neg then -(v : Int) else (v : Int), l2)

/-- the C string in `pv`: stops at the first NUL -/
def cstr : List UInt8 → List UInt8
  | b :: rest => if b = 0 then [] else b :: cstr rest
  | [] => []

/-- `sscanf(pv, "RFB %03d.%03d\n", &major, &minor) == 2` -/
def parseVersion (pv : List UInt8) : Option (Int × Int) :=
  match cstr pv with
  | 82 :: 70 :: 66 :: rest =>
    match scanInt3 rest with         -- the blank in the format skips white space; so does %d
    | none => none
    | some (major, l1) =>
      match l1 with
      | 46 :: l2 =>
        match scanInt3 l2 with
        | none => none
        | some (minor, _) => some (major, minor)
      | _ => none
  | _ => none

/-- the `auth` response op of the harness (abstract: the DES computation is C05's subject) -/
inductive AuthKind where
  | ok | bad | short
  deriving DecidableEq, Repr

/-- state after `rfbProcessClientInitMessage` has written ServerInit (screens are always-shared) -/
def enterNormal (c : Conn) (rest : List UInt8) : Res :=
  mkCont { c with phase := .normal } rest 0 true

/-- one call of `rfbProcessClientMessage(cl)` on the unread input `inp` (non-empty) -/
def handle (cfg : Cfg) (c : Conn) (inp : List UInt8) : Res :=
  match c.phase with
  | .version =>
    match readN sz_rfbProtocolVersionMsg inp with
    | none => mkStarved c
    | some (pv, rest) =>
      match parseVersion pv with
      | none => mkClosed c
      | some (major, minor) =>
        if major ≠ rfbProtocolMajorVersion then mkClosed c
        else
          let c1 := { c with minor := minor }
          if minor < 7 then
            -- rfbSendSecurityType: 3.3 clients are told the type
            if cfg.pw then mkCont { c1 with phase := .auth } rest 0 true
            else mkCont { c1 with phase := .init } rest 0 true
          else mkCont { c1 with phase := .secType } rest 0 true
  | .secType =>
    match inp with
    | [] => mkStarved c
    | b :: rest =>
      let t := b.toNat
      if t = rfbSecTypeNone ∧ !cfg.pw then
        if c.minor = 889 then enterNormal c rest       -- RFB_INITIALISATION_SHARED: no ClientInit read
        else mkCont { c with phase := .init } rest 0 (decide (c.minor > 7))
      else if t = rfbSecTypeVncAuth ∧ cfg.pw then mkCont { c with phase := .auth } rest 0 true
      else if t = rfbSecTypeTight ∧ cfg.tight then
        let c1 := { c with tightExt := true }
        if cfg.pw then
          -- rfbSendAuthCaps → rfbProcessClientAuthType → rfbVncAuthSendChallenge →
          -- rfbAuthProcessClientMessage, all inside this call
          match rest with
          | a3 :: a2 :: a1 :: a0 :: rest1 =>
            if be32 a3 a2 a1 a0 ≠ rfbAuthVNC then mkClosed c1 0 true
            else match readN CHALLENGESIZE rest1 with
              | some _ => mkClosed c1 0 true      -- bytes sent before the challenge exists are wrong
              | none => mkStarved c1 0 true
          | _ => mkStarved c1 0 true
        else mkCont { c1 with phase := .init } rest 0 true
      else mkClosed c
  | .auth =>
    match readN CHALLENGESIZE inp with
    | none => mkStarved c
    | some _ => mkClosed c 0 true                -- a scripted (not computed) response is wrong
  | .init =>
    match inp with
    | [] => mkStarved c
    | _ :: rest => enterNormal c rest
  | .normal =>
    match inp with
    | [] => mkStarved c
    | t :: rest => handleNormal cfg c t.toNat rest

/-- the scripted VNC-auth response (harness op `auth`) -/
def handleAuth (c : Conn) (k : AuthKind) : Res :=
  match k with
  | .ok => mkCont { c with phase := .init } [] 0 true
  | .bad => mkClosed c 0 true
  | .short => mkStarved c

end VncModel.Robust
