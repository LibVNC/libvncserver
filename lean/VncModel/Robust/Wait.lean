import VncModel.Robust.Stream
/-!
# Robust/Wait — the loops of `rfbReadExactTimeout` and `rfbWriteExact` with virtual time

`readExact`: `while (len > 0) { n = read(); if (n > 0) {len -= n} else if (n == 0) return 0;
else (EAGAIN) { n = select(timeout); if (n == 0) return -1 /* ETIMEDOUT */ } }`.
The peer is a list of events; the END of the list is a peer that does nothing any more.
Every `select` starts a fresh timeout: a peer that trickles bytes keeps the call busy for one wait
per arrival (stated in `readExact_elapsed_le`), a peer that stops costs exactly one wait
(`readExact_silence`).

`writeStuck`: the retry loop of `rfbWriteExact` against a peer that never drains:
`select(writeRetryMs)`, `totalTimeWaited += writeRetryMs`, give up when `>= timeout`.
-/
namespace VncModel.Robust
open VncModel.Gen.C04

/-- what the peer does next, `delay` ms after the server started to wait -/
inductive PeerEv where
  | data (delay bytes : Nat)     -- `bytes + 1` bytes arrive
  | hangup (delay : Nat)         -- the peer closes or resets the connection
  deriving Repr

inductive RdOutcome where
  | done       -- returns 1
  | gone       -- returns 0 (peer closed)
  | timedOut   -- returns -1, errno = ETIMEDOUT
  deriving DecidableEq, Repr

/-- `rfbReadExactTimeout(cl, buf, len, timeout)`; result and the virtual time it took -/
def readExact (timeout : Nat) : Nat → List PeerEv → Nat → RdOutcome × Nat
  | 0, _, el => (.done, el)
  | _ + 1, [], el => (.timedOut, el + timeout)
  | len + 1, .data d k :: evs, el =>
    if d ≥ timeout then (.timedOut, el + timeout)
    else readExact timeout (len + 1 - min (k + 1) (len + 1)) evs (el + d)
  | _ + 1, .hangup d :: _, el =>
    if d ≥ timeout then (.timedOut, el + timeout) else (.gone, el + d)

/-- once the peer is silent, the call returns after exactly one timeout, with failure -/
theorem readExact_silence (timeout len el : Nat) (h : len > 0) :
    readExact timeout len [] el = (.timedOut, el + timeout) := by
  cases len with
  | zero => omega
  | succ n => rfl

theorem readExact_elapsed_le (timeout len : Nat) (evs : List PeerEv) (el : Nat) :
    (readExact timeout len evs el).2 ≤ el + (evs.length + 1) * timeout := by
  induction evs generalizing len el with
  | nil => cases len <;> simp [readExact]
  | cons e tl ih =>
    have h2 : ((e :: tl).length + 1) * timeout = (tl.length + 1) * timeout + timeout := Nat.succ_mul _ _
    cases len with
    | zero => exact Nat.le_add_right _ _
    | succ n =>
      cases e with
      | data d k =>
        rw [readExact]
        split
        · dsimp only; omega
        · have := ih (n + 1 - min (k + 1) (n + 1)) (el + d)
          omega
      | hangup d =>
        rw [readExact]
        split <;> (dsimp only; omega)

theorem readExact_done_of_zero (timeout : Nat) (evs : List PeerEv) (el : Nat) :
    readExact timeout 0 evs el = (.done, el) := by
  cases evs <;> rfl

/-- number of `select(retry)` rounds `rfbWriteExact` spends on a peer that never drains,
starting with `totalTimeWaited = waited` -/
def writeStuck (timeout retry : Nat) : Nat → Nat → Nat
  | 0, _ => 0
  | fuel + 1, waited =>
    if waited + retry ≥ timeout then 1 else 1 + writeStuck timeout retry fuel (waited + retry)

/-- stated without subtraction: the timeout is `waited + d + 1` -/
theorem writeStuck_eq (retry : Nat) (hr : retry > 0) (fuel waited d : Nat) (hf : d < fuel) :
    writeStuck (waited + d + 1) retry fuel waited = (d + retry) / retry := by
  induction fuel generalizing waited d with
  | zero => omega
  | succ k ih =>
    rw [writeStuck]
    split
    · rename_i h
      rw [Nat.add_div_right d hr, Nat.div_eq_of_lt (by omega)]
    · rename_i h
      obtain ⟨d', rfl⟩ := Nat.exists_eq_add_of_le (Nat.le_of_lt_succ (by omega) : retry ≤ d)
      have e : waited + (retry + d') + 1 = waited + retry + d' + 1 := by omega
      rw [e, ih _ _ (by omega), Nat.add_comm retry d', Nat.add_div_right (d' + retry) hr, Nat.add_comm]

/-- against a stuck peer `rfbWriteExact` gives up after `writeRounds` rounds of `writeRetryMs`:
the blocked time is at least the client wait and less than one retry interval more -/
theorem writeRounds_bounds (cfg : Cfg) :
    clientWait cfg ≤ writeRounds cfg * writeRetryMs ∧
    writeRounds cfg * writeRetryMs < clientWait cfg + writeRetryMs := by
  unfold writeRounds
  have hr : writeRetryMs > 0 := by decide
  have h1 := Nat.div_add_mod (clientWait cfg + writeRetryMs - 1) writeRetryMs
  have h2 := Nat.mod_lt (clientWait cfg + writeRetryMs - 1) hr
  have h3 : (clientWait cfg + writeRetryMs - 1) / writeRetryMs * writeRetryMs =
            writeRetryMs * ((clientWait cfg + writeRetryMs - 1) / writeRetryMs) := Nat.mul_comm _ _
  omega

theorem clientWait_pos (cfg : Cfg) : clientWait cfg > 0 := by
  unfold clientWait
  split
  · decide
  · omega

/-- the model's `writeRounds` is the number of rounds of the retry loop -/
theorem writeStuck_is_writeRounds (cfg : Cfg) :
    writeStuck (clientWait cfg) writeRetryMs (clientWait cfg) 0 = writeRounds cfg := by
  obtain ⟨d, hd⟩ := Nat.exists_eq_add_of_le' (clientWait_pos cfg)
  have := writeStuck_eq writeRetryMs (by decide) (clientWait cfg) 0 d (by omega)
  rw [Nat.zero_add, ← hd] at this
  rw [this, writeRounds, hd, Nat.add_right_comm, Nat.add_sub_cancel]

end VncModel.Robust
