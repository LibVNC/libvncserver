import VncModel.Scale.Lemmas
import VncModel.Scale.StateLemmas
/-
Convergence of the scaled copies over whole histories: every scaled screen that has users equals
the reference image of the current framebuffer, whatever sequence of joins, factor changes, leaves
and framebuffer modifications led to the state.  Core Lean only.
-/
namespace VncModel.Scale

/-- what the convergence lemmas need of the double arithmetic of rfbScaledCorrection: for 16-bit
sizes, down-scaling, and a non-empty rectangle inside the source screen the software-float
evaluation `corrRaw` stays within the relational bounds.  Carried as a hypothesis `hsound` in this
file (core Lean only); proved as `corrRaw_sound` in Ieee.lean (Mathlib, ℚ). -/
def CorrRawSound : Prop :=
  ∀ fw tw x w : Nat, 0 < tw → tw ≤ fw → fw < 65536 → 1 ≤ w → x + w ≤ fw →
    CorrRel fw tw x w (corrRaw fw tw x w)

/-- the scaled copy `img` (of nominal size `w × h`) is the reference image of `fb` -/
def Good (f : Fmt) (fb : Img) (w h : Nat) (img : Img) : Prop :=
  ∀ X Y, X < w → Y < h → img.get X Y = scaledPixel f fb w h X Y

structure Synced (s : Srv) : Prop where
  fb : s.main.img.w = s.main.w ∧ s.main.img.h = s.main.h
  le : ∀ p ∈ s.chain, p.w ≤ s.main.w ∧ p.h ≤ s.main.h
  dims : ∀ p ∈ s.chain, p.img.w = p.w ∧ p.img.h = p.h
  ok : ∀ p ∈ s.chain, 0 < p.ref → Good s.fmt s.main.img p.w p.h p.img

theorem synced_bump {s : Srv} (hs : Synced s) (w h : Nat) (d : Int)
    (hd : d ≤ 0 ∨ ∀ p ∈ s.chain, p.w = w → p.h = h → Good s.fmt s.main.img p.w p.h p.img) :
    Synced (bump s w h d) := by
  have m := bump_main_dims s w h d
  refine ⟨by rw [m.2.2.1, m.1, m.2.1]; exact hs.fb, ?_, ?_, ?_⟩
  · intro p' hp'
    obtain ⟨p, hp, e1, e2, _, _⟩ := mem_bump_chain hp'
    rw [e1, e2, m.1, m.2.1]; exact hs.le p hp
  · intro p' hp'
    obtain ⟨p, hp, e1, e2, e3, _⟩ := mem_bump_chain hp'
    rw [e1, e2, e3]; exact hs.dims p hp
  · intro p' hp' hpos
    obtain ⟨p, hp, e1, e2, e3, e4⟩ := mem_bump_chain hp'
    rw [e1, e2, e3, m.2.2.1, m.2.2.2.1]
    split at e4
    next hk =>
      rcases hd with hd | hd
      · exact hs.ok p hp (by omega)
      · exact hd p hp hk.2.1.symm hk.2.2.symm
    next => exact hs.ok p hp (by omega)

theorem synced_clients {s : Srv} (hs : Synced s) (cs : List Client) :
    Synced { s with clients := cs } := ⟨hs.fb, hs.le, hs.dims, hs.ok⟩

theorem findChain_unique {c : List SScreen} {w h : Nat} {p : SScreen} (hn : (dimsOf c).Nodup)
    (hp : p ∈ c) (hw : p.w = w) (hh : p.h = h) : findChain c w h = some p := by
  induction c with
  | nil => simp at hp
  | cons q qs ih =>
    unfold findChain
    rw [List.find?_cons]
    simp only [dimsOf, List.map_cons, List.nodup_cons] at hn
    rcases List.mem_cons.mp hp with e | e
    · subst e; simp [hw, hh]
    · have hne : ¬ (q.w = w ∧ q.h = h) := by
        intro ⟨a, b⟩
        apply hn.1
        exact List.mem_map.mpr ⟨p, e, by rw [hw, hh, a, b]⟩
      have : (q.w == w && q.h == h) = false := by
        cases hq : (q.w == w && q.h == h)
        · rfl
        · exfalso; apply hne; simpa using hq
      rw [this]
      exact ih hn.2 e

/-- the screen has 16-bit dimensions, neither of them 0 (as on the wire) -/
def Sized (s : Srv) : Prop := 0 < s.main.w ∧ s.main.w < 65536 ∧ 0 < s.main.h ∧ s.main.h < 65536

theorem good_full {s : Srv} (hs : Synced s) (hsound : CorrRawSound)
    (hz : Sized s)
    (w h : Nat) (img : Img) (hiw : img.w = w) (hih : img.h = h) (hw : 0 < w) (hh : 0 < h)
    (hlw : w ≤ s.main.w) (hlh : h ≤ s.main.h) :
    Good s.fmt s.main.img w h (updateRect s.fmt s.main.img img (fullRect s)) := by
  -- `updateRect_full` speaks of the images' own dimensions
  obtain ⟨fw, fh⟩ := hs.fb
  obtain ⟨hPw, hW, hPh, hH⟩ := hz
  subst hiw hih
  have e : fullRect s = ⟨(0 : Nat), (0 : Nat), s.main.img.w, s.main.img.h⟩ := by
    unfold fullRect; rw [fw, fh]; rfl
  rw [← fw] at hW hPw hlw
  rw [← fh] at hH hPh hlh
  rw [e]
  exact updateRect_full s.fmt s.main.img img hw hh hlw hlh
    (hsound _ _ _ _ hw hlw hW hPw (by omega)) (hsound _ _ _ _ hh hlh hH hPh (by omega))

theorem synced_refresh {s : Srv} (hs : Synced s) (hsound : CorrRawSound) (hpos : ∀ d ∈ dimsOf s.chain, 0 < d.1 ∧ 0 < d.2)
    (w h : Nat) (hz : Sized s) :
    Synced { s with chain := refreshChain s w h } ∧
    ∀ p ∈ refreshChain s w h, p.w = w → p.h = h → Good s.fmt s.main.img p.w p.h p.img := by
  have gfull : ∀ p ∈ s.chain, Good s.fmt s.main.img p.w p.h (updateRect s.fmt s.main.img p.img (fullRect s)) := by
    intro p hp
    have hd := hs.dims p hp
    have hl := hs.le p hp
    have hp0 := hpos (p.w, p.h) (List.mem_map.mpr ⟨p, hp, rfl⟩)
    exact good_full hs hsound hz p.w p.h p.img hd.1 hd.2 hp0.1 hp0.2 hl.1 hl.2
  constructor
  · refine ⟨hs.fb, ?_, ?_, ?_⟩ <;> intro p' hp' <;> obtain ⟨p, hp, e1, e2, e3, e4⟩ := mem_map_img hp'
    · show p'.w ≤ s.main.w ∧ p'.h ≤ s.main.h
      rw [e1, e2]; exact hs.le p hp
    · rw [e1, e2, e4]
      split <;> exact hs.dims p hp
    · intro hr
      show Good s.fmt s.main.img p'.w p'.h p'.img
      rw [e1, e2, e4]
      split
      · exact gfull p hp
      · exact hs.ok p hp (by omega)
  · intro p' hp' k1 k2
    obtain ⟨p, hp, e1, e2, _, e4⟩ := mem_map_img hp'
    rw [e1, e2, e4, if_pos (by simp [← e1, ← e2, k1, k2])]
    exact gfull p hp

def TargetGood (s : Srv) (w h : Nat) : Prop :=
  ∀ p ∈ s.chain, p.w = w → p.h = h → Good s.fmt s.main.img p.w p.h p.img

theorem targetGood_bump {s : Srv} {w h : Nat} (ht : TargetGood s w h) (w' h' : Nat) (d : Int) :
    TargetGood (bump s w' h' d) w h := by
  have m := bump_main_dims s w' h' d
  intro p' hp' k1 k2
  obtain ⟨p, hp, e1, e2, e3, _⟩ := mem_bump_chain hp'
  rw [e1, e2, e3, m.2.2.1, m.2.2.2.1]
  exact ht p hp (by rw [← e1]; exact k1) (by rw [← e2]; exact k2)

theorem synced_handOver {s : Srv} (hs : Synced s) (c : Client) {w h : Nat} (ht : TargetGood s w h) :
    Synced (handOver s c w h) := by
  unfold handOver
  apply synced_clients
  apply synced_bump
  · exact synced_bump hs _ _ _ (Or.inl (by omega))
  · right; exact targetGood_bump ht _ _ _

theorem synced_freshen {s : Srv} (hs : Synced s) (hsound : CorrRawSound)
    (hpos : ∀ d ∈ dimsOf s.chain, 0 < d.1 ∧ 0 < d.2) (w h : Nat)
    (hz : Sized s)
    (ht : (!isMain s w h && decide (refOf s w h < 1)) = false → TargetGood s w h) :
    Synced (freshen s w h) ∧ TargetGood (freshen s w h) w h := by
  unfold freshen
  by_cases hc : (!isMain s w h && decide (refOf s w h < 1)) = true
  · rw [if_pos hc]
    exact synced_refresh hs hsound hpos w h hz
  · rw [if_neg hc]
    exact ⟨hs, ht (by simpa using hc)⟩

theorem synced_scalingSetup {s : Srv} (hi : Inv s) (hs : Synced s) (hsound : CorrRawSound)
    (hz : Sized s)
    (c : Client) (w h : Nat) (hlw : w ≤ s.main.w) (hlh : h ≤ s.main.h) :
    Synced (scalingSetup s c w h) := by
  rcases scalingSetup_cases s c w h with ⟨_, _, _, e⟩ | ⟨_, e⟩ | ⟨hm, hfc, hw, hh, e⟩ <;> rw [e]
  · exact hs
  · -- an existing screen that is not refreshed has users, so it is up to date
    have ht : (!isMain s w h && decide (refOf s w h < 1)) = false → TargetGood s w h := by
      intro hcond p hp k1 k2
      have hmf : isMain s w h = false := k1 ▸ k2 ▸ hi.shape.not_isMain hp
      have hr : refOf s w h = p.ref := by
        simp [refOf, hmf, findChain_unique hi.shape.distinct hp k1 k2]
      have : ¬ (refOf s w h < 1) := by
        intro hlt
        rw [hmf] at hcond
        simp [hlt] at hcond
      exact hs.ok p hp (by omega)
    have mid := synced_freshen hs hsound hi.shape.pos w h hz ht
    exact synced_handOver mid.1 c mid.2
  · have g0 : Good s.fmt s.main.img w h
        (updateRect s.fmt s.main.img (Img.tabulate w h fun _ _ => 0) (fullRect s)) :=
      good_full hs hsound hz w h _ rfl rfl hw hh hlw hlh
    have hs1 : Synced (allocated s w h) := by
      refine ⟨hs.fb, ?_, ?_, ?_⟩ <;> intro p hp <;> rcases List.mem_cons.mp hp with rfl | e
      · exact ⟨hlw, hlh⟩
      · exact hs.le p e
      · exact ⟨rfl, rfl⟩
      · exact hs.dims p e
      · exact fun hr => absurd hr (Int.lt_irrefl 0)
      · exact hs.ok p e
    have hi1 : Inv (allocated s w h) := inv_alloc hi _ hm hfc hw hh
    have ht1 : TargetGood (allocated s w h) w h := by
      intro p hp k1 k2
      rcases List.mem_cons.mp hp with rfl | e
      · exact g0
      · exact absurd (List.mem_map.mpr ⟨p, e, by rw [k1, k2]⟩) (findChain_none hfc)
    have mid := synced_freshen hs1 hsound hi1.shape.pos w h hz fun _ => ht1
    exact synced_handOver mid.1 c mid.2

/-- a modification of the framebuffer inside a rectangle followed by rfbMarkRectAsModified -/
theorem synced_modify {s : Srv} (hi : Inv s) (hs : Synced s) (hsound : CorrRawSound)
    (hz : Sized s)
    (x y w h : Nat) (fb' : Img) (hfw : fb'.w = s.main.w) (hfh : fb'.h = s.main.h)
    (hw : 1 ≤ w) (hh : 1 ≤ h) (hxw : x + w ≤ s.main.w) (hyh : y + h ≤ s.main.h)
    (hsame : ∀ px py, px < s.main.w → py < s.main.h →
      ¬ (x ≤ px ∧ px < x + w ∧ y ≤ py ∧ py < y + h) → fb'.get px py = s.main.img.get px py) :
    Synced (step { s with main := { s.main with img := fb' } } (.modify ⟨x, y, w, h⟩)) := by
  show Synced { ({ s with main := { s.main with img := fb' } } : Srv) with
    chain := s.chain.map fun p =>
      if p.ref > 0 then { p with img := updateRect s.fmt fb' p.img ⟨x, y, w, h⟩ } else p }
  refine ⟨⟨hfw, hfh⟩, ?_, ?_, ?_⟩ <;> intro p' hp' <;>
    obtain ⟨p, hp, e1, e2, e3, e4⟩ := mem_map_img hp'
  · show p'.w ≤ s.main.w ∧ p'.h ≤ s.main.h
    rw [e1, e2]; exact hs.le p hp
  · rw [e1, e2, e4]
    split <;> exact hs.dims p hp
  · intro hr
    show Good s.fmt fb' p'.w p'.h p'.img
    have hpr : p.ref > 0 := by omega
    have hp0 := hi.shape.pos (p.w, p.h) (List.mem_map.mpr ⟨p, hp, rfl⟩)
    have hl := hs.le p hp
    have hgood := hs.ok p hp hpr
    rw [e1, e2, e4, if_pos hpr]
    -- `updateRect_tracks` speaks of the images' own dimensions
    obtain ⟨dw, dh⟩ := hs.dims p hp
    obtain ⟨fw, fh⟩ := hs.fb
    obtain ⟨_, hW, _, hH⟩ := hz
    rw [← dw, ← dh] at hp0 hl hgood ⊢
    rw [← fw] at hW hxw hsame hfw hl
    rw [← fh] at hH hyh hsame hfh hl
    exact updateRect_tracks s.fmt s.main.img fb' p.img x y w h hfw hfh hp0.1 hp0.2 hl.1 hl.2 hsame
      hgood (hsound _ _ _ _ hp0.1 hl.1 hW hw hxw) (hsound _ _ _ _ hp0.2 hl.2 hH hh hyh)

/-- an event of a session: a protocol-level operation, or the application painting inside a
rectangle (new framebuffer contents `fb'`) and calling rfbMarkRectAsModified on it -/
inductive Ev where
  | op (o : Op)
  | draw (x y w h : Nat) (fb' : Img)

def applyEv (s : Srv) : Ev → Srv
  | .op o => step s o
  | .draw x y w h fb' => step { s with main := { s.main with img := fb' } } (.modify ⟨x, y, w, h⟩)

def ValidEv (s : Srv) : Ev → Prop
  | .op (.modify _) => False          -- modifications enter through `draw`
  | .op _ => True
  | .draw x y w h fb' =>
    fb'.w = s.main.w ∧ fb'.h = s.main.h ∧ 1 ≤ w ∧ 1 ≤ h ∧ x + w ≤ s.main.w ∧ y + h ≤ s.main.h ∧
    ∀ px py, px < s.main.w → py < s.main.h →
      ¬ (x ≤ px ∧ px < x + w ∧ y ≤ py ∧ py < y + h) → fb'.get px py = s.main.img.get px py

def ValidRun (s : Srv) : List Ev → Prop
  | [] => True
  | e :: es => ValidEv s e ∧ ValidRun (applyEv s e) es

def runEv (s : Srv) (es : List Ev) : Srv := es.foldl applyEv s

theorem inv_setImg {s : Srv} (hi : Inv s) (fb' : Img) :
    Inv { s with main := { s.main with img := fb' } } :=
  ⟨⟨hi.shape.notMain, hi.shape.distinct, hi.shape.pos⟩, ⟨hi.refs.main, hi.refs.chain⟩, hi.ids, hi.known⟩

theorem scalingSetup_main (s : Srv) (c : Client) (w h : Nat) :
    (scalingSetup s c w h).main.w = s.main.w ∧ (scalingSetup s c w h).main.h = s.main.h := by
  rcases scalingSetup_cases s c w h with ⟨_, _, _, e⟩ | ⟨_, e⟩ | ⟨_, _, _, _, e⟩ <;> rw [e]
  · exact ⟨rfl, rfl⟩
  · have a := handOver_frame (freshen s w h) c w h
    rw [(freshen_frame s w h).1] at a
    exact ⟨a.1, a.2.1⟩
  · have a := handOver_frame (freshen (allocated s w h) w h) c w h
    rw [(freshen_frame (allocated s w h) w h).1] at a
    exact ⟨a.1, a.2.1⟩

theorem addClient_main (s : Srv) (id : Nat) (nfs : Bool) :
    (addClient s id nfs).main.w = s.main.w ∧ (addClient s id nfs).main.h = s.main.h := by
  simp [addClient, bump_main_dims]

theorem removeClient_main (s : Srv) (c : Client) (id : Nat) :
    (removeClient s c id).main.w = s.main.w ∧ (removeClient s c id).main.h = s.main.h := by
  simp [removeClient, bump_main_dims]

theorem setScaleCore_main (s : Srv) (id n : Nat) :
    (setScaleCore s id n).main.w = s.main.w ∧ (setScaleCore s id n).main.h = s.main.h := by
  unfold setScaleCore
  split
  · exact ⟨rfl, rfl⟩
  · split
    · exact removeClient_main _ _ _
    · exact scalingSetup_main _ _ _ _

theorem step_main (s : Srv) (op : Op) :
    (step s op).main.w = s.main.w ∧ (step s op).main.h = s.main.h := by
  cases op with
  | join id nfs =>
    simp only [step]
    split
    · exact ⟨rfl, rfl⟩
    · exact addClient_main _ _ _
  | setScale id palm n =>
    rw [← setPalm_main s id palm]
    exact setScaleCore_main _ _ _
  | leave id =>
    simp only [step]
    split
    · exact ⟨rfl, rfl⟩
    · exact removeClient_main _ _ _
  | modify r => exact ⟨rfl, rfl⟩

theorem synced_remove {s : Srv} (hs : Synced s) (c : Client) (id : Nat) : Synced (removeClient s c id) := by
  show Synced { bump s c.sw c.sh (-1) with clients := (bump s c.sw c.sh (-1)).clients.filter (·.id != id) }
  exact synced_clients (synced_bump hs _ _ _ (Or.inl (by omega))) _

theorem synced_ev {s : Srv} (hi : Inv s) (hs : Synced s) (hsound : CorrRawSound)
    (hz : Sized s)
    (e : Ev) (hv : ValidEv s e) :
    Inv (applyEv s e) ∧ Synced (applyEv s e) ∧
    (applyEv s e).main.w = s.main.w ∧ (applyEv s e).main.h = s.main.h := by
  cases e with
  | op o =>
    refine ⟨inv_step hi o, ?_, (step_main s o).1, (step_main s o).2⟩
    cases o with
    | join id nfs =>
      show Synced (if s.clients.any (·.id == id) then s else addClient s id nfs)
      split
      · exact hs
      · show Synced { bump s s.main.w s.main.h 1 with clients := _ }
        apply synced_clients
        apply synced_bump hs
        right
        intro p hp k1 k2
        have := hi.shape.not_isMain hp
        rw [k1, k2] at this
        simp [isMain] at this
    | setScale id palm n =>
      show Synced (setScaleCore (setPalm s id palm) id n)
      have hi0 := inv_setPalm hi id palm
      have hs0 : Synced (setPalm s id palm) := by
        unfold setPalm; split
        · exact synced_clients hs _
        · exact hs
      have hm := setPalm_main s id palm
      unfold setScaleCore
      split
      · exact hs0
      · split
        · exact synced_remove hs0 _ _
        · exact synced_scalingSetup hi0 hs0 hsound (by unfold Sized; rw [hm]; exact hz) _ _ _
            (Nat.div_le_self _ _) (Nat.div_le_self _ _)
    | leave id =>
      show Synced (match s.clients.find? (·.id == id) with
        | none => s
        | some c => removeClient s c id)
      split
      · exact hs
      · exact synced_remove hs _ _
    | modify r => exact absurd hv (by simp [ValidEv])
  | draw x y w h fb' =>
    obtain ⟨h1, h2, h3, h4, h5, h6, h7⟩ := hv
    refine ⟨?_, ?_, rfl, rfl⟩
    · show Inv (step { s with main := { s.main with img := fb' } } (.modify ⟨x, y, w, h⟩))
      exact inv_step (inv_setImg hi fb') _
    · exact synced_modify hi hs hsound hz x y w h fb' h1 h2 h3 h4 h5 h6 h7

theorem synced_run {s : Srv} (hi : Inv s) (hs : Synced s) (hsound : CorrRawSound)
    (hz : Sized s)
    (es : List Ev) (hv : ValidRun s es) : Inv (runEv s es) ∧ Synced (runEv s es) := by
  unfold runEv
  induction es generalizing s with
  | nil => exact ⟨hi, hs⟩
  | cons e es ih =>
    obtain ⟨hv1, hv2⟩ := hv
    obtain ⟨a, b, c, d⟩ := synced_ev hi hs hsound hz e hv1
    exact ih a b (by unfold Sized; rw [c, d]; exact hz) hv2

theorem synced_init (f : Fmt) (fb : Img) : Synced (init f fb) :=
  ⟨⟨rfl, rfl⟩, by simp [init], by simp [init], by simp [init]⟩

end VncModel.Scale
