import Mathlib.Tactic.Linarith
import Mathlib.Tactic.Positivity
import Mathlib.Tactic.Ring
import Mathlib.Tactic.NormNum
import Mathlib.Algebra.Order.Field.Basic
import Mathlib.Algebra.Order.Field.Rat
import VncModel.Scale.Converge
/-
The software-float model `corrRaw` of the double arithmetic in rfbScaledCorrection satisfies the
relational bounds `CorrRel` for all 16-bit operands (`corrRaw_rel`; `corrRaw_sound : CorrRawSound` is
the hypothesis `hsound` of Converge.lean, hence the import).  What stays assumed is that the C
compiler/FPU evaluate the expressions like `corrRaw` (binary64, round to nearest even).
Each rounding has relative error ≤ 2⁻⁵³, the total absolute error is < 2⁻³⁰ < 1/fw, so FLOOR/CEIL
can only be off by one when the exact value is an integer.  Mathlib (ℚ, single tactic modules) is
used here only; the model files and the driver do not depend on this file.
-/
namespace VncModel.Scale

/-- exact value of a software double -/
def Dy.val (a : Dy) : ℚ := (a.frac.1 : ℚ) / (a.frac.2 : ℚ)

theorem frac2_pos (a : Dy) : 0 < a.frac.2 := by
  unfold Dy.frac
  split
  · exact Nat.one_pos
  · rw [Nat.shiftLeft_eq, Nat.one_mul]; exact Nat.two_pow_pos _

theorem frac2_posQ (a : Dy) : (0 : ℚ) < a.frac.2 := by exact_mod_cast frac2_pos a

theorem val_nonneg (a : Dy) : 0 ≤ a.val := by
  unfold Dy.val; positivity

theorem val_ofNat (n : Nat) : (Dy.ofNat n).val = n := by
  simp [Dy.val, Dy.ofNat, Dy.frac]

theorem frac_ofNat (n : Nat) : (Dy.ofNat n).frac = (n, 1) := by
  simp [Dy.ofNat, Dy.frac]

theorem val_mk_neg (q s : Nat) : (Dy.val ⟨q, -(s : Int)⟩) = (q : ℚ) / 2 ^ s := by
  unfold Dy.val Dy.frac
  by_cases hs : s = 0
  · subst hs; simp
  · have : ¬ (-(s : Int) ≥ 0) := by omega
    simp only [this, if_false]
    simp [Nat.shiftLeft_eq]

theorem round_step (n d : Nat) (hd : 0 < d) :
    let q' := if 2 * (n % d) > d ∨ (2 * (n % d) = d ∧ n / d % 2 = 1) then n / d + 1 else n / d
    2 * (q' * d) ≤ 2 * n + d ∧ 2 * n ≤ 2 * (q' * d) + d := by
  intro q'
  have h1 := Nat.div_add_mod n d
  have h2 := Nat.mod_lt n hd
  rw [Nat.mul_comm] at h1
  by_cases hc : 2 * (n % d) > d ∨ (2 * (n % d) = d ∧ n / d % 2 = 1)
  · have : q' * d = n / d * d + d := by simp only [q', if_pos hc, Nat.add_mul, Nat.one_mul]
    omega
  · have : q' * d = n / d * d := by simp only [q', if_neg hc]
    omega

theorem scaledDivRem_nat (n d s : Nat) :
    scaledDivRem n d (s : Int) = (n * 2 ^ s / d, n * 2 ^ s % d, d) := by
  unfold scaledDivRem
  have : ((s : Int) ≥ 0) := by omega
  simp [this, Nat.shiftLeft_eq]

theorem rne_spec (num den : Nat) (hn : 0 < num) (hd : 0 < den) (hlt : num < den * 2 ^ 51) :
    ∃ (s q' : Nat), rne num den = ⟨q', -(s : Int)⟩ ∧
      2 * (q' * den) ≤ 2 * (num * 2 ^ s) + den ∧ 2 * (num * 2 ^ s) ≤ 2 * (q' * den) + den ∧
      2 ^ 52 * den ≤ num * 2 ^ s := by
  have h1 : 2 ^ num.log2 ≤ num := Nat.log2_self_le (by omega)
  have h2 : den < 2 ^ (den.log2 + 1) := Nat.lt_log2_self
  have hl : num.log2 ≤ den.log2 + 51 := by
    have : 2 ^ num.log2 < 2 ^ (den.log2 + 52) := by
      calc 2 ^ num.log2 ≤ num := h1
        _ < den * 2 ^ 51 := hlt
        _ < 2 ^ (den.log2 + 1) * 2 ^ 51 := Nat.mul_lt_mul_of_pos_right h2 (Nat.two_pow_pos _)
        _ = 2 ^ (den.log2 + 52) := by rw [← Nat.pow_add]
    have := (Nat.pow_lt_pow_iff_right (by norm_num : 1 < 2)).mp this
    omega
  obtain ⟨s0, hs0⟩ : ∃ s0 : Nat, s0 + num.log2 = 52 + den.log2 := ⟨52 + den.log2 - num.log2, by omega⟩
  have hs0i : (52 : Int) - ((num.log2 : Int) - (den.log2 : Int)) = (s0 : Int) := by omega
  -- one more doubling than `s0` always reaches `2⁵²`
  have hlow : 2 ^ 52 * den ≤ num * 2 ^ (s0 + 1) := by
    have : 2 ^ 52 * den ≤ 2 ^ 52 * 2 ^ (den.log2 + 1) := Nat.mul_le_mul_left _ (Nat.le_of_lt h2)
    have e : 2 ^ 52 * 2 ^ (den.log2 + 1) = 2 ^ num.log2 * 2 ^ (s0 + 1) := by
      rw [← Nat.pow_add, ← Nat.pow_add]; congr 1; omega
    calc 2 ^ 52 * den ≤ 2 ^ num.log2 * 2 ^ (s0 + 1) := by rw [← e]; exact this
      _ ≤ num * 2 ^ (s0 + 1) := Nat.mul_le_mul_right _ h1
  unfold rne
  rw [if_neg (by omega)]
  simp only [hs0i]
  by_cases hq : (scaledDivRem num den (s0 : Int)).1 < 2 ^ 52
  · simp only [hq, if_true]
    rw [show ((s0 : Int) + 1) = ((s0 + 1 : Nat) : Int) from rfl, scaledDivRem_nat]
    have rs := round_step (num * 2 ^ (s0 + 1)) den hd
    exact ⟨s0 + 1, _, rfl, rs.1, rs.2, hlow⟩
  · simp only [hq, if_false]
    rw [scaledDivRem_nat] at hq ⊢
    have rs := round_step (num * 2 ^ s0) den hd
    exact ⟨s0, _, rfl, rs.1, rs.2, (Nat.le_div_iff_mul_le hd).mp (Nat.le_of_not_lt hq)⟩

/-- relative error of one rounding: `ε = 2⁻⁵³` -/
theorem rne_err (num den : Nat) (hd : 0 < den) (hlt : num < den * 2 ^ 51) :
    |(rne num den).val - (num : ℚ) / den| ≤ ((num : ℚ) / den) / 2 ^ 53 := by
  rcases Nat.eq_zero_or_pos num with h0 | hn
  · subst h0; simp [rne, Dy.val, Dy.frac]
  · obtain ⟨s, q', e, b1, b2, b3⟩ := rne_spec num den hn hd hlt
    rw [e, val_mk_neg]
    have hD : (0 : ℚ) < den := by exact_mod_cast hd
    have hP : (0 : ℚ) < 2 ^ s := by positivity
    have c1 : (2 : ℚ) * (q' * den) ≤ 2 * (num * 2 ^ s) + den := by exact_mod_cast b1
    have c2 : (2 : ℚ) * (num * 2 ^ s) ≤ 2 * (q' * den) + den := by exact_mod_cast b2
    have c3 : (2 : ℚ) ^ 52 * den ≤ num * 2 ^ s := by exact_mod_cast b3
    -- multiplied by `2^s·den`, the claim is `|q'·den − num·2^s| ≤ num·2^s / 2⁵³`, and the left
    -- side is at most `den/2 ≤ num·2^s / 2⁵³`
    rw [div_sub_div _ _ hP.ne' hD.ne', abs_div, abs_of_pos (mul_pos hP hD),
      div_le_iff₀ (mul_pos hP hD),
      show (num : ℚ) / den / 2 ^ 53 * (2 ^ s * den) = num / den * den * 2 ^ s / 2 ^ 53 by ring,
      div_mul_cancel₀ _ hD.ne', abs_le]
    constructor <;> linarith only [c1, c2, c3]

theorem op_err (N D : Nat) (hD : 0 < D) (v : ℚ) (hv : (N : ℚ) / D = v) (hb : v < 2 ^ 51) :
    |(rne N D).val - v| ≤ v / 2 ^ 53 := by
  have hDq : (0 : ℚ) < D := by exact_mod_cast hD
  have hlt : N < D * 2 ^ 51 := by
    rw [← hv, div_lt_iff₀ hDq, mul_comm] at hb
    exact_mod_cast hb
  rw [← hv]
  exact rne_err N D hD hlt

theorem fdiv_err (a b : Dy) (hb : 0 < b.frac.1) (hlt : a.val / b.val < 2 ^ 51) :
    |(fdiv a b).val - a.val / b.val| ≤ (a.val / b.val) / 2 ^ 53 := by
  apply op_err _ _ (Nat.mul_pos (frac2_pos a) hb) _ _ hlt
  rw [Dy.val, Dy.val, div_div_div_eq, Nat.cast_mul, Nat.cast_mul]

theorem fmul_err (a b : Dy) (hlt : a.val * b.val < 2 ^ 51) :
    |(fmul a b).val - a.val * b.val| ≤ (a.val * b.val) / 2 ^ 53 := by
  apply op_err _ _ (Nat.mul_pos (frac2_pos a) (frac2_pos b)) _ _ hlt
  rw [Dy.val, Dy.val, div_mul_div_comm, Nat.cast_mul, Nat.cast_mul]

theorem fadd_err (a b : Dy) (hlt : a.val + b.val < 2 ^ 51) :
    |(fadd a b).val - (a.val + b.val)| ≤ (a.val + b.val) / 2 ^ 53 := by
  apply op_err _ _ (Nat.mul_pos (frac2_pos a) (frac2_pos b)) _ _ hlt
  rw [Dy.val, Dy.val, div_add_div _ _ (frac2_posQ a).ne' (frac2_posQ b).ne', mul_comm (a.frac.2 : ℚ)]
  push_cast; rfl

theorem fsub_err (a b : Dy) (hle : b.val ≤ a.val) (hlt : a.val - b.val < 2 ^ 51) :
    |(fsub a b).val - (a.val - b.val)| ≤ (a.val - b.val) / 2 ^ 53 := by
  have hnat : b.frac.1 * a.frac.2 ≤ a.frac.1 * b.frac.2 := by
    rw [Dy.val, Dy.val, div_le_div_iff₀ (frac2_posQ b) (frac2_posQ a)] at hle
    exact_mod_cast hle
  apply op_err _ _ (Nat.mul_pos (frac2_pos a) (frac2_pos b)) _ _ hlt
  rw [Dy.val, Dy.val, div_sub_div _ _ (frac2_posQ a).ne' (frac2_posQ b).ne', mul_comm (a.frac.2 : ℚ),
    Nat.cast_sub hnat]
  push_cast; rfl

theorem ffloor_spec (a : Dy) : (ffloor a : ℚ) ≤ a.val ∧ a.val < ffloor a + 1 := by
  unfold ffloor Dy.val
  have h2 := frac2_posQ a
  constructor
  · rw [le_div_iff₀ h2]
    exact_mod_cast Nat.div_mul_le_self a.frac.1 a.frac.2
  · rw [div_lt_iff₀ h2]
    have h : a.frac.1 < (a.frac.1 / a.frac.2 + 1) * a.frac.2 := by
      rw [Nat.mul_comm]; exact Nat.lt_mul_div_succ a.frac.1 (frac2_pos a)
    exact_mod_cast h

theorem fceil_spec (a : Dy) : a.val ≤ fceil a ∧ (fceil a : ℚ) < a.val + 1 := by
  have h2 := frac2_posQ a
  have hdm := Nat.div_add_mod a.frac.1 a.frac.2
  have hml := Nat.mod_lt a.frac.1 (frac2_pos a)
  rw [Nat.mul_comm] at hdm
  -- in integers: `n ≤ c·d < n + d` for the ceiling `c` of `n/d`
  have key : a.frac.1 ≤ fceil a * a.frac.2 ∧ fceil a * a.frac.2 < a.frac.1 + a.frac.2 := by
    unfold fceil
    split
    · omega
    · rw [Nat.add_mul, Nat.one_mul]; omega
  unfold Dy.val
  rw [div_le_iff₀ h2, ← sub_lt_iff_lt_add, lt_div_iff₀ h2, sub_mul, one_mul, sub_lt_iff_lt_add]
  exact ⟨by exact_mod_cast key.1, by exact_mod_cast key.2⟩

/-- two relative errors of `2⁻⁵³` on a value up to `2¹⁶` are an absolute error below `2⁻³⁵` -/
theorem rel2 (x R sc a : ℚ) (hx0 : 0 ≤ x) (hsc : |sc - R| ≤ R / 2 ^ 53) (hQ1 : x * R ≤ 65535)
    (h : x * sc < 2 ^ 51 → |a - x * sc| ≤ x * sc / 2 ^ 53) :
    a ≤ x * R + 1 / 2 ^ 35 ∧ x * R - 1 / 2 ^ 35 ≤ a := by
  have hp : |x * sc - x * R| ≤ x * R / 2 ^ 53 := by
    rw [← mul_sub, abs_mul, abs_of_nonneg hx0, mul_div_assoc]
    exact mul_le_mul_of_nonneg_left hsc hx0
  obtain ⟨plo, phi⟩ := abs_le.mp hp
  obtain ⟨lo, hi⟩ := abs_le.mp (h (by linarith only [phi, hQ1]))
  constructor
  · linarith only [hi, phi, hQ1]
  · linarith only [lo, plo, phi, hQ1]

theorem tbound (t w1 d x1 q Q' Q : ℚ)
    (hw1 : w1 ≤ Q' + 1 / 2 ^ 35 ∧ Q' - 1 / 2 ^ 35 ≤ w1)
    (hx1 : x1 ≤ Q + 1 / 2 ^ 35 ∧ Q - 1 / 2 ^ 35 ≤ x1)
    (hQ'1 : Q' ≤ 65535) (hfr1 : x1 - q < 1)
    (hd : |d - (x1 - q)| ≤ (x1 - q) / 2 ^ 53)
    (ht : w1 + d < 2 ^ 51 → |t - (w1 + d)| ≤ (w1 + d) / 2 ^ 53) :
    t ≤ Q' + Q - q + 1 / 2 ^ 30 ∧ Q' + Q - q - 1 / 2 ^ 30 ≤ t := by
  obtain ⟨d_lo, d_hi⟩ := abs_le.mp hd
  obtain ⟨t_lo, t_hi⟩ := abs_le.mp (ht (by linarith only [d_hi, hfr1, hw1.1, hQ'1]))
  constructor
  · linarith only [t_hi, d_hi, hfr1, hw1.1, hx1.1, hQ'1]
  · linarith only [t_lo, d_lo, d_hi, hfr1, hw1.1, hw1.2, hx1.2, hQ'1]

theorem int_le_of_slack (A B fw : Nat) (a b : ℚ) (hfw : 0 < fw) (hfwb : fw ≤ 65535)
    (ha : a * fw = A) (hb : b * fw = B) (h : a ≤ b + 1 / 2 ^ 30) : A ≤ B := by
  have hfwq : (0 : ℚ) < fw := by exact_mod_cast hfw
  have hfwb' : (fw : ℚ) ≤ 65535 := by exact_mod_cast hfwb
  have h1 : a * fw ≤ (b + 1 / 2 ^ 30) * fw := mul_le_mul_of_nonneg_right h hfwq.le
  rw [add_mul, ha, hb] at h1
  have h2 : (A : ℚ) < B + 1 := by linarith only [h1, hfwb']
  have : A < B + 1 := by exact_mod_cast h2
  omega

/-- Each rounding is guaranteed only for a result below 2⁵¹, which the analysis establishes on the
way; `x ≤ fw` keeps every exact intermediate below `tw < 2¹⁶` in either direction of scaling. -/
theorem abstract_corr (fw tw x w x2 w2 : Nat) (R sc x1 w1 d t : ℚ) (eR : R * fw = tw)
    (hfw0 : 0 < fw) (htwb : tw < 65536) (hfw : fw < 65536) (hxw : x + w ≤ fw)
    (hsc : R < 2 ^ 51 → |sc - R| ≤ R / 2 ^ 53)
    (hx1 : x * sc < 2 ^ 51 → |x1 - x * sc| ≤ (x * sc) / 2 ^ 53)
    (hw1 : w * sc < 2 ^ 51 → |w1 - w * sc| ≤ (w * sc) / 2 ^ 53)
    (hfl : (x2 : ℚ) ≤ x1 ∧ x1 < x2 + 1)
    (hd : (x2 : ℚ) ≤ x1 → x1 - x2 < 2 ^ 51 → |d - (x1 - x2)| ≤ (x1 - x2) / 2 ^ 53)
    (ht : w1 + d < 2 ^ 51 → |t - (w1 + d)| ≤ (w1 + d) / 2 ^ 53)
    (hce : t ≤ w2 ∧ (w2 : ℚ) < t + 1) :
    CorrRel fw tw x w (x2, w2) := by
  have hfwq : (0 : ℚ) < fw := by exact_mod_cast hfw0
  have hfwb : fw ≤ 65535 := by omega
  have htwq : (tw : ℚ) ≤ 65535 := by exact_mod_cast (by omega : tw ≤ 65535)
  have hR0 : 0 ≤ R := by
    rw [eq_div_of_mul_eq hfwq.ne' eR]; positivity
  -- a coordinate `y ≤ fw` scales to at most `tw`
  have scaled : ∀ y : Nat, y ≤ fw → (y : ℚ) * R ≤ 65535 := by
    intro y hy
    have hyq : (y : ℚ) ≤ fw := by exact_mod_cast hy
    refine le_trans ?_ htwq
    rw [← eR, mul_comm R]
    exact mul_le_mul_of_nonneg_right hyq hR0
  have hQ1 := scaled x (by omega)
  have hQ'1 := scaled w (by omega)
  have hR1 := scaled 1 hfw0
  rw [Nat.cast_one, one_mul] at hR1
  have hsc := hsc (lt_of_le_of_lt hR1 (by norm_num))
  have bx1 := rel2 x R sc x1 (Nat.cast_nonneg x) hsc hQ1 hx1
  have bw1 := rel2 w R sc w1 (Nat.cast_nonneg w) hsc hQ'1 hw1
  have hfr1 : x1 - x2 < 1 := sub_lt_iff_lt_add'.mpr hfl.2
  have bt := tbound t w1 d x1 x2 _ _ bw1 bx1 hQ'1 hfr1
    (hd hfl.1 (hfr1.trans (by norm_num))) ht
  have eQ : (x : ℚ) * R * fw = ((x * tw : Nat) : ℚ) := by
    rw [mul_assoc, eR, Nat.cast_mul]
  have eS : ((x : ℚ) * R + (w : ℚ) * R) * fw = (((x + w) * tw : Nat) : ℚ) := by
    rw [← add_mul, mul_assoc, eR]; push_cast; rfl
  refine ⟨?_, ?_, ?_, ?_⟩
  · exact int_le_of_slack (x2 * fw) (x * tw) fw x2 _ hfw0 hfwb (Nat.cast_mul ..).symm eQ
      (by linarith only [hfl.1, bx1.1])
  · exact int_le_of_slack (x * tw) ((x2 + 1) * fw) fw _ ((x2 : ℚ) + 1) hfw0 hfwb eQ
      (by push_cast; rfl) (by linarith only [hfl.2, bx1.2])
  · exact int_le_of_slack ((x + w) * tw) ((x2 + w2) * fw) fw _ ((x2 : ℚ) + w2) hfw0 hfwb eS
      (by push_cast; rfl) (by linarith only [hce.1, bt.2])
  · have := int_le_of_slack ((x2 + w2) * fw) ((x + w) * tw + fw) fw ((x2 : ℚ) + w2)
      ((x : ℚ) * R + (w : ℚ) * R + 1) hfw0 hfwb
      (by push_cast; rfl) (by rw [add_mul, eS]; push_cast; ring)
      (by linarith only [hce.2, bt.1])
    show (x2 + w2) * fw < (x + w) * tw + 2 * fw
    omega

/-- all 16-bit sizes, scaling down or up, every rectangle inside the source screen (also an empty one) -/
theorem corrRaw_rel (fw tw x w : Nat) (hfw0 : 0 < fw) (htwb : tw < 65536) (hfw : fw < 65536)
    (hxw : x + w ≤ fw) : CorrRel fw tw x w (corrRaw fw tw x w) := by
  have hsc := fdiv_err (Dy.ofNat tw) (Dy.ofNat fw) (by rw [frac_ofNat]; exact hfw0)
  have hx1 := fmul_err (Dy.ofNat x) (fdiv (Dy.ofNat tw) (Dy.ofNat fw))
  have hw1 := fmul_err (Dy.ofNat w) (fdiv (Dy.ofNat tw) (Dy.ofNat fw))
  have hd := fsub_err (fmul (Dy.ofNat x) (fdiv (Dy.ofNat tw) (Dy.ofNat fw)))
    (Dy.ofNat (ffloor (fmul (Dy.ofNat x) (fdiv (Dy.ofNat tw) (Dy.ofNat fw)))))
  rw [val_ofNat] at hx1 hw1 hd
  rw [val_ofNat, val_ofNat] at hsc
  exact abstract_corr fw tw x w _ _ _ _ _ _ _ _ (div_mul_cancel₀ _ (Nat.cast_ne_zero.mpr hfw0.ne'))
    hfw0 htwb hfw hxw hsc hx1 hw1 (ffloor_spec _) hd (fadd_err _ _) (fceil_spec _)

/-- **corrRaw_sound**: the software-float evaluation of rfbScaledCorrection's double arithmetic
satisfies the relational bounds for all 16-bit sizes (down-scaling, non-empty rectangle inside the
source screen) -/
theorem corrRaw_sound : CorrRawSound :=
  fun fw tw x w _ hle hfw hw hxw => corrRaw_rel fw tw x w (by omega) (by omega) hfw hxw

end VncModel.Scale
