import VncModel.Scale.Model
/-
Helper lemmas for Props/C17.lean: integer facts about `scaleN`, the relational bounds `CorrRel`
on the double part of rfbScaledCorrection, images, the box filter.  Core Lean only.
-/
namespace VncModel.Scale

/-- What the theorems use about the double evaluation in rfbScaledCorrection (one dimension, from
`fw` to `tw`, input `x`,`w`): with `X = x·tw/fw` and `V = (x+w)·tw/fw` (exact rationals)
`x2 ≤ X ≤ x2+1` and `V ≤ x2+w2 < V+2`.
IEEE reasoning (carried out in Ieee.lean, `corrRaw_rel`): every intermediate has relative error ≤ 2⁻⁵³ per operation, the
operands are < 2¹⁶, so the absolute error of `x1`, `w1+(x1-x2)` is < 2⁻³⁰, while a non-integer
multiple of `1/fw` is at distance ≥ 2⁻¹⁶ from the next integer: FLOOR/CEIL can only be off by one,
and only in the direction allowed here, when the exact value is an integer. -/
structure CorrRel (fw tw x w : Nat) (r : Nat × Nat) : Prop where
  lo  : r.1 * fw ≤ x * tw
  lo' : x * tw ≤ (r.1 + 1) * fw
  hi  : (x + w) * tw ≤ (r.1 + r.2) * fw
  hi' : (r.1 + r.2) * fw < (x + w) * tw + 2 * fw

instance (fw tw x w : Nat) (r : Nat × Nat) : Decidable (CorrRel fw tw x w r) :=
  if h : r.1 * fw ≤ x * tw ∧ x * tw ≤ (r.1 + 1) * fw ∧ (x + w) * tw ≤ (r.1 + r.2) * fw ∧
      (r.1 + r.2) * fw < (x + w) * tw + 2 * fw
  then isTrue ⟨h.1, h.2.1, h.2.2.1, h.2.2.2⟩
  else isFalse fun c => h ⟨c.lo, c.lo', c.hi, c.hi'⟩

theorem lt_of_mul_le_mul_lt {r1 fw x tw : Nat} (h : r1 * fw ≤ x * tw) (hx : x < fw) (htw : 0 < tw) :
    r1 < tw := by
  have h1 : x * tw < fw * tw := Nat.mul_lt_mul_of_pos_right hx htw
  have h2 : r1 * fw < tw * fw := by rw [Nat.mul_comm tw fw]; omega
  exact Nat.lt_of_mul_lt_mul_right h2

theorem scaleN_mul_le (x fw tw : Nat) : scaleN x fw tw * fw ≤ x * tw := by
  unfold scaleN; exact Nat.div_mul_le_self _ _

theorem lt_scaleN_succ_mul (x fw tw : Nat) (hfw : 0 < fw) : x * tw < (scaleN x fw tw + 1) * fw := by
  unfold scaleN
  have := Nat.lt_mul_div_succ (x * tw) hfw
  rw [Nat.mul_comm fw] at this; exact this

/-- block origin + block size stays inside the source: `ScaleX(X) + areaX ≤ W` for `X < tw` -/
theorem block_inside {W tw X : Nat} (htw : 0 < tw) (hX : X < tw) :
    scaleN X tw W + scaleN 1 tw W ≤ W := by
  have h1 := scaleN_mul_le X tw W
  have h2 := scaleN_mul_le 1 tw W
  have h3 : (X + 1) * W ≤ tw * W := Nat.mul_le_mul_right W hX
  have h4 : (scaleN X tw W + scaleN 1 tw W) * tw ≤ W * tw := by
    rw [Nat.add_mul, Nat.mul_comm W tw]
    rw [Nat.add_mul] at h3
    omega
  exact Nat.le_of_mul_le_mul_right h4 htw

theorem area_pos {W tw : Nat} (htw : 0 < tw) (h : tw ≤ W) : 0 < scaleN 1 tw W := by
  unfold scaleN
  rw [Nat.one_mul]
  exact Nat.div_pos h htw

theorem block_dividing {W n X : Nat} (hn : 0 < n) (hd : n ∣ W) (hW : 0 < W) :
    scaleN 1 (W / n) W = n ∧ scaleN X (W / n) W = n * X := by
  obtain ⟨k, rfl⟩ := hd
  have hk : 0 < k := by
    rcases Nat.eq_zero_or_pos k with h | h
    · subst h; simp at hW
    · exact h
  have e : n * k / n = k := Nat.mul_div_cancel_left k hn
  unfold scaleN
  rw [e]
  constructor
  · rw [Nat.one_mul]; exact Nat.mul_div_cancel n hk
  · have : X * (n * k) = (n * X) * k := by
      rw [Nat.mul_comm X, Nat.mul_assoc, Nat.mul_comm k X, ← Nat.mul_assoc]
    rw [this]; exact Nat.mul_div_cancel _ hk

theorem corrFix_inside {fw tw x w : Nat} {r : Nat × Nat} (hrel : CorrRel fw tw x w r)
    (htw : 0 < tw) (hw : 1 ≤ w) (hxw : x + w ≤ fw) :
    r.1 < tw ∧ 1 ≤ (corrFix tw r).2 ∧ ((corrFix tw r).1 : Int) + (corrFix tw r).2 ≤ tw := by
  have hlt : r.1 < tw := lt_of_mul_le_mul_lt hrel.lo (by omega) htw
  refine ⟨hlt, ?_, ?_⟩ <;> (unfold corrFix; simp only; split <;> split <;> omega)

/-- coverage in one dimension: a source coordinate `sx` of the modified range `[x, x+w)` that lies
in the block `[ScaleX(X), ScaleX(X)+area)` of reduced coordinate `X < tw` forces `X` into the
corrected range -/
theorem corrFix_covers {fw tw x w X sx : Nat} {r : Nat × Nat} (hrel : CorrRel fw tw x w r)
    (htw : 0 < tw) (hX : X < tw)
    (h1 : x ≤ sx) (h2 : sx < x + w)
    (h3 : scaleN X tw fw ≤ sx) (h4 : sx < scaleN X tw fw + scaleN 1 tw fw) :
    (corrFix tw r).1 ≤ X ∧ (X : Int) < (corrFix tw r).1 + (corrFix tw r).2 := by
  have o1 := scaleN_mul_le X tw fw            -- o*tw ≤ X*fw
  have o2 := lt_scaleN_succ_mul X tw fw htw   -- X*fw < (o+1)*tw
  have a1 := scaleN_mul_le 1 tw fw            -- a*tw ≤ 1*fw
  rw [Nat.one_mul] at a1
  rw [Nat.add_mul, Nat.one_mul] at o2
  have hl : r.1 ≤ X := by
    apply Nat.le_of_not_lt
    intro hc
    have m1 : (X + 1) * fw ≤ r.1 * fw := Nat.mul_le_mul_right fw hc
    have m2 : x * tw ≤ sx * tw := Nat.mul_le_mul_right tw h1
    have m3 : (sx + 1) * tw ≤ (scaleN X tw fw + scaleN 1 tw fw) * tw := Nat.mul_le_mul_right tw h4
    rw [Nat.add_mul] at m1 m3
    rw [Nat.add_mul, Nat.one_mul] at m3
    rw [Nat.one_mul] at m1
    have := hrel.lo
    omega
  refine ⟨by simpa [corrFix] using hl, ?_⟩
  have hr : X < r.1 + r.2 := by
    apply Nat.lt_of_not_le
    intro hc
    have m1 : (r.1 + r.2) * fw ≤ X * fw := Nat.mul_le_mul_right fw hc
    have m2 : (sx + 1) * tw ≤ (x + w) * tw := Nat.mul_le_mul_right tw h2
    have m3 : scaleN X tw fw * tw ≤ sx * tw := Nat.mul_le_mul_right tw h3
    rw [Nat.add_mul, Nat.one_mul] at m2
    have := hrel.hi
    omega
  unfold corrFix; simp only
  split <;> split <;> omega

/-- One dimension of the clip, on 16-bit values: a size reaching beyond `W` is replaced by what is
left of `W`.  If the position itself lies beyond `W`, that replacement wraps to a large 16-bit
value and the second comparison refuses the request; if it survives, position and size are inside
`W`. -/
theorem clip16_inside (W : Nat) (cx cw : Int)
    (h : ¬ (if u16 cw > (W : Int) - u16 cx then u16 ((W : Int) - u16 cx) else u16 cw)
      > (W : Int) - u16 cx) :
    0 ≤ u16 cx ∧ 0 ≤ (if u16 cw > (W : Int) - u16 cx then u16 ((W : Int) - u16 cx) else u16 cw) ∧
      u16 cx + (if u16 cw > (W : Int) - u16 cx then u16 ((W : Int) - u16 cx) else u16 cw) ≤ W := by
  unfold u16 at h ⊢
  omega

theorem Img.get_tabulate (w h : Nat) (f : Nat → Nat → Nat) {x y : Nat} (hx : x < w) (hy : y < h) :
    (Img.tabulate w h f).get x y = f x y := by
  have hk : y * w + x < w * h := by
    have : (y + 1) * w ≤ h * w := Nat.mul_le_mul_right w hy
    rw [Nat.add_mul, Nat.one_mul, Nat.mul_comm h w] at this
    omega
  have hw : 0 < w := by omega
  have e1 : (y * w + x) % w = x := by
    rw [Nat.add_comm, Nat.add_mul_mod_self_right]; exact Nat.mod_eq_of_lt hx
  have e2 : (y * w + x) / w = y := by
    rw [Nat.add_comm, Nat.add_mul_div_right _ _ hw, Nat.div_eq_of_lt hx]; omega
  unfold Img.get Img.tabulate
  simp [Array.getD, hk, e1, e2]

theorem reference_get (f : Fmt) (src : Img) {tw th X Y : Nat} (hX : X < tw) (hY : Y < th) :
    (reference f src tw th).get X Y = scaledPixel f src tw th X Y :=
  Img.get_tabulate _ _ _ hX hY

theorem foldl_range_congr {α : Type} (f g : α → Nat → α) (n : Nat) (a : α)
    (h : ∀ acc i, i < n → f acc i = g acc i) :
    (List.range n).foldl f a = (List.range n).foldl g a := by
  have : ∀ (l : List Nat) (a : α), (∀ i ∈ l, i < n) → l.foldl f a = l.foldl g a := by
    intro l
    induction l with
    | nil => intro a _; rfl
    | cons x xs ih =>
      intro a hm
      simp only [List.foldl_cons]
      rw [h a x (hm x (by simp))]
      exact ih _ (fun i hi => hm i (by simp [hi]))
  exact this _ a (fun i hi => List.mem_range.mp hi)

theorem foldl_add_const (f : Nat → Nat) (n v a : Nat) (h : ∀ j, j < n → f j = v) :
    (List.range n).foldl (fun acc j => acc + f j) a = a + n * v := by
  rw [foldl_range_congr _ (fun acc _ => acc + v) n a fun acc j hj => by rw [h j hj],
    List.foldl_add_const, List.length_range, Nat.mul_comm]

theorem blockSum_congr (s s' : Img) (sh mx a b ox oy : Nat)
    (h : ∀ i j, i < a → j < b → s'.get (ox + i) (oy + j) = s.get (ox + i) (oy + j)) :
    blockSum s' sh mx a b ox oy = blockSum s sh mx a b ox oy := by
  unfold blockSum
  apply foldl_range_congr
  intro acc i hi
  apply foldl_range_congr
  intro acc2 j hj
  rw [h i j hi hj]

theorem filterPixel_congr (f : Fmt) (s s' : Img) (a b ox oy : Nat) (ha : 0 < a) (hb : 0 < b)
    (h : ∀ i j, i < a → j < b → s'.get (ox + i) (oy + j) = s.get (ox + i) (oy + j)) :
    filterPixel f s' a b ox oy = filterPixel f s a b ox oy := by
  unfold filterPixel
  split
  · rw [blockSum_congr s s' _ _ a b ox oy h, blockSum_congr s s' _ _ a b ox oy h,
        blockSum_congr s s' _ _ a b ox oy h]
  · have := h 0 0 ha hb
    simpa using this

theorem updateRect_dims (f : Fmt) (src dst : Img) (r : Rect) :
    (updateRect f src dst r).w = dst.w ∧ (updateRect f src dst r).h = dst.h := ⟨rfl, rfl⟩

theorem updateRect_get (f : Fmt) (src dst : Img) (r : Rect) {X Y : Nat} (hX : X < dst.w) (hY : Y < dst.h) :
    (updateRect f src dst r).get X Y =
      if (corr false src.w src.h dst.w dst.h r).has X Y then scaledPixel f src dst.w dst.h X Y
      else dst.get X Y := by
  unfold updateRect
  rw [Img.get_tabulate _ _ _ hX hY]

theorem corr_nat (fw fh tw th x y w h : Nat) :
    corr false fw fh tw th ⟨x, y, w, h⟩ =
      ⟨(corr1 fw tw x w).1, (corr1 fh th y h).1, (corr1 fw tw x w).2, (corr1 fh th y h).2⟩ := by
  simp [corr]

theorem has_iff (r : Rect) (X Y : Nat) :
    r.has X Y = true ↔ (r.x ≤ X ∧ (X : Int) < r.x + r.w ∧ r.y ≤ Y ∧ (Y : Int) < r.y + r.h) := by
  simp [Rect.has]

theorem corr_has {fw fh tw th x y w h X Y sx sy : Nat}
    (hrx : CorrRel fw tw x w (corrRaw fw tw x w)) (hry : CorrRel fh th y h (corrRaw fh th y h))
    (htw : 0 < tw) (hth : 0 < th) (hX : X < tw) (hY : Y < th)
    (hx1 : x ≤ sx) (hx2 : sx < x + w) (hy1 : y ≤ sy) (hy2 : sy < y + h)
    (bx1 : scaleN X tw fw ≤ sx) (bx2 : sx < scaleN X tw fw + scaleN 1 tw fw)
    (by1 : scaleN Y th fh ≤ sy) (by2 : sy < scaleN Y th fh + scaleN 1 th fh) :
    (corr false fw fh tw th ⟨x, y, w, h⟩).has X Y = true := by
  rw [corr_nat, has_iff]
  have cx := corrFix_covers hrx htw hX hx1 hx2 bx1 bx2
  have cy := corrFix_covers hry hth hY hy1 hy2 by1 by2
  unfold corr1
  simp only
  exact ⟨by exact_mod_cast cx.1, cx.2, by exact_mod_cast cy.1, cy.2⟩

/-- The refresh of a modified rectangle re-establishes "scaled copy = reference image": if the
copy was the reference image of `src`, and `src'` differs from `src` only inside the rectangle
`(x,y,w,h)`, then after rfbScaledScreenUpdateRect the copy is the reference image of `src'`.
`hrx/hry`: the double part of rfbScaledCorrection satisfies the relational bounds. -/
theorem updateRect_tracks (f : Fmt) (src src' dst : Img) (x y w h : Nat)
    (hdw : src'.w = src.w) (hdh : src'.h = src.h)
    (htw : 0 < dst.w) (hth : 0 < dst.h) (hlw : dst.w ≤ src.w) (hlh : dst.h ≤ src.h)
    (hsame : ∀ px py, px < src.w → py < src.h →
      ¬ (x ≤ px ∧ px < x + w ∧ y ≤ py ∧ py < y + h) → src'.get px py = src.get px py)
    (hinv : ∀ X Y, X < dst.w → Y < dst.h → dst.get X Y = scaledPixel f src dst.w dst.h X Y)
    (hrx : CorrRel src.w dst.w x w (corrRaw src.w dst.w x w))
    (hry : CorrRel src.h dst.h y h (corrRaw src.h dst.h y h)) :
    ∀ X Y, X < dst.w → Y < dst.h →
      (updateRect f src' dst ⟨x, y, w, h⟩).get X Y = scaledPixel f src' dst.w dst.h X Y := by
  intro X Y hX hY
  rw [updateRect_get f src' dst _ hX hY]
  split
  · rfl
  · rename_i hn
    rw [hinv X Y hX hY]
    unfold scaledPixel
    rw [hdw, hdh]
    symm
    apply filterPixel_congr f src src' _ _ _ _ (area_pos htw hlw) (area_pos hth hlh)
    intro i j hi hj
    have bx := block_inside (W := src.w) htw hX
    have by' := block_inside (W := src.h) hth hY
    apply hsame _ _ (by omega) (by omega)
    intro ⟨b1, b2, b3, b4⟩
    apply hn
    rw [hdw, hdh]
    exact corr_has hrx hry htw hth hX hY b1 b2 b3 b4 (by omega) (by omega) (by omega) (by omega)

theorem updateRect_full (f : Fmt) (src dst : Img)
    (htw : 0 < dst.w) (hth : 0 < dst.h) (hlw : dst.w ≤ src.w) (hlh : dst.h ≤ src.h)
    (hrx : CorrRel src.w dst.w 0 src.w (corrRaw src.w dst.w 0 src.w))
    (hry : CorrRel src.h dst.h 0 src.h (corrRaw src.h dst.h 0 src.h)) :
    ∀ X Y, X < dst.w → Y < dst.h →
      (updateRect f src dst ⟨(0 : Nat), (0 : Nat), src.w, src.h⟩).get X Y = scaledPixel f src dst.w dst.h X Y := by
  intro X Y hX hY
  have hc : (corr false src.w src.h dst.w dst.h ⟨(0 : Nat), (0 : Nat), src.w, src.h⟩).has X Y = true := by
    have ax := area_pos htw hlw
    have ay := area_pos hth hlh
    have bx := block_inside (W := src.w) htw hX
    have by' := block_inside (W := src.h) hth hY
    exact corr_has (sx := scaleN X dst.w src.w) (sy := scaleN Y dst.h src.h) hrx hry htw hth hX hY
      (by omega) (by omega) (by omega) (by omega) (by omega) (by omega) (by omega) (by omega)
  rw [updateRect_get f src dst _ hX hY, hc]; rfl

end VncModel.Scale
