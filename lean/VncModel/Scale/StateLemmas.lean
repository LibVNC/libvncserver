import VncModel.Scale.State
/-
Invariant of the scaled-screen chain / refcount state machine and its preservation by every
operation (`step`).  Core Lean only.
-/
namespace VncModel.Scale

def dimsOf (c : List SScreen) : List (Nat × Nat) := c.map fun p => (p.w, p.h)

structure Refs (s : Srv) (cs : List Client) : Prop where
  main : s.main.ref = users cs s.main.w s.main.h
  chain : ∀ p ∈ s.chain, p.ref = users cs p.w p.h

structure Shape (s : Srv) : Prop where
  notMain : (s.main.w, s.main.h) ∉ dimsOf s.chain
  distinct : (dimsOf s.chain).Nodup
  pos : ∀ d ∈ dimsOf s.chain, 0 < d.1 ∧ 0 < d.2

structure Inv (s : Srv) : Prop where
  shape : Shape s
  refs : Refs s s.clients
  ids : (s.clients.map (·.id)).Nodup
  known : ∀ c ∈ s.clients, (c.sw, c.sh) = (s.main.w, s.main.h) ∨ (c.sw, c.sh) ∈ dimsOf s.chain

theorem split_at_client {cs : List Client} {i : Nat} {c : Client} (hn : (cs.map (·.id)).Nodup)
    (hf : cs.find? (·.id == i) = some c) :
    ∃ as bs, cs = as ++ c :: bs ∧ c.id = i ∧ ∀ d ∈ as ++ bs, d.id ≠ i := by
  obtain ⟨hc, as, bs, rfl, has⟩ := List.find?_eq_some_iff_append.mp hf
  have hc : c.id = i := by simpa using hc
  refine ⟨as, bs, rfl, hc, fun d hd => ?_⟩
  rcases List.mem_append.mp hd with h | h
  · simpa using has d h
  · intro e
    rw [List.map_append, List.map_cons, List.nodup_append] at hn
    exact (List.nodup_cons.mp hn.2.1).1 (List.mem_map.mpr ⟨d, h, e.trans hc.symm⟩)

theorem filter_ne_split {as bs : List Client} {c : Client} {i : Nat} (hc : c.id = i)
    (hne : ∀ d ∈ as ++ bs, d.id ≠ i) : (as ++ c :: bs).filter (·.id != i) = as ++ bs := by
  have ha : as.filter (·.id != i) = as :=
    List.filter_eq_self.mpr fun d hd => by simpa using hne d (List.mem_append_left _ hd)
  have hb : bs.filter (·.id != i) = bs :=
    List.filter_eq_self.mpr fun d hd => by simpa using hne d (List.mem_append_right _ hd)
  simp [ha, hb, hc]

theorem setClient_split {as bs : List Client} {c : Client} {i : Nat} (f : Client → Client)
    (hc : c.id = i) (hne : ∀ d ∈ as ++ bs, d.id ≠ i) :
    setClient (as ++ c :: bs) i f = as ++ f c :: bs := by
  have keep : ∀ l : List Client, (∀ d ∈ l, d.id ≠ i) → setClient l i f = l := fun l hl =>
    (List.map_congr_left fun d hd => by simp [hl d hd]).trans (List.map_id' l)
  simp only [setClient, List.map_append, List.map_cons] at keep ⊢
  rw [keep as fun d hd => hne d (List.mem_append_left _ hd),
    keep bs fun d hd => hne d (List.mem_append_right _ hd)]
  simp [hc]

theorem find_unique {cs : List Client} {i : Nat} {c d : Client} (hn : (cs.map (·.id)).Nodup)
    (hf : cs.find? (·.id == i) = some c) (hd : d ∈ cs) (hi : d.id = i) : d = c := by
  obtain ⟨as, bs, rfl, _, hne⟩ := split_at_client hn hf
  rcases List.mem_append.mp hd with h | h
  · exact absurd hi (hne d (List.mem_append_left _ h))
  · rcases List.mem_cons.mp h with h | h
    · exact h
    · exact absurd hi (hne d (List.mem_append_right _ h))

theorem users_filter_ne {cs : List Client} {i : Nat} {c : Client}
    (hn : (cs.map (·.id)).Nodup) (hf : cs.find? (·.id == i) = some c) (w h : Nat) :
    (users (cs.filter (·.id != i)) w h : Int)
      = users cs w h - (if c.sw = w ∧ c.sh = h then 1 else 0) := by
  obtain ⟨as, bs, rfl, hc, hne⟩ := split_at_client hn hf
  rw [filter_ne_split hc hne]
  simp only [users, List.countP_append, List.countP_cons, Bool.and_eq_true, beq_iff_eq]
  split <;> omega

theorem users_setClient {cs : List Client} {i : Nat} {c : Client} (f : Client → Client)
    (hn : (cs.map (·.id)).Nodup) (hf : cs.find? (·.id == i) = some c) (w h : Nat) :
    (users (setClient cs i f) w h : Int)
      = users (cs.filter (·.id != i)) w h + (if (f c).sw = w ∧ (f c).sh = h then 1 else 0) := by
  obtain ⟨as, bs, rfl, hc, hne⟩ := split_at_client hn hf
  rw [filter_ne_split hc hne, setClient_split f hc hne]
  simp only [users, List.countP_append, List.countP_cons, Bool.and_eq_true, beq_iff_eq]
  split <;> omega

theorem users_append_one (cs : List Client) (c : Client) (w h : Nat) :
    (users (cs ++ [c]) w h : Int) = users cs w h + (if c.sw = w ∧ c.sh = h then 1 else 0) := by
  simp only [users, List.countP_append, List.countP_singleton, Bool.and_eq_true, beq_iff_eq]
  split <;> omega

theorem dimsOf_bumpChain (c : List SScreen) (w h : Nat) (d : Int) :
    dimsOf (bumpChain c w h d) = dimsOf c := by
  unfold dimsOf bumpChain
  rw [List.map_map]
  apply List.map_congr_left
  intro p _
  simp only [Function.comp]
  split <;> rfl

theorem bump_main_dims (s : Srv) (w h : Nat) (d : Int) :
    (bump s w h d).main.w = s.main.w ∧ (bump s w h d).main.h = s.main.h ∧
    (bump s w h d).main.img = s.main.img ∧ (bump s w h d).fmt = s.fmt ∧
    (bump s w h d).clients = s.clients := by
  unfold bump; split <;> simp

theorem bump_dims (s : Srv) (w h : Nat) (d : Int) :
    dimsOf (bump s w h d).chain = dimsOf s.chain := by
  unfold bump; split
  · rfl
  · exact dimsOf_bumpChain _ _ _ _

theorem shape_bump {s : Srv} (hs : Shape s) (w h : Nat) (d : Int) : Shape (bump s w h d) := by
  have m := bump_main_dims s w h d
  have c := bump_dims s w h d
  exact ⟨by rw [m.1, m.2.1, c]; exact hs.notMain, by rw [c]; exact hs.distinct,
         by rw [c]; exact hs.pos⟩

theorem isMain_iff (s : Srv) (w h : Nat) : isMain s w h = true ↔ s.main.w = w ∧ s.main.h = h := by
  simp [isMain]

theorem Shape.not_isMain {s : Srv} (hs : Shape s) {p : SScreen} (hp : p ∈ s.chain) :
    isMain s p.w p.h = false := by
  cases hm : isMain s p.w p.h
  · rfl
  · have hm' := (isMain_iff s p.w p.h).mp hm
    exact absurd (List.mem_map.mpr ⟨p, hp, by rw [hm'.1, hm'.2]⟩) hs.notMain

theorem bump_main_ref (s : Srv) (w h : Nat) (d : Int) :
    (bump s w h d).main.ref = s.main.ref + if isMain s w h then d else 0 := by
  unfold bump
  split <;> simp

theorem mem_bump_chain {s : Srv} {w h : Nat} {d : Int} {p' : SScreen}
    (hp : p' ∈ (bump s w h d).chain) :
    ∃ p ∈ s.chain, p'.w = p.w ∧ p'.h = p.h ∧ p'.img = p.img ∧
      p'.ref = p.ref + if isMain s w h = false ∧ w = p.w ∧ h = p.h then d else 0 := by
  unfold bump at hp
  cases hm : isMain s w h
  · rw [hm] at hp
    obtain ⟨p, hpc, rfl⟩ := List.mem_map.mp hp
    refine ⟨p, hpc, ?_⟩
    cases hb : (p.w == w && p.h == h)
    · have hk : ¬ (w = p.w ∧ h = p.h) := fun e => by simp [e.1, e.2] at hb
      simp [hk]
    · have hk : p.w = w ∧ p.h = h := by simpa using hb
      simp [hk.1, hk.2]
  · rw [hm] at hp
    exact ⟨p', hp, rfl, rfl, rfl, by simp⟩

/-- one increment / decrement keeps the refcounts in step with a client list whose user counts
change by the same amount at the same size -/
theorem refs_bump {s : Srv} {cs cs' : List Client} (hs : Shape s) (hr : Refs s cs) (w h : Nat) (d : Int)
    (hc : ∀ kw kh, (users cs' kw kh : Int) = users cs kw kh + (if w = kw ∧ h = kh then d else 0)) :
    Refs (bump s w h d) cs' := by
  have m := bump_main_dims s w h d
  constructor
  · rw [m.1, m.2.1, hc, ← hr.main, bump_main_ref]
    by_cases hm : isMain s w h = true
    · have hm' := (isMain_iff s w h).mp hm
      rw [if_pos hm, if_pos ⟨hm'.1.symm, hm'.2.symm⟩]
    · rw [if_neg hm, if_neg fun e => hm ((isMain_iff s w h).mpr ⟨e.1.symm, e.2.symm⟩)]
  · intro p' hp'
    obtain ⟨p, hp, e1, e2, _, e4⟩ := mem_bump_chain hp'
    rw [e1, e2, e4, hc, hr.chain p hp]
    by_cases hk : w = p.w ∧ h = p.h
    · rw [if_pos ⟨hk.1 ▸ hk.2 ▸ hs.not_isMain hp, hk⟩, if_pos hk]
    · rw [if_neg fun e => hk e.2, if_neg hk]

theorem dimsOf_map_img (c : List SScreen) (g : SScreen → Img) (sel : SScreen → Prop) [DecidablePred sel] :
    dimsOf (c.map fun p => if sel p then { p with img := g p } else p) = dimsOf c := by
  unfold dimsOf
  rw [List.map_map]
  apply List.map_congr_left
  intro p _
  simp only [Function.comp]
  split <;> rfl

theorem mem_map_img {c : List SScreen} {g : SScreen → Img} {sel : SScreen → Prop} [DecidablePred sel]
    {p' : SScreen} (hp : p' ∈ c.map fun p => if sel p then { p with img := g p } else p) :
    ∃ p ∈ c, p'.w = p.w ∧ p'.h = p.h ∧ p'.ref = p.ref ∧ p'.img = if sel p then g p else p.img := by
  obtain ⟨p, hpc, rfl⟩ := List.mem_map.mp hp
  refine ⟨p, hpc, ?_⟩
  split <;> exact ⟨rfl, rfl, rfl, rfl⟩

theorem setClient_ids (cs : List Client) (i : Nat) (f : Client → Client) (hf : ∀ c, (f c).id = c.id) :
    (setClient cs i f).map (·.id) = cs.map (·.id) := by
  unfold setClient
  rw [List.map_map]
  apply List.map_congr_left
  intro c _
  simp only [Function.comp]
  split
  · exact hf c
  · rfl

theorem mem_setClient {cs : List Client} {i : Nat} {f : Client → Client} {c : Client}
    (h : c ∈ setClient cs i f) : c ∈ cs ∨ ∃ d ∈ cs, d.id = i ∧ c = f d := by
  unfold setClient at h
  obtain ⟨d, hd, rfl⟩ := List.mem_map.mp h
  by_cases e : d.id = i
  · right; exact ⟨d, hd, e, by simp [e]⟩
  · left; simpa [e] using hd

theorem users_setClient_flags (cs : List Client) (i : Nat) (f : Client → Client)
    (hf : ∀ c, (f c).sw = c.sw ∧ (f c).sh = c.sh) (w h : Nat) :
    users (setClient cs i f) w h = users cs w h := by
  unfold users setClient
  rw [List.countP_map]
  apply List.countP_congr
  intro c _
  simp only [Function.comp]
  split
  · rw [(hf c).1, (hf c).2]
  · rfl

theorem users_zero_of_unknown {s : Srv} (hk : ∀ c ∈ s.clients, (c.sw, c.sh) = (s.main.w, s.main.h) ∨ (c.sw, c.sh) ∈ dimsOf s.chain)
    {w h : Nat} (hm : ¬ (s.main.w = w ∧ s.main.h = h)) (hc : (w, h) ∉ dimsOf s.chain) :
    users s.clients w h = 0 := by
  unfold users
  apply List.countP_eq_zero.mpr
  intro c hcm hp
  have hp' : c.sw = w ∧ c.sh = h := by simpa using hp
  rcases hk c hcm with e | e
  · apply hm
    have := Prod.mk.inj e
    exact ⟨by rw [← this.1, hp'.1], by rw [← this.2, hp'.2]⟩
  · apply hc; rw [← hp'.1, ← hp'.2]; exact e

theorem findChain_isSome {c : List SScreen} {w h : Nat} :
    (findChain c w h).isSome = true ↔ (w, h) ∈ dimsOf c := by
  unfold findChain dimsOf
  rw [List.find?_isSome, List.mem_map]
  constructor
  · rintro ⟨p, hp, e⟩
    have e' : p.w = w ∧ p.h = h := by simpa using e
    exact ⟨p, hp, by rw [e'.1, e'.2]⟩
  · rintro ⟨p, hp, e⟩
    exact ⟨p, hp, by simp [(Prod.mk.inj e).1, (Prod.mk.inj e).2]⟩

theorem findChain_none {c : List SScreen} {w h : Nat} (hn : (findChain c w h).isSome = false) :
    (w, h) ∉ dimsOf c :=
  fun hm => by rw [findChain_isSome.mpr hm] at hn; cases hn

theorem inv_mk (s' : Srv) (cs' : List Client) (h1 : Shape s') (h2 : Refs s' cs')
    (h3 : (cs'.map (·.id)).Nodup)
    (h4 : ∀ c ∈ cs', (c.sw, c.sh) = (s'.main.w, s'.main.h) ∨ (c.sw, c.sh) ∈ dimsOf s'.chain) :
    Inv { s' with clients := cs' } :=
  ⟨⟨h1.notMain, h1.distinct, h1.pos⟩, ⟨h2.main, h2.chain⟩, h3, h4⟩

theorem inv_setFlags {s : Srv} (hi : Inv s) (i : Nat) (f : Client → Client)
    (hf : ∀ c, (f c).id = c.id ∧ (f c).sw = c.sw ∧ (f c).sh = c.sh) :
    Inv { s with clients := setClient s.clients i f } := by
  have hu := users_setClient_flags s.clients i f fun c => (hf c).2
  apply inv_mk s _ hi.shape
    ⟨by rw [hu]; exact hi.refs.main, fun p hp => by rw [hu]; exact hi.refs.chain p hp⟩
  · rw [setClient_ids _ _ _ fun c => (hf c).1]; exact hi.ids
  · intro c hc
    rcases mem_setClient hc with h | ⟨d, hd, _, rfl⟩
    · exact hi.known c h
    · rw [(hf d).2.1, (hf d).2.2]; exact hi.known d hd

theorem refs_drop {s : Srv} (hi : Inv s) {i : Nat} {c : Client}
    (hf : s.clients.find? (·.id == i) = some c) :
    Refs (bump s c.sw c.sh (-1)) (s.clients.filter (·.id != i)) := by
  apply refs_bump hi.shape hi.refs
  intro kw kh
  rw [users_filter_ne hi.ids hf]
  split <;> omega

/-- a client leaves (also: scale factor 0) -/
theorem inv_remove {s : Srv} (hi : Inv s) {i : Nat} {c : Client}
    (hf : s.clients.find? (·.id == i) = some c) :
    Inv (removeClient s c i) := by
  have m := bump_main_dims s c.sw c.sh (-1)
  have hr := refs_drop hi hf
  show Inv { bump s c.sw c.sh (-1) with clients := (bump s c.sw c.sh (-1)).clients.filter (·.id != i) }
  rw [m.2.2.2.2]
  apply inv_mk _ _ (shape_bump hi.shape c.sw c.sh (-1)) hr
  · exact List.Nodup.sublist (List.Sublist.map _ List.filter_sublist) hi.ids
  · intro d hd
    rw [m.1, m.2.1, bump_dims]
    exact hi.known d (List.mem_filter.mp hd).1

theorem inv_join {s : Srv} (hi : Inv s) (id : Nat) (nfs : Bool)
    (hnew : s.clients.any (·.id == id) = false) :
    Inv (addClient s id nfs) := by
  have m := bump_main_dims s s.main.w s.main.h 1
  have hr : Refs (bump s s.main.w s.main.h 1)
      (s.clients ++ [{ id := id, sw := s.main.w, sh := s.main.h, nfs := nfs }]) := by
    apply refs_bump hi.shape hi.refs
    intro kw kh
    rw [users_append_one]
  show Inv { bump s s.main.w s.main.h 1 with
          clients := (bump s s.main.w s.main.h 1).clients ++
            [{ id := id, sw := s.main.w, sh := s.main.h, nfs := nfs }] }
  rw [m.2.2.2.2]
  apply inv_mk _ _ (shape_bump hi.shape s.main.w s.main.h 1) hr
  · have hne : ∀ c ∈ s.clients, ¬ c.id = id := by simpa using hnew
    simpa [List.nodup_append, hi.ids] using hne
  · intro d hd
    rw [m.1, m.2.1, bump_dims]
    rcases List.mem_append.mp hd with h | h
    · exact hi.known d h
    · rw [List.mem_singleton.mp h]
      exact Or.inl rfl

/-- rfbScaledScreenAllocate succeeded: a fresh, unreferenced screen is put in front of the chain -/
theorem inv_alloc {s : Srv} (hi : Inv s) {w h : Nat} (img : Img)
    (hm : isMain s w h = false) (hf : (findChain s.chain w h).isSome = false)
    (hw : 0 < w) (hh : 0 < h) :
    Inv { s with chain := ⟨w, h, 0, img⟩ :: s.chain } := by
  have hm' : ¬ (s.main.w = w ∧ s.main.h = h) := by
    intro e; have := (isMain_iff s w h).mpr e; rw [this] at hm; cases hm
  have hnc := findChain_none hf
  refine ⟨⟨?_, List.nodup_cons.mpr ⟨hnc, hi.shape.distinct⟩, ?_⟩, ⟨hi.refs.main, ?_⟩, hi.ids, ?_⟩
  · intro hmem
    rcases List.mem_cons.mp hmem with e | e
    · exact hm' ⟨(Prod.mk.inj e).1, (Prod.mk.inj e).2⟩
    · exact hi.shape.notMain e
  · intro d hd
    rcases List.mem_cons.mp hd with rfl | e
    · exact ⟨hw, hh⟩
    · exact hi.shape.pos d e
  · intro p hp
    rcases List.mem_cons.mp hp with rfl | e
    · show (0 : Int) = _
      rw [users_zero_of_unknown hi.known hm' hnc]; rfl
    · exact hi.refs.chain p e
  · intro c hc
    exact (hi.known c hc).imp id (List.mem_cons_of_mem _)

theorem inv_map_img {s : Srv} (hi : Inv s) (g : SScreen → Img) (sel : SScreen → Prop) [DecidablePred sel] :
    Inv { s with chain := s.chain.map fun p => if sel p then { p with img := g p } else p } := by
  have c := dimsOf_map_img s.chain g sel
  refine ⟨⟨?_, ?_, ?_⟩, ⟨hi.refs.main, fun p hp => ?_⟩, hi.ids, fun d hd => ?_⟩
  · show _ ∉ dimsOf _
    rw [c]; exact hi.shape.notMain
  · show (dimsOf _).Nodup
    rw [c]; exact hi.shape.distinct
  · show ∀ d ∈ dimsOf _, _
    rw [c]; exact hi.shape.pos
  · obtain ⟨q, hq, e1, e2, e3, _⟩ := mem_map_img hp
    rw [e1, e2, e3]; exact hi.refs.chain q hq
  · show _ ∨ (d.sw, d.sh) ∈ dimsOf _
    rw [c]; exact hi.known d hd

/-- the state after a successful rfbScaledScreenAllocate: a fresh, unreferenced copy in front -/
def allocated (s : Srv) (w h : Nat) : Srv :=
  { s with chain :=
      ⟨w, h, 0, updateRect s.fmt s.main.img (Img.tabulate w h fun _ _ => 0) (fullRect s)⟩ :: s.chain }

/-- `if (ptr->scaledScreenRefCount < 1)` the copy is refreshed: it was not kept up to date while
unused -/
def freshen (s : Srv) (w h : Nat) : Srv :=
  if !isMain s w h && refOf s w h < 1 then { s with chain := refreshChain s w h } else s

/-- `cl->scaledScreen->scaledScreenRefCount--; ptr->scaledScreenRefCount++; cl->scaledScreen = ptr` -/
def handOver (s : Srv) (c : Client) (w h : Nat) : Srv :=
  { bump (bump s c.sw c.sh (-1)) w h 1 with
    clients := setClient (bump (bump s c.sw c.sh (-1)) w h 1).clients c.id
      fun c => { c with sw := w, sh := h, pending := true } }

/-- left alone (no such screen and a zero dimension) / found / allocated -/
theorem scalingSetup_cases (s : Srv) (c : Client) (w h : Nat) :
    (isMain s w h = false ∧ (findChain s.chain w h).isSome = false ∧ (w = 0 ∨ h = 0) ∧
      scalingSetup s c w h = s) ∨
    (((w, h) = (s.main.w, s.main.h) ∨ (w, h) ∈ dimsOf s.chain) ∧
      scalingSetup s c w h = handOver (freshen s w h) c w h) ∨
    (isMain s w h = false ∧ (findChain s.chain w h).isSome = false ∧ 0 < w ∧ 0 < h ∧
      scalingSetup s c w h = handOver (freshen (allocated s w h) w h) c w h) := by
  unfold scalingSetup
  cases hm : isMain s w h
  · cases hfc : (findChain s.chain w h).isSome
    · by_cases hz : w = 0 ∨ h = 0
      · exact Or.inl ⟨rfl, rfl, hz,
          by simp only [Bool.or_false, Bool.false_eq_true, if_false, allocate, hz, if_true]⟩
      · exact Or.inr (Or.inr ⟨rfl, rfl, by omega, by omega,
          by simp only [Bool.or_false, Bool.false_eq_true, if_false, allocate, hz]; rfl⟩)
    · exact Or.inr (Or.inl ⟨Or.inr (findChain_isSome.mp hfc), rfl⟩)
  · have e := (isMain_iff s w h).mp hm
    exact Or.inr (Or.inl ⟨Or.inl (by rw [e.1, e.2]), rfl⟩)

theorem freshen_frame (s : Srv) (w h : Nat) :
    (freshen s w h).main = s.main ∧ (freshen s w h).clients = s.clients ∧
    (freshen s w h).fmt = s.fmt ∧ dimsOf (freshen s w h).chain = dimsOf s.chain := by
  unfold freshen
  split
  · exact ⟨rfl, rfl, rfl, dimsOf_map_img ..⟩
  · exact ⟨rfl, rfl, rfl, rfl⟩

theorem inv_freshen {s : Srv} (hi : Inv s) (w h : Nat) : Inv (freshen s w h) := by
  unfold freshen
  split
  · exact inv_map_img hi _ fun p => (p.w == w && p.h == h) = true
  · exact hi

theorem handOver_frame (s : Srv) (c : Client) (w h : Nat) :
    (handOver s c w h).main.w = s.main.w ∧ (handOver s c w h).main.h = s.main.h ∧
    (handOver s c w h).clients =
      setClient s.clients c.id fun c => { c with sw := w, sh := h, pending := true } := by
  have m := bump_main_dims s c.sw c.sh (-1)
  have m' := bump_main_dims (bump s c.sw c.sh (-1)) w h 1
  exact ⟨m'.1.trans m.1, m'.2.1.trans m.2.1, by unfold handOver; rw [m'.2.2.2.2, m.2.2.2.2]⟩

theorem inv_handOver {s : Srv} (hi : Inv s) {c : Client}
    (hf : s.clients.find? (·.id == c.id) = some c) {w h : Nat}
    (ht : (w, h) = (s.main.w, s.main.h) ∨ (w, h) ∈ dimsOf s.chain) : Inv (handOver s c w h) := by
  have m3 := bump_main_dims s c.sw c.sh (-1)
  have c3 := bump_dims s c.sw c.sh (-1)
  have m4 := bump_main_dims (bump s c.sw c.sh (-1)) w h 1
  have c4 := bump_dims (bump s c.sw c.sh (-1)) w h 1
  have sh3 := shape_bump hi.shape c.sw c.sh (-1)
  have r3 := refs_drop hi hf
  have r4 : Refs (bump (bump s c.sw c.sh (-1)) w h 1)
      (setClient s.clients c.id fun c => { c with sw := w, sh := h, pending := true }) := by
    apply refs_bump sh3 r3
    intro kw kh
    rw [users_setClient _ hi.ids hf]
  unfold handOver
  rw [m4.2.2.2.2, m3.2.2.2.2]
  apply inv_mk _ _ (shape_bump sh3 w h 1) r4
  · rw [setClient_ids s.clients c.id (fun c => { c with sw := w, sh := h, pending := true })
      fun _ => rfl]
    exact hi.ids
  · intro d hd
    rw [m4.1, m4.2.1, m3.1, m3.2.1, c4, c3]
    rcases mem_setClient hd with e | ⟨x, _, _, rfl⟩
    · exact hi.known d e
    · exact ht

theorem inv_scalingSetup {s : Srv} (hi : Inv s) {i : Nat} {c : Client}
    (hf : s.clients.find? (·.id == i) = some c) (w h : Nat) :
    Inv (scalingSetup s c w h) := by
  obtain rfl : c.id = i := by simpa using List.find?_some hf
  rcases scalingSetup_cases s c w h with ⟨_, _, _, e⟩ | ⟨ht, e⟩ | ⟨hm, hfc, hw, hh, e⟩ <;> rw [e]
  · exact hi
  · have fr := freshen_frame s w h
    exact inv_handOver (inv_freshen hi w h) (by rw [fr.2.1]; exact hf) (by rw [fr.1, fr.2.2.2]; exact ht)
  · have fr := freshen_frame (allocated s w h) w h
    have hia : Inv (allocated s w h) := inv_alloc hi _ hm hfc hw hh
    exact inv_handOver (inv_freshen hia w h) (by rw [fr.2.1]; exact hf)
      (Or.inr (by rw [fr.2.2.2]; exact List.mem_cons_self))

theorem find_setClient {cs : List Client} {i : Nat} (f : Client → Client) (hf : ∀ c, (f c).id = c.id) :
    (setClient cs i f).find? (·.id == i) = (cs.find? (·.id == i)).map f := by
  induction cs with
  | nil => rfl
  | cons d ds ih =>
    by_cases hd : d.id = i
    · simp [setClient, hd, hf]
    · have : setClient (d :: ds) i f = d :: setClient ds i f := by simp [setClient, hd]
      rw [this, List.find?_cons, List.find?_cons]
      have e : (d.id == i) = false := by simp [hd]
      rw [e]; exact ih

theorem setPalm_main (s : Srv) (id : Nat) (palm : Bool) : (setPalm s id palm).main = s.main := by
  unfold setPalm
  split <;> rfl

theorem inv_setPalm {s : Srv} (hi : Inv s) (id : Nat) (palm : Bool) : Inv (setPalm s id palm) := by
  unfold setPalm
  split
  · exact inv_setFlags hi id _ (fun c => ⟨rfl, rfl, rfl⟩)
  · exact hi

theorem inv_step {s : Srv} (hi : Inv s) (op : Op) : Inv (step s op) := by
  cases op with
  | join id nfs =>
    show Inv (if s.clients.any (·.id == id) then s else addClient s id nfs)
    split
    · exact hi
    · exact inv_join hi id nfs (Bool.eq_false_iff.mpr ‹_›)
  | setScale id palm n =>
    show Inv (setScaleCore (setPalm s id palm) id n)
    have hi0 := inv_setPalm hi id palm
    unfold setScaleCore
    split
    · exact hi0
    · split
      · exact inv_remove hi0 ‹_›
      · exact inv_scalingSetup hi0 ‹_› _ _
  | leave id =>
    show Inv (match s.clients.find? (·.id == id) with
      | none => s
      | some c => removeClient s c id)
    split
    · exact hi
    · exact inv_remove hi ‹_›
  | modify r =>
    exact inv_map_img hi (fun p => updateRect s.fmt s.main.img p.img r) (fun p => p.ref > 0)

theorem inv_init (f : Fmt) (fb : Img) : Inv (init f fb) := by
  refine ⟨⟨by simp [init, dimsOf], by simp [init, dimsOf], by simp [init, dimsOf]⟩,
          ⟨by simp [init, users], by simp [init]⟩, by simp [init], by simp [init]⟩

theorem inv_run {s : Srv} (hi : Inv s) (ops : List Op) : Inv (run s ops) := by
  unfold run
  induction ops generalizing s with
  | nil => exact hi
  | cons op ops ih => exact ih (inv_step hi op)

end VncModel.Scale
