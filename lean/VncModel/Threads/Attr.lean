import VncModel.Threads.Tactics
/-! Simp sets of the threads model.  `succ_forall` turns `∀ p ∈ L, P p`, for a successor list `L` as the
model writes them, into one clause per successor; a LOCK clause reads `∀ j, doLock s t m c = some j → P j`
below Succ.lean and `own s m c = none → P (locked s t m c)` in the files that import it.  `own_frame`,
`local_frame`, `desc_frame`: the state updates the invariant does not see. -/

register_simp_attr succ_forall
register_simp_attr own_frame
register_simp_attr local_frame
register_simp_attr desc_frame
