import Lean.Meta.Tactic.Simp.RegisterCommand
/-! One simp set of frame lemmas per invariant proved after the life cycle: `Safe` (NoUaf.lean), `GoneInv`
(Gone.lean), `Wf` (Progress.lean), `WakeInv` (Wake.lean). -/

register_simp_attr safe_frame
register_simp_attr gone_frame
register_simp_attr wf_frame
register_simp_attr wake_frame
