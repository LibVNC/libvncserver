import VncModel.Threads.Fields
/-! Every client index that occurs in a program counter (or in the list of remembered clients) has
been allocated: it is below `n` (`Bnd`).  Consequently the record that `rfbNewClient` allocates next is not
referenced by anybody. -/
namespace VncModel.Threads

/-- a property of every successor state follows from the property for the three kinds of thread; the
listener only runs at the program counters of rfbNewClient -/
theorem step_cases {P : State → Prop} {s s' : State}
    (hc : ∀ t, t = .app ∨ t = .lis → (t = .lis → lisPc (getC s t) = true) → ∀ x ∈ callerSucc s t, P x.2)
    (hi : ∀ c, ∀ x ∈ inpSucc s c, P x.2) (ho : ∀ c, ∀ x ∈ outSucc s c, P x.2) (hs : Step s s') : P s' := by
  obtain ⟨t, l, hm⟩ := hs
  cases t with
  | app => exact hc .app (.inl rfl) (nomatch ·) _ hm
  | lis =>
    simp only [succ] at hm; split at hm
    · exact hc .lis (.inr rfl) (fun _ => ‹_›) _ hm
    · exact nomatch hm
  | inp c => exact hi c _ hm
  | out c => exact ho c _ hm

def idxC : CPc → List Nat
  | .iter _ _ prev nxt => prev.toList ++ nxt.toList
  | .body _ _ c => [c]
  | .close _ _ c => [c]
  | .sdJoin c nxt => c :: nxt.toList
  | .cr st c => (match st with | .alloc => [] | _ => [c])
  | .gone _ c => [c]
  | _ => []

structure Bnd (s : State) : Prop where
  app : ∀ x ∈ idxC s.apc, x < s.n
  lis : ∀ x ∈ idxC s.lpc, x < s.n
  alk : ∀ x ∈ s.alk, x < s.n
  thr : ∀ c, (s.cl c).ipc ≠ .notStarted ∨ (s.cl c).opc ≠ .notStarted → c < s.n

theorem Bnd.ipc_n {s : State} (hb : Bnd s) : (s.cl s.n).ipc = .notStarted :=
  Decidable.byContradiction fun e => Nat.lt_irrefl _ (hb.thr s.n (Or.inl e))
theorem Bnd.opc_n {s : State} (hb : Bnd s) : (s.cl s.n).opc = .notStarted :=
  Decidable.byContradiction fun e => Nat.lt_irrefl _ (hb.thr s.n (Or.inr e))

theorem pick_lt_n {s : State} {b : Bool} {prev : Option Nat} {c : Nat} (hp : ∀ q, prev = some q → q < s.n)
    (h : pick s b prev = some c) : c < s.n := by
  unfold pick at h
  cases prev with
  | none => exact pickBelow_lt s b s.n c h
  | some q =>
    have h1 : c < q := pickBelow_lt s b q c h
    have h2 := hp q rfl
    omega

theorem bnd_init : Bnd State.init := by
  constructor <;> simp [State.init, idxC]

/-- the record fields `Bnd` looks at -/
theorem bnd_congr {s s' : State} (ha : s'.apc = s.apc) (hl : s'.lpc = s.lpc) (hk : s'.alk = s.alk) (hn : s'.n = s.n)
    (hc : ∀ c, (s'.cl c).ipc = (s.cl c).ipc ∧ (s'.cl c).opc = (s.cl c).opc) : Bnd s' ↔ Bnd s := by
  constructor
  · intro h
    exact ⟨by rw [← ha, ← hn]; exact h.app, by rw [← hl, ← hn]; exact h.lis, by rw [← hk, ← hn]; exact h.alk,
           fun c hc' => by rw [← hn]; exact h.thr c (by rw [(hc c).1, (hc c).2]; exact hc')⟩
  · intro h
    exact ⟨by rw [ha, hn]; exact h.app, by rw [hl, hn]; exact h.lis, by rw [hk, hn]; exact h.alk,
           fun c hc' => by rw [hn]; exact h.thr c (by rw [← (hc c).1, ← (hc c).2]; exact hc')⟩

theorem bnd_pcSame {s s' : State} (h : PcSame s s') (hn : s'.n = s.n) : Bnd s' ↔ Bnd s :=
  bnd_congr h.1 h.2.1 h.2.2.1 hn h.2.2.2

theorem bnd_doLock {s a : State} {t : Tid} {m : MCls} {c : Nat} (h : doLock s t m c = some a) : Bnd a ↔ Bnd s :=
  bnd_pcSame (pcSame_doLock h) (n_doLock h)
@[simp] theorem bnd_incRef (s : State) (t : Tid) (c : Nat) : Bnd (incRef s t c) ↔ Bnd s :=
  bnd_pcSame (pcSame_incRef s t c) (by simp)
@[simp] theorem bnd_decRef (s : State) (t : Tid) (c : Nat) : Bnd (decRef s t c) ↔ Bnd s :=
  bnd_pcSame (pcSame_decRef s t c) (by simp)

theorem bnd_updCl_started (s : State) (c : Nat) (f : Client → Client)
    (h : (f (s.cl c)).ipc ≠ .notStarted ∨ (f (s.cl c)).opc ≠ .notStarted ↔
      (s.cl c).ipc ≠ .notStarted ∨ (s.cl c).opc ≠ .notStarted) : Bnd (updCl s c f) ↔ Bnd s := by
  have hc : ∀ c', ((updCl s c f).cl c').ipc ≠ .notStarted ∨ ((updCl s c f).cl c').opc ≠ .notStarted ↔
      (s.cl c').ipc ≠ .notStarted ∨ (s.cl c').opc ≠ .notStarted := fun c' => by
    rw [updCl_cl]; split
    · rename_i e; subst e; exact h
    · rfl
  exact ⟨fun hb => ⟨hb.app, hb.lis, hb.alk, fun c' hc' => hb.thr c' ((hc c').2 hc')⟩,
    fun hb => ⟨hb.app, hb.lis, hb.alk, fun c' hc' => hb.thr c' ((hc c').1 hc')⟩⟩

theorem bnd_updCl (s : State) (c : Nat) (f : Client → Client) (hf : KeepsPc f) : Bnd (updCl s c f) ↔ Bnd s :=
  bnd_updCl_started s c f (by rw [(hf _).1, (hf _).2])

theorem bnd_setI_same (s : State) (c : Nat) (pc : IPc) (h1 : (s.cl c).ipc ≠ .notStarted) (h2 : pc ≠ .notStarted) :
    Bnd (setI s c pc) ↔ Bnd s :=
  bnd_updCl_started s c _ (by simp [h1, h2])

theorem bnd_setO_same (s : State) (c : Nat) (pc : OPc) (h1 : (s.cl c).opc ≠ .notStarted) (h2 : pc ≠ .notStarted) :
    Bnd (setO s c pc) ↔ Bnd s :=
  bnd_updCl_started s c _ (by simp [h1, h2])

/-- waking a waiter changes a program counter from `blocked` to `woken`: no index, and not to `notStarted` -/
@[simp] theorem bnd_signalU (s : State) (c : Nat) : Bnd (signalU s c) ↔ Bnd s := by
  unfold signalU; split
  · rename_i h; exact bnd_setO_same s c .woken (by simp [h]) (by simp)
  · rfl

theorem bnd_setC_same {t : Tid} (ht : t = .app ∨ t = .lis) (s : State) (pc : CPc) (h : idxC pc = idxC (getC s t)) :
    Bnd (setC s t pc) ↔ Bnd s := by
  rcases ht with rfl | rfl
  · exact ⟨fun hb => ⟨by have := hb.app; simp only [setC_app, h] at this; exact this, hb.lis, hb.alk, hb.thr⟩,
      fun hb => ⟨by simp only [setC_app, h]; exact hb.app, hb.lis, hb.alk, hb.thr⟩⟩
  · exact ⟨fun hb => ⟨hb.app, by have := hb.lis; simp only [setC_lis, h] at this; exact this, hb.alk, hb.thr⟩,
      fun hb => ⟨hb.app, by simp only [setC_lis, h]; exact hb.lis, hb.alk, hb.thr⟩⟩

@[simp] theorem bnd_signalD (s : State) (c : Nat) : Bnd (signalD s c) ↔ Bnd s := by
  unfold signalD
  simp only []
  have e1 : ∀ X : State, (X.cl c).ipc = .g .blocked → (Bnd (setI X c (.g .wakeD)) ↔ Bnd X) :=
    fun X hX => bnd_setI_same X c _ (by simp [hX]) (by simp)
  have e2 : ∀ X : State, X.apc = .gone .blocked c → (Bnd (setC X .app (.gone .wakeD c)) ↔ Bnd X) :=
    fun X hX => bnd_setC_same (.inl rfl) X _ (by simp [getC, hX, idxC])
  have e3 : ∀ X : State, X.lpc = .gone .blocked c → (Bnd (setC X .lis (.gone .wakeD c)) ↔ Bnd X) :=
    fun X hX => bnd_setC_same (.inr rfl) X _ (by simp [getC, hX, idxC])
  split <;> split <;> split <;> simp_all

theorem bnd_setI {X : State} {c : Nat} {pc : IPc} (hb : Bnd X) (h : c < X.n) : Bnd (setI X c pc) :=
  ⟨hb.app, hb.lis, hb.alk, fun c' hc' => by
    by_cases e : c' = c
    · subst e; exact h
    · simp only [setI, updCl_cl, e, if_false] at hc'; exact hb.thr c' hc'⟩
theorem bnd_setO {X : State} {c : Nat} {pc : OPc} (hb : Bnd X) (h : c < X.n) : Bnd (setO X c pc) :=
  ⟨hb.app, hb.lis, hb.alk, fun c' hc' => by
    by_cases e : c' = c
    · subst e; exact h
    · simp only [setO, updCl_cl, e, if_false] at hc'; exact hb.thr c' hc'⟩
theorem bnd_setAlkT {X : State} {t : Tid} {l : List Nat} (hb : Bnd X) (h : ∀ x ∈ l, x < X.n) : Bnd (setAlkT X t l) := by
  unfold setAlkT; split
  · exact ⟨hb.app, hb.lis, h, hb.thr⟩
  · exact hb
theorem bnd_alloc {s : State} (hb : Bnd s) : Bnd (setN (updCl s s.n Client.fresh) (s.n + 1)) := by
  refine ⟨fun x hx => ?_, fun x hx => ?_, fun x hx => ?_, fun c hc => ?_⟩
  · have := hb.app x hx; simp [setN]; omega
  · have := hb.lis x hx; simp [setN]; omega
  · have := hb.alk x hx; simp [setN]; omega
  · simp only [setN, updCl_cl] at hc ⊢
    by_cases e : c = s.n
    · omega
    · simp only [e, if_false] at hc; have := hb.thr c hc; omega

@[simp] theorem n_setN' (s : State) (k : Nat) : (setN s k).n = k := rfl

theorem Bnd.idx {s : State} (hb : Bnd s) {t : Tid} (ht : t = .app ∨ t = .lis) : ∀ x ∈ idxC (getC s t), x < s.n := by
  rcases ht with rfl | rfl
  · exact hb.app
  · exact hb.lis

theorem bnd_setC {X : State} {t : Tid} {pc : CPc} (ht : t = .app ∨ t = .lis) (hb : Bnd X)
    (h : ∀ x ∈ idxC pc, x < X.n) : Bnd (setC X t pc) := by
  rcases ht with rfl | rfl
  · exact ⟨h, hb.lis, hb.alk, hb.thr⟩
  · exact ⟨hb.app, h, hb.alk, hb.thr⟩

end VncModel.Threads
