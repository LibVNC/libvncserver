import VncModel.Threads.LockOrder

/-! Frame lemmas: the "core" fields of the client records (everything except mutex owners and thread
ghosts) and the top-level fields under the primitives that do not touch them.  The primitives are
compositions of `touchM`, `setOwn`, `setG` and `updCl`; `CoreEq` and the `top_*` conjunctions say what
these leave alone, and each field lemma is a projection. -/
namespace VncModel.Threads

def CoreEq (x y : Client) : Prop :=
  x.alive = y.alive ∧ x.linked = y.linked ∧ x.sockOpen = y.sockOpen ∧ x.st = y.st ∧ x.pipeNote = y.pipeNote ∧ x.refCount = y.refCount ∧ x.goneCnt = y.goneCnt ∧ x.ipc = y.ipc ∧ x.opc = y.opc ∧ x.ijoined = y.ijoined ∧ x.ojoined = y.ojoined

theorem CoreEq.rfl' (x : Client) : CoreEq x x := by unfold CoreEq; simp

def OwnOnly (f : Client → Client) : Prop := ∀ x, CoreEq (f x) x

theorem coreEq_updCl (s : State) (c : Nat) (f : Client → Client) (hf : OwnOnly f) (c' : Nat) :
    CoreEq ((updCl s c f).cl c') (s.cl c') := by
  rw [updCl_cl]; split
  · rename_i h; subst h; exact hf _
  · exact CoreEq.rfl' _

theorem coreEq_setOwn (s : State) (m : MCls) (c : Nat) (o : Option Tid) (c' : Nat) :
    CoreEq ((setOwn s m c o).cl c') (s.cl c') := by
  cases m <;> simp only [setOwn]
  · exact CoreEq.rfl' _
  · exact CoreEq.rfl' _
  · exact coreEq_updCl s c (fun x => { x with ownU := o }) (by intro x; unfold CoreEq; simp) c'
  · exact coreEq_updCl s c (fun x => { x with ownS := o }) (by intro x; unfold CoreEq; simp) c'
  · exact coreEq_updCl s c (fun x => { x with ownO := o }) (by intro x; unfold CoreEq; simp) c'
  · exact coreEq_updCl s c (fun x => { x with ownR := o }) (by intro x; unfold CoreEq; simp) c'

theorem coreEq_setG (s : State) (t : Tid) (g : Ghost) (c' : Nat) : CoreEq ((setG s t g).cl c') (s.cl c') := by
  cases t <;> simp only [setG]
  · exact CoreEq.rfl' _
  · exact CoreEq.rfl' _
  · exact coreEq_updCl s _ (fun x => { x with gi := g }) (by intro x; unfold CoreEq; simp) c'
  · exact coreEq_updCl s _ (fun x => { x with go := g }) (by intro x; unfold CoreEq; simp) c'

theorem coreEq_trans {x y z : Client} (h1 : CoreEq x y) (h2 : CoreEq y z) : CoreEq x z := by
  unfold CoreEq at *
  obtain ⟨a1,a2,a3,a4,a5,a6,a7,a8,a9,a10,a11⟩ := h1
  obtain ⟨b1,b2,b3,b4,b5,b6,b7,b8,b9,b10,b11⟩ := h2
  exact ⟨a1.trans b1,a2.trans b2,a3.trans b3,a4.trans b4,a5.trans b5,a6.trans b6,a7.trans b7,a8.trans b8,a9.trans b9,a10.trans b10,a11.trans b11⟩

theorem coreEq_touchM (s : State) (m : MCls) (c : Nat) (c' : Nat) : CoreEq ((touchM s m c).cl c') (s.cl c') := by
  rw [touchM_cl]; exact CoreEq.rfl' _

theorem coreEq_doUnlock (s : State) (t : Tid) (m : MCls) (c : Nat) (c' : Nat) :
    CoreEq ((doUnlock s t m c).cl c') (s.cl c') := by
  unfold doUnlock
  simp only []
  split
  · exact coreEq_trans (coreEq_setG _ t _ c') (coreEq_trans (coreEq_setOwn _ m c _ c') (coreEq_touchM s m c c'))
  · have : (raise (touchM s m c) Flag.badUnlock).cl = (touchM s m c).cl := rfl
    rw [this]; exact coreEq_touchM s m c c'

theorem coreEq_doLock {s a : State} {t : Tid} {m : MCls} {c : Nat} (h : doLock s t m c = some a) (c' : Nat) :
    CoreEq (a.cl c') (s.cl c') := by
  unfold doLock at h
  split at h
  · simp only [Option.some.injEq] at h; subst h
    exact coreEq_trans (coreEq_setG _ t _ c') (coreEq_trans (coreEq_setOwn _ m c _ c') (coreEq_touchM s m c c'))
  · cases h

@[simp] theorem alive_doUnlock (s : State) (t : Tid) (m : MCls) (c c' : Nat) : ((doUnlock s t m c).cl c').alive = (s.cl c').alive :=
  (coreEq_doUnlock s t m c c').1
@[simp] theorem linked_doUnlock (s : State) (t : Tid) (m : MCls) (c c' : Nat) : ((doUnlock s t m c).cl c').linked = (s.cl c').linked :=
  (coreEq_doUnlock s t m c c').2.1
@[simp] theorem sockOpen_doUnlock (s : State) (t : Tid) (m : MCls) (c c' : Nat) : ((doUnlock s t m c).cl c').sockOpen = (s.cl c').sockOpen :=
  (coreEq_doUnlock s t m c c').2.2.1
theorem sockOpen_doLock {s a : State} {t : Tid} {m : MCls} {c : Nat} (hl : doLock s t m c = some a) (c' : Nat) : (a.cl c').sockOpen = (s.cl c').sockOpen :=
  (coreEq_doLock hl c').2.2.1
@[simp] theorem st_doUnlock (s : State) (t : Tid) (m : MCls) (c c' : Nat) : ((doUnlock s t m c).cl c').st = (s.cl c').st :=
  (coreEq_doUnlock s t m c c').2.2.2.1
@[simp] theorem pipeNote_doUnlock (s : State) (t : Tid) (m : MCls) (c c' : Nat) : ((doUnlock s t m c).cl c').pipeNote = (s.cl c').pipeNote :=
  (coreEq_doUnlock s t m c c').2.2.2.2.1
theorem pipeNote_doLock {s a : State} {t : Tid} {m : MCls} {c : Nat} (hl : doLock s t m c = some a) (c' : Nat) : (a.cl c').pipeNote = (s.cl c').pipeNote :=
  (coreEq_doLock hl c').2.2.2.2.1
@[simp] theorem refCount_doUnlock (s : State) (t : Tid) (m : MCls) (c c' : Nat) : ((doUnlock s t m c).cl c').refCount = (s.cl c').refCount :=
  (coreEq_doUnlock s t m c c').2.2.2.2.2.1
theorem refCount_doLock {s a : State} {t : Tid} {m : MCls} {c : Nat} (hl : doLock s t m c = some a) (c' : Nat) : (a.cl c').refCount = (s.cl c').refCount :=
  (coreEq_doLock hl c').2.2.2.2.2.1
@[simp] theorem goneCnt_doUnlock (s : State) (t : Tid) (m : MCls) (c c' : Nat) : ((doUnlock s t m c).cl c').goneCnt = (s.cl c').goneCnt :=
  (coreEq_doUnlock s t m c c').2.2.2.2.2.2.1
theorem goneCnt_doLock {s a : State} {t : Tid} {m : MCls} {c : Nat} (hl : doLock s t m c = some a) (c' : Nat) : (a.cl c').goneCnt = (s.cl c').goneCnt :=
  (coreEq_doLock hl c').2.2.2.2.2.2.1
@[simp] theorem ipc_doUnlock (s : State) (t : Tid) (m : MCls) (c c' : Nat) : ((doUnlock s t m c).cl c').ipc = (s.cl c').ipc :=
  (coreEq_doUnlock s t m c c').2.2.2.2.2.2.2.1
theorem ipc_doLock {s a : State} {t : Tid} {m : MCls} {c : Nat} (hl : doLock s t m c = some a) (c' : Nat) : (a.cl c').ipc = (s.cl c').ipc :=
  (coreEq_doLock hl c').2.2.2.2.2.2.2.1
@[simp] theorem opc_doUnlock (s : State) (t : Tid) (m : MCls) (c c' : Nat) : ((doUnlock s t m c).cl c').opc = (s.cl c').opc :=
  (coreEq_doUnlock s t m c c').2.2.2.2.2.2.2.2.1
theorem opc_doLock {s a : State} {t : Tid} {m : MCls} {c : Nat} (hl : doLock s t m c = some a) (c' : Nat) : (a.cl c').opc = (s.cl c').opc :=
  (coreEq_doLock hl c').2.2.2.2.2.2.2.2.1
@[simp] theorem ijoined_doUnlock (s : State) (t : Tid) (m : MCls) (c c' : Nat) : ((doUnlock s t m c).cl c').ijoined = (s.cl c').ijoined :=
  (coreEq_doUnlock s t m c c').2.2.2.2.2.2.2.2.2.1
theorem ijoined_doLock {s a : State} {t : Tid} {m : MCls} {c : Nat} (hl : doLock s t m c = some a) (c' : Nat) : (a.cl c').ijoined = (s.cl c').ijoined :=
  (coreEq_doLock hl c').2.2.2.2.2.2.2.2.2.1
@[simp] theorem ojoined_doUnlock (s : State) (t : Tid) (m : MCls) (c c' : Nat) : ((doUnlock s t m c).cl c').ojoined = (s.cl c').ojoined :=
  (coreEq_doUnlock s t m c c').2.2.2.2.2.2.2.2.2.2
theorem ojoined_doLock {s a : State} {t : Tid} {m : MCls} {c : Nat} (hl : doLock s t m c = some a) (c' : Nat) : (a.cl c').ojoined = (s.cl c').ojoined :=
  (coreEq_doLock hl c').2.2.2.2.2.2.2.2.2.2

theorem top_setOwn (s : State) (m : MCls) (c : Nat) (o : Option Tid) :
    (setOwn s m c o).apc = s.apc ∧ (setOwn s m c o).lpc = s.lpc ∧ (setOwn s m c o).n = s.n ∧ (setOwn s m c o).alk = s.alk ∧
    (setOwn s m c o).lisDown = s.lisDown ∧ (setOwn s m c o).ljoined = s.ljoined ∧ (setOwn s m c o).aapi = s.aapi := by
  cases m <;> exact ⟨rfl, rfl, rfl, rfl, rfl, rfl, rfl⟩
theorem top_setG (s : State) (t : Tid) (g : Ghost) :
    (setG s t g).apc = s.apc ∧ (setG s t g).lpc = s.lpc ∧ (setG s t g).n = s.n ∧ (setG s t g).alk = s.alk ∧
    (setG s t g).lisDown = s.lisDown ∧ (setG s t g).ljoined = s.ljoined ∧ (setG s t g).aapi = s.aapi := by
  cases t <;> exact ⟨rfl, rfl, rfl, rfl, rfl, rfl, rfl⟩
theorem top_touch (s : State) (c : Nat) :
    (touch s c).apc = s.apc ∧ (touch s c).lpc = s.lpc ∧ (touch s c).n = s.n ∧ (touch s c).alk = s.alk ∧
    (touch s c).lisDown = s.lisDown ∧ (touch s c).ljoined = s.ljoined ∧ (touch s c).aapi = s.aapi := by
  unfold touch; split
  · exact ⟨rfl, rfl, rfl, rfl, rfl, rfl, rfl⟩
  · exact ⟨rfl, rfl, rfl, rfl, rfl, rfl, rfl⟩
theorem top_touchM (s : State) (m : MCls) (c : Nat) :
    (touchM s m c).apc = s.apc ∧ (touchM s m c).lpc = s.lpc ∧ (touchM s m c).n = s.n ∧ (touchM s m c).alk = s.alk ∧
    (touchM s m c).lisDown = s.lisDown ∧ (touchM s m c).ljoined = s.ljoined ∧ (touchM s m c).aapi = s.aapi := by
  unfold touchM; split
  · exact top_touch s c
  · exact ⟨rfl, rfl, rfl, rfl, rfl, rfl, rfl⟩
theorem top_doUnlock (s : State) (t : Tid) (m : MCls) (c : Nat) :
    (doUnlock s t m c).apc = s.apc ∧ (doUnlock s t m c).lpc = s.lpc ∧ (doUnlock s t m c).n = s.n ∧ (doUnlock s t m c).alk = s.alk ∧
    (doUnlock s t m c).lisDown = s.lisDown ∧ (doUnlock s t m c).ljoined = s.ljoined ∧ (doUnlock s t m c).aapi = s.aapi := by
  unfold doUnlock
  simp only []
  have h1 := top_touchM s m c
  split
  · have h2 := top_setOwn (touchM s m c) m c none
    have h3 := top_setG (setOwn (touchM s m c) m c none) t
      { (getG (setOwn (touchM s m c) m c none) t) with held := (getG (setOwn (touchM s m c) m c none) t).held.erase (mkey m c) }
    obtain ⟨a1,a2,a3,a4,a5,a6,a7⟩ := h1; obtain ⟨b1,b2,b3,b4,b5,b6,b7⟩ := h2; obtain ⟨c1,c2,c3,c4,c5,c6,c7⟩ := h3
    exact ⟨c1.trans (b1.trans a1), c2.trans (b2.trans a2), c3.trans (b3.trans a3), c4.trans (b4.trans a4),
      c5.trans (b5.trans a5), c6.trans (b6.trans a6), c7.trans (b7.trans a7)⟩
  · exact h1
theorem top_doLock {s a : State} {t : Tid} {m : MCls} {c : Nat} (h : doLock s t m c = some a) :
    a.apc = s.apc ∧ a.lpc = s.lpc ∧ a.n = s.n ∧ a.alk = s.alk ∧ a.lisDown = s.lisDown ∧ a.ljoined = s.ljoined ∧ a.aapi = s.aapi := by
  unfold doLock at h
  split at h
  · simp only [Option.some.injEq] at h; subst h
    have h1 := top_touchM s m c
    have h2 := top_setOwn (touchM s m c) m c (some t)
    have h3 := top_setG (setOwn (touchM s m c) m c (some t)) t
      { (getG (setOwn (touchM s m c) m c (some t)) t) with held := mkey m c :: (getG (setOwn (touchM s m c) m c (some t)) t).held }
    obtain ⟨a1,a2,a3,a4,a5,a6,a7⟩ := h1; obtain ⟨b1,b2,b3,b4,b5,b6,b7⟩ := h2; obtain ⟨c1,c2,c3,c4,c5,c6,c7⟩ := h3
    exact ⟨c1.trans (b1.trans a1), c2.trans (b2.trans a2), c3.trans (b3.trans a3), c4.trans (b4.trans a4),
      c5.trans (b5.trans a5), c6.trans (b6.trans a6), c7.trans (b7.trans a7)⟩
  · cases h

@[simp] theorem lpc_doUnlock (s : State) (t : Tid) (m : MCls) (c : Nat) : (doUnlock s t m c).lpc = s.lpc :=
  (top_doUnlock s t m c).2.1
@[simp] theorem n_doUnlock (s : State) (t : Tid) (m : MCls) (c : Nat) : (doUnlock s t m c).n = s.n :=
  (top_doUnlock s t m c).2.2.1
theorem n_doLock {s a : State} {t : Tid} {m : MCls} {c : Nat} (hl : doLock s t m c = some a) : a.n = s.n :=
  (top_doLock hl).2.2.1
@[simp] theorem lisDown_doUnlock (s : State) (t : Tid) (m : MCls) (c : Nat) : (doUnlock s t m c).lisDown = s.lisDown :=
  (top_doUnlock s t m c).2.2.2.2.1
theorem lisDown_doLock {s a : State} {t : Tid} {m : MCls} {c : Nat} (hl : doLock s t m c = some a) : a.lisDown = s.lisDown :=
  (top_doLock hl).2.2.2.2.1
@[simp] theorem ljoined_doUnlock (s : State) (t : Tid) (m : MCls) (c : Nat) : (doUnlock s t m c).ljoined = s.ljoined :=
  (top_doUnlock s t m c).2.2.2.2.2.1
theorem ljoined_doLock {s a : State} {t : Tid} {m : MCls} {c : Nat} (hl : doLock s t m c = some a) : a.ljoined = s.ljoined :=
  (top_doLock hl).2.2.2.2.2.1
@[simp] theorem aapi_doUnlock (s : State) (t : Tid) (m : MCls) (c : Nat) : (doUnlock s t m c).aapi = s.aapi :=
  (top_doUnlock s t m c).2.2.2.2.2.2
theorem aapi_doLock {s a : State} {t : Tid} {m : MCls} {c : Nat} (hl : doLock s t m c = some a) : a.aapi = s.aapi :=
  (top_doLock hl).2.2.2.2.2.2

@[simp] theorem cl_raise (s : State) (f : Flag) : (raise s f).cl = s.cl := by cases f <;> rfl
@[simp] theorem lpc_raise (s : State) (f : Flag) : (raise s f).lpc = s.lpc := by cases f <;> rfl
@[simp] theorem n_raise (s : State) (f : Flag) : (raise s f).n = s.n := by cases f <;> rfl
@[simp] theorem lisDown_raise (s : State) (f : Flag) : (raise s f).lisDown = s.lisDown := by cases f <;> rfl
@[simp] theorem ljoined_raise (s : State) (f : Flag) : (raise s f).ljoined = s.ljoined := by cases f <;> rfl
@[simp] theorem aapi_raise (s : State) (f : Flag) : (raise s f).aapi = s.aapi := by cases f <;> rfl
@[simp] theorem cl_raiseIf (s : State) (f : Flag) (b : Bool) : (raiseIf s f b).cl = s.cl := by unfold raiseIf; split <;> (try rfl) <;> (cases f <;> rfl)
@[simp] theorem lpc_raiseIf (s : State) (f : Flag) (b : Bool) : (raiseIf s f b).lpc = s.lpc := by unfold raiseIf; split <;> (try rfl) <;> (cases f <;> rfl)
@[simp] theorem n_raiseIf (s : State) (f : Flag) (b : Bool) : (raiseIf s f b).n = s.n := by unfold raiseIf; split <;> (try rfl) <;> (cases f <;> rfl)
@[simp] theorem lisDown_raiseIf (s : State) (f : Flag) (b : Bool) : (raiseIf s f b).lisDown = s.lisDown := by unfold raiseIf; split <;> (try rfl) <;> (cases f <;> rfl)
@[simp] theorem ljoined_raiseIf (s : State) (f : Flag) (b : Bool) : (raiseIf s f b).ljoined = s.ljoined := by unfold raiseIf; split <;> (try rfl) <;> (cases f <;> rfl)
@[simp] theorem aapi_raiseIf (s : State) (f : Flag) (b : Bool) : (raiseIf s f b).aapi = s.aapi := by unfold raiseIf; split <;> (try rfl) <;> (cases f <;> rfl)
@[simp] theorem cl_setAlk (s : State) (l : List Nat) : (setAlk s l).cl = s.cl := by rfl
@[simp] theorem apc_setAlk (s : State) (l : List Nat) : (setAlk s l).apc = s.apc := by rfl
@[simp] theorem lpc_setAlk (s : State) (l : List Nat) : (setAlk s l).lpc = s.lpc := by rfl
@[simp] theorem n_setAlk (s : State) (l : List Nat) : (setAlk s l).n = s.n := by rfl
@[simp] theorem lisDown_setAlk (s : State) (l : List Nat) : (setAlk s l).lisDown = s.lisDown := by rfl
@[simp] theorem ljoined_setAlk (s : State) (l : List Nat) : (setAlk s l).ljoined = s.ljoined := by rfl
@[simp] theorem aapi_setAlk (s : State) (l : List Nat) : (setAlk s l).aapi = s.aapi := by rfl
@[simp] theorem cl_setAlkT (s : State) (t : Tid) (l : List Nat) : (setAlkT s t l).cl = s.cl := by unfold setAlkT; split <;> rfl
@[simp] theorem lpc_setAlkT (s : State) (t : Tid) (l : List Nat) : (setAlkT s t l).lpc = s.lpc := by unfold setAlkT; split <;> rfl
@[simp] theorem n_setAlkT (s : State) (t : Tid) (l : List Nat) : (setAlkT s t l).n = s.n := by unfold setAlkT; split <;> rfl
@[simp] theorem lisDown_setAlkT (s : State) (t : Tid) (l : List Nat) : (setAlkT s t l).lisDown = s.lisDown := by unfold setAlkT; split <;> rfl
@[simp] theorem ljoined_setAlkT (s : State) (t : Tid) (l : List Nat) : (setAlkT s t l).ljoined = s.ljoined := by unfold setAlkT; split <;> rfl
@[simp] theorem aapi_setAlkT (s : State) (t : Tid) (l : List Nat) : (setAlkT s t l).aapi = s.aapi := by unfold setAlkT; split <;> rfl
@[simp] theorem cl_setN (s : State) (k : Nat) : (setN s k).cl = s.cl := by rfl
@[simp] theorem lpc_setN (s : State) (k : Nat) : (setN s k).lpc = s.lpc := by rfl
@[simp] theorem lisDown_setN (s : State) (k : Nat) : (setN s k).lisDown = s.lisDown := by rfl
@[simp] theorem ljoined_setN (s : State) (k : Nat) : (setN s k).ljoined = s.ljoined := by rfl
@[simp] theorem aapi_setN (s : State) (k : Nat) : (setN s k).aapi = s.aapi := by rfl
@[simp] theorem cl_setAapi (s : State) (a : Api) : (setAapi s a).cl = s.cl := by rfl
@[simp] theorem lpc_setAapi (s : State) (a : Api) : (setAapi s a).lpc = s.lpc := by rfl
@[simp] theorem n_setAapi (s : State) (a : Api) : (setAapi s a).n = s.n := by rfl
@[simp] theorem lisDown_setAapi (s : State) (a : Api) : (setAapi s a).lisDown = s.lisDown := by rfl
@[simp] theorem ljoined_setAapi (s : State) (a : Api) : (setAapi s a).ljoined = s.ljoined := by rfl
@[simp] theorem cl_setLisDown (s : State) : (setLisDown s).cl = s.cl := by rfl
@[simp] theorem lpc_setLisDown (s : State) : (setLisDown s).lpc = s.lpc := by rfl
@[simp] theorem n_setLisDown (s : State) : (setLisDown s).n = s.n := by rfl
@[simp] theorem ljoined_setLisDown (s : State) : (setLisDown s).ljoined = s.ljoined := by rfl
@[simp] theorem aapi_setLisDown (s : State) : (setLisDown s).aapi = s.aapi := by rfl
@[simp] theorem cl_setLjoined (s : State) : (setLjoined s).cl = s.cl := by rfl
@[simp] theorem lpc_setLjoined (s : State) : (setLjoined s).lpc = s.lpc := by rfl
@[simp] theorem n_setLjoined (s : State) : (setLjoined s).n = s.n := by rfl
@[simp] theorem lisDown_setLjoined (s : State) : (setLjoined s).lisDown = s.lisDown := by rfl
@[simp] theorem aapi_setLjoined (s : State) : (setLjoined s).aapi = s.aapi := by rfl
theorem coreEq_incRef (s : State) (t : Tid) (c c' : Nat) :
    CoreEq ((incRef s t c).cl c')
      (if c' = c then { (s.cl c') with refCount := (s.cl c').refCount + 1 } else s.cl c') := by
  unfold incRef
  refine coreEq_trans (coreEq_setG _ t _ c') ?_
  rw [updCl_cl]; split
  · rename_i h; subst h; exact CoreEq.rfl' _
  · exact CoreEq.rfl' _

theorem coreEq_decRef (s : State) (t : Tid) (c c' : Nat) :
    CoreEq ((decRef s t c).cl c')
      (if c' = c then { (s.cl c') with refCount := (s.cl c').refCount - 1 } else s.cl c') := by
  have h : CoreEq ((updCl s c fun x => { x with refCount := x.refCount - 1 }).cl c')
      (if c' = c then { (s.cl c') with refCount := (s.cl c').refCount - 1 } else s.cl c') := by
    rw [updCl_cl]; split
    · rename_i h; subst h; exact CoreEq.rfl' _
    · exact CoreEq.rfl' _
  unfold decRef
  split
  · exact coreEq_trans (coreEq_setG _ t _ c') h
  · exact h

@[simp] theorem alive_incRef (s : State) (t : Tid) (c : Nat) (c' : Nat) : ((incRef s t c).cl c').alive = (s.cl c').alive :=
  (coreEq_incRef s t c c').1.trans (by split <;> rfl)
@[simp] theorem linked_incRef (s : State) (t : Tid) (c : Nat) (c' : Nat) : ((incRef s t c).cl c').linked = (s.cl c').linked :=
  (coreEq_incRef s t c c').2.1.trans (by split <;> rfl)
@[simp] theorem sockOpen_incRef (s : State) (t : Tid) (c : Nat) (c' : Nat) : ((incRef s t c).cl c').sockOpen = (s.cl c').sockOpen :=
  (coreEq_incRef s t c c').2.2.1.trans (by split <;> rfl)
@[simp] theorem st_incRef (s : State) (t : Tid) (c : Nat) (c' : Nat) : ((incRef s t c).cl c').st = (s.cl c').st :=
  (coreEq_incRef s t c c').2.2.2.1.trans (by split <;> rfl)
@[simp] theorem pipeNote_incRef (s : State) (t : Tid) (c : Nat) (c' : Nat) : ((incRef s t c).cl c').pipeNote = (s.cl c').pipeNote :=
  (coreEq_incRef s t c c').2.2.2.2.1.trans (by split <;> rfl)
@[simp] theorem goneCnt_incRef (s : State) (t : Tid) (c : Nat) (c' : Nat) : ((incRef s t c).cl c').goneCnt = (s.cl c').goneCnt :=
  (coreEq_incRef s t c c').2.2.2.2.2.2.1.trans (by split <;> rfl)
@[simp] theorem ipc_incRef (s : State) (t : Tid) (c : Nat) (c' : Nat) : ((incRef s t c).cl c').ipc = (s.cl c').ipc :=
  (coreEq_incRef s t c c').2.2.2.2.2.2.2.1.trans (by split <;> rfl)
@[simp] theorem opc_incRef (s : State) (t : Tid) (c : Nat) (c' : Nat) : ((incRef s t c).cl c').opc = (s.cl c').opc :=
  (coreEq_incRef s t c c').2.2.2.2.2.2.2.2.1.trans (by split <;> rfl)
@[simp] theorem ijoined_incRef (s : State) (t : Tid) (c : Nat) (c' : Nat) : ((incRef s t c).cl c').ijoined = (s.cl c').ijoined :=
  (coreEq_incRef s t c c').2.2.2.2.2.2.2.2.2.1.trans (by split <;> rfl)
@[simp] theorem ojoined_incRef (s : State) (t : Tid) (c : Nat) (c' : Nat) : ((incRef s t c).cl c').ojoined = (s.cl c').ojoined :=
  (coreEq_incRef s t c c').2.2.2.2.2.2.2.2.2.2.trans (by split <;> rfl)
@[simp] theorem alive_decRef (s : State) (t : Tid) (c : Nat) (c' : Nat) : ((decRef s t c).cl c').alive = (s.cl c').alive :=
  (coreEq_decRef s t c c').1.trans (by split <;> rfl)
@[simp] theorem linked_decRef (s : State) (t : Tid) (c : Nat) (c' : Nat) : ((decRef s t c).cl c').linked = (s.cl c').linked :=
  (coreEq_decRef s t c c').2.1.trans (by split <;> rfl)
@[simp] theorem sockOpen_decRef (s : State) (t : Tid) (c : Nat) (c' : Nat) : ((decRef s t c).cl c').sockOpen = (s.cl c').sockOpen :=
  (coreEq_decRef s t c c').2.2.1.trans (by split <;> rfl)
@[simp] theorem st_decRef (s : State) (t : Tid) (c : Nat) (c' : Nat) : ((decRef s t c).cl c').st = (s.cl c').st :=
  (coreEq_decRef s t c c').2.2.2.1.trans (by split <;> rfl)
@[simp] theorem pipeNote_decRef (s : State) (t : Tid) (c : Nat) (c' : Nat) : ((decRef s t c).cl c').pipeNote = (s.cl c').pipeNote :=
  (coreEq_decRef s t c c').2.2.2.2.1.trans (by split <;> rfl)
@[simp] theorem goneCnt_decRef (s : State) (t : Tid) (c : Nat) (c' : Nat) : ((decRef s t c).cl c').goneCnt = (s.cl c').goneCnt :=
  (coreEq_decRef s t c c').2.2.2.2.2.2.1.trans (by split <;> rfl)
@[simp] theorem ipc_decRef (s : State) (t : Tid) (c : Nat) (c' : Nat) : ((decRef s t c).cl c').ipc = (s.cl c').ipc :=
  (coreEq_decRef s t c c').2.2.2.2.2.2.2.1.trans (by split <;> rfl)
@[simp] theorem opc_decRef (s : State) (t : Tid) (c : Nat) (c' : Nat) : ((decRef s t c).cl c').opc = (s.cl c').opc :=
  (coreEq_decRef s t c c').2.2.2.2.2.2.2.2.1.trans (by split <;> rfl)
@[simp] theorem ijoined_decRef (s : State) (t : Tid) (c : Nat) (c' : Nat) : ((decRef s t c).cl c').ijoined = (s.cl c').ijoined :=
  (coreEq_decRef s t c c').2.2.2.2.2.2.2.2.2.1.trans (by split <;> rfl)
@[simp] theorem ojoined_decRef (s : State) (t : Tid) (c : Nat) (c' : Nat) : ((decRef s t c).cl c').ojoined = (s.cl c').ojoined :=
  (coreEq_decRef s t c c').2.2.2.2.2.2.2.2.2.2.trans (by split <;> rfl)
@[simp] theorem lpc_incRef (s : State) (t : Tid) (c : Nat) : (incRef s t c).lpc = s.lpc := by
  unfold incRef; exact (top_setG _ t _).2.1
@[simp] theorem n_incRef (s : State) (t : Tid) (c : Nat) : (incRef s t c).n = s.n := by
  unfold incRef; exact (top_setG _ t _).2.2.1
@[simp] theorem lisDown_incRef (s : State) (t : Tid) (c : Nat) : (incRef s t c).lisDown = s.lisDown := by
  unfold incRef; exact (top_setG _ t _).2.2.2.2.1
@[simp] theorem ljoined_incRef (s : State) (t : Tid) (c : Nat) : (incRef s t c).ljoined = s.ljoined := by
  unfold incRef; exact (top_setG _ t _).2.2.2.2.2.1
@[simp] theorem aapi_incRef (s : State) (t : Tid) (c : Nat) : (incRef s t c).aapi = s.aapi := by
  unfold incRef; exact (top_setG _ t _).2.2.2.2.2.2
@[simp] theorem lpc_decRef (s : State) (t : Tid) (c : Nat) : (decRef s t c).lpc = s.lpc := by
  unfold decRef; split
  · exact (top_setG _ t _).2.1
  · rfl
@[simp] theorem n_decRef (s : State) (t : Tid) (c : Nat) : (decRef s t c).n = s.n := by
  unfold decRef; split
  · exact (top_setG _ t _).2.2.1
  · rfl
@[simp] theorem lisDown_decRef (s : State) (t : Tid) (c : Nat) : (decRef s t c).lisDown = s.lisDown := by
  unfold decRef; split
  · exact (top_setG _ t _).2.2.2.2.1
  · rfl
@[simp] theorem ljoined_decRef (s : State) (t : Tid) (c : Nat) : (decRef s t c).ljoined = s.ljoined := by
  unfold decRef; split
  · exact (top_setG _ t _).2.2.2.2.2.1
  · rfl
@[simp] theorem aapi_decRef (s : State) (t : Tid) (c : Nat) : (decRef s t c).aapi = s.aapi := by
  unfold decRef; split
  · exact (top_setG _ t _).2.2.2.2.2.2
  · rfl
theorem refCount_incRef (s : State) (t : Tid) (c c' : Nat) :
    ((incRef s t c).cl c').refCount = if c' = c then (s.cl c).refCount + 1 else (s.cl c').refCount := by
  have h := coreEq_incRef s t c c'; unfold CoreEq at h; rw [(((((h).2).2).2).2).2.1]; split
  · rename_i e; rw [e]
  · rfl
theorem refCount_decRef (s : State) (t : Tid) (c c' : Nat) :
    ((decRef s t c).cl c').refCount = if c' = c then (s.cl c).refCount - 1 else (s.cl c').refCount := by
  have h := coreEq_decRef s t c c'; unfold CoreEq at h; rw [(((((h).2).2).2).2).2.1]; split
  · rename_i e; rw [e]
  · rfl

@[simp] theorem lpc_setI (s : State) (c : Nat) (pc : IPc) : (setI s c pc).lpc = s.lpc := rfl
@[simp] theorem n_setI (s : State) (c : Nat) (pc : IPc) : (setI s c pc).n = s.n := rfl
@[simp] theorem lisDown_setI (s : State) (c : Nat) (pc : IPc) : (setI s c pc).lisDown = s.lisDown := rfl
@[simp] theorem lpc_setO (s : State) (c : Nat) (pc : OPc) : (setO s c pc).lpc = s.lpc := rfl
@[simp] theorem n_setO (s : State) (c : Nat) (pc : OPc) : (setO s c pc).n = s.n := rfl
@[simp] theorem lisDown_setO (s : State) (c : Nat) (pc : OPc) : (setO s c pc).lisDown = s.lisDown := rfl
@[simp] theorem lisDown_setC (s : State) (t : Tid) (pc : CPc) : (setC s t pc).lisDown = s.lisDown := by cases t <;> rfl
theorem cl_setI (s : State) (c : Nat) (pc : IPc) (c' : Nat) :
    (setI s c pc).cl c' = if c' = c then { (s.cl c) with ipc := pc } else s.cl c' := by
  unfold setI; rw [updCl_cl]
theorem cl_setO (s : State) (c : Nat) (pc : OPc) (c' : Nat) :
    (setO s c pc).cl c' = if c' = c then { (s.cl c) with opc := pc } else s.cl c' := by
  unfold setO; rw [updCl_cl]
@[simp] theorem lpc_signalU (s : State) (c : Nat) : (signalU s c).lpc = s.lpc := by unfold signalU; split <;> simp
@[simp] theorem n_signalU (s : State) (c : Nat) : (signalU s c).n = s.n := by unfold signalU; split <;> simp
@[simp] theorem n_signalD (s : State) (c : Nat) : (signalD s c).n = s.n := by
  unfold signalD; simp only []; split <;> split <;> split <;> simp


end VncModel.Threads
