import VncModel.Threads.NoUaf
/-! The client-gone hook runs at most once per client record, not at all before
rfbClientConnectionGone reaches it, and exactly once by the time the record is freed. -/
set_option linter.unusedSimpArgs false
namespace VncModel.Threads

/-- 0: no input thread yet; 1: before the hook; 2: hook done -/
def iClass : IPc → Nat
  | .notStarted => 0
  | .g st => (match st with | .lockO | .unlockO | .lockS | .unlockS => 2 | _ => 1)
  | .exiting | .exited => 2
  | _ => 1

/-- the record a calling thread is creating / tearing down, before (1) or after (2) the hook -/
def cClass : CPc → Option (Nat × Nat)
  | .cr st c => (match st with | .alloc => none | _ => some (c, 1))
  | .gone g c => (match g with | .lockO | .unlockO | .lockS | .unlockS => some (c, 2) | _ => some (c, 1))
  | _ => none

structure GoneInv (s : State) : Prop where
  le : ∀ c, (s.cl c).goneCnt ≤ 1
  ipre : ∀ c, iClass (s.cl c).ipc = 1 → (s.cl c).goneCnt = 0
  ipost : ∀ c, iClass (s.cl c).ipc = 2 → (s.cl c).goneCnt = 1
  cpre : ∀ t c, cClass (getC s t) = some (c, 1) → (s.cl c).goneCnt = 0
  cpost : ∀ t c, cClass (getC s t) = some (c, 2) → (s.cl c).goneCnt = 1

theorem goneInv_init : GoneInv State.init := by
  constructor
  · intro c; simp [State.init]
  · intro c; simp [State.init, iClass]
  · intro c; simp [State.init, iClass]
  · intro t c; cases t <;> simp [State.init, getC, cClass]
  · intro t c; cases t <;> simp [State.init, getC, cClass]

structure GSame (s s' : State) : Prop where
  cl : ∀ c, (s'.cl c).goneCnt = (s.cl c).goneCnt ∧ (s'.cl c).ipc = (s.cl c).ipc
  apc : s'.apc = s.apc
  lpc : s'.lpc = s.lpc

theorem getC_gsame {s s' : State} (h : GSame s s') (t : Tid) : getC s' t = getC s t := getC_congr h.apc h.lpc t

theorem goneInv_of_gsame {s s' : State} (h : GSame s s') (hg : GoneInv s) : GoneInv s' := by
  have e := h.cl
  constructor
  · intro c; rw [(e c).1]; exact hg.le c
  · intro c; rw [(e c).1, (e c).2]; exact hg.ipre c
  · intro c; rw [(e c).1, (e c).2]; exact hg.ipost c
  · intro t c; rw [getC_gsame h, (e c).1]; exact hg.cpre t c
  · intro t c; rw [getC_gsame h, (e c).1]; exact hg.cpost t c

theorem GSame.symm {a b : State} (h : GSame a b) : GSame b a :=
  ⟨fun x => ⟨(h.cl x).1.symm, (h.cl x).2.symm⟩, h.apc.symm, h.lpc.symm⟩

theorem goneInv_iff_of_gsame {s s' : State} (h : GSame s s') : GoneInv s' ↔ GoneInv s :=
  ⟨goneInv_of_gsame h.symm, goneInv_of_gsame h⟩

theorem gsame_of_core {s s' : State} (hc : ∀ c, CoreEq (s'.cl c) (s.cl c))
    (ht : s'.apc = s.apc ∧ s'.lpc = s.lpc ∧ s'.n = s.n ∧ s'.alk = s.alk ∧ s'.lisDown = s.lisDown ∧ s'.ljoined = s.ljoined ∧
      s'.aapi = s.aapi) : GSame s s' := by
  refine ⟨fun x => ?_, ht.1, ht.2.1⟩
  have := hc x; unfold CoreEq at this
  exact ⟨this.2.2.2.2.2.2.1, this.2.2.2.2.2.2.2.1⟩

/-- record updates the invariant does not look at -/
def GoneNeutral (f : Client → Client) : Prop := ∀ x, (f x).goneCnt = x.goneCnt ∧ (f x).ipc = x.ipc
theorem goneNeutral_iff (f : Client → Client) : GoneNeutral f ↔ ∀ x, (f x).goneCnt = x.goneCnt ∧ (f x).ipc = x.ipc := Iff.rfl

theorem gsame_updCl (s : State) (c : Nat) (f : Client → Client) (hf : GoneNeutral f) : GSame s (updCl s c f) := by
  refine ⟨fun x => ?_, rfl, rfl⟩
  rw [updCl_cl]; split
  · rename_i h; subst h; exact hf _
  · exact ⟨rfl, rfl⟩

theorem gsame_setG (s : State) (t : Tid) (g : Ghost) : GSame s (setG s t g) :=
  gsame_of_core (coreEq_setG s t g) (top_setG s t g)

@[simp] theorem gone_doUnlock (s : State) (t : Tid) (m : MCls) (c : Nat) : GoneInv (doUnlock s t m c) ↔ GoneInv s :=
  goneInv_iff_of_gsame (gsame_of_core (coreEq_doUnlock s t m c) (top_doUnlock s t m c))
@[simp] theorem gone_touch (s : State) (c : Nat) : GoneInv (touch s c) ↔ GoneInv s :=
  goneInv_iff_of_gsame (gsame_of_core (fun c' => by rw [touch_cl]; exact CoreEq.rfl' _) (top_touch s c))
@[simp] theorem gone_raise (s : State) (f : Flag) : GoneInv (raise s f) ↔ GoneInv s :=
  goneInv_iff_of_gsame (by cases f <;> exact ⟨fun _ => ⟨rfl, rfl⟩, rfl, rfl⟩)
@[simp] theorem gone_raiseIf (s : State) (f : Flag) (b : Bool) : GoneInv (raiseIf s f b) ↔ GoneInv s := by
  unfold raiseIf; split <;> simp
theorem gone_updCl (s : State) (c : Nat) (f : Client → Client) (hf : GoneNeutral f) : GoneInv (updCl s c f) ↔ GoneInv s :=
  goneInv_iff_of_gsame (gsame_updCl s c f hf)
@[simp] theorem gone_setAapi (s : State) (a : Api) : GoneInv (setAapi s a) ↔ GoneInv s :=
  goneInv_iff_of_gsame ⟨fun _ => ⟨rfl, rfl⟩, rfl, rfl⟩
@[simp] theorem gone_setLisDown (s : State) : GoneInv (setLisDown s) ↔ GoneInv s :=
  goneInv_iff_of_gsame ⟨fun _ => ⟨rfl, rfl⟩, rfl, rfl⟩
@[simp] theorem gone_setLjoined (s : State) : GoneInv (setLjoined s) ↔ GoneInv s :=
  goneInv_iff_of_gsame ⟨fun _ => ⟨rfl, rfl⟩, rfl, rfl⟩
@[simp] theorem gone_setAlkT (s : State) (t : Tid) (l : List Nat) : GoneInv (setAlkT s t l) ↔ GoneInv s := by
  unfold setAlkT; split
  · exact goneInv_iff_of_gsame ⟨fun _ => ⟨rfl, rfl⟩, rfl, rfl⟩
  · exact Iff.rfl
@[simp] theorem gone_setO (s : State) (c : Nat) (pc : OPc) : GoneInv (setO s c pc) ↔ GoneInv s :=
  gone_updCl s c _ (by intro x; simp)
@[simp] theorem gone_signalU (s : State) (c : Nat) : GoneInv (signalU s c) ↔ GoneInv s := by
  unfold signalU; split <;> simp
@[simp] theorem gone_incRef (s : State) (t : Tid) (c : Nat) : GoneInv (incRef s t c) ↔ GoneInv s := by
  unfold incRef; simp only []
  rw [goneInv_iff_of_gsame (gsame_setG _ t _)]; exact gone_updCl s c _ (by intro x; simp)
@[simp] theorem gone_decRef (s : State) (t : Tid) (c : Nat) : GoneInv (decRef s t c) ↔ GoneInv s := by
  unfold decRef; split
  · simp only []; rw [goneInv_iff_of_gsame (gsame_setG _ t _)]; exact gone_updCl s c _ (by intro x; simp)
  · rw [gone_raise]; exact gone_updCl s c _ (by intro x; simp)

theorem gone_upd_setC {X : State} {c : Nat} {f : Client → Client} {t : Tid} {pc' : CPc} (ht : t = .app ∨ t = .lis)
    (hg : GoneInv X) (h_le : (f (X.cl c)).goneCnt ≤ 1)
    (h_ipre : iClass (f (X.cl c)).ipc = 1 → (f (X.cl c)).goneCnt = 0)
    (h_ipost : iClass (f (X.cl c)).ipc = 2 → (f (X.cl c)).goneCnt = 1)
    (h_cpre : ∀ t', t' ≠ t → cClass (getC X t') = some (c, 1) → (f (X.cl c)).goneCnt = 0)
    (h_cpost : ∀ t', t' ≠ t → cClass (getC X t') = some (c, 2) → (f (X.cl c)).goneCnt = 1)
    (h_pre : ∀ c', cClass pc' = some (c', 1) → ((updCl X c f).cl c').goneCnt = 0)
    (h_post : ∀ c', cClass pc' = some (c', 2) → ((updCl X c f).cl c').goneCnt = 1) :
    GoneInv (setC (updCl X c f) t pc') := by
  constructor
  · intro c'; rw [setC_cl, updCl_cl]; split
    · rename_i e; subst e; exact h_le
    · exact hg.le _
  · intro c'; rw [setC_cl, updCl_cl]; split
    · rename_i e; subst e; exact h_ipre
    · exact hg.ipre _
  · intro c'; rw [setC_cl, updCl_cl]; split
    · rename_i e; subst e; exact h_ipost
    · exact hg.ipost _
  · intro t' c'; rw [setC_cl, getC_setC _ _ _ ht, getC_updCl]; split
    · exact h_pre c'
    · rename_i hne; rw [updCl_cl]; split
      · rename_i e; subst e; exact h_cpre t' hne
      · exact hg.cpre t' _
  · intro t' c'; rw [setC_cl, getC_setC _ _ _ ht, getC_updCl]; split
    · exact h_post c'
    · rename_i hne; rw [updCl_cl]; split
      · rename_i e; subst e; exact h_cpost t' hne
      · exact hg.cpost t' _

theorem gone_upd {X : State} {c : Nat} {f : Client → Client} (hg : GoneInv X)
    (h_le : (f (X.cl c)).goneCnt ≤ 1)
    (h_ipre : iClass (f (X.cl c)).ipc = 1 → (f (X.cl c)).goneCnt = 0)
    (h_ipost : iClass (f (X.cl c)).ipc = 2 → (f (X.cl c)).goneCnt = 1)
    (h_cpre : ∀ t, cClass (getC X t) = some (c, 1) → (f (X.cl c)).goneCnt = 0)
    (h_cpost : ∀ t, cClass (getC X t) = some (c, 2) → (f (X.cl c)).goneCnt = 1) : GoneInv (updCl X c f) := by
  -- the application thread "moves" to where it is
  refine gone_upd_setC (t := .app) (pc' := X.apc) (.inl rfl) hg h_le h_ipre h_ipost (fun t' _ => h_cpre t')
    (fun t' _ => h_cpost t') (fun c' e => ?_) (fun c' e => ?_)
  all_goals rw [updCl_cl]; split
  · rename_i e'; subst e'; exact h_cpre .app e
  · exact hg.cpre .app c' e
  · rename_i e'; subst e'; exact h_cpost .app e
  · exact hg.cpost .app c' e

/-- `pc'` is in the class of `pc`.  The step lemmas below are used as rewrite rules, with this as a side
condition; it is a proposition of its own, opened by the lemma `sameIClass_iff` (not by unfolding), because
`simp` rejects its own proof of a side condition whose first simplification step is definitional
(`goneNeutral_iff`, `sameCClass_iff` likewise). -/
def SameIClass (pc' pc : IPc) : Prop := iClass pc' = iClass pc
theorem sameIClass_iff (pc' pc : IPc) : SameIClass pc' pc ↔ iClass pc' = iClass pc := Iff.rfl

theorem gone_setI {X : State} {c : Nat} {pc' : IPc} (hg : GoneInv X) (h : SameIClass pc' (X.cl c).ipc) :
    GoneInv (setI X c pc') :=
  gone_upd hg (hg.le c) (fun e => hg.ipre c (h.symm.trans e)) (fun e => hg.ipost c (h.symm.trans e))
    (fun t => hg.cpre t c) (fun t => hg.cpost t c)

/-- `pc'` works on the record `pc` works on, at the same side of the hook, or on none -/
def SameCClass (pc' pc : CPc) : Prop := cClass pc' = none ∨ cClass pc' = cClass pc
theorem sameCClass_iff (pc' pc : CPc) : SameCClass pc' pc ↔ cClass pc' = none ∨ cClass pc' = cClass pc := Iff.rfl

theorem gone_setC {X : State} {t : Tid} {pc' : CPc} (ht : t = .app ∨ t = .lis) (hg : GoneInv X)
    (h : SameCClass pc' (getC X t)) : GoneInv (setC X t pc') := by
  unfold SameCClass at h
  constructor
  · intro c; rw [setC_cl]; exact hg.le c
  · intro c; rw [setC_cl]; exact hg.ipre c
  · intro c; rw [setC_cl]; exact hg.ipost c
  · intro t' c; rw [setC_cl, getC_setC _ _ _ ht]; split
    · rename_i e; subst e; intro e'
      rcases h with h | h
      · rw [h] at e'; cases e'
      · rw [h] at e'; exact hg.cpre _ c e'
    · exact hg.cpre t' c
  · intro t' c; rw [setC_cl, getC_setC _ _ _ ht]; split
    · rename_i e; subst e; intro e'
      rcases h with h | h
      · rw [h] at e'; cases e'
      · rw [h] at e'; exact hg.cpost _ c e'
    · exact hg.cpost t' c

theorem gone_signalD {X : State} (c : Nat) (hg : GoneInv X) : GoneInv (signalD X c) := by
  unfold signalD
  simp only []
  have h1 : GoneInv (if (X.cl c).ipc = .g .blocked then setI X c (.g .wakeD) else X) := by
    split
    · rename_i h; exact gone_setI hg (by rw [h]; rfl)
    · exact hg
  generalize (if (X.cl c).ipc = .g .blocked then setI X c (.g .wakeD) else X) = Y at h1
  have h2 : GoneInv (if Y.apc = .gone .blocked c then setC Y .app (.gone .wakeD c) else Y) := by
    split
    · rename_i h; exact gone_setC (Or.inl rfl) h1 (Or.inr (by simp [getC, h, cClass]))
    · exact h1
  generalize (if Y.apc = .gone .blocked c then setC Y .app (.gone .wakeD c) else Y) = Z at h2
  split
  · rename_i h; exact gone_setC (Or.inr rfl) h2 (Or.inr (by simp [getC, h, cClass]))
  · exact h2

theorem crOf_of_cClass {pc : CPc} {c k : Nat} (h : cClass pc = some (c, k)) : ∃ b, crOf pc = some (c, b) := by
  cases pc <;> simp [cClass] at h
  · rename_i st c'
    cases st <;> simp at h <;> (obtain ⟨rfl, _⟩ := h; exact ⟨_, rfl⟩)
  · rename_i g c'
    have : c' = c := by cases g <;> simp at h <;> exact h.1
    subst this; exact ⟨_, rfl⟩

theorem idx_of_cClass {pc : CPc} {c k : Nat} (h : cClass pc = some (c, k)) : c ∈ idxC pc := by
  cases pc <;> simp [cClass] at h
  · rename_i st c'
    cases st <;> simp at h <;> (obtain ⟨rfl, _⟩ := h; simp [idxC])
  · rename_i g c'
    have : c' = c := by cases g <;> simp at h <;> exact h.1
    subst this; simp [idxC]

/-- the hook runs in the input thread -/
theorem gone_hook_inp {X : State} {c : Nat} (hl : Life X) (hg : GoneInv X) (h : (X.cl c).ipc = .g .gone) :
    GoneInv (setI (updCl X c (fun x => { x with goneCnt := x.goneCnt + 1 })) c (.g .lockO)) := by
  have h0 : (X.cl c).goneCnt + 1 = 1 := by rw [hg.ipre c (by rw [h]; rfl)]
  have hno : ∀ t k, cClass (getC X t) = some (c, k) → (X.cl c).goneCnt + 1 = k - 1 := by
    intro t k e
    obtain ⟨b, eb⟩ := crOf_of_cClass e
    have := (hl.cr t c b eb).2.1; rw [this] at h; cases h
  unfold setI; rw [updCl_updCl]
  exact gone_upd hg (Nat.le_of_eq h0) (fun e => nomatch e) (fun _ => h0) (hno · 1) (hno · 2)

/-- the hook runs in a calling thread (failed creation) -/
theorem gone_hook_c {X : State} {c : Nat} {t : Tid} (ht : t = .app ∨ t = .lis) (hl : Life X) (hg : GoneInv X)
    (h : getC X t = .gone .gone c) :
    GoneInv (setC (updCl X c (fun x => { x with goneCnt := x.goneCnt + 1 })) t (.gone .lockO c)) := by
  have h0 : (X.cl c).goneCnt + 1 = 1 := by rw [hg.cpre t c (by rw [h]; rfl)]
  have hcur : crOf (getC X t) = some (c, false) := by rw [h]; rfl
  have hi := (hl.cr t c false hcur).2.1
  have hno : ∀ t' k, t' ≠ t → cClass (getC X t') = some (c, k) → (X.cl c).goneCnt + 1 = k - 1 := by
    intro t' k hne e
    obtain ⟨b, eb⟩ := crOf_of_cClass e
    exact (cr_excl' hl hne hcur eb).elim
  refine gone_upd_setC ht hg (Nat.le_of_eq h0) (fun e => ?_) (fun e => ?_) (hno · 1) (hno · 2) (fun c' e => nomatch e)
    (fun c' e => ?_)
  · simp only [hi] at e; exact nomatch e
  · simp only [hi] at e; exact nomatch e
  · cases e; rw [updCl_cl_same]; exact h0

/-- calloc: a fresh record, hook not run -/
theorem gone_alloc {s : State} {t : Tid} (ht : t = .app ∨ t = .lis) (hg : GoneInv s) (hb : Bnd s) :
    GoneInv (setC (setN (updCl s s.n Client.fresh) (s.n + 1)) t (.cr .insLock s.n)) := by
  have hi := hb.ipc_n
  have hno : ∀ t' k, cClass (getC s t') = some (s.n, k) → (Client.fresh (s.cl s.n)).goneCnt = k - 1 := by
    intro t' k e
    have hm := idx_of_cClass e
    cases t' with
    | app => have := hb.app _ hm; omega
    | lis => have := hb.lis _ hm; omega
    | _ => exact nomatch e
  have h := gone_upd_setC (f := Client.fresh) (pc' := .cr .insLock s.n) ht hg (Nat.zero_le 1) (fun _ => rfl)
    (fun e => by simp only [Client.fresh, hi] at e; exact nomatch e) (fun t' _ => hno t' 1) (fun t' _ => hno t' 2)
    (fun c' e => by cases e; rw [updCl_cl_same]; rfl) (fun c' e => nomatch e)
  exact goneInv_of_gsame (s := setC (updCl s s.n Client.fresh) t _)
    ⟨fun _ => by cases t <;> exact ⟨rfl, rfl⟩, by cases t <;> rfl, by cases t <;> rfl⟩ h

@[gone_frame ↓] theorem cClass_finished (t : Tid) : cClass (finished t) = none := by cases t <;> rfl

/-- pthread_create of the input thread: the record passes from the creating thread to its own thread -/
theorem gone_startInp {X : State} {c : Nat} {t : Tid} (ht : t = .app ∨ t = .lis) (hg : GoneInv X)
    (h : getC X t = .cr .create c) : GoneInv (setC (setI X c .createO) t (finished t)) := by
  have h0 := hg.cpre t c (by rw [h]; rfl)
  refine gone_upd_setC ht hg (hg.le c) (fun _ => h0) (fun e => nomatch e) (fun t' _ => hg.cpre t' c)
    (fun t' _ => hg.cpost t' c) (fun c' e => ?_) (fun c' e => ?_)
  · rw [cClass_finished] at e; cases e
  · rw [cClass_finished] at e; cases e

theorem ipc_setO (s : State) (c : Nat) (pc : OPc) (c' : Nat) : ((setO s c pc).cl c').ipc = (s.cl c').ipc := by
  rw [cl_setO]; split
  · rename_i e; rw [e]
  · rfl

theorem gone_locked (s : State) (t : Tid) (m : MCls) (c : Nat) : GoneInv (locked s t m c) ↔ GoneInv s :=
  goneInv_iff_of_gsame ⟨fun x => ⟨goneCnt_locked s t m c x, ipc_locked s t m c x⟩, apc_locked s t m c, lpc_locked s t m c⟩

theorem getC_doUnlock (s : State) (t : Tid) (m : MCls) (c : Nat) (t' : Tid) : getC (doUnlock s t m c) t' = getC s t' :=
  getC_congr (apc_doUnlock s t m c) (lpc_doUnlock s t m c) t'
theorem getC_locked (s : State) (t : Tid) (m : MCls) (c : Nat) (t' : Tid) : getC (locked s t m c) t' = getC s t' :=
  getC_congr (apc_locked s t m c) (lpc_locked s t m c) t'
theorem getC_touch (s : State) (c : Nat) (t' : Tid) : getC (touch s c) t' = getC s t' :=
  getC_congr (touch_apc s c) (touch_lpc s c) t'

@[gone_frame ↓] theorem cClass_afterNext (t : Tid) (p : Proc) (prev nxt : Option Nat) : cClass (afterNext t p prev nxt) = none := by
  unfold afterNext; split <;> first | rfl | exact cClass_finished t

@[gone_frame ↓] theorem cClass_ite (b : Prop) [Decidable b] (pc pc' : CPc) :
    cClass (if b then pc else pc') = if b then cClass pc else cClass pc' := by
  split <;> rfl

@[gone_frame ↓] theorem cClass_gone_ite (b : Prop) [Decidable b] (g g' : GSt) (c : Nat) :
    cClass (.gone (if b then g else g') c) = if b then cClass (.gone g c) else cClass (.gone g' c) := by
  split <;> rfl

attribute [gone_frame] gone_doUnlock gone_locked gone_touch gone_raise gone_raiseIf gone_setAapi gone_setLisDown gone_setLjoined
  gone_setAlkT gone_setO gone_signalU gone_incRef gone_decRef gone_updCl goneNeutral_iff gone_setI gone_setC gone_signalD gone_hook_inp gone_hook_c
  gone_alloc gone_startInp sameIClass_iff sameCClass_iff
  life_touch life_doUnlock getC_doUnlock getC_locked getC_touch getC_signalU getC_updCl getC_setI
  ipc_doUnlock ipc_locked ipc_setO ipc_signalU touch_cl cl_raise cl_raiseIf updCl_cl_same ite_self
  cClass iClass nextIter reduceCtorEq or_true true_or or_false false_or and_self and_true eq_self

theorem goneInv_out {s : State} {c : Nat} (hg : GoneInv s) : ∀ x ∈ outSucc s c, GoneInv x.2 := by
  unfold outSucc
  split
  all_goals (try unfold storeSt)
  all_goals simp only [succ_forall, gone_frame, *]

theorem goneInv_gone_inp {s : State} {c : Nat} {g : GSt} (hl : Life s) (hg : GoneInv s) (hpc : (s.cl c).ipc = .g g) :
    ∀ x ∈ goneSucc s (.inp c) g c (fun s1 g1 => setI s1 c (.g g1)) (fun s1 => setI s1 c .exiting), GoneInv x.2 := by
  unfold goneSucc
  split
  all_goals simp only [succ_forall]
  all_goals (repeat' split)
  all_goals simp only [succ_forall, gone_frame, *]

theorem goneInv_inp {s : State} {c : Nat} (hl : Life s) (hg : GoneInv s) : ∀ x ∈ inpSucc s c, GoneInv x.2 := by
  unfold inpSucc
  split
  all_goals (try unfold storeSt)
  all_goals first
    | exact goneInv_gone_inp hl hg ‹_›
    | simp only [succ_forall, gone_frame, *]


theorem goneInv_caller {s : State} {t : Tid} (ht : t = .app ∨ t = .lis) (hl : Life s) (hg : GoneInv s) (hb : Bnd s) :
    ∀ x ∈ callerSucc s t, GoneInv x.2 := by
  unfold callerSucc
  split
  all_goals (try unfold iterSucc)
  all_goals (try unfold bodySucc)
  all_goals (try unfold closeSucc)
  all_goals (try unfold nfSucc)
  all_goals (try unfold crSucc)
  all_goals (try unfold goneSucc)
  all_goals (try unfold storeSt)
  all_goals (try simp only [])
  all_goals (repeat' split)
  all_goals (try simp only [doLock_eq_some] at *)
  all_goals simp only [succ_forall, gone_frame, *]

theorem goneInv_step {s s' : State} (hr : Reach s) (hg : GoneInv s) (hs : Step s s') : GoneInv s' :=
  step_cases (fun _ ht _ => goneInv_caller ht (life_reach hr) hg (bnd_reach hr)) (fun _ => goneInv_inp (life_reach hr) hg)
    (fun _ => goneInv_out hg) hs

theorem goneInv_reach {s : State} (h : Reach s) : GoneInv s := by
  induction h with
  | init => exact goneInv_init
  | step hr hs ih => exact goneInv_step hr ih hs

end VncModel.Threads
