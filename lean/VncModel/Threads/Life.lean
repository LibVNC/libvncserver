import VncModel.Threads.Refs
/-! Life cycle of a client record: allocated → linked → (threads) → unlinked → freed, and who may
touch it when.  `Life` is the invariant; that every step preserves it is shown in LifeStep.lean, the
consequences (no use-after-free, no double free) are in NoUaf.lean. -/
set_option linter.unusedSimpArgs false
namespace VncModel.Threads

/-- stages of rfbClientConnectionGone before the record is taken out of the list -/
def gPre : GSt → Bool
  | .lockL | .lockR | .unlockLw | .waitD | .blocked | .wakeD | .unlockRw | .unlockR => true
  | _ => false

/-- the input thread exists and its record is allocated -/
def ipcAlive : IPc → Bool
  | .notStarted | .exiting | .exited => false
  | _ => true

/-- ... and still in the client list -/
def ipcLinked : IPc → Bool
  | .createO | .sel | .w1 | .f1 | .f2 | .e1 | .k _ | .x0 | .x0s | .x1 | .x2 | .x3 | .x4 | .x4s | .x4u => true
  | .g st => gPre st
  | _ => false

/-- the input thread has created and not yet joined the output thread -/
def ipcHasOut : IPc → Bool
  | .sel | .w1 | .f1 | .f2 | .e1 | .k _ | .x0 | .x0s | .x1 | .x2 | .x3 => true
  | _ => false

/-- after the join, up to the unlink -/
def ipcPre : IPc → Bool
  | .x4 | .x4s | .x4u => true
  | .g st => gPre st
  | _ => false

def opcRun : OPc → Bool
  | .notStarted | .exited => false
  | _ => true

/-- the client a calling thread is creating / tearing down after a failed creation, and whether the
record is in the list at that stage -/
def crOf : CPc → Option (Nat × Bool)
  | .cr st c => (match st with | .alloc => none | .insLock => some (c, false) | _ => some (c, true))
  | .gone g c => some (c, gPre g)
  | _ => none

/-- rfbNewFramebuffer's list of remembered clients is a local of the application thread -/
def alkOf (s : State) (t : Tid) : List Nat :=
  match t with
  | .app => s.alk
  | _ => []

/-- the clients a calling thread relies on being in the list (besides the one it is creating): the
ones it holds a counted reference on, the one the iterator found under the list mutex and is about to
reference, the one whose reference it has just dropped while it still holds that client's
refCountMutex -/
def knownC (pc : CPc) (alk : List Nat) : List Nat :=
  refsC pc alk ++
  (match pc with
   | .iter _ .incLock _ (some c) => [c]
   | .iter _ .decSignal (some q) _ | .iter _ .decUnlock (some q) _ => [q]
   | .nf .decSignal i | .nf .decUnlock i => (alk[i]?).toList
   | _ => [])

structure Life (s : State) : Prop where
  linked_alive : ∀ c, (s.cl c).linked = true → (s.cl c).alive = true
  fresh : ∀ c, s.n ≤ c → (s.cl c).linked = false ∧ (s.cl c).alive = false
  inp_alive : ∀ c, ipcAlive (s.cl c).ipc = true → (s.cl c).alive = true
  inp_linked : ∀ c, ipcAlive (s.cl c).ipc = true → (s.cl c).linked = ipcLinked (s.cl c).ipc
  out_inp : ∀ c, opcRun (s.cl c).opc = true → ipcHasOut (s.cl c).ipc = true
  out_ns : ∀ c, (s.cl c).ipc = .notStarted ∨ (s.cl c).ipc = .createO → (s.cl c).opc = .notStarted
  cr : ∀ t c b, crOf (getC s t) = some (c, b) →
        (s.cl c).alive = true ∧ (s.cl c).ipc = .notStarted ∧ (s.cl c).linked = b
  cr_excl : ∀ c b b', crOf s.apc = some (c, b) → crOf s.lpc = some (c, b') → False
  known : ∀ t x, x ∈ knownC (getC s t) (alkOf s t) → (s.cl x).linked = true
  zero_inp : ∀ c, (s.cl c).ipc = .g .unlockR → (s.cl c).refCount = 0
  zero_c : ∀ t c, getC s t = .gone .unlockR c → (s.cl c).refCount = 0

theorem life_init : Life State.init := by
  constructor
  · intro c; simp [State.init]
  · intro c; simp [State.init]
  · intro c; simp [State.init, ipcAlive]
  · intro c; simp [State.init, ipcAlive]
  · intro c; simp [State.init, opcRun]
  · intro c; simp [State.init]
  · intro t c b; cases t <;> simp [State.init, getC, crOf]
  · intro c b b'; simp [State.init, crOf]
  · intro t x; cases t <;> simp [State.init, getC, alkOf, knownC, refsC]
  · intro c; simp [State.init]
  · intro t c; cases t <;> simp [State.init, getC]

structure LSame (s s' : State) : Prop where
  cl : ∀ c, (s'.cl c).alive = (s.cl c).alive ∧ (s'.cl c).linked = (s.cl c).linked ∧
        (s'.cl c).refCount = (s.cl c).refCount ∧ (s'.cl c).ipc = (s.cl c).ipc ∧ (s'.cl c).opc = (s.cl c).opc
  apc : s'.apc = s.apc
  lpc : s'.lpc = s.lpc
  alk : s'.alk = s.alk
  n : s'.n = s.n

theorem getC_congr {s s' : State} (h1 : s'.apc = s.apc) (h2 : s'.lpc = s.lpc) (t : Tid) : getC s' t = getC s t := by
  cases t <;> simp only [getC, h1, h2]
theorem getC_lsame {s s' : State} (h : LSame s s') (t : Tid) : getC s' t = getC s t := getC_congr h.apc h.lpc t
theorem alkOf_lsame {s s' : State} (h : LSame s s') (t : Tid) : alkOf s' t = alkOf s t := by
  cases t <;> simp [alkOf, h.alk]

theorem life_of_lsame {s s' : State} (h : LSame s s') (hl : Life s) : Life s' := by
  have e := h.cl
  constructor
  · intro c; rw [(e c).1, (e c).2.1]; exact hl.linked_alive c
  · intro c; rw [(e c).1, (e c).2.1, h.n]; exact hl.fresh c
  · intro c; rw [(e c).1, (e c).2.2.2.1]; exact hl.inp_alive c
  · intro c; rw [(e c).2.1, (e c).2.2.2.1]; exact hl.inp_linked c
  · intro c; rw [(e c).2.2.2.1, (e c).2.2.2.2]; exact hl.out_inp c
  · intro c; rw [(e c).2.2.2.1, (e c).2.2.2.2]; exact hl.out_ns c
  · intro t c b; rw [getC_lsame h, (e c).1, (e c).2.1, (e c).2.2.2.1]; exact hl.cr t c b
  · intro c b b'; rw [h.apc, h.lpc]; exact hl.cr_excl c b b'
  · intro t x; rw [getC_lsame h, alkOf_lsame h, (e x).2.1]; exact hl.known t x
  · intro c; rw [(e c).2.2.2.1, (e c).2.2.1]; exact hl.zero_inp c
  · intro t c; rw [getC_lsame h, (e c).2.2.1]; exact hl.zero_c t c

theorem LSame.refl (s : State) : LSame s s := ⟨fun _ => ⟨rfl, rfl, rfl, rfl, rfl⟩, rfl, rfl, rfl, rfl⟩
theorem LSame.symm {a b : State} (h : LSame a b) : LSame b a :=
  ⟨fun x => ⟨(h.cl x).1.symm, (h.cl x).2.1.symm, (h.cl x).2.2.1.symm, (h.cl x).2.2.2.1.symm, (h.cl x).2.2.2.2.symm⟩,
   h.apc.symm, h.lpc.symm, h.alk.symm, h.n.symm⟩
theorem LSame.trans {a b c : State} (h1 : LSame a b) (h2 : LSame b c) : LSame a c :=
  ⟨fun x => ⟨(h2.cl x).1.trans (h1.cl x).1, (h2.cl x).2.1.trans (h1.cl x).2.1, (h2.cl x).2.2.1.trans (h1.cl x).2.2.1,
            (h2.cl x).2.2.2.1.trans (h1.cl x).2.2.2.1, (h2.cl x).2.2.2.2.trans (h1.cl x).2.2.2.2⟩,
   h2.apc.trans h1.apc, h2.lpc.trans h1.lpc, h2.alk.trans h1.alk, h2.n.trans h1.n⟩

theorem life_iff_of_lsame {s s' : State} (h : LSame s s') : Life s' ↔ Life s :=
  ⟨life_of_lsame h.symm, life_of_lsame h⟩

theorem lsame_of_core {s s' : State} (hc : ∀ c, CoreEq (s'.cl c) (s.cl c))
    (ht : s'.apc = s.apc ∧ s'.lpc = s.lpc ∧ s'.n = s.n ∧ s'.alk = s.alk ∧ s'.lisDown = s.lisDown ∧ s'.ljoined = s.ljoined ∧
      s'.aapi = s.aapi) : LSame s s' := by
  refine ⟨fun x => ?_, ht.1, ht.2.1, ht.2.2.2.1, ht.2.2.1⟩
  have := hc x; unfold CoreEq at this
  exact ⟨this.1, this.2.1, this.2.2.2.2.2.1, this.2.2.2.2.2.2.2.1, this.2.2.2.2.2.2.2.2.1⟩

theorem lsame_doLock {s a : State} {t : Tid} {m : MCls} {c : Nat} (h : doLock s t m c = some a) : LSame s a :=
  lsame_of_core (coreEq_doLock h) (top_doLock h)
theorem lsame_doUnlock (s : State) (t : Tid) (m : MCls) (c : Nat) : LSame s (doUnlock s t m c) :=
  lsame_of_core (coreEq_doUnlock s t m c) (top_doUnlock s t m c)
theorem lsame_touch (s : State) (c : Nat) : LSame s (touch s c) :=
  lsame_of_core (fun c' => by rw [touch_cl]; exact CoreEq.rfl' _) (top_touch s c)

/-- record updates `Life` does not look at -/
def LifeNeutral (f : Client → Client) : Prop :=
  ∀ x, (f x).alive = x.alive ∧ (f x).linked = x.linked ∧ (f x).refCount = x.refCount ∧ (f x).ipc = x.ipc ∧ (f x).opc = x.opc

theorem lsame_updCl (s : State) (c : Nat) (f : Client → Client) (hf : LifeNeutral f) : LSame s (updCl s c f) := by
  refine ⟨fun x => ?_, rfl, rfl, rfl, rfl⟩
  rw [updCl_cl]; split
  · rename_i h; subst h; exact hf _
  · exact ⟨rfl, rfl, rfl, rfl, rfl⟩

theorem lsame_raise (s : State) (f : Flag) : LSame s (raise s f) := by
  cases f <;> exact ⟨fun _ => ⟨rfl, rfl, rfl, rfl, rfl⟩, rfl, rfl, rfl, rfl⟩
theorem lsame_raiseIf (s : State) (f : Flag) (b : Bool) : LSame s (raiseIf s f b) := by
  unfold raiseIf; split
  · exact lsame_raise s f
  · exact LSame.refl s

@[simp] theorem life_doUnlock (s : State) (t : Tid) (m : MCls) (c : Nat) : Life (doUnlock s t m c) ↔ Life s :=
  life_iff_of_lsame (lsame_doUnlock s t m c)
theorem life_doLock {s a : State} {t : Tid} {m : MCls} {c : Nat} (h : doLock s t m c = some a) : Life a ↔ Life s :=
  life_iff_of_lsame (lsame_doLock h)
@[simp] theorem life_touch (s : State) (c : Nat) : Life (touch s c) ↔ Life s := life_iff_of_lsame (lsame_touch s c)
@[simp] theorem life_raise (s : State) (f : Flag) : Life (raise s f) ↔ Life s := life_iff_of_lsame (lsame_raise s f)

@[simp] theorem getC_setO (s : State) (c : Nat) (pc : OPc) (t : Tid) : getC (setO s c pc) t = getC s t := by
  cases t <;> rfl
@[simp] theorem getC_setI (s : State) (c : Nat) (pc : IPc) (t : Tid) : getC (setI s c pc) t = getC s t := by
  cases t <;> rfl
@[simp] theorem getC_updCl (s : State) (c : Nat) (f) (t : Tid) : getC (updCl s c f) t = getC s t := by
  cases t <;> rfl
@[simp] theorem alkOf_setO (s : State) (c : Nat) (pc : OPc) (t : Tid) : alkOf (setO s c pc) t = alkOf s t := by
  cases t <;> rfl
@[simp] theorem alkOf_setI (s : State) (c : Nat) (pc : IPc) (t : Tid) : alkOf (setI s c pc) t = alkOf s t := by
  cases t <;> rfl
@[simp] theorem alkOf_updCl (s : State) (c : Nat) (f) (t : Tid) : alkOf (updCl s c f) t = alkOf s t := by
  cases t <;> rfl
@[simp] theorem alkOf_setC (s : State) (t0 : Tid) (pc : CPc) (t : Tid) : alkOf (setC s t0 pc) t = alkOf s t := by
  cases t <;> simp [alkOf]
theorem getC_setC (s : State) (t0 : Tid) (pc : CPc) (h0 : t0 = .app ∨ t0 = .lis) (t : Tid) :
    getC (setC s t0 pc) t = if t = t0 then pc else getC s t := by
  rcases h0 with rfl | rfl <;> cases t <;> simp [getC, setC]

/-- two different threads are never constructing / tearing down the same record -/
theorem cr_excl' {X : State} (hl : Life X) {t t' : Tid} (hne : t' ≠ t) {c : Nat} {b b' : Bool}
    (h : crOf (getC X t) = some (c, b)) (h' : crOf (getC X t') = some (c, b')) : False := by
  cases t <;> cases t' <;> simp [getC, crOf] at h h' hne
  · exact hl.cr_excl c b b' h h'
  · exact hl.cr_excl c b' b h' h

/-- a calling thread `t` updates the record of client `c` and moves to `pc'` in one step: one hypothesis per
clause of `Life`, in the order of the structure; `_o` is the clause for the other calling thread on the changed
record, `_n` the clause for `t` at its new program counter -/
theorem life_upd_setC {X : State} {c : Nat} {f : Client → Client} {t : Tid} {pc' : CPc}
    (ht : t = .app ∨ t = .lis) (hl : Life X)
    (h_la : (f (X.cl c)).linked = true → (f (X.cl c)).alive = true)
    (h_fr : X.n ≤ c → (f (X.cl c)).linked = false ∧ (f (X.cl c)).alive = false)
    (h_ia : ipcAlive (f (X.cl c)).ipc = true → (f (X.cl c)).alive = true)
    (h_il : ipcAlive (f (X.cl c)).ipc = true → (f (X.cl c)).linked = ipcLinked (f (X.cl c)).ipc)
    (h_oi : opcRun (f (X.cl c)).opc = true → ipcHasOut (f (X.cl c)).ipc = true)
    (h_on : (f (X.cl c)).ipc = .notStarted ∨ (f (X.cl c)).ipc = .createO → (f (X.cl c)).opc = .notStarted)
    (h_cr_o : ∀ t' b, t' ≠ t → crOf (getC X t') = some (c, b) →
        (f (X.cl c)).alive = true ∧ (f (X.cl c)).ipc = .notStarted ∧ (f (X.cl c)).linked = b)
    (h_cr_n : ∀ c' b, crOf pc' = some (c', b) →
        ((updCl X c f).cl c').alive = true ∧ ((updCl X c f).cl c').ipc = .notStarted ∧ ((updCl X c f).cl c').linked = b)
    (h_ex : ∀ t' c' b b', t' ≠ t → crOf pc' = some (c', b) → crOf (getC X t') = some (c', b') → False)
    (h_kn_o : ∀ t', t' ≠ t → c ∈ knownC (getC X t') (alkOf X t') → (f (X.cl c)).linked = true)
    (h_kn_n : ∀ y, y ∈ knownC pc' (alkOf X t) → ((updCl X c f).cl y).linked = true)
    (h_zi : (f (X.cl c)).ipc = .g .unlockR → (f (X.cl c)).refCount = 0)
    (h_zc_o : ∀ t', t' ≠ t → getC X t' = .gone .unlockR c → (f (X.cl c)).refCount = 0)
    (h_zc_n : ∀ c', pc' = .gone .unlockR c' → ((updCl X c f).cl c').refCount = 0) :
    Life (setC (updCl X c f) t pc') := by
  have hg : ∀ t', getC (setC (updCl X c f) t pc') t' = if t' = t then pc' else getC X t' := by
    intro t'; rw [getC_setC _ _ _ ht, getC_updCl]
  constructor
  · intro c'; rw [setC_cl, updCl_cl]; split
    · rename_i e; subst e; exact h_la
    · exact hl.linked_alive _
  · intro c'; rw [setC_cl, updCl_cl, setC_n, updCl_n]; split
    · rename_i e; subst e; exact h_fr
    · exact hl.fresh _
  · intro c'; rw [setC_cl, updCl_cl]; split
    · rename_i e; subst e; exact h_ia
    · exact hl.inp_alive _
  · intro c'; rw [setC_cl, updCl_cl]; split
    · rename_i e; subst e; exact h_il
    · exact hl.inp_linked _
  · intro c'; rw [setC_cl, updCl_cl]; split
    · rename_i e; subst e; exact h_oi
    · exact hl.out_inp _
  · intro c'; rw [setC_cl, updCl_cl]; split
    · rename_i e; subst e; exact h_on
    · exact hl.out_ns _
  · intro t' c' b; rw [hg, setC_cl]; split
    · exact h_cr_n c' b
    · rename_i hne; rw [updCl_cl]; split
      · rename_i e; subst e; exact h_cr_o t' b hne
      · exact hl.cr t' _ b
  · intro c' b b' h1 h2
    rcases ht with rfl | rfl
    · have e1 := hg .app; have e2 := hg .lis
      simp only [getC, if_true, reduceCtorEq, if_false] at e1 e2
      rw [e1] at h1; rw [e2] at h2
      exact h_ex .lis c' b b' (by simp) h1 h2
    · have e1 := hg .app; have e2 := hg .lis
      simp only [getC, if_true, reduceCtorEq, if_false] at e1 e2
      rw [e1] at h1; rw [e2] at h2
      exact h_ex .app c' b' b (by simp) h2 h1
  · intro t' x; rw [hg, alkOf_setC, alkOf_updCl, setC_cl]; split
    · rename_i e; subst e; exact h_kn_n x
    · rename_i hne; rw [updCl_cl]; split
      · rename_i e; subst e; exact h_kn_o t' hne
      · exact hl.known t' _
  · intro c'; rw [setC_cl, updCl_cl]; split
    · rename_i e; subst e; exact h_zi
    · exact hl.zero_inp _
  · intro t' c'; rw [hg, setC_cl]; split
    · exact h_zc_n c'
    · rename_i hne; rw [updCl_cl]; split
      · rename_i e; subst e; exact h_zc_o t' hne
      · exact hl.zero_c t' _

/-- an update of the record / thread program counters of client `c` alone -/
theorem life_upd {X : State} {c : Nat} {f : Client → Client} (hl : Life X)
    (h_la : (f (X.cl c)).linked = true → (f (X.cl c)).alive = true)
    (h_fr : X.n ≤ c → (f (X.cl c)).linked = false ∧ (f (X.cl c)).alive = false)
    (h_ia : ipcAlive (f (X.cl c)).ipc = true → (f (X.cl c)).alive = true)
    (h_il : ipcAlive (f (X.cl c)).ipc = true → (f (X.cl c)).linked = ipcLinked (f (X.cl c)).ipc)
    (h_oi : opcRun (f (X.cl c)).opc = true → ipcHasOut (f (X.cl c)).ipc = true)
    (h_on : (f (X.cl c)).ipc = .notStarted ∨ (f (X.cl c)).ipc = .createO → (f (X.cl c)).opc = .notStarted)
    (h_cr : ∀ t b, crOf (getC X t) = some (c, b) →
        (f (X.cl c)).alive = true ∧ (f (X.cl c)).ipc = .notStarted ∧ (f (X.cl c)).linked = b)
    (h_kn : ∀ t, c ∈ knownC (getC X t) (alkOf X t) → (f (X.cl c)).linked = true)
    (h_zi : (f (X.cl c)).ipc = .g .unlockR → (f (X.cl c)).refCount = 0)
    (h_zc : ∀ t, getC X t = .gone .unlockR c → (f (X.cl c)).refCount = 0) :
    Life (updCl X c f) := by
  -- the application thread "moves" to where it is
  refine life_upd_setC (t := .app) (pc' := X.apc) (.inl rfl) hl h_la h_fr h_ia h_il h_oi h_on
    (fun t' b _ => h_cr t' b) (fun c' b e => ?_) (fun t' c' b b' hne e e' => cr_excl' hl hne e e')
    (fun t' _ => h_kn t') (fun y hy => ?_) h_zi (fun t' _ => h_zc t') (fun c' e => ?_)
  all_goals rw [updCl_cl]; split
  · rename_i e'; subst e'; exact h_cr .app b e
  · exact hl.cr .app c' b e
  · rename_i e'; subst e'; exact h_kn .app hy
  · exact hl.known .app y hy
  · rename_i e'; subst e'; exact h_zc .app e
  · exact hl.zero_c .app c' e

/-- only the program counter of the calling thread `t` and its list of remembered clients change -/
theorem life_setAlkT_setC {X : State} {t : Tid} {pc' : CPc} {l : List Nat} (ht : t = .app ∨ t = .lis) (hl : Life X)
    (h_cr : ∀ c b, crOf pc' = some (c, b) → (X.cl c).alive = true ∧ (X.cl c).ipc = .notStarted ∧ (X.cl c).linked = b)
    (h_ex : ∀ t' c b b', t' ≠ t → crOf pc' = some (c, b) → crOf (getC X t') = some (c, b') → False)
    (h_kn : ∀ y, y ∈ knownC pc' (if t = .app then l else []) → (X.cl y).linked = true)
    (h_zc : ∀ c, pc' = .gone .unlockR c → (X.cl c).refCount = 0) : Life (setC (setAlkT X t l) t pc') := by
  have hg : ∀ t', getC (setC (setAlkT X t l) t pc') t' = if t' = t then pc' else getC X t' := fun t' => by
    rw [getC_setC _ _ _ ht]; split
    · rfl
    · cases t' <;> simp [getC]
  have ha : ∀ t', alkOf (setC (setAlkT X t l) t pc') t' = if t' = t then (if t = .app then l else []) else alkOf X t' :=
    fun t' => by rcases ht with rfl | rfl <;> cases t' <;> simp [alkOf, setAlkT, setAlk]
  have hcl : (setC (setAlkT X t l) t pc').cl = X.cl := by rw [setC_cl, cl_setAlkT]
  have hn : (setC (setAlkT X t l) t pc').n = X.n := by rw [setC_n, n_setAlkT]
  constructor
  · intro c; rw [hcl]; exact hl.linked_alive c
  · intro c; rw [hcl, hn]; exact hl.fresh c
  · intro c; rw [hcl]; exact hl.inp_alive c
  · intro c; rw [hcl]; exact hl.inp_linked c
  · intro c; rw [hcl]; exact hl.out_inp c
  · intro c; rw [hcl]; exact hl.out_ns c
  · intro t' c b; rw [hcl, hg]; split
    · exact h_cr c b
    · exact hl.cr t' c b
  · intro c b b' h1 h2
    have e1 := hg .app; have e2 := hg .lis
    simp only [getC] at e1 e2
    rw [e1] at h1; rw [e2] at h2
    rcases ht with rfl | rfl
    · exact h_ex .lis c b b' (by simp) (by simpa using h1) (by simpa [getC] using h2)
    · exact h_ex .app c b' b (by simp) (by simpa using h2) (by simpa [getC] using h1)
  · intro t' x; rw [hcl, hg, ha]; split
    · exact h_kn x
    · exact hl.known t' x
  · intro c; rw [hcl]; exact hl.zero_inp c
  · intro t' c; rw [hcl, hg]; split
    · exact h_zc c
    · exact hl.zero_c t' c

theorem life_setC {X : State} {t : Tid} {pc' : CPc} (ht : t = .app ∨ t = .lis) (hl : Life X)
    (h_cr : ∀ c b, crOf pc' = some (c, b) → (X.cl c).alive = true ∧ (X.cl c).ipc = .notStarted ∧ (X.cl c).linked = b)
    (h_ex : ∀ t' c b b', t' ≠ t → crOf pc' = some (c, b) → crOf (getC X t') = some (c, b') → False)
    (h_kn : ∀ y, y ∈ knownC pc' (alkOf X t) → (X.cl y).linked = true)
    (h_zc : ∀ c, pc' = .gone .unlockR c → (X.cl c).refCount = 0) : Life (setC X t pc') := by
  rcases ht with rfl | rfl
  · exact life_setAlkT_setC (l := X.alk) (.inl rfl) hl h_cr h_ex (by simpa [alkOf] using h_kn) h_zc
  · exact life_setAlkT_setC (l := []) (.inr rfl) hl h_cr h_ex (by simpa [alkOf] using h_kn) h_zc

/-- a move that creates no new obligations: the clients the thread relies on afterwards are among
those it relied on before (or known to be linked), the client under construction (if any) stays in
the same condition -/
theorem life_move {X : State} {t : Tid} {pc' : CPc} (ht : t = .app ∨ t = .lis) (hl : Life X)
    (h_cr : crOf pc' = none ∨ crOf pc' = crOf (getC X t))
    (h_kn : ∀ y, y ∈ knownC pc' (alkOf X t) → y ∈ knownC (getC X t) (alkOf X t) ∨ (X.cl y).linked = true)
    (h_zc : ∀ c, pc' = .gone .unlockR c → (X.cl c).refCount = 0) : Life (setC X t pc') := by
  apply life_setC ht hl
  · intro c b h; rcases h_cr with e | e
    · rw [e] at h; cases h
    · rw [e] at h; exact hl.cr t c b h
  · intro t' c b b' hne h h'; rcases h_cr with e | e
    · rw [e] at h; cases h
    · rw [e] at h
      rcases ht with rfl | rfl
      · cases t' <;> simp [getC, crOf] at h' hne
        exact hl.cr_excl c b b' h h'
      · cases t' <;> simp [getC, crOf] at h' hne
        exact hl.cr_excl c b' b h' h
  · intro y hy; rcases h_kn y hy with h | h
    · exact hl.known t y h
    · exact h
  · exact h_zc

/-- the calling thread `t` updates the record it is constructing / tearing down -/
theorem life_cr_upd {X : State} {c : Nat} {f : Client → Client} {t : Tid} {pc' : CPc} {b : Bool}
    (ht : t = .app ∨ t = .lis) (hl : Life X) (hcur : crOf (getC X t) = some (c, b))
    (hf : (f (X.cl c)).ipc = .notStarted ∧ (f (X.cl c)).opc = (X.cl c).opc)
    (h_la : (f (X.cl c)).linked = true → (f (X.cl c)).alive = true)
    (h_new : crOf pc' = none ∨ ∃ b', crOf pc' = some (c, b') ∧ (f (X.cl c)).alive = true ∧ (f (X.cl c)).linked = b')
    (h_kn_o : ∀ t', t' ≠ t → c ∈ knownC (getC X t') (alkOf X t') → (f (X.cl c)).linked = true)
    (h_kn_n : knownC pc' (alkOf X t) = [])
    (h_zc_n : ∀ c', pc' ≠ .gone .unlockR c') : Life (setC (updCl X c f) t pc') := by
  obtain ⟨ha, hi, _⟩ := hl.cr t c b hcur
  have ho := hl.out_ns c (Or.inl hi)
  apply life_upd_setC ht hl
  · exact h_la
  · intro hn; have := (hl.fresh c hn).2; rw [ha] at this; cases this
  · intro e; rw [hf.1] at e; simp [ipcAlive] at e
  · intro e; rw [hf.1] at e; simp [ipcAlive] at e
  · intro e; rw [hf.2, ho] at e; simp [opcRun] at e
  · intro _; rw [hf.2]; exact ho
  · intro t' b' hne h'; exact (cr_excl' hl hne hcur h').elim
  · intro c' b' h'
    rcases h_new with e | ⟨b'', e, h1, h2⟩
    · rw [e] at h'; cases h'
    · rw [e] at h'; simp only [Option.some.injEq, Prod.mk.injEq] at h'
      obtain ⟨rfl, rfl⟩ := h'
      rw [updCl_cl_same]; exact ⟨h1, hf.1, h2⟩
  · intro t' c' b' b'' hne h h'
    rcases h_new with e | ⟨b3, e, _, _⟩
    · rw [e] at h; cases h
    · rw [e] at h; simp only [Option.some.injEq, Prod.mk.injEq] at h
      obtain ⟨rfl, rfl⟩ := h
      exact cr_excl' hl hne hcur h'
  · exact h_kn_o
  · intro y hy; rw [h_kn_n] at hy; cases hy
  · intro e; rw [hf.1] at e; cases e
  · intro t' hne h'; exact (cr_excl' hl hne hcur (b' := true) (by rw [h']; simp [crOf, gPre])).elim
  · intro c' e; exact absurd e (h_zc_n c')

theorem life_setO {X : State} {c : Nat} {pc' : OPc} (hl : Life X) (hrun : opcRun (X.cl c).opc = true) :
    Life (setO X c pc') := by
  have hho := hl.out_inp c hrun
  unfold setO
  apply life_upd hl
  · exact hl.linked_alive c
  · exact hl.fresh c
  · exact hl.inp_alive c
  · exact hl.inp_linked c
  · intro _; exact hho
  · intro h; simp only [] at h; rcases h with h | h <;> (rw [h] at hho; simp [ipcHasOut] at hho)
  · exact fun t b => hl.cr t c b
  · exact fun t => hl.known t c
  · exact hl.zero_inp c
  · exact fun t => hl.zero_c t c

theorem life_signalU {X : State} (c : Nat) (hl : Life X) : Life (signalU X c) := by
  unfold signalU; split
  · rename_i h; exact life_setO hl (by simp [h, opcRun])
  · exact hl

theorem lsame_setG (s : State) (t : Tid) (g : Ghost) : LSame s (setG s t g) :=
  lsame_of_core (coreEq_setG s t g) (by have := top_setG s t g; exact this)

/-- whoever has just locked refCountMutex(c) knows that nobody is at the point of unlinking c -/
theorem not_pinned_of_lock {s s1 : State} {t : Tid} {c : Nat} (hr : Reach s) (h : doLock s t .R c = some s1) :
    (s1.cl c).ipc ≠ .g .unlockR ∧ ∀ t', getC s1 t' ≠ .gone .unlockR c := by
  have hfree : own s .R c = none := by
    unfold doLock at h; split at h
    · assumption
    · cases h
  have hno : ∀ t', (MCls.R, c) ∈ heldOf s t' → False := by
    intro t' hm
    have := (own_iff_table hr t' .R c).2 (by simpa [mkey, MCls.perClient] using hm)
    rw [hfree] at this; cases this
  refine ⟨?_, ?_⟩
  · rw [ipc_doLock h]; intro e
    exact hno (.inp c) (by simp [heldOf, e, heldI, heldG])
  · intro t'; rw [getC_lsame (lsame_doLock h)]; intro e
    cases t' with
    | app => exact hno .app (by simp [getC] at e; simp [heldOf, e, heldC, heldG])
    | lis => exact hno .lis (by simp [getC] at e; simp [heldOf, e, heldC, heldG])
    | inp _ => simp [getC] at e
    | out _ => simp [getC] at e

theorem life_refCount_locked {s s1 : State} {t : Tid} {c : Nat} (hr : Reach s) (hl : Life s)
    (h : doLock s t .R c = some s1) (g : Nat → Nat) :
    Life (updCl s1 c (fun x => { x with refCount := g x.refCount })) := by
  have hl1 := (life_doLock h).2 hl
  apply life_upd hl1
  · exact hl1.linked_alive c
  · exact hl1.fresh c
  · exact hl1.inp_alive c
  · exact hl1.inp_linked c
  · exact hl1.out_inp c
  · exact hl1.out_ns c
  · exact fun t b => hl1.cr t c b
  · exact fun t => hl1.known t c
  · intro e; exact absurd e (not_pinned_of_lock hr h).1
  · intro t e; exact absurd e ((not_pinned_of_lock hr h).2 t)

theorem life_incRef_locked {s s1 : State} {t : Tid} {c : Nat} (hr : Reach s) (hl : Life s)
    (h : doLock s t .R c = some s1) : Life (incRef s1 t c) := by
  unfold incRef
  exact (life_iff_of_lsame (lsame_setG _ t _)).2 (life_refCount_locked hr hl h (· + 1))

theorem life_decRef_locked {s s1 : State} {t : Tid} {c : Nat} (hr : Reach s) (hl : Life s)
    (h : doLock s t .R c = some s1) : Life (decRef s1 t c) := by
  unfold decRef
  split
  · exact (life_iff_of_lsame (lsame_setG _ t _)).2 (life_refCount_locked hr hl h (· - 1))
  · exact (life_raise _ _).2 (life_refCount_locked hr hl h (· - 1))

theorem life_setI {X : State} {c : Nat} {pc' : IPc} (hl : Life X) (h0 : ipcAlive (X.cl c).ipc = true)
    (ha : ipcAlive pc' = true) (hlk : ipcLinked pc' = ipcLinked (X.cl c).ipc)
    (hho : ipcHasOut pc' = true ∨ ipcHasOut (X.cl c).ipc = false ∨ opcRun (X.cl c).opc = false) (hns : pc' ≠ .createO)
    (hz : pc' = .g .unlockR → (X.cl c).refCount = 0) : Life (setI X c pc') := by
  unfold setI
  apply life_upd hl
  · exact hl.linked_alive c
  · exact hl.fresh c
  · intro _; exact hl.inp_alive c h0
  · intro _; simp only []; rw [hlk]; exact hl.inp_linked c h0
  · intro ho; simp only [] at ho ⊢
    rcases hho with h | h | h
    · exact h
    · have := hl.out_inp c ho; rw [h] at this; cases this
    · rw [h] at ho; cases ho
  · intro h; simp only [] at h; rcases h with h | h
    · rw [h] at ha; simp [ipcAlive] at ha
    · exact absurd h hns
  · intro t b h; have := (hl.cr t c b h).2.1; rw [this] at h0; simp [ipcAlive] at h0
  · exact fun t => hl.known t c
  · exact hz
  · exact fun t => hl.zero_c t c

theorem life_signalD {X : State} (c : Nat) (hl : Life X) : Life (signalD X c) := by
  unfold signalD
  simp only []
  have h1 : Life (if (X.cl c).ipc = .g .blocked then setI X c (.g .wakeD) else X) := by
    split
    · rename_i h
      exact life_setI hl (by simp [h, ipcAlive]) (by simp [ipcAlive]) (by simp [h, ipcLinked, gPre])
        (by simp [h, ipcHasOut]) (by simp) (by simp)
    · exact hl
  generalize (if (X.cl c).ipc = .g .blocked then setI X c (.g .wakeD) else X) = Y at h1
  have h2 : Life (if Y.apc = .gone .blocked c then setC Y .app (.gone .wakeD c) else Y) := by
    split
    · rename_i h
      exact life_move (Or.inl rfl) h1 (Or.inr (by simp [getC, h, crOf, gPre])) (by simp [knownC, refsC]) (by simp)
    · exact h1
  generalize (if Y.apc = .gone .blocked c then setC Y .app (.gone .wakeD c) else Y) = Z at h2
  split
  · rename_i h
    exact life_move (Or.inr rfl) h2 (Or.inr (by simp [getC, h, crOf, gPre])) (by simp [knownC, refsC]) (by simp)
  · exact h2

theorem apc_signalD' (s : State) (c : Nat) :
    (signalD s c).apc = if s.apc = .gone .blocked c then .gone .wakeD c else s.apc := by
  unfold signalD; simp only []
  split <;> split <;> split <;> simp_all [setC, setI, updCl]
theorem lpc_signalD' (s : State) (c : Nat) :
    (signalD s c).lpc = if s.lpc = .gone .blocked c then .gone .wakeD c else s.lpc := by
  unfold signalD; simp only []
  split <;> split <;> split <;> simp_all [setC, setI, updCl]

theorem updCl_updCl (X : State) (c : Nat) (f g : Client → Client) :
    updCl (updCl X c f) c g = updCl X c (fun x => g (f x)) := by
  unfold updCl; simp only [State.mk.injEq, and_true, true_and]
  funext j; by_cases h : j = c <;> simp [h]

/-- pthread_create of the output thread -/
theorem life_startOut {X : State} {c : Nat} (hl : Life X) (h : (X.cl c).ipc = .createO) :
    Life (setI (setO X c .top) c .sel) := by
  have ha := hl.inp_alive c (by simp [h, ipcAlive])
  have hk := hl.inp_linked c (by simp [h, ipcAlive])
  unfold setI setO; rw [updCl_updCl]
  apply life_upd hl
  · intro _; exact ha
  · exact hl.fresh c
  · intro _; exact ha
  · intro _; simp only []; rw [hk, h]; simp [ipcLinked]
  · intro _; simp [ipcHasOut]
  · intro e; simp at e
  · intro t b e; have := (hl.cr t c b e).2.1; rw [this] at h; cases h
  · exact fun t => hl.known t c
  · intro e; simp at e
  · exact fun t => hl.zero_c t c

/-- the record leaves the client list (rfbClientConnectionGone in the input thread) -/
theorem life_unlink_inp {X : State} {c : Nat} (hl : Life X) (h : (X.cl c).ipc = .g .unlockR)
    (hex : ∀ t, c ∉ knownC (getC X t) (alkOf X t)) :
    Life (setI (updCl X c (fun x => { x with linked := false })) c (.g .unlockL)) := by
  have ha := hl.inp_alive c (by simp [h, ipcAlive])
  unfold setI; rw [updCl_updCl]
  apply life_upd hl
  · intro e; simp at e
  · intro hn; have := (hl.fresh c hn).2; rw [ha] at this; cases this
  · intro _; exact ha
  · intro _; simp [ipcLinked, gPre]
  · intro ho; have := hl.out_inp c ho; rw [h] at this; simp [ipcHasOut] at this
  · intro e; simp at e
  · intro t b e; have := (hl.cr t c b e).2.1; rw [this] at h; cases h
  · intro t e; exact absurd e (hex t)
  · intro e; simp at e
  · intro t e; have := (hl.cr t c true (by rw [e]; simp [crOf, gPre])).2.1; rw [this] at h; cases h

/-- free(cl) at the end of rfbClientConnectionGone in the input thread -/
theorem life_free_inp {X : State} {c : Nat} (hl : Life X) (h : (X.cl c).ipc = .g .unlockS) :
    Life (setI (updCl X c (fun x => { x with alive := false })) c .exiting) := by
  have hk := hl.inp_linked c (by simp [h, ipcAlive])
  rw [h] at hk; simp only [ipcLinked, gPre] at hk
  unfold setI; rw [updCl_updCl]
  apply life_upd hl
  · intro e; simp only [] at e; rw [hk] at e; cases e
  · intro _; exact ⟨hk, rfl⟩
  · intro e; simp [ipcAlive] at e
  · intro e; simp [ipcAlive] at e
  · intro ho; have := hl.out_inp c ho; rw [h] at this; simp [ipcHasOut] at this
  · intro e; simp at e
  · intro t b e; have := (hl.cr t c b e).2.1; rw [this] at h; cases h
  · intro t e; have := hl.known t c e; rw [hk] at this; cases this
  · intro e; simp at e
  · intro t e; have := (hl.cr t c true (by rw [e]; simp [crOf, gPre])).2.1; rw [this] at h; cases h

/-- the thread function returns -/
theorem life_exit_inp {X : State} {c : Nat} (hl : Life X) (h : (X.cl c).ipc = .exiting) : Life (setI X c .exited) := by
  unfold setI
  apply life_upd hl
  · exact hl.linked_alive c
  · exact hl.fresh c
  · intro e; simp [ipcAlive] at e
  · intro e; simp [ipcAlive] at e
  · intro ho; have := hl.out_inp c ho; rw [h] at this; simp [ipcHasOut] at this
  · intro e; simp at e
  · intro t b e; have := (hl.cr t c b e).2.1; rw [this] at h; cases h
  · exact fun t => hl.known t c
  · intro e; simp at e
  · exact fun t => hl.zero_c t c

theorem known_cases {pc : CPc} {alk : List Nat} {x : Nat} (h : x ∈ knownC pc alk) :
    x ∈ refsC pc alk ∨ (MCls.R, x) ∈ heldC pc alk ∨ mL ∈ heldC pc alk := by
  unfold knownC at h
  rw [List.mem_append] at h
  rcases h with h | h
  · exact Or.inl h
  · right
    split at h
    · simp at h; subst h; right; simp [heldC, heldIt]
    · simp at h; subst h; left; simp [heldC, heldIt]
    · simp at h; subst h; left; simp [heldC, heldIt]
    · simp at h; left; simp [heldC, h]
    · simp at h; left; simp [heldC, h]
    · simp at h

/-- whoever holds the list mutex and refCountMutex(c) while the count of `c` is zero is the only thread
that knows `c`: the others hold no reference (exact count), and are neither inside the iterator's
critical section nor between a decrement and its unlock (mutex ownership) -/
theorem unlink_excl_of {s : State} {me : Tid} {c : Nat} (hr : Reach s) (hG : RefG s) (hz : (s.cl c).refCount = 0)
    (hR : (MCls.R, c) ∈ heldOf s me) (hL : mL ∈ heldOf s me) (t : Tid) (hne : t ≠ me) :
    c ∉ knownC (getC s t) (alkOf s t) := by
  intro hk
  have hRo : own s .R c = some me := (own_iff_table hr me .R c).2 (by simpa [mkey, MCls.perClient] using hR)
  have hLo : own s .L 0 = some me := (own_iff_table hr me .L 0).2 (by simpa [mkey, MCls.perClient, mL] using hL)
  have hcnt := refCount_of_refG hG (local_reach hr) c
  rw [hz] at hcnt
  have key : ∀ t', (t' = .app ∨ t' = .lis) → t' ≠ me → c ∈ knownC (getC s t') (alkOf s t') →
      heldOf s t' = heldC (getC s t') (alkOf s t') → refsOf s t' = refsC (getC s t') (alkOf s t') →
      (refsOf s t').count c = 0 → False := by
    intro t' _ hne' hk' hh hrf hc0
    rcases known_cases hk' with h | h | h
    · rw [← hrf] at h; have := List.count_pos_iff.2 h; omega
    · rw [← hh] at h
      have := (own_iff_table hr t' .R c).2 (by simpa [mkey, MCls.perClient] using h)
      rw [hRo] at this; exact hne' (Option.some.inj this).symm
    · rw [← hh] at h
      have := (own_iff_table hr t' .L 0).2 (by simpa [mkey, MCls.perClient, mL] using h)
      rw [hLo] at this; exact hne' (Option.some.inj this).symm
  cases t with
  | app => exact key .app (Or.inl rfl) hne hk rfl rfl (by omega)
  | lis => exact key .lis (Or.inr rfl) hne hk rfl rfl (by omega)
  | inp _ => simp [getC, knownC, refsC] at hk
  | out _ => simp [getC, knownC, refsC] at hk

theorem crOf_finished (t : Tid) : crOf (finished t) = none := by cases t <;> rfl
theorem knownC_finished (t : Tid) (alk : List Nat) : knownC (finished t) alk = [] := by cases t <;> rfl
theorem finished_ne_gone (t : Tid) (g : GSt) (c : Nat) : finished t ≠ .gone g c := by cases t <;> simp [finished]

/-- the record enters the client list (rfbNewClient) -/
theorem life_link {X : State} {c : Nat} {t : Tid} (ht : t = .app ∨ t = .lis) (hl : Life X)
    (h : getC X t = .cr .insLock c) :
    Life (setC (updCl X c (fun x => { x with linked := true })) t (.cr .insUnlock c)) := by
  have hcur : crOf (getC X t) = some (c, false) := by rw [h]; rfl
  obtain ⟨ha, _, _⟩ := hl.cr t c false hcur
  exact life_cr_upd ht hl hcur ⟨(hl.cr t c false hcur).2.1, rfl⟩ (fun _ => ha)
    (Or.inr ⟨true, rfl, ha, rfl⟩) (fun _ _ _ => rfl) (by simp [knownC, refsC]) (by simp)

/-- the record leaves the client list (rfbClientConnectionGone after a failed creation) -/
theorem life_unlink_c {X : State} {c : Nat} {t : Tid} (ht : t = .app ∨ t = .lis) (hl : Life X)
    (h : getC X t = .gone .unlockR c) (hex : ∀ t', t' ≠ t → c ∉ knownC (getC X t') (alkOf X t')) :
    Life (setC (updCl X c (fun x => { x with linked := false })) t (.gone .unlockL c)) := by
  have hcur : crOf (getC X t) = some (c, true) := by rw [h]; rfl
  obtain ⟨ha, _, _⟩ := hl.cr t c true hcur
  exact life_cr_upd ht hl hcur ⟨(hl.cr t c true hcur).2.1, rfl⟩ (by intro e; simp at e)
    (Or.inr ⟨false, rfl, ha, rfl⟩) (fun t' hne e => absurd e (hex t' hne)) (by simp [knownC, refsC]) (by simp)

/-- free(cl) at the end of rfbClientConnectionGone after a failed creation -/
theorem life_free_c {X : State} {c : Nat} {t : Tid} (ht : t = .app ∨ t = .lis) (hl : Life X)
    (h : getC X t = .gone .unlockS c) :
    Life (setC (updCl X c (fun x => { x with alive := false })) t (finished t)) := by
  have hcur : crOf (getC X t) = some (c, false) := by rw [h]; rfl
  obtain ⟨_, _, hk⟩ := hl.cr t c false hcur
  exact life_cr_upd ht hl hcur ⟨(hl.cr t c false hcur).2.1, rfl⟩ (by intro e; simp only [] at e; rw [hk] at e; cases e)
    (Or.inl (crOf_finished t)) (fun t' _ e => by have := hl.known t' c e; rw [hk] at this; cases this)
    (knownC_finished t _) (fun c' => finished_ne_gone t _ c')

/-- pthread_create of the input thread -/
theorem life_startInp {X : State} {c : Nat} {t : Tid} (ht : t = .app ∨ t = .lis) (hl : Life X)
    (h : getC X t = .cr .create c) : Life (setC (setI X c .createO) t (finished t)) := by
  have hcur : crOf (getC X t) = some (c, true) := by rw [h]; rfl
  obtain ⟨ha, hi, hk⟩ := hl.cr t c true hcur
  have ho := hl.out_ns c (Or.inl hi)
  unfold setI
  apply life_upd_setC ht hl
  · exact hl.linked_alive c
  · exact hl.fresh c
  · intro _; exact ha
  · intro _; simp only []; rw [hk]; rfl
  · intro e; simp only [] at e; rw [ho] at e; simp [opcRun] at e
  · intro _; exact ho
  · intro t' b' hne h'; exact (cr_excl' hl hne hcur h').elim
  · intro c' b' h'; rw [crOf_finished] at h'; cases h'
  · intro t' c' b' b'' _ h'; rw [crOf_finished] at h'; cases h'
  · exact fun t' _ => hl.known t' c
  · intro y hy; rw [knownC_finished] at hy; cases hy
  · intro e; simp at e
  · exact fun t' _ => hl.zero_c t' c
  · intro c' e; exact absurd e (finished_ne_gone t _ c')

/-- calloc of a new record: its index has never been used.  Raising `n` first leaves `Life` as it is; then
only the record at the old `n` changes -/
theorem life_alloc {s : State} {t : Tid} (ht : t = .app ∨ t = .lis) (hl : Life s) (hb : Bnd s) :
    Life (setC (setN (updCl s s.n Client.fresh) (s.n + 1)) t (.cr .insLock s.n)) := by
  have hfr := hl.fresh s.n (Nat.le_refl _)
  have hi := hb.ipc_n
  have ho := hb.opc_n
  have hnocr : ∀ t' b, crOf (getC s t') = some (s.n, b) → False := fun t' b e => by
    have := (hl.cr t' _ b e).1; rw [hfr.2] at this; cases this
  have hl' : Life (setN s (s.n + 1)) :=
    ⟨hl.linked_alive, fun c hn => hl.fresh c (Nat.le_of_succ_le hn), hl.inp_alive, hl.inp_linked, hl.out_inp, hl.out_ns,
     hl.cr, hl.cr_excl, hl.known, hl.zero_inp, hl.zero_c⟩
  refine life_upd_setC (X := setN s (s.n + 1)) (c := s.n) (f := Client.fresh) ht hl' ?_ ?_ ?_ ?_ ?_ ?_ ?_ ?_ ?_ ?_ ?_ ?_ ?_ ?_
  · intro e; cases e
  · intro e; exact absurd e (Nat.not_succ_le_self _)
  · intro _; rfl
  · intro e; have e' : ipcAlive (s.cl s.n).ipc = true := e; rw [hi] at e'; cases e'
  · intro e; have e' : opcRun (s.cl s.n).opc = true := e; rw [ho] at e'; cases e'
  · intro _; exact ho
  · intro t' b _ e; exact (hnocr t' b e).elim
  · intro c' b e
    simp only [crOf, Option.some.injEq, Prod.mk.injEq] at e
    obtain ⟨rfl, rfl⟩ := e
    rw [updCl_cl_same]; exact ⟨rfl, hi, rfl⟩
  · intro t' c' b b' _ e e'
    simp only [crOf, Option.some.injEq, Prod.mk.injEq] at e
    exact hnocr t' b' (e.1 ▸ e')
  · intro t' _ e; have := hl.known t' _ e; rw [hfr.1] at this; cases this
  · intro y hy; simp [knownC, refsC] at hy
  · intro e; have e' : (s.cl s.n).ipc = _ := e; rw [hi] at e'; cases e'
  · intro t' _ e; exact (hnocr t' true (by rw [show getC s t' = _ from e]; rfl)).elim
  · intro c' e; cases e

/-- the iterator only ever finds clients that are in the list -/
theorem pickBelow_linked (s : State) (b : Bool) : ∀ k c, pickBelow s b k = some c → (s.cl c).linked = true := by
  intro k; induction k with
  | zero => intro c h; simp [pickBelow] at h
  | succ k ih =>
    intro c h; simp only [pickBelow] at h; split at h
    · rename_i hc; simp only [Option.some.injEq] at h; subst h
      simp only [Bool.and_eq_true] at hc; exact hc.1
    · exact ih c h

theorem pick_linked {s : State} {b : Bool} {prev : Option Nat} {c : Nat} (h : pick s b prev = some c) :
    (s.cl c).linked = true := pickBelow_linked s b _ c h

end VncModel.Threads
