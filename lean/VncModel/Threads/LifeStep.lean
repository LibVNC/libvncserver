import VncModel.Threads.Tidy
/-! `Tidy` (= `Bnd`, `RefG`, `Life`) is inductive: one theorem per successor function, each clause closed
by a combinator of Tidy.lean or, where a record is allocated, linked, unlinked or freed, by the matching
lemma of Life.lean.  The unlink needs `unlink_excl_of`: nobody else knows the record. -/
set_option linter.unusedSimpArgs false
namespace VncModel.Threads

@[simp] theorem opc_signalD (s : State) (c c' : Nat) : ((signalD s c).cl c').opc = (s.cl c').opc := by
  unfold signalD; simp only []
  split <;> split <;> split <;> simp [cl_setI] <;> split <;> simp_all

@[simp] theorem ipc_signalU (s : State) (c c' : Nat) : ((signalU s c).cl c').ipc = (s.cl c').ipc := by
  unfold signalU; split <;> simp [cl_setO]; split <;> simp_all

theorem unlink_excl_inp {s : State} {c : Nat} (hr : Reach s) (hG : RefG s) (hl : Life s) (h : (s.cl c).ipc = .g .unlockR) (t : Tid) :
    c ∉ knownC (getC s t) (alkOf s t) := by
  by_cases e : t = .inp c
  · subst e; simp [getC, knownC, refsC]
  · exact unlink_excl_of hr hG (hl.zero_inp c h) (me := .inp c) (by simp [heldOf, h, heldI, heldG])
      (by simp [heldOf, h, heldI, heldG]) t e

theorem unlink_excl_c {s : State} {c : Nat} {t : Tid} (hr : Reach s) (hG : RefG s) (hl : Life s) (ht : t = .app ∨ t = .lis)
    (h : getC s t = .gone .unlockR c) (t' : Tid) (hne : t' ≠ t) : c ∉ knownC (getC s t') (alkOf s t') := by
  refine unlink_excl_of hr hG (hl.zero_c t c h) (me := t) ?_ ?_ t' hne
  · rcases ht with rfl | rfl <;> (simp only [getC] at h; simp [heldOf, h, heldC, heldG])
  · rcases ht with rfl | rfl <;> (simp only [getC] at h; simp [heldOf, h, heldC, heldG])

/-- rfbRunEventLoop creates the listener thread -/
theorem life_rl {s : State} (hl : Life s) : Life (setC (setC s .lis .idle) .app .retp) := by
  refine life_move (Or.inl rfl) (life_move (Or.inr rfl) hl (Or.inl rfl) ?_ ?_) (Or.inl rfl) ?_ ?_
  · intro y hy; simp [knownC, refsC] at hy
  · intro c e; cases e
  · intro y hy; simp [knownC, refsC] at hy
  · intro c e; cases e


section callers
variable {s : State} {t : Tid}
attribute [local simp] idxC crOf knownC refsC procRefs mem_refsIt ISt.hasNxt ISt.hasPrev mem_bodyRefs nextIter gPre

theorem idxC_finished (t : Tid) : idxC (finished t) = [] := by cases t <;> rfl

theorem calm_finished {pc : CPc} : Calm pc (finished t) := by
  cases t <;> (constructor <;> simp [finished])

/-- rfbClientIteratorNext returns: its caller goes on with the client found, or is done -/
theorem calm_afterNext {p : Proc} {st : ISt} {prev nxt : Option Nat} (hst : st = .unlockL ∨ st = .decUnlock) :
    Calm (.iter p st prev nxt) (afterNext t p prev nxt) := by
  rcases hst with rfl | rfl <;> cases p <;> cases prev <;> cases nxt <;> simp only [afterNext] <;>
    first | exact calm_finished | (constructor <;> simp [procRefs] <;> grind)

/-- after LOCK(list mutex) the iterator picks the next client: a linked one below the previous -/
theorem tidy_pick {p : Proc} {prev nxt : Option Nat} {X : State} (ht : t = .app ∨ t = .lis) (h : Tidy s)
    (hpc : getC s t = .iter p .lockL prev nxt) (q : Quiet s X) :
    Tidy (setC X t (.iter p (match pick X p.closedToo prev with | some _ => .incLock | none => .unlockL) prev
      (pick X p.closedToo prev))) := by
  have hX := (q.getC t).trans hpc
  cases hnx : pick X p.closedToo prev with
  | none => exact h.goto ht hpc q
  | some c =>
    have hprev : ∀ x, prev = some x → x < X.n := fun x e => q.same.n ▸ h.bnd.idx ht x (by rw [hpc]; simp [e])
    refine (h.quiet q).jump ht ?_ (Or.inl rfl) ?_ (fun _ e => by cases e)
    · intro x hx
      simp only [idxC, List.mem_append, Option.mem_toList] at hx
      rcases hx with e | e
      · exact hprev x e
      · exact pick_lt_n hprev (hnx.trans e)
    · intro y hy
      by_cases e : y = c
      · subst e; exact Or.inr (pick_linked hnx)
      · left; revert hy; rw [hX]; simp [e]

theorem tidy_iter {p : Proc} {st : ISt} {prev nxt : Option Nat} (ht : t = .app ∨ t = .lis) (hr : Reach s) (h : Tidy s)
    (hpc : getC s t = .iter p st prev nxt) : ∀ x ∈ iterSucc s t p st prev nxt, Tidy x.2 := by
  cases st <;> simp only [iterSucc]
  case lockL =>
    split <;> simp only [succ_forall]
    rename_i a hl
    cases prev
    · exact tidy_pick ht h hpc ((Quiet.refl s).lock hl)
    · exact tidy_pick ht h hpc ((Quiet.refl s).lock hl).touch
  case incLock =>
    cases nxt <;> simp only [succ_forall]
    split <;> simp only [succ_forall]
    exact h.incRef_goto ht hr hpc ‹_›
  case incUnlock =>
    cases nxt <;> simp only [succ_forall]
    exact h.unlock_goto ht hpc (by calm)
  case unlockL =>
    simp only [succ_forall]
    cases prev
    · exact h.unlock_goto ht hpc (calm_afterNext (.inl rfl))
    · exact h.unlock_goto ht hpc (by calm)
  case decLock =>
    cases prev <;> simp only [succ_forall]
    split <;> simp only [succ_forall]
    exact h.decRef_goto ht hr hpc ‹_› (by simp) (by split <;> calm)
  case decSignal =>
    cases prev <;> simp only [succ_forall]
    exact h.signalD_goto ht hpc (Quiet.refl s).touch (by simp)
  case decUnlock =>
    cases prev <;> simp only [succ_forall]
    exact h.unlock_goto ht hpc (calm_afterNext (.inr rfl))

theorem tidy_body {p : Proc} {k c : Nat} (ht : t = .app ∨ t = .lis) (hr : Reach s) (h : Tidy s)
    (hpc : getC s t = .body p k c) (hpl : t = .lis → p = .count) : ∀ x ∈ bodySucc s t p k c, Tidy x.2 := by
  unfold bodySucc
  split
  all_goals simp only [succ_forall]
  case h_1 => exact h.goto ht hpc (.refl s)
  case h_4 => exact h.signalU_goto ht hpc (Quiet.refl s).touch
  case h_12 => exact fun a hl => h.incRef_goto ht hr hpc hl
  case h_14 =>
    intro a hl
    rcases ht with rfl | rfl
    · have q := (Quiet.refl s).lock hl
      have ha := h.quiet q
      have hk : ∀ y, y = c ∨ y ∈ a.alk → y ∈ knownC (getC a .app) (alkOf a .app) := fun y hy => by
        rw [q.getC, hpc]; simp [alkOf]; grind
      refine ha.setAlk_jump ?_ ?_ rfl ?_ (fun c e => by cases e)
      · intro x hx
        rcases List.mem_append.1 hx with hx | hx
        · exact ha.bnd.alk x hx
        · rw [q.same.n]; exact h.bnd.idx (.inl rfl) x (by rw [hpc]; simpa using hx)
      · intro x hx; rw [q.same.n]; exact h.bnd.idx (.inl rfl) x (by rw [hpc]; simpa using hx)
      · intro y hy; exact ha.life.known .app y (hk y (by simp at hy; grind))
    · cases hpl rfl
  case h_17 => exact h.goto ht hpc (Quiet.refl s).raise
  all_goals and_intros
  all_goals first | refine h.lock_goto ht hpc ?_ | refine h.unlock_goto ht hpc ?_ | refine h.touch_goto ht hpc ?_
  all_goals calm

theorem tidy_close {p : Proc} {k : KSt} {c : Nat} (ht : t = .app ∨ t = .lis) (h : Tidy s)
    (hpc : getC s t = .close p k c) : ∀ x ∈ closeSucc s t p k c, Tidy x.2 := by
  cases k <;> simp only [closeSucc, succ_forall]
  case sigU => exact h.signalU_goto ht hpc (Quiet.refl s).touch
  case unlockU => exact h.unlock_goto ht hpc (by calm)
  case setSt => exact ⟨fun _ => h.touch_goto ht hpc (by calm), fun _ => h.goto ht hpc (Quiet.refl s).touch.updCl⟩
  case pipe => cases p <;> exact h.goto ht hpc (Quiet.refl s).touch.updCl

theorem mem_drop_of_succ {l : List Nat} {i y : Nat} (h : y ∈ l.drop (i + 1) ∨ l[i]? = some y) : y ∈ l.drop i := by
  rcases h with h | h
  · rw [← List.drop_drop] at h; exact List.mem_of_mem_drop h
  · rw [drop_of_getElem? h]; exact List.mem_cons_self

theorem calm_nf_dec {i : Nat} {b : Prop} [Decidable b] :
    Calm (.nf .decLock i) (.nf (if b then .decSignal else .decUnlock) i) := by
  split <;> exact ⟨by simp, by simp, fun alk y hy => by simp at hy ⊢; exact mem_drop_of_succ hy, by simp⟩

theorem tidy_nf {st : NSt} {i : Nat} (hr : Reach s) (h : Tidy s) (hpc : getC s .app = .nf st i) :
    ∀ x ∈ nfSucc s .app st i, Tidy x.2 := by
  have ht : Tid.app = .app ∨ Tid.app = .lis := .inl rfl
  cases st <;> simp only [nfSucc]
  case lockC => simp only [succ_forall]; exact fun a hl => h.goto ht hpc ((Quiet.refl s).lock hl)
  case unlockC =>
    simp only [succ_forall]
    exact (h.quiet (Quiet.refl s).unlock).setAlk_jump (by simp) (by simp) rfl (by simp) (by simp)
  all_goals split <;> simp only [succ_forall]
  all_goals rename_i c hc
  · exact h.lock_goto ht hpc (by calm)
  · exact h.signalU_goto ht hpc (Quiet.refl s).touch
  · exact h.unlock_goto ht hpc (by calm)
  · exact h.unlock_goto ht hpc (by calm)
  · exact fun a hl => h.decRef_goto ht hr hpc hl (by simp [alkOf, drop_of_getElem? hc]) calm_nf_dec
  · exact h.signalD_goto ht hpc (Quiet.refl s).touch (by simp)
  · exact h.unlock_goto ht hpc (by calm)

theorem tidy_cr {st : CrSt} {c : Nat} (ht : t = .app ∨ t = .lis) (hr : Reach s) (h : Tidy s)
    (hpc : getC s t = .cr st c) : ∀ x ∈ crSucc s t st c, Tidy x.2 := by
  cases st <;> simp only [crSucc, succ_forall]
  case alloc =>
    exact Tidy.of_life ht (bnd_alloc h.bnd) (by simp) (refG_alloc h.refG (local_reach hr) h.bnd) (life_alloc ht h.life h.bnd)
  case insLock =>
    intro a hl
    have q := (Quiet.refl s).lock hl
    have ha := h.quiet q
    exact Tidy.of_life ht ha.record.1
      (fun x hx => q.same.n ▸ h.bnd.idx ht x (by rw [hpc]; simpa using hx))
      ha.record.2 (life_link ht ha.life ((q.getC t).trans hpc))
  case create =>
    have q : Quiet s (touch s c) := (Quiet.refl s).touch
    have ha := h.quiet q
    have hc : c < s.n := h.bnd.idx ht c (by rw [hpc]; simp)
    exact ⟨fun _ => Tidy.of_life ht (bnd_setI ha.bnd (by rw [q.same.n]; exact hc)) (by rw [idxC_finished]; simp)
        ((refG_setI _ _ _).2 ha.refG) (life_startInp ht ha.life ((q.getC t).trans hpc)),
      fun _ => h.goto ht hpc (Quiet.refl s).raise calm_finished⟩
  case kSigU => exact h.signalU_goto ht hpc (Quiet.refl s).touch
  case kSetSt => exact ⟨fun _ => h.touch_goto ht hpc (by calm), fun _ => h.goto ht hpc (Quiet.refl s).touch.updCl⟩
  all_goals and_intros
  all_goals first | refine h.lock_goto ht hpc ?_ | refine h.unlock_goto ht hpc ?_ | refine h.touch_goto ht hpc ?_
  all_goals calm

theorem tidy_gone {g : GSt} {c : Nat} (ht : t = .app ∨ t = .lis) (hr : Reach s) (h : Tidy s)
    (hpc : getC s t = .gone g c) :
    ∀ x ∈ goneSucc s t g c (fun s1 g1 => setC s1 t (.gone g1 c)) (fun s1 => setC s1 t (finished t)), Tidy x.2 := by
  have hc : c < s.n := h.bnd.idx ht c (by rw [hpc]; simp)
  cases g <;> simp only [goneSucc, succ_forall]
  case lockR =>
    intro a hl
    have q := (Quiet.refl s).lock hl
    split
    · exact h.goto ht hpc q
    · exact (h.quiet q).jump ht (fun x hx => by rw [q.same.n]; simp at hx; exact hx ▸ hc)
        (Or.inr (by rw [q.getC, hpc]; rfl)) (fun y hy => by simp at hy)
        (fun c' e => by cases e; omega)
  case unlockR =>
    have q : Quiet s (doUnlock s t .R c) := (Quiet.refl s).unlock
    have ha := h.quiet q
    refine Tidy.of_life ht ha.record.1
      (fun x hx => by simp at hx; subst hx; rw [updCl_n, q.same.n]; exact hc)
      ha.record.2 (life_unlink_c ht ha.life ((q.getC t).trans hpc) ?_)
    intro t' hne
    rw [q.getC, q.alkOf]
    exact unlink_excl_c hr h.refG h.life ht hpc t' hne
  case gone => exact h.goto ht hpc (Quiet.refl s).touch.updCl
  case unlockS =>
    have q : Quiet s (doUnlock s t .S c) := (Quiet.refl s).unlock
    have ha := h.quiet q
    split
    · exact Tidy.of_life ht ha.record.1 (by rw [idxC_finished]; simp)
        ha.record.2 (life_free_c ht ha.life ((q.getC t).trans hpc))
    · exact h.goto ht hpc q.raise calm_finished
  all_goals first | refine h.lock_goto ht hpc ?_ | refine h.unlock_goto ht hpc ?_
  all_goals calm

theorem tidy_caller (ht : t = .app ∨ t = .lis) (hp : t = .lis → lisPc (getC s t) = true) (hr : Reach s) (h : Tidy s) :
    ∀ x ∈ callerSucc s t, Tidy x.2 := by
  have happ : ∀ {pc : CPc}, getC s t = pc → lisPc pc = false → t = .app := fun e hf => by
    rcases ht with rfl | rfl
    · rfl
    · have := hp rfl; rw [e, hf] at this; cases this
  unfold callerSucc
  split
  case h_6 => exact tidy_iter ht hr h ‹_›
  case h_7 hpc =>
    exact tidy_body ht hr h hpc (fun e => by subst e; have := hp rfl; rw [hpc] at this; simpa [lisPc] using this)
  case h_8 => exact tidy_close ht h ‹_›
  case h_9 hpc => obtain rfl := happ hpc rfl; exact tidy_nf hr h hpc
  case h_13 => exact tidy_cr ht hr h ‹_›
  case h_14 => exact tidy_gone ht hr h ‹_›
  case h_3 hpc =>
    rcases ht with rfl | rfl <;> simp only []
    · have hcall : ∀ a, Tidy (setC (setAlkT (setAapi s a) .app []) .app (.iter (procOfApi a) .lockL none none)) :=
        fun a => (h.quiet (Quiet.refl s).setAapi).setAlk_jump (by simp) (by simp) rfl
          (fun y hy => by cases a <;> simp [procOfApi] at hy) (by simp)
      split <;> simp only [succ_forall, List.map_cons, List.map_nil]
      · exact h.goto (.inl rfl) hpc (Quiet.refl s).setAapi
      · refine ⟨⟨⟨fun _ => ?_, fun _ => ?_⟩, hcall _, hcall _, hcall _, hcall _, hcall _, hcall _, hcall _⟩, fun _ => ?_⟩
        all_goals exact h.goto (.inl rfl) hpc (Quiet.refl s).setAapi
    · simp only [succ_forall]
      exact ⟨fun _ => h.goto (.inr rfl) hpc (.refl s), h.goto (.inr rfl) hpc (.refl s)⟩
  case h_4 hpc =>
    obtain rfl := happ hpc rfl
    split <;> simp only [succ_forall]
    · exact Tidy.of_life (.inl rfl) ((bnd_setC_same (.inr rfl) s .idle (by rename_i e; rw [getC, e]; rfl)).2 h.bnd) (by simp)
        ((refG_setC _ _ _).2 h.refG) (life_rl h.life)
    · exact h.goto (.inl rfl) hpc (Quiet.refl s).raise
  case h_5 hpc =>
    obtain rfl := happ hpc rfl
    simp only [succ_forall]
    exact h.goto (.inl rfl) hpc (.refl s)
  case h_10 hpc =>
    obtain rfl := happ hpc rfl
    simp only [succ_forall]
    exact h.goto (.inl rfl) hpc (Quiet.refl s).setLisDown
  case h_11 hpc =>
    obtain rfl := happ hpc rfl
    split <;> simp only [succ_forall]
    exact h.goto (.inl rfl) hpc (Quiet.refl s).raiseIf.setLjoined
  case h_12 c nxt hpc =>
    repeat' split
    all_goals simp only [succ_forall]
    · exact h.goto ht hpc (Quiet.refl s).raiseIf.updCl
    · exact h.goto ht hpc (Quiet.refl s).raiseIf.updCl calm_finished
    · exact h.goto ht hpc (Quiet.refl s).raise
    · exact h.goto ht hpc (Quiet.refl s).raise calm_finished
  all_goals simp only [succ_forall]

end callers

theorem opcRun_signalU (X : State) (c : Nat) : opcRun ((signalU X c).cl c).opc = opcRun (X.cl c).opc := by
  unfold signalU; split
  · rename_i e; rw [cl_setO, if_pos rfl, e]; rfl
  · rfl

theorem tidy_out {s : State} {c : Nat} (hr : Reach s) (h : Tidy s) : ∀ x ∈ outSucc s c, Tidy x.2 := by
  have go : ∀ {X : State} {pc' : OPc}, opcRun (s.cl c).opc = true → Quiet s X → Tidy (setO X c pc') :=
    fun hrun q => (h.quiet q).out (by rw [q.opc]; exact hrun)
  unfold outSucc
  split
  all_goals simp only [succ_forall]
  all_goals rename_i hpc
  all_goals have hrun : opcRun (s.cl c).opc = true := by rw [hpc]; rfl
  case h_11 => exact fun a hl => (Tidy.incRef (.inr (.inr rfl)) hr h hl).out (by rw [opc_incRef, opc_doLock hl, hpc]; rfl)
  case h_18 => exact ((h.quiet (Quiet.refl s).touch).signalU c).out (by rw [opcRun_signalU, touch_cl]; exact hrun)
  case h_20 => exact ⟨fun _ => go hrun (Quiet.refl s).touch, fun _ => go hrun (Quiet.refl s).touch.updCl⟩
  case h_21 => exact go hrun (Quiet.refl s).touch.updCl
  case h_22 =>
    exact fun a hl => (Tidy.decRef (.inr (.inr rfl)) hr h hl (by simp [refsOf, hpc, refsO])).out
      (by rw [opc_decRef, opc_doLock hl, hpc]; rfl)
  case h_23 => exact ((h.quiet (Quiet.refl s).touch).signalD c).out (by rw [opc_signalD, touch_cl, hpc]; rfl)
  case h_25 => exact go hrun (.refl s)
  all_goals and_intros
  all_goals first
    | exact fun _ => go hrun (Quiet.refl s).touch
    | exact fun a hl => go hrun ((Quiet.refl s).lock hl)
    | exact go hrun (Quiet.refl s).unlock

/-- rfbClientConnectionGone in the input thread -/
theorem tidy_gone_inp {s : State} {c : Nat} {g : GSt} (hr : Reach s) (h : Tidy s) (hpc : (s.cl c).ipc = .g g) :
    ∀ x ∈ goneSucc s (.inp c) g c (fun s1 g1 => setI s1 c (.g g1)) (fun s1 => setI s1 c .exiting), Tidy x.2 := by
  have hc : c < s.n := h.bnd.thr c (Or.inl (by rw [hpc]; simp))
  cases g <;> simp only [goneSucc, succ_forall]
  case lockR =>
    intro a hl
    have q := (Quiet.refl s).lock hl
    split
    · exact h.inpGoto hpc q
    · exact (h.quiet q).inp ((q.ipc c).trans hpc) rfl (.inr (.inl rfl)) (fun _ => by omega)
  case unlockR =>
    have q : Quiet s (doUnlock s (.inp c) .R c) := (Quiet.refl s).unlock
    have ha := h.quiet q
    refine ⟨bnd_setI ha.record.1 (by rw [updCl_n, q.same.n]; exact hc),
      (refG_setI _ _ _).2 ha.record.2,
      life_unlink_inp ha.life ((q.ipc c).trans hpc) (fun t => ?_)⟩
    rw [q.getC, q.alkOf]
    exact unlink_excl_inp hr h.refG h.life hpc t
  case gone => exact h.inpGoto hpc (Quiet.refl s).touch.updCl
  case unlockS =>
    have q : Quiet s (doUnlock s (.inp c) .S c) := (Quiet.refl s).unlock
    have ha := h.quiet q
    split
    · exact ⟨bnd_setI ha.record.1 (by rw [updCl_n, q.same.n]; exact hc),
        (refG_setI _ _ _).2 ha.record.2,
        life_free_inp ha.life ((q.ipc c).trans hpc)⟩
    · rename_i hd
      exact absurd (ha.life.inp_alive c (by rw [q.ipc, hpc]; rfl)) hd
  all_goals first | exact fun a hl => h.inpGoto hpc ((Quiet.refl s).lock hl) | exact h.inpGoto hpc (Quiet.refl s).unlock

theorem tidy_inp {s : State} {c : Nat} (hr : Reach s) (h : Tidy s) : ∀ x ∈ inpSucc s c, Tidy x.2 := by
  have sig : ∀ {pc pc' : IPc}, (s.cl c).ipc = pc → Tidy.keepsI pc pc' = true → ipcHasOut pc' = true →
      pc' ≠ .g .unlockR → Tidy (setI (signalU (touch s c) c) c pc') := fun hpc hk ho hz =>
    ((h.quiet (Quiet.refl s).touch).signalU c).inp (by rw [ipc_signalU, touch_cl, hpc]) hk (.inl ho) (fun e => absurd e hz)
  unfold inpSucc
  split
  case h_21 hpc => exact tidy_gone_inp hr h hpc
  all_goals simp only [succ_forall]
  all_goals rename_i hpc
  case h_3 =>
    have ho := h.life.out_ns c (Or.inr hpc)
    have q : Quiet s (touch s c) := (Quiet.refl s).touch
    have ha := h.quiet q
    have hc : c < s.n := h.bnd.thr c (Or.inl (by rw [hpc]; simp))
    exact ⟨fun _ => ⟨bnd_setI (bnd_setO ha.bnd (by rw [q.same.n]; exact hc)) (by rw [n_setO, q.same.n]; exact hc),
      (refG_setI _ _ _).2 ((refG_setO _ _ _).2 ha.refG), life_startOut ha.life ((q.ipc c).trans hpc)⟩,
      fun hn => absurd ho hn⟩
  case h_6 => exact sig hpc rfl rfl (by decide)
  case h_9 => exact sig hpc rfl rfl (by decide)
  case h_15 => exact sig hpc rfl rfl (by decide)
  case h_17 =>
    intro he
    have q : Quiet s (updCl (raiseIf s .badJoin (s.cl c).ojoined) c (fun x => { x with ojoined := true })) :=
      (Quiet.refl s).raiseIf.updCl
    exact (h.quiet q).inp ((q.ipc c).trans hpc) rfl (.inr (.inr (by rw [q.opc, he]; rfl))) (fun e => by cases e)
  case h_22 =>
    exact ⟨bnd_setI h.bnd (h.bnd.thr c (Or.inl (by rw [hpc]; simp))), (refG_setI _ _ _).2 h.refG, life_exit_inp h.life hpc⟩
  all_goals and_intros
  all_goals first
    | exact fun _ => h.inpGoto hpc (Quiet.refl s).touch
    | exact fun _ => h.inpGoto hpc (Quiet.refl s).touch.updCl
    | exact fun a hl => h.inpGoto hpc ((Quiet.refl s).lock hl)
    | exact h.inpGoto hpc (Quiet.refl s).unlock
    | exact h.inpGoto hpc (Quiet.refl s).touch.updCl

theorem tidy_step {s s' : State} (hr : Reach s) (h : Tidy s) (hs : Step s s') : Tidy s' :=
  step_cases (fun _ ht hp => tidy_caller ht hp hr h) (fun _ => tidy_inp hr h) (fun _ => tidy_out hr h) hs

theorem tidy_reach {s : State} (h : Reach s) : Tidy s := by
  induction h with
  | init => exact ⟨bnd_init, refG_init, life_init⟩
  | step hr hs ih => exact tidy_step hr ih hs

theorem bnd_reach {s : State} (h : Reach s) : Bnd s := (tidy_reach h).bnd

theorem life_reach {s : State} (h : Reach s) : Life s := (tidy_reach h).life

/-- **the reference count is exact**: refCount of client c = number of counted references the
program counters of the application thread, the listener thread and c's output thread hold on c -/
theorem refCount_exact {s : State} (h : Reach s) (c : Nat) :
    (s.cl c).refCount = (refsOf s .app).count c + (refsOf s .lis).count c + (refsOf s (.out c)).count c :=
  refCount_of_refG (tidy_reach h).refG (local_reach h) c

theorem unlink_excl {s : State} {me : Tid} {c : Nat} (hr : Reach s) (hz : (s.cl c).refCount = 0)
    (hR : (MCls.R, c) ∈ heldOf s me) (hL : mL ∈ heldOf s me) (t : Tid) (hne : t ≠ me) :
    c ∉ knownC (getC s t) (alkOf s t) :=
  unlink_excl_of hr (tidy_reach hr).refG hz hR hL t hne

end VncModel.Threads
