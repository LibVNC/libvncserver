import VncModel.Threads.Obs
/-! The thread-local invariant `Local` is inductive.  `Local` of a successor is rewritten (`local_frame`)
to `LocalAfter t Y H R` of the state `Y` before the program counter of the stepping thread `t` is set;
each clause is then one of five kinds of step, whose side conditions are permutations between rows of
the tables. -/
namespace VncModel.Threads

/-- `X` is obtained from `s` by steps of thread `t` that change t's ghost by `fh` / `fr` and nothing
that the thread-local invariant of the other threads depends on -/
structure GRel (t : Tid) (s X : State) (fh : List Mx → List Mx) (fr : List Nat → List Nat) : Prop where
  others : ∀ t', t' ≠ t → getG X t' = getG s t' ∧ heldOf X t' = heldOf s t' ∧ refsOf X t' = refsOf s t'
  held : (getG X t).held = fh (getG s t).held
  refs : (getG X t).refs = fr (getG s t).refs

theorem heldC_wake (c : Nat) (alk : List Nat) : heldC (.gone .wakeD c) alk = heldC (.gone .blocked c) alk := rfl
theorem refsC_wake (c : Nat) (alk : List Nat) : refsC (.gone .wakeD c) alk = refsC (.gone .blocked c) alk := rfl

@[simp] theorem heldOf_signalD (s : State) (c : Nat) (t : Tid) : heldOf (signalD s c) t = heldOf s t := by
  unfold signalD
  simp only []
  have e1 : ∀ X : State, (X.cl c).ipc = .g .blocked → heldOf (setI X c (.g .wakeD)) t = heldOf X t := by
    intro X hX; rw [heldOf_setI]; split
    · rename_i ht; subst ht; simp [heldOf, hX, heldI, heldG]
    · rfl
  have e2 : ∀ X : State, X.apc = .gone .blocked c → heldOf (setC X .app (.gone .wakeD c)) t = heldOf X t := by
    intro X hX; rw [heldOf_setC]; simp only []; split
    · rename_i ht; subst ht; simp [heldOf, hX, heldC, heldG]
    · rfl
  have e3 : ∀ X : State, X.lpc = .gone .blocked c → heldOf (setC X .lis (.gone .wakeD c)) t = heldOf X t := by
    intro X hX; rw [heldOf_setC]; simp only []; split
    · rename_i ht; subst ht; simp [heldOf, hX, heldC, heldG]
    · rfl
  split <;> split <;> split <;> simp_all

@[simp] theorem refsOf_signalD (s : State) (c : Nat) (t : Tid) : refsOf (signalD s c) t = refsOf s t := by
  unfold signalD
  simp only []
  have e1 : ∀ X : State, refsOf (setI X c (.g .wakeD)) t = refsOf X t := fun X => refsOf_setI X c _ t
  have e2 : ∀ X : State, X.apc = .gone .blocked c → refsOf (setC X .app (.gone .wakeD c)) t = refsOf X t := by
    intro X hX; rw [refsOf_setC]; simp only []; split
    · rename_i ht; subst ht; simp [refsOf, hX, refsC]
    · rfl
  have e3 : ∀ X : State, X.lpc = .gone .blocked c → refsOf (setC X .lis (.gone .wakeD c)) t = refsOf X t := by
    intro X hX; rw [refsOf_setC]; simp only []; split
    · rename_i ht; subst ht; simp [refsOf, hX, refsC]
    · rfl
  split <;> split <;> split <;> simp_all

theorem GRel.unlock {t s X fh fr} {m : MCls} {c : Nat} (h : GRel t s X fh fr) (ho : own X m c = some t) :
    GRel t s (doUnlock X t m c) (fun l => (fh l).erase (mkey m c)) fr := by
  refine ⟨fun t' ht => ?_, ?_, ?_⟩
  · rw [getG_doUnlock ho, if_neg ht, heldOf_pcSame (pcSame_doUnlock X t m c), refsOf_pcSame (pcSame_doUnlock X t m c)]
    exact h.others t' ht
  · rw [getG_doUnlock ho, if_pos rfl]; simp [h.held]
  · rw [getG_doUnlock ho, if_pos rfl]; simp [h.refs]

@[simp] theorem alk_doUnlock (s : State) (t : Tid) (m : MCls) (c : Nat) : (doUnlock s t m c).alk = s.alk :=
  (pcSame_doUnlock s t m c).2.2.1
theorem alk_doLock {s a : State} {t : Tid} {m : MCls} {c : Nat} (h : doLock s t m c = some a) : a.alk = s.alk :=
  (pcSame_doLock h).2.2.1
@[simp] theorem alk_incRef (s : State) (t : Tid) (c : Nat) : (incRef s t c).alk = s.alk := (pcSame_incRef s t c).2.2.1
@[simp] theorem alk_decRef (s : State) (t : Tid) (c : Nat) : (decRef s t c).alk = s.alk := (pcSame_decRef s t c).2.2.1
@[simp] theorem alk_setAlkT_app (s : State) (l : List Nat) : (setAlkT s .app l).alk = l := rfl
@[simp] theorem alk_setAlkT_lis (s : State) (l : List Nat) : (setAlkT s .lis l).alk = s.alk := rfl
@[simp] theorem alk_raise (s : State) (f : Flag) : (raise s f).alk = s.alk := by cases f <;> rfl
@[simp] theorem alk_raiseIf (s : State) (f : Flag) (b : Bool) : (raiseIf s f b).alk = s.alk := by
  unfold raiseIf; split <;> simp
@[simp] theorem alk_setN (s : State) (n : Nat) : (setN s n).alk = s.alk := rfl
@[simp] theorem alk_setAapi (s : State) (a : Api) : (setAapi s a).alk = s.alk := rfl
@[simp] theorem alk_setLisDown (s : State) : (setLisDown s).alk = s.alk := rfl
@[simp] theorem alk_setLjoined (s : State) : (setLjoined s).alk = s.alk := rfl
@[simp] theorem alk_setI (s : State) (c : Nat) (pc : IPc) : (setI s c pc).alk = s.alk := rfl
@[simp] theorem alk_setO (s : State) (c : Nat) (pc : OPc) : (setO s c pc).alk = s.alk := rfl
@[simp] theorem alk_signalU (s : State) (c : Nat) : (signalU s c).alk = s.alk := by unfold signalU; split <;> simp
@[simp] theorem alk_signalD (s : State) (c : Nat) : (signalD s c).alk = s.alk := by
  unfold signalD; simp only []; split <;> split <;> split <;> simp

theorem drop_of_getElem? {l : List Nat} {i c : Nat} (h : l[i]? = some c) : l.drop i = c :: l.drop (i + 1) := by
  obtain ⟨hi, rfl⟩ := List.getElem?_eq_some_iff.1 h
  exact List.drop_eq_getElem_cons hi

theorem mem_refs_of_local {s : State} (hL : Local s) {t : Tid} {c : Nat} (h : c ∈ refsOf s t) :
    c ∈ (getG s t).refs := by
  have := (hL t).2 c
  have hp : 0 < (refsOf s t).count c := List.count_pos_iff.2 h
  exact List.count_pos_iff.1 (by omega)

theorem refs_doLock {s a : State} {t : Tid} {m : MCls} {c : Nat} (hl : doLock s t m c = some a) (t' : Tid) :
    (getG a t').refs = (getG s t').refs := by
  rw [getG_doLock hl]; split
  · rename_i h; subst h; rfl
  · rfl

/-- the thread-local invariant holds in `Y` as soon as the tables of thread `t` read `H` and `R` -/
structure LocalAfter (t : Tid) (Y : State) (H : List Mx) (R : List Nat) : Prop where
  others : ∀ t', t' ≠ t → LocalT Y t'
  held : (getG Y t).held.Perm H
  refs : (getG Y t).refs.Perm R

theorem localT_iff {s : State} {t : Tid} :
    LocalT s t ↔ (getG s t).held.Perm (heldOf s t) ∧ (getG s t).refs.Perm (refsOf s t) := by
  simp only [LocalT, List.perm_iff_count]

theorem LocalAfter.perm {t Y H R H' R'} (h : LocalAfter t Y H R) (hH : H.Perm H') (hR : R.Perm R') :
    LocalAfter t Y H' R' :=
  ⟨h.others, h.held.trans hH, h.refs.trans hR⟩

theorem LocalAfter.of_eq {t Y Y' H R} (h : LocalAfter t Y H R) (hg : ∀ t', getG Y' t' = getG Y t')
    (hh : ∀ t', t' ≠ t → heldOf Y' t' = heldOf Y t') (hr : ∀ t', t' ≠ t → refsOf Y' t' = refsOf Y t') :
    LocalAfter t Y' H R :=
  ⟨fun t' ht => by unfold LocalT; rw [hg, hh t' ht, hr t' ht]; exact h.others t' ht,
   by rw [hg]; exact h.held, by rw [hg]; exact h.refs⟩

theorem LocalAfter.congr {t Y Y' H R} (hg : ∀ t', getG Y' t' = getG Y t')
    (hh : ∀ t', t' ≠ t → heldOf Y' t' = heldOf Y t') (hr : ∀ t', t' ≠ t → refsOf Y' t' = refsOf Y t') :
    LocalAfter t Y' H R ↔ LocalAfter t Y H R :=
  ⟨fun h => h.of_eq (fun t' => (hg t').symm) (fun t' ht => (hh t' ht).symm) (fun t' ht => (hr t' ht).symm),
   fun h => h.of_eq hg hh hr⟩

theorem LocalAfter.congr_pc {t Y Y' H R} (hg : ∀ t', getG Y' t' = getG Y t') (hp : PcSame Y Y') :
    LocalAfter t Y' H R ↔ LocalAfter t Y H R :=
  LocalAfter.congr hg (fun t' _ => heldOf_pcSame hp t') (fun t' _ => refsOf_pcSame hp t')

theorem local_iff_after {t : Tid} {Y s' : State} {H R} (hg : ∀ t', getG s' t' = getG Y t')
    (hn : ∀ t', t' ≠ t → heldOf s' t' = heldOf Y t' ∧ refsOf s' t' = refsOf Y t')
    (hH : heldOf s' t = H) (hR : refsOf s' t = R) : Local s' ↔ LocalAfter t Y H R := by
  constructor
  · intro h
    refine ⟨fun t' ht => ?_, ?_, ?_⟩
    · have := h t'; unfold LocalT at this ⊢; rwa [hg, (hn t' ht).1, (hn t' ht).2] at this
    · rw [← hg, ← hH]; exact (localT_iff.1 (h t)).1
    · rw [← hg, ← hR]; exact (localT_iff.1 (h t)).2
  · intro h t'
    by_cases ht : t' = t
    · subst ht; rw [localT_iff, hg, hH, hR]; exact ⟨h.held, h.refs⟩
    · have := h.others t' ht; unfold LocalT at this ⊢; rwa [hg, (hn t' ht).1, (hn t' ht).2]

@[local_frame] theorem local_setO (Y : State) (c : Nat) (pc : OPc) :
    Local (setO Y c pc) ↔ LocalAfter (.out c) Y (heldO pc c) (refsO pc c) :=
  local_iff_after (fun _ => getG_setO _ _ _ _)
    (fun t' ht => ⟨by rw [heldOf_setO, if_neg ht], by rw [refsOf_setO, if_neg ht]⟩)
    (by rw [heldOf_setO, if_pos rfl]) (by rw [refsOf_setO, if_pos rfl])

@[local_frame] theorem local_setI (Y : State) (c : Nat) (pc : IPc) :
    Local (setI Y c pc) ↔ LocalAfter (.inp c) Y (heldI pc c) [] :=
  local_iff_after (fun _ => getG_setI _ _ _ _)
    (fun t' ht => ⟨by rw [heldOf_setI, if_neg ht], by rw [refsOf_setI]⟩)
    (by rw [heldOf_setI, if_pos rfl]) (by rw [refsOf_setI]; rfl)

@[local_frame] theorem local_setC_app (Y : State) (pc : CPc) :
    Local (setC Y .app pc) ↔ LocalAfter .app Y (heldC pc Y.alk) (refsC pc Y.alk) :=
  local_iff_after (fun _ => getG_setC _ _ _ _)
    (fun t' ht => by cases t' <;> first | exact absurd rfl ht | exact ⟨rfl, rfl⟩) rfl rfl

@[local_frame] theorem local_setC_lis (Y : State) (pc : CPc) :
    Local (setC Y .lis pc) ↔ LocalAfter .lis Y (heldC pc []) (refsC pc []) :=
  local_iff_after (fun _ => getG_setC _ _ _ _)
    (fun t' ht => by cases t' <;> first | exact absurd rfl ht | exact ⟨rfl, rfl⟩) rfl rfl

theorem pcSame_raise (s : State) (f : Flag) : PcSame s (raise s f) := by
  cases f <;> exact ⟨rfl, rfl, rfl, fun _ => ⟨rfl, rfl⟩⟩

@[local_frame] theorem localAfter_touch {t Y H R} (c : Nat) : LocalAfter t (touch Y c) H R ↔ LocalAfter t Y H R :=
  LocalAfter.congr_pc (fun _ => getG_touch _ _ _) (pcSame_touch Y c)
@[local_frame] theorem localAfter_updCl {t Y H R} (c : Nat) (f : Client → Client) (hb : Benign f) (hk : KeepsPc f) :
    LocalAfter t (updCl Y c f) H R ↔ LocalAfter t Y H R :=
  LocalAfter.congr_pc (fun t' => getG_updCl Y c f hb t') (pcSame_updCl Y c f hk)
@[local_frame] theorem localAfter_signalU {t Y H R} (c : Nat) : LocalAfter t (signalU Y c) H R ↔ LocalAfter t Y H R :=
  LocalAfter.congr (fun _ => getG_signalU _ _ _) (fun _ _ => heldOf_signalU _ _ _) (fun _ _ => refsOf_signalU _ _ _)
@[local_frame] theorem localAfter_signalD {t Y H R} (c : Nat) : LocalAfter t (signalD Y c) H R ↔ LocalAfter t Y H R :=
  LocalAfter.congr (fun _ => getG_signalD _ _ _) (fun _ _ => heldOf_signalD _ _ _) (fun _ _ => refsOf_signalD _ _ _)
@[local_frame] theorem localAfter_raise {t Y H R} (f : Flag) : LocalAfter t (raise Y f) H R ↔ LocalAfter t Y H R :=
  LocalAfter.congr_pc (raise_getG Y f) (pcSame_raise Y f)
@[local_frame] theorem localAfter_raiseIf {t Y H R} (f : Flag) (b : Bool) :
    LocalAfter t (raiseIf Y f b) H R ↔ LocalAfter t Y H R := by
  unfold raiseIf; split
  · exact localAfter_raise f
  · exact Iff.rfl
@[local_frame] theorem localAfter_setN {t Y H R} (n : Nat) : LocalAfter t (setN Y n) H R ↔ LocalAfter t Y H R :=
  LocalAfter.congr_pc (fun t' => by cases t' <;> rfl) ⟨rfl, rfl, rfl, fun _ => ⟨rfl, rfl⟩⟩
@[local_frame] theorem localAfter_setAapi {t Y H R} (a : Api) : LocalAfter t (setAapi Y a) H R ↔ LocalAfter t Y H R :=
  LocalAfter.congr_pc (fun t' => by cases t' <;> rfl) ⟨rfl, rfl, rfl, fun _ => ⟨rfl, rfl⟩⟩
@[local_frame] theorem localAfter_setLisDown {t Y H R} : LocalAfter t (setLisDown Y) H R ↔ LocalAfter t Y H R :=
  LocalAfter.congr_pc (fun t' => by cases t' <;> rfl) ⟨rfl, rfl, rfl, fun _ => ⟨rfl, rfl⟩⟩
@[local_frame] theorem localAfter_setLjoined {t Y H R} : LocalAfter t (setLjoined Y) H R ↔ LocalAfter t Y H R :=
  LocalAfter.congr_pc (fun t' => by cases t' <;> rfl) ⟨rfl, rfl, rfl, fun _ => ⟨rfl, rfl⟩⟩
@[local_frame] theorem localAfter_setAlkT {t Y H R} (l : List Nat) :
    LocalAfter t (setAlkT Y t l) H R ↔ LocalAfter t Y H R := by
  unfold setAlkT; split
  · rename_i ht; subst ht
    exact LocalAfter.congr (fun t' => by cases t' <;> rfl)
      (fun t' ht => by cases t' <;> first | exact absurd rfl ht | rfl)
      (fun t' ht => by cases t' <;> first | exact absurd rfl ht | rfl)
  · exact Iff.rfl

/-- a thread's program counter is set by another thread only when the thread is created or woken; its
tables do not change then -/
theorem localAfter_setO_other {t Y H R} {c : Nat} {pc : OPc} (ht : t ≠ .out c)
    (h1 : heldO pc c = heldO (Y.cl c).opc c) (h2 : refsO pc c = refsO (Y.cl c).opc c) :
    LocalAfter t (setO Y c pc) H R ↔ LocalAfter t Y H R :=
  LocalAfter.congr (fun _ => getG_setO _ _ _ _)
    (fun t' _ => by rw [heldOf_setO]; split
                    · rename_i h; subst h; simp [heldOf, h1]
                    · rfl)
    (fun t' _ => by rw [refsOf_setO]; split
                    · rename_i h; subst h; simp [refsOf, h2]
                    · rfl)

theorem localAfter_setI_other {t Y H R} {c : Nat} {pc : IPc} (ht : t ≠ .inp c)
    (h1 : heldI pc c = heldI (Y.cl c).ipc c) : LocalAfter t (setI Y c pc) H R ↔ LocalAfter t Y H R :=
  LocalAfter.congr (fun _ => getG_setI _ _ _ _)
    (fun t' _ => by rw [heldOf_setI]; split
                    · rename_i h; subst h; simp [heldOf, h1]
                    · rfl)
    (fun t' _ => refsOf_setI _ _ _ _)

theorem localAfter_setLis_other {Y H R} {pc : CPc}
    (h1 : heldC pc [] = heldC Y.lpc []) (h2 : refsC pc [] = refsC Y.lpc []) :
    LocalAfter .app (setC Y .lis pc) H R ↔ LocalAfter .app Y H R :=
  LocalAfter.congr (fun _ => getG_setC _ _ _ _)
    (fun t' _ => by cases t' <;> simp [heldOf, setC, h1])
    (fun t' _ => by cases t' <;> simp [refsOf, setC, h2])

theorem keepsPc_st (v : CSt) : KeepsPc (fun x => { x with st := v }) := fun _ => ⟨rfl, rfl⟩
theorem keepsPc_pipe (b : Bool) : KeepsPc (fun x => { x with pipeNote := b }) := fun _ => ⟨rfl, rfl⟩
theorem keepsPc_linked (b : Bool) : KeepsPc (fun x => { x with linked := b }) := fun _ => ⟨rfl, rfl⟩
theorem keepsPc_alive (b : Bool) : KeepsPc (fun x => { x with alive := b }) := fun _ => ⟨rfl, rfl⟩
theorem keepsPc_sock (b : Bool) : KeepsPc (fun x => { x with sockOpen := b }) := fun _ => ⟨rfl, rfl⟩
theorem keepsPc_gone : KeepsPc (fun x => { x with goneCnt := x.goneCnt + 1 }) := fun _ => ⟨rfl, rfl⟩
theorem keepsPc_ijoined (b : Bool) : KeepsPc (fun x => { x with ijoined := b }) := fun _ => ⟨rfl, rfl⟩
theorem keepsPc_ojoined (b : Bool) : KeepsPc (fun x => { x with ojoined := b }) := fun _ => ⟨rfl, rfl⟩
theorem keepsPc_fresh : KeepsPc Client.fresh := fun _ => ⟨rfl, rfl⟩

attribute [local_frame] benign_st benign_pipe benign_linked benign_alive benign_sock benign_gone benign_ijoined
  benign_ojoined benign_fresh keepsPc_st keepsPc_pipe keepsPc_linked keepsPc_alive keepsPc_sock keepsPc_gone
  keepsPc_ijoined keepsPc_ojoined keepsPc_fresh

theorem LocalAfter.lock {t Y j H R} {m : MCls} {c : Nat} (h : LocalAfter t Y H R) (hl : doLock Y t m c = some j) :
    LocalAfter t j (mkey m c :: H) R := by
  refine ⟨fun t' ht => ?_, ?_, ?_⟩
  · unfold LocalT
    rw [getG_doLock hl, if_neg ht, heldOf_pcSame (pcSame_doLock hl), refsOf_pcSame (pcSame_doLock hl)]
    exact h.others t' ht
  · rw [getG_doLock hl, if_pos rfl]; exact h.held.cons _
  · rw [getG_doLock hl, if_pos rfl]; exact h.refs

theorem LocalAfter.unlock {t Y H R} {m : MCls} {c : Nat} (h : LocalAfter t Y (mkey m c :: H) R)
    (ho : own Y m c = some t) : LocalAfter t (doUnlock Y t m c) H R := by
  refine ⟨fun t' ht => ?_, ?_, ?_⟩
  · unfold LocalT
    rw [getG_doUnlock ho, if_neg ht, heldOf_pcSame (pcSame_doUnlock Y t m c), refsOf_pcSame (pcSame_doUnlock Y t m c)]
    exact h.others t' ht
  · rw [getG_doUnlock ho, if_pos rfl]
    have := h.held.erase (mkey m c)
    rwa [List.erase_cons_head] at this
  · rw [getG_doUnlock ho, if_pos rfl]; exact h.refs

theorem LocalAfter.inc {t Y H R} (h : LocalAfter t Y H R) (r : Nat) : LocalAfter t (incRef Y t r) H (r :: R) := by
  refine ⟨fun t' ht => ?_, ?_, ?_⟩
  · unfold LocalT
    rw [getG_incRef, if_neg ht, heldOf_pcSame (pcSame_incRef Y t r), refsOf_pcSame (pcSame_incRef Y t r)]
    exact h.others t' ht
  · rw [getG_incRef, if_pos rfl]; exact h.held
  · rw [getG_incRef, if_pos rfl]; exact h.refs.cons _

theorem LocalAfter.dec {t Y H R} {r : Nat} (h : LocalAfter t Y H (r :: R)) : LocalAfter t (decRef Y t r) H R := by
  have hr : r ∈ (getG Y t).refs := h.refs.mem_iff.2 (List.mem_cons_self ..)
  refine ⟨fun t' ht => ?_, ?_, ?_⟩
  · unfold LocalT
    rw [getG_decRef hr, if_neg ht, heldOf_pcSame (pcSame_decRef Y t r), refsOf_pcSame (pcSame_decRef Y t r)]
    exact h.others t' ht
  · rw [getG_decRef hr, if_pos rfl]; exact h.held
  · rw [getG_decRef hr, if_pos rfl]
    have := h.refs.erase r
    rwa [List.erase_cons_head] at this

/-! The five kinds of steps, seen from the state `s` before the step.  `H₀`, `R₀` are the tables of
the thread at its present program counter, `H`, `R` those at the next one. -/
section kinds
variable {s j : State} {t : Tid} {H₀ H : List Mx} {R₀ R : List Nat} {m : MCls} {c r : Nat}

theorem local_stay (hL : Local s) (eH : heldOf s t = H₀) (eR : refsOf s t = R₀)
    (pH : H₀.Perm H) (pR : R₀.Perm R) : LocalAfter t s H R := by
  subst eH eR
  exact ⟨fun t' _ => hL t', (localT_iff.1 (hL t)).1.trans pH, (localT_iff.1 (hL t)).2.trans pR⟩

theorem local_unlock (hO : OwnInv s) (hL : Local s) (eH : heldOf s t = H₀) (eR : refsOf s t = R₀)
    (pH : H₀.Perm (mkey m c :: H)) (pR : R₀.Perm R) : LocalAfter t (doUnlock s t m c) H R := by
  have h := local_stay hL eH eR pH pR
  exact h.unlock ((hO.own_iff t m c).2 (h.held.mem_iff.2 (List.mem_cons_self ..)))

theorem local_lock (hL : Local s) (eH : heldOf s t = H₀) (eR : refsOf s t = R₀) (hl : doLock s t m c = some j)
    (pH : (mkey m c :: H₀).Perm H) (pR : R₀.Perm R) : LocalAfter t j H R :=
  ((local_stay hL eH eR (.refl _) (.refl _)).lock hl).perm pH pR

theorem local_lock_inc (hL : Local s) (eH : heldOf s t = H₀) (eR : refsOf s t = R₀) (hl : doLock s t m c = some j)
    (pH : (mkey m c :: H₀).Perm H) (pR : (r :: R₀).Perm R) : LocalAfter t (incRef j t r) H R :=
  (((local_stay hL eH eR (.refl _) (.refl _)).lock hl).inc r).perm pH pR

theorem local_lock_dec (hL : Local s) (eH : heldOf s t = H₀) (eR : refsOf s t = R₀) (hl : doLock s t m c = some j)
    (pH : (mkey m c :: H₀).Perm H) (pR : R₀.Perm (r :: R)) : LocalAfter t (decRef j t r) H R :=
  (((local_stay hL eH eR (.refl _) pR).lock hl).dec).perm pH (.refl _)
end kinds

theorem heldOf_out {s : State} {c : Nat} {pc : OPc} (h : (s.cl c).opc = pc) : heldOf s (.out c) = heldO pc c := by
  rw [heldOf, h]
theorem refsOf_out {s : State} {c : Nat} {pc : OPc} (h : (s.cl c).opc = pc) : refsOf s (.out c) = refsO pc c := by
  rw [refsOf, h]
theorem heldOf_inp {s : State} {c : Nat} {pc : IPc} (h : (s.cl c).ipc = pc) : heldOf s (.inp c) = heldI pc c := by
  rw [heldOf, h]
theorem heldOf_app {s : State} {pc : CPc} (h : s.apc = pc) : heldOf s .app = heldC pc s.alk := by rw [heldOf, h]
theorem refsOf_app {s : State} {pc : CPc} (h : s.apc = pc) : refsOf s .app = refsC pc s.alk := by rw [refsOf, h]
theorem heldOf_lis {s : State} {pc : CPc} (h : s.lpc = pc) : heldOf s .lis = heldC pc [] := by rw [heldOf, h]
theorem refsOf_lis {s : State} {pc : CPc} (h : s.lpc = pc) : refsOf s .lis = refsC pc [] := by rw [refsOf, h]

/-- the five kinds in turn; the conditions on the tables hold by unfolding them -/
macro "local_kinds" hO:ident hL:ident eH:ident eR:ident : tactic => `(tactic| first
  | exact local_stay $hL $eH $eR (.refl _) (.refl _)
  | exact local_unlock $hO $hL $eH $eR (.refl _) (.refl _)
  | exact local_lock $hL $eH $eR ‹_› (.refl _) (.refl _)
  | exact local_lock_inc $hL $eH $eR ‹_› (.refl _) (.refl _)
  | exact local_lock_dec $hL $eH $eR ‹_› (.refl _) (.refl _))

theorem local_out {s : State} {c : Nat} (hO : OwnInv s) (hL : Local s) : ∀ p ∈ outSucc s c, Local p.2 := by
  unfold outSucc
  split
  all_goals have eH := heldOf_out ‹(s.cl c).opc = _›
  all_goals have eR := refsOf_out ‹(s.cl c).opc = _›
  all_goals simp only [succ_forall, local_frame]
  all_goals and_intros
  all_goals intros
  all_goals try split
  all_goals local_kinds hO hL eH eR

theorem local_goneSucc {s : State} {t : Tid} {g : GSt} {c : Nat} {setG : State → GSt → State} {ret : State → State}
    (hset : ∀ Y g', Local (setG Y g') ↔ LocalAfter t Y (heldG g' c) [])
    (hret : ∀ Y, Local (ret Y) ↔ LocalAfter t Y [] [])
    (hO : OwnInv s) (hL : Local s) (eH : heldOf s t = heldG g c) (eR : refsOf s t = []) :
    ∀ p ∈ goneSucc s t g c setG ret, Local p.2 := by
  unfold goneSucc
  split
  all_goals simp only [succ_forall, hset, hret, apply_ite (LocalAfter t · [] []), local_frame, ite_self]
  case h_3 => exact local_unlock hO hL eH eR (.swap _ _ _) (.refl _)
  all_goals intros
  all_goals try split
  all_goals local_kinds hO hL eH eR

theorem local_inp {s : State} {c : Nat} (hO : OwnInv s) (hL : Local s) : ∀ p ∈ inpSucc s c, Local p.2 := by
  unfold inpSucc
  split
  all_goals have eH := heldOf_inp ‹(s.cl c).ipc = _›
  all_goals have eR : refsOf s (.inp c) = [] := rfl
  case h_21 => exact local_goneSucc (fun _ _ => local_setI _ _ _) (fun _ => local_setI _ _ _) hO hL eH eR
  all_goals simp only [succ_forall, local_frame]
  case h_3 =>
    refine ⟨fun h => ?_, fun _ => local_stay hL eH eR (.refl _) (.refl _)⟩
    rw [localAfter_setO_other (by simp) (by rw [touch_cl, h]; rfl) (by rw [touch_cl, h]; rfl), localAfter_touch]
    exact local_stay hL eH eR (.refl _) (.refl _)
  all_goals and_intros
  all_goals intros
  all_goals local_kinds hO hL eH eR

theorem heldC_afterNext (t : Tid) (p : Proc) (prev nxt : Option Nat) (alk : List Nat) :
    heldC (afterNext t p prev nxt) alk = procHeld p alk := by
  cases p <;> cases prev <;> cases nxt <;> cases t <;> rfl

theorem refsC_afterNext (t : Tid) (p : Proc) (prev nxt : Option Nat) (alk : List Nat) :
    refsC (afterNext t p prev nxt) alk = nxt.toList ++ procRefs p alk := by
  cases p <;> cases prev <;> cases nxt <;> cases t <;> rfl

theorem heldC_finished (t : Tid) (alk : List Nat) : heldC (finished t) alk = [] := by cases t <;> rfl
theorem refsC_finished (t : Tid) (alk : List Nat) : refsC (finished t) alk = [] := by cases t <;> rfl

/-! the calling threads; the remembered-client list is the application thread's -/
section caller
variable {s : State} {t : Tid} (ht : t = .app ∨ t = .lis)
include ht

theorem local_setC (Y : State) (pc : CPc) :
    Local (setC Y t pc) ↔
      LocalAfter t Y (heldC pc (if t = .app then Y.alk else [])) (refsC pc (if t = .app then Y.alk else [])) := by
  rcases ht with rfl | rfl
  · exact local_setC_app Y pc
  · exact local_setC_lis Y pc

theorem heldOf_at {pc : CPc} (h : getC s t = pc) : heldOf s t = heldC pc (if t = .app then s.alk else []) := by
  rcases ht with rfl | rfl <;> exact h ▸ rfl
theorem refsOf_at {pc : CPc} (h : getC s t = pc) : refsOf s t = refsC pc (if t = .app then s.alk else []) := by
  rcases ht with rfl | rfl <;> exact h ▸ rfl

theorem local_iter {p : Proc} {st : ISt} {prev nxt : Option Nat}
    (hO : OwnInv s) (hL : Local s) (hpc : getC s t = .iter p st prev nxt) :
    ∀ x ∈ iterSucc s t p st prev nxt, Local x.2 := by
  have eH := heldOf_at ht hpc
  have eR := refsOf_at ht hpc
  unfold iterSucc
  repeat' split
  all_goals simp only [succ_forall, local_setC ht, local_frame, heldC_afterNext, refsC_afterNext, alk_doUnlock, alk_decRef,
    alk_incRef, touch_alk, alk_signalD]
  all_goals try simp only [alk_doLock ‹doLock _ _ _ _ = some _›]
  all_goals generalize (if t = Tid.app then s.alk else []) = A at *
  all_goals try cases nxt
  all_goals try cases prev
  all_goals try split
  all_goals try simp only [‹pick _ _ _ = _›]
  all_goals first
    | local_kinds hO hL eH eR
    -- the reference to `prev` is dropped from under the one to `nxt`
    | exact local_lock_dec hL eH eR ‹_› (.refl _) (.swap _ _ _)

theorem local_cr {st : CrSt} {c : Nat} (hO : OwnInv s) (hL : Local s) (hpc : getC s t = .cr st c) :
    ∀ x ∈ crSucc s t st c, Local x.2 := by
  have eH := heldOf_at ht hpc
  have eR := refsOf_at ht hpc
  have hi : t ≠ .inp c := by rcases ht with rfl | rfl <;> simp
  unfold crSucc
  split
  all_goals simp only [succ_forall, local_setC ht, local_frame, heldC_finished, refsC_finished]
  case h_7 =>
    have e : LocalAfter t s [] [] := by
      rcases ht with rfl | rfl <;> exact local_stay hL eH eR (.refl _) (.refl _)
    refine ⟨fun h => ?_, fun _ => e⟩
    rw [localAfter_setI_other hi (by rw [touch_cl, h]; rfl), localAfter_touch]
    exact e
  all_goals and_intros
  all_goals intros
  all_goals local_kinds hO hL eH eR

/-- the listener only runs rfbNewClient -/
theorem local_body_count {k c : Nat} (hO : OwnInv s) (hL : Local s) (hpc : getC s t = .body .count k c) :
    ∀ x ∈ bodySucc s t .count k c, Local x.2 := by
  have eH := heldOf_at ht hpc
  have eR := refsOf_at ht hpc
  simp only [bodySucc, succ_forall, local_setC ht, nextIter]
  exact local_stay hL eH eR (.refl _) (.refl _)
end caller

theorem bodyHeld_mark {k : Nat} (c : Nat) (h : k = 0 → False) : bodyHeld .mark k c = [(.U, c)] := by
  cases k
  · exact absurd rfl h
  · rfl
theorem bodyHeld_send {k : Nat} (c : Nat) (h0 : k = 0 → False) (h1 : k = 1 → False) (h3 : k = 3 → False) :
    bodyHeld .send k c = [(.S, c)] := by
  rcases k with _ | _ | _ | _ | k
  · exact absurd rfl h0
  · exact absurd rfl h1
  · rfl
  · exact absurd rfl h3
  · rfl
theorem bodyRefs_newfb {k : Nat} (c : Nat) (h : k = 0 → False) : bodyRefs .newfb k c = [c, c] := by
  cases k
  · exact absurd rfl h
  · rfl
theorem bodyHeld_newfb {k : Nat} (c : Nat) (h : k = 1 → False) : bodyHeld .newfb k c = [] := by
  rcases k with _ | _ | k
  · rfl
  · exact absurd rfl h
  · rfl

theorem local_body_app {s : State} {p : Proc} {k c : Nat} (hO : OwnInv s) (hL : Local s) (hpc : s.apc = .body p k c) :
    ∀ x ∈ bodySucc s .app p k c, Local x.2 := by
  have eH := heldOf_app hpc
  have eR := refsOf_app hpc
  unfold bodySucc
  split
  all_goals simp only [succ_forall, local_setC_app, local_frame, alk_doUnlock, alk_incRef, touch_alk, alk_signalU, alk_raise,
    alk_setAlkT_app, nextIter]
  all_goals and_intros
  all_goals intros
  all_goals try simp only [alk_doLock ‹doLock _ _ _ _ = some _›]
  all_goals try split
  -- the catch-all rows of the loop-body tables
  all_goals try simp only [heldC, bodyHeld_mark c ‹k = 0 → False›] at eH
  all_goals try simp only [bodyHeld_send c ‹k = 0 → False› ‹k = 1 → False› ‹k = 3 → False›] at eH
  all_goals try simp only [refsC, bodyHeld_newfb c ‹k = 1 → False›, bodyRefs_newfb c ‹k = 0 → False›] at eH eR
  all_goals first
    | local_kinds hO hL eH eR
    -- rfbNewFramebuffer remembers `c` at the end of its list
    | exact local_lock hL eH eR ‹_› ((List.perm_append_singleton c s.alk).map _).symm
        (.cons c (List.perm_append_singleton c s.alk).symm)
theorem local_close_app {s : State} {p : Proc} {k : KSt} {c : Nat} (hO : OwnInv s) (hL : Local s)
    (hpc : s.apc = .close p k c) : ∀ x ∈ closeSucc s .app p k c, Local x.2 := by
  have eH := heldOf_app hpc
  have eR := refsOf_app hpc
  cases p
  all_goals cases k
  all_goals simp only [closeSucc, succ_forall, local_setC_app, local_frame, alk_doUnlock, touch_alk, alk_signalU, updCl_alk,
    nextIter]
  all_goals and_intros
  all_goals intros
  all_goals local_kinds hO hL eH eR
theorem local_nf_app {s : State} {st : NSt} {i : Nat} (hO : OwnInv s) (hL : Local s) (hpc : s.apc = .nf st i) :
    ∀ x ∈ nfSucc s .app st i, Local x.2 := by
  have eH := heldOf_app hpc
  have eR := refsOf_app hpc
  unfold nfSucc
  repeat' split
  all_goals simp only [succ_forall, local_setC_app, local_frame, alk_doUnlock, alk_decRef, touch_alk, alk_signalU, alk_signalD,
    alk_setAlkT_app]
  all_goals intros
  all_goals try simp only [alk_doLock ‹doLock _ _ _ _ = some _›]
  all_goals try split
  -- where the walk over the remembered clients is: at its first, at a further, or past its last element
  all_goals try have h0 := List.getElem?_eq_getElem (Nat.pos_of_ne_zero ‹¬s.alk.length = 0›)
  all_goals try have h0 := List.length_eq_zero_iff.1 ‹s.alk.length = 0›
  all_goals try have h0 := List.getElem?_eq_getElem ‹i + 1 < s.alk.length›
  all_goals try have h0 := List.drop_eq_nil_of_le (Nat.le_of_not_lt ‹¬i + 1 < s.alk.length›)
  all_goals try simp only [heldC, refsC, ‹s.alk[i]? = some _›] at eH eR ⊢
  all_goals try simp only [heldC, refsC, h0, List.drop_zero, List.map_nil] at eH eR ⊢
  all_goals first
    | local_kinds hO hL eH eR
    | exact local_unlock hO hL eH eR (by rw [drop_of_getElem? ‹s.alk[i]? = some _›]; exact .swap _ _ _) (.refl _)
    | exact local_lock_dec hL eH eR ‹_› (.refl _) (by rw [drop_of_getElem? ‹s.alk[i]? = some _›])

theorem local_caller_app {s : State} (hO : OwnInv s) (hL : Local s) : ∀ x ∈ callerSucc s .app, Local x.2 := by
  unfold callerSucc
  split
  all_goals have eH := heldOf_app (show s.apc = _ from ‹getC s Tid.app = _›)
  all_goals have eR := refsOf_app (show s.apc = _ from ‹getC s Tid.app = _›)
  case h_6 => exact local_iter (.inl rfl) hO hL ‹_›
  case h_7 => exact local_body_app hO hL ‹_›
  case h_8 => exact local_close_app hO hL ‹_›
  case h_9 => exact local_nf_app hO hL ‹_›
  case h_13 => exact local_cr (.inl rfl) hO hL ‹_›
  case h_14 =>
    exact local_goneSucc (fun Y _ => local_setC_app Y _) (fun Y => local_setC_app Y _) hO hL eH eR
  case' h_3 => split
  all_goals try cases ‹Tid.app = Tid.lis›
  all_goals simp only [succ_forall, local_setC_app, local_frame, alk_setAlkT_app, alk_setAapi, alk_raise, alk_raiseIf,
    updCl_alk, alk_setLisDown, alk_setLjoined, procOfApi, setC_alk]
  all_goals and_intros
  all_goals intros
  all_goals try split
  all_goals try rw [localAfter_setLis_other (by rw [‹s.lpc = _›]; rfl) (by rw [‹s.lpc = _›]; rfl)]
  all_goals local_kinds hO hL eH eR

theorem local_caller_lis {s : State} (hO : OwnInv s) (hL : Local s) (hp : lisPc s.lpc = true) :
    ∀ x ∈ callerSucc s .lis, Local x.2 := by
  unfold callerSucc
  split
  all_goals have eH := heldOf_lis (show s.lpc = _ from ‹getC s Tid.lis = _›)
  all_goals have eR := refsOf_lis (show s.lpc = _ from ‹getC s Tid.lis = _›)
  all_goals try (have e : s.lpc = _ := ‹getC s Tid.lis = _›; rw [e] at hp; cases hp)
  case h_6 => exact local_iter (.inr rfl) hO hL ‹_›
  case h_7 =>
    have e : s.lpc = _ := ‹getC s Tid.lis = _›
    rw [e] at hp
    cases of_decide_eq_true hp
    exact local_body_count (.inr rfl) hO hL ‹_›
  case h_13 => exact local_cr (.inr rfl) hO hL ‹_›
  case h_14 =>
    exact local_goneSucc (fun Y _ => local_setC_lis Y _) (fun Y => local_setC_lis Y _) hO hL eH eR
  case' h_3 => split
  all_goals try cases ‹Tid.lis = Tid.app›
  all_goals simp only [succ_forall, local_setC_lis]
  all_goals and_intros
  all_goals intros
  all_goals local_kinds hO hL eH eR

theorem local_init : Local State.init := by
  intro t; cases t <;> exact ⟨fun _ => rfl, fun _ => rfl⟩

theorem local_step {s s' : State} (hO : OwnInv s) (hL : Local s) (hs : Step s s') : Local s' := by
  obtain ⟨t, l, hm⟩ := hs
  cases t with
  | app => exact local_caller_app hO hL _ hm
  | lis =>
    simp only [succ] at hm
    split at hm
    · exact local_caller_lis hO hL ‹_› _ hm
    · simp at hm
  | inp c => exact local_inp hO hL _ hm
  | out c => exact local_out hO hL _ hm

theorem local_reach {s : State} (h : Reach s) : Local s := by
  induction h with
  | init => exact local_init
  | step hr hs ih => exact local_step (ownInv_reach hr) ih hs

end VncModel.Threads
