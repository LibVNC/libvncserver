import VncModel.Threads.LifeStep
import VncModel.Threads.Succ
/-! No use-after-free, no double free: every dereference of a client record the model performs
(`touch`, LOCK/UNLOCK of a per-client mutex) hits an allocated record, and `free` is reached with the
record still allocated — in every reachable state, i.e. under every schedule. -/
namespace VncModel.Threads

def Safe (s : State) : Prop := s.uaf = false ∧ s.dfree = false

theorem safe_init : Safe State.init := ⟨rfl, rfl⟩

theorem safe_congr {s s' : State} (h1 : s'.uaf = s.uaf) (h2 : s'.dfree = s.dfree) : Safe s' ↔ Safe s := by
  unfold Safe; rw [h1, h2]

@[simp, safe_frame] theorem safe_updCl (s : State) (c : Nat) (f) : Safe (updCl s c f) ↔ Safe s := safe_congr rfl rfl
@[simp, safe_frame] theorem safe_setI (s : State) (c : Nat) (pc : IPc) : Safe (setI s c pc) ↔ Safe s := safe_congr rfl rfl
@[simp, safe_frame] theorem safe_setO (s : State) (c : Nat) (pc : OPc) : Safe (setO s c pc) ↔ Safe s := safe_congr rfl rfl
@[simp, safe_frame] theorem safe_setC (s : State) (t : Tid) (pc : CPc) : Safe (setC s t pc) ↔ Safe s := by
  cases t <;> exact safe_congr rfl rfl
@[simp, safe_frame] theorem safe_setAlkT (s : State) (t : Tid) (l : List Nat) : Safe (setAlkT s t l) ↔ Safe s := by
  unfold setAlkT; split
  · exact safe_congr rfl rfl
  · exact Iff.rfl
@[simp] theorem safe_setN (s : State) (n : Nat) : Safe (setN s n) ↔ Safe s := safe_congr rfl rfl
@[simp] theorem safe_setAapi (s : State) (a : Api) : Safe (setAapi s a) ↔ Safe s := safe_congr rfl rfl
@[simp] theorem safe_setLisDown (s : State) : Safe (setLisDown s) ↔ Safe s := safe_congr rfl rfl
@[simp, safe_frame] theorem safe_setLjoined (s : State) : Safe (setLjoined s) ↔ Safe s := safe_congr rfl rfl
theorem safe_setG (s : State) (t : Tid) (g : Ghost) : Safe (setG s t g) ↔ Safe s := by
  cases t <;> exact safe_congr rfl rfl
theorem safe_setOwn (s : State) (m : MCls) (c : Nat) (o : Option Tid) : Safe (setOwn s m c o) ↔ Safe s := by
  cases m <;> exact safe_congr rfl rfl
@[simp, safe_frame] theorem safe_signalU (s : State) (c : Nat) : Safe (signalU s c) ↔ Safe s := by
  unfold signalU; split
  · exact safe_setO _ _ _
  · exact Iff.rfl
@[simp, safe_frame] theorem safe_signalD (s : State) (c : Nat) : Safe (signalD s c) ↔ Safe s := by
  unfold signalD; simp only []; split <;> split <;> split <;> simp only [safe_setC, safe_setI]
@[simp, safe_frame] theorem safe_incRef (s : State) (t : Tid) (c : Nat) : Safe (incRef s t c) ↔ Safe s := by
  unfold incRef; simp only []; rw [safe_setG, safe_updCl]

/-- the flags other than `uaf` and `dfree` are not what `Safe` speaks of -/
@[simp, safe_frame] theorem safe_raise (s : State) (f : Flag) (h1 : f ≠ .uaf) (h2 : f ≠ .dfree) :
    Safe (raise s f) ↔ Safe s := by
  cases f <;> first | exact safe_congr rfl rfl | exact absurd rfl h1 | exact absurd rfl h2
@[simp] theorem safe_raise_conflict (s : State) : Safe (raise s .conflict) ↔ Safe s := safe_raise s _ nofun nofun
@[simp] theorem safe_raise_badCreate (s : State) : Safe (raise s .badCreate) ↔ Safe s := safe_raise s _ nofun nofun
@[simp, safe_frame] theorem safe_raiseIf (s : State) (f : Flag) (b : Bool) (h1 : f ≠ .uaf) (h2 : f ≠ .dfree) :
    Safe (raiseIf s f b) ↔ Safe s := by
  unfold raiseIf; split
  · exact safe_raise s f h1 h2
  · exact Iff.rfl

@[simp, safe_frame] theorem safe_decRef (s : State) (t : Tid) (c : Nat) : Safe (decRef s t c) ↔ Safe s := by
  unfold decRef; split
  · simp only []; rw [safe_setG, safe_updCl]
  · rw [safe_raise _ .badRef nofun nofun, safe_updCl]

/-- a dereference is harmless exactly when it hits an allocated record -/
@[safe_frame] theorem safe_touch (X : State) (c : Nat) : Safe (touch X c) ↔ Safe X ∧ (X.cl c).alive = true := by
  unfold Safe; rw [touch_uaf, touch_dfree, Bool.or_eq_false_iff, Bool.not_eq_false', and_right_comm]

theorem safe_touchM (X : State) (m : MCls) (c : Nat) :
    Safe (touchM X m c) ↔ Safe X ∧ (m.perClient = true → (X.cl c).alive = true) := by
  unfold touchM; split
  · rename_i e; rw [safe_touch]; simp only [e, true_implies]
  · rename_i e; simp only [e, Bool.false_eq_true, false_implies, and_true]

@[safe_frame] theorem safe_doUnlock (X : State) (t : Tid) (m : MCls) (c : Nat) :
    Safe (doUnlock X t m c) ↔ Safe X ∧ (m.perClient = true → (X.cl c).alive = true) := by
  unfold doUnlock; simp only []; split
  · rw [safe_setG, safe_setOwn, safe_touchM]
  · rw [safe_raise _ .badUnlock nofun nofun, safe_touchM]

@[safe_frame] theorem safe_locked (s : State) (t : Tid) (m : MCls) (c : Nat) :
    Safe (locked s t m c) ↔ Safe s ∧ (m.perClient = true → (s.cl c).alive = true) := by
  unfold locked; simp only []; rw [safe_setG, safe_setOwn, safe_touchM]

attribute [safe_frame] safe_setAapi safe_setLisDown safe_setN touch_cl alive_doUnlock alive_locked alive_incRef alive_decRef MCls.perClient Bool.false_eq_true
  ite_true ne_eq reduceCtorEq not_false_eq_true

/-! ### who may dereference what -/

theorem alive_known {s : State} (hl : Life s) (t : Tid) (x : Nat) (h : x ∈ knownC (getC s t) (alkOf s t)) :
    (s.cl x).alive = true := hl.linked_alive x (hl.known t x h)
theorem alive_cr {s : State} (hl : Life s) (t : Tid) (x : Nat) (b : Bool) (h : crOf (getC s t) = some (x, b)) :
    (s.cl x).alive = true := (hl.cr t x b h).1
theorem alive_inp {s : State} (hl : Life s) (c : Nat) (h : ipcAlive (s.cl c).ipc = true) : (s.cl c).alive = true :=
  hl.inp_alive c h
theorem ipcAlive_of_hasOut {pc : IPc} (h : ipcHasOut pc = true) : ipcAlive pc = true := by
  cases pc <;> first | rfl | exact nomatch h
theorem alive_out {s : State} (hl : Life s) (c : Nat) (h : opcRun (s.cl c).opc = true) : (s.cl c).alive = true :=
  hl.inp_alive c (ipcAlive_of_hasOut (hl.out_inp c h))

theorem prev_mem_knownC (p : Proc) (st : ISt) (q : Nat) (nxt : Option Nat) (alk : List Nat) :
    q ∈ knownC (.iter p st (some q) nxt) alk := by
  cases st <;> simp [knownC, refsC, refsIt]
theorem nxt_mem_knownC (p : Proc) {st : ISt} (prev : Option Nat) (c : Nat) (alk : List Nat) (h : st ≠ .lockL) :
    c ∈ knownC (.iter p st prev (some c)) alk := by
  cases st <;> first | exact absurd rfl h | simp [knownC, refsC, refsIt]

theorem mem_knownC_body (p : Proc) (k c : Nat) (alk : List Nat) : c ∈ knownC (.body p k c) alk := by
  have : c ∈ bodyRefs p k c := by unfold bodyRefs; split <;> simp
  exact List.mem_append_left _ (List.mem_append_left _ this)
theorem mem_knownC_close (p : Proc) (k : KSt) (c : Nat) (alk : List Nat) : c ∈ knownC (.close p k c) alk :=
  List.mem_append_left _ (List.mem_append_left _ (List.mem_singleton.2 rfl))
theorem mem_knownC_nf {st : NSt} {i c : Nat} {alk : List Nat} (h : alk[i]? = some c) (hst : st ≠ .unlockC) :
    c ∈ knownC (.nf st i) alk := by
  have h0 : c ∈ alk.drop i := by rw [drop_of_getElem? h]; exact List.mem_cons_self
  cases st <;> first
    | exact absurd rfl hst
    | exact List.mem_append_left _ (List.mem_of_mem_drop h0)
    | exact List.mem_append_left _ h0
    | exact List.mem_append_right _ (Option.mem_toList.2 h)

/-! ### the steps: each is harmless as soon as the records it works on are allocated -/

theorem safe_out {s : State} {c : Nat} (hl : Life s) (h : Safe s) : ∀ x ∈ outSucc s c, Safe x.2 := by
  have ha := alive_out hl c
  unfold outSucc
  split
  all_goals (try unfold storeSt)
  all_goals simp only [succ_forall, safe_frame, opcRun, *]

/-- rfbClientConnectionGone(c), whoever runs it -/
theorem safe_gone {s : State} {t : Tid} {g : GSt} {c : Nat} {sg : State → GSt → State} {ret : State → State}
    (hsg : ∀ X g, Safe (sg X g) ↔ Safe X) (hret : ∀ X, Safe (ret X) ↔ Safe X) (h : Safe s)
    (ha : (s.cl c).alive = true) : ∀ x ∈ goneSucc s t g c sg ret, Safe x.2 := by
  unfold goneSucc
  split
  all_goals simp only [succ_forall, safe_frame, *]

theorem safe_inp {s : State} {c : Nat} (hl : Life s) (h : Safe s) : ∀ x ∈ inpSucc s c, Safe x.2 := by
  have ha := alive_inp hl c
  unfold inpSucc
  split
  all_goals (try unfold storeSt)
  all_goals first
    | (simp only [succ_forall, safe_frame, ipcAlive, *]; done)
    | exact safe_gone (fun _ _ => safe_setI _ _ _) (fun _ => safe_setI _ _ _) h (ha (by simp only [ipcAlive, *]))

theorem safe_iter {s : State} {t : Tid} {p : Proc} {st : ISt} {prev nxt : Option Nat} {alk : List Nat} (h : Safe s)
    (ha : ∀ x ∈ knownC (.iter p st prev nxt) alk, (s.cl x).alive = true) :
    ∀ x ∈ iterSucc s t p st prev nxt, Safe x.2 := by
  unfold iterSucc
  split
  all_goals (repeat' split)
  all_goals (try simp only [doLock_eq_some] at *)
  all_goals simp only [succ_forall, safe_frame, prev_mem_knownC, nxt_mem_knownC, *]

theorem safe_body {s : State} {t : Tid} {p : Proc} {k c : Nat} (h : Safe s) (ha : (s.cl c).alive = true) :
    ∀ x ∈ bodySucc s t p k c, Safe x.2 := by
  unfold bodySucc
  split
  all_goals simp only [succ_forall, safe_frame, *]

theorem safe_close {s : State} {t : Tid} {p : Proc} {k : KSt} {c : Nat} (h : Safe s) (ha : (s.cl c).alive = true) :
    ∀ x ∈ closeSucc s t p k c, Safe x.2 := by
  unfold closeSucc
  split
  all_goals (try unfold storeSt)
  all_goals simp only [succ_forall, safe_frame, *]

theorem safe_nf {s : State} {t : Tid} {st : NSt} {i : Nat} (h : Safe s)
    (ha : st ≠ .unlockC → ∀ c, s.alk[i]? = some c → (s.cl c).alive = true) : ∀ x ∈ nfSucc s t st i, Safe x.2 := by
  unfold nfSucc
  split
  all_goals (repeat' split)
  all_goals simp only [succ_forall, safe_frame, *]

theorem safe_cr {s : State} {t : Tid} {st : CrSt} {c : Nat} (h : Safe s)
    (ha : st ≠ .alloc → (s.cl c).alive = true) : ∀ x ∈ crSucc s t st c, Safe x.2 := by
  unfold crSucc
  split
  all_goals (try unfold storeSt)
  all_goals simp only [succ_forall, safe_frame, *]

theorem safe_caller {s : State} {t : Tid} (hl : Life s) (h : Safe s) (hp : t = .lis → lisPc (getC s t) = true) :
    ∀ x ∈ callerSucc s t, Safe x.2 := by
  unfold callerSucc
  cases hpc : getC s t with
  | iter p st prev nxt => exact safe_iter h fun x hx => alive_known hl t x (hpc ▸ hx)
  | body p k c => exact safe_body h (alive_known hl t c (hpc ▸ mem_knownC_body p k c _))
  | close p k c => exact safe_close h (alive_known hl t c (hpc ▸ mem_knownC_close p k c _))
  | cr st c =>
    refine safe_cr h fun hst => ?_
    obtain ⟨b, hb⟩ : ∃ b, crOf (.cr st c) = some (c, b) := by
      cases st <;> first | exact absurd rfl hst | exact ⟨_, rfl⟩
    exact alive_cr hl t c b (hpc ▸ hb)
  | gone g c => exact safe_gone (fun _ _ => safe_setC _ _ _) (fun _ => safe_setC _ _ _) h (alive_cr hl t c _ (by rw [hpc]; rfl))
  | nf st i =>
    have ht : t = .app := by
      cases t with
      | app => rfl
      | lis => have := hp rfl; rw [hpc] at this; exact nomatch this
      | _ => exact nomatch hpc
    subst ht
    exact safe_nf h fun hst c hc => alive_known hl .app c (hpc ▸ mem_knownC_nf hc hst)
  | _ =>
    simp only []
    repeat' split
    all_goals simp only [succ_forall, safe_frame, *]

theorem safe_step {s s' : State} (hl : Life s) (h : Safe s) (hs : Step s s') : Safe s' :=
  step_cases (fun _ _ => safe_caller hl h) (fun _ => safe_inp hl h) (fun _ => safe_out hl h) hs

/-- **no use-after-free, no double free**: whatever the schedule, no thread of the model ever
dereferences a client record that is not allocated (LOCK/UNLOCK/TSIGNAL of its mutexes and condition
variables, reads and writes of its fields, its reference count), and `free` is only ever reached for
a record that is still allocated -/
theorem safe_reach {s : State} (h : Reach s) : s.uaf = false ∧ s.dfree = false := by
  induction h with
  | init => exact safe_init
  | step hr hs ih => exact safe_step (life_reach hr) ih hs

/-! ### consequences of the life-cycle invariant -/

/-- a client some thread holds a counted reference on is in the client list and allocated -/
theorem referenced_linked {s : State} (h : Reach s) (t : Tid) (c : Nat) (hc : c ∈ refsOf s t) :
    (s.cl c).linked = true ∧ (s.cl c).alive = true := by
  have hl := life_reach h
  have key : (s.cl c).linked = true := by
    cases t with
    | app => exact hl.known .app c (by simp only [getC, alkOf, knownC]; exact List.mem_append_left _ hc)
    | lis => exact hl.known .lis c (by simp only [getC, alkOf, knownC]; exact List.mem_append_left _ hc)
    | inp _ => simp [refsOf] at hc
    | out c' =>
      have hc' : c = c' ∧ opcRun (s.cl c').opc = true := by
        simp only [refsOf] at hc
        revert hc; cases (s.cl c').opc <;> simp [refsO, opcRun]
      obtain ⟨rfl, hrun⟩ := hc'
      have hho := hl.out_inp c hrun
      have ha := ipcAlive_of_hasOut hho
      rw [hl.inp_linked c ha]
      revert hho; cases (s.cl c).ipc <;> simp [ipcHasOut, ipcLinked]
  exact ⟨key, hl.linked_alive c key⟩

/-- a record that is not in the client list (not yet inserted, or already taken out by
rfbClientConnectionGone) has reference count 0: in particular the record that is freed -/
theorem unlinked_unreferenced {s : State} (h : Reach s) (c : Nat) (hc : (s.cl c).linked = false) :
    (s.cl c).refCount = 0 := by
  rw [refCount_exact h c]
  have z : ∀ t, (refsOf s t).count c = 0 := by
    intro t
    apply List.count_eq_zero.2
    intro hm
    have := (referenced_linked h t c hm).1
    rw [hc] at this; cases this
  rw [z, z, z]

/-- when a record has been freed, neither of its threads is running any more -/
theorem freed_has_no_threads {s : State} (h : Reach s) (c : Nat) (hc : (s.cl c).alive = false) :
    ipcAlive (s.cl c).ipc = false ∧ opcRun (s.cl c).opc = false := by
  have hl := life_reach h
  have h1 : ipcAlive (s.cl c).ipc = false := by
    cases hq : ipcAlive (s.cl c).ipc
    · rfl
    · have := hl.inp_alive c hq; rw [hc] at this; cases this
  refine ⟨h1, ?_⟩
  cases hq : opcRun (s.cl c).opc
  · rfl
  · have := hl.out_inp c hq
    revert h1 this; cases (s.cl c).ipc <;> simp [ipcHasOut, ipcAlive]

/-- the thread that is about to free record c (last stage of rfbClientConnectionGone) finds it
allocated, out of the list, unreferenced, and its output thread joined or never started -/
theorem free_is_safe {s : State} (h : Reach s) (c : Nat)
    (hc : (s.cl c).ipc = .g .unlockS ∨ s.apc = .gone .unlockS c ∨ s.lpc = .gone .unlockS c) :
    (s.cl c).alive = true ∧ (s.cl c).linked = false ∧ (s.cl c).refCount = 0 ∧ opcRun (s.cl c).opc = false := by
  have hl := life_reach h
  have hcr : ∀ t, getC s t = .gone .unlockS c →
      (s.cl c).alive = true ∧ (s.cl c).linked = false ∧ opcRun (s.cl c).opc = false := fun t e => by
    obtain ⟨a, i, k⟩ := hl.cr t c false (by rw [e]; rfl)
    exact ⟨a, k, by rw [hl.out_ns c (Or.inl i)]; rfl⟩
  have h12 : (s.cl c).alive = true ∧ (s.cl c).linked = false ∧ opcRun (s.cl c).opc = false := by
    rcases hc with e | e | e
    · have ha : ipcAlive (s.cl c).ipc = true := by rw [e]; rfl
      refine ⟨hl.inp_alive c ha, ?_, ?_⟩
      · rw [hl.inp_linked c ha, e]; rfl
      · cases hq : opcRun (s.cl c).opc
        · rfl
        · have := hl.out_inp c hq; rw [e] at this; cases this
    · exact hcr .app e
    · exact hcr .lis e
  exact ⟨h12.1, h12.2.1, unlinked_unreferenced h c h12.2.1, h12.2.2⟩

end VncModel.Threads
