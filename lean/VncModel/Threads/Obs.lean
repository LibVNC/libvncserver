import VncModel.Threads.Local
/-! How the primitives act on the observables of the thread-local invariant: the ghost of each
thread and the program counters (through `heldOf` / `refsOf`). -/
namespace VncModel.Threads

def PcSame (s s' : State) : Prop :=
  s'.apc = s.apc ∧ s'.lpc = s.lpc ∧ s'.alk = s.alk ∧
  ∀ c, (s'.cl c).ipc = (s.cl c).ipc ∧ (s'.cl c).opc = (s.cl c).opc

theorem PcSame.refl (s : State) : PcSame s s := ⟨rfl, rfl, rfl, fun _ => ⟨rfl, rfl⟩⟩
theorem PcSame.trans {a b c : State} (h1 : PcSame a b) (h2 : PcSame b c) : PcSame a c :=
  ⟨h2.1.trans h1.1, h2.2.1.trans h1.2.1, h2.2.2.1.trans h1.2.2.1,
   fun x => ⟨(h2.2.2.2 x).1.trans (h1.2.2.2 x).1, (h2.2.2.2 x).2.trans (h1.2.2.2 x).2⟩⟩

theorem heldOf_pcSame {s s' : State} (h : PcSame s s') (t : Tid) : heldOf s' t = heldOf s t := by
  obtain ⟨h1, h2, h3, h4⟩ := h
  cases t <;> simp [heldOf, h1, h2, h3, (h4 _).1, (h4 _).2]
theorem refsOf_pcSame {s s' : State} (h : PcSame s s') (t : Tid) : refsOf s' t = refsOf s t := by
  obtain ⟨h1, h2, h3, h4⟩ := h
  cases t <;> simp [refsOf, h1, h2, h3, (h4 _).2]

def KeepsPc (f : Client → Client) : Prop := ∀ x, (f x).ipc = x.ipc ∧ (f x).opc = x.opc

theorem pcSame_updCl (s : State) (c : Nat) (f : Client → Client) (hf : KeepsPc f) : PcSame s (updCl s c f) := by
  refine ⟨rfl, rfl, rfl, fun c' => ?_⟩
  rw [updCl_cl]; split
  · rename_i h; subst h; exact hf _
  · exact ⟨rfl, rfl⟩

theorem pcSame_touch (s : State) (c : Nat) : PcSame s (touch s c) := by
  unfold touch; split
  · exact PcSame.refl s
  · exact ⟨rfl, rfl, rfl, fun _ => ⟨rfl, rfl⟩⟩

theorem pcSame_touchM (s : State) (m : MCls) (c : Nat) : PcSame s (touchM s m c) := by
  unfold touchM; split
  · exact pcSame_touch s c
  · exact PcSame.refl s

theorem pcSame_setOwn (s : State) (m : MCls) (c : Nat) (o : Option Tid) : PcSame s (setOwn s m c o) := by
  cases m
  · exact ⟨rfl, rfl, rfl, fun _ => ⟨rfl, rfl⟩⟩
  · exact ⟨rfl, rfl, rfl, fun _ => ⟨rfl, rfl⟩⟩
  all_goals exact pcSame_updCl s c _ (by intro x; simp)

theorem pcSame_setG (s : State) (t : Tid) (g : Ghost) : PcSame s (setG s t g) := by
  cases t
  · exact ⟨rfl, rfl, rfl, fun _ => ⟨rfl, rfl⟩⟩
  · exact ⟨rfl, rfl, rfl, fun _ => ⟨rfl, rfl⟩⟩
  all_goals exact pcSame_updCl s _ _ (by intro x; simp)

theorem pcSame_doLock {s a : State} {t : Tid} {m : MCls} {c : Nat} (h : doLock s t m c = some a) : PcSame s a := by
  unfold doLock at h
  split at h
  · simp only [Option.some.injEq] at h; subst h
    exact ((pcSame_touchM s m c).trans (pcSame_setOwn _ m c _)).trans (pcSame_setG _ t _)
  · cases h

theorem pcSame_doUnlock (s : State) (t : Tid) (m : MCls) (c : Nat) : PcSame s (doUnlock s t m c) := by
  unfold doUnlock
  simp only []
  split
  · exact ((pcSame_touchM s m c).trans (pcSame_setOwn _ m c _)).trans (pcSame_setG _ t _)
  · exact (pcSame_touchM s m c).trans ⟨rfl, rfl, rfl, fun _ => ⟨rfl, rfl⟩⟩

theorem pcSame_incRef (s : State) (t : Tid) (c : Nat) : PcSame s (incRef s t c) := by
  unfold incRef
  exact (pcSame_updCl s c _ (by intro x; simp)).trans (pcSame_setG _ t _)

theorem pcSame_decRef (s : State) (t : Tid) (c : Nat) : PcSame s (decRef s t c) := by
  have h1 : PcSame s (updCl s c (fun x => { x with refCount := x.refCount - 1 })) :=
    pcSame_updCl s c _ (by intro x; simp)
  unfold decRef
  split
  · exact h1.trans (pcSame_setG _ t _)
  · exact h1.trans ⟨rfl, rfl, rfl, fun _ => ⟨rfl, rfl⟩⟩

theorem getG_doLock {s a : State} {t : Tid} {m : MCls} {c : Nat} (h : doLock s t m c = some a) (t' : Tid) :
    getG a t' = if t' = t then { (getG s t) with held := mkey m c :: (getG s t).held } else getG s t' := by
  unfold doLock at h
  split at h
  · simp only [Option.some.injEq] at h; subst h
    rw [getG_setG]; split
    · simp
    · simp
  · cases h

theorem getG_doUnlock {s : State} {t : Tid} {m : MCls} {c : Nat} (h : own s m c = some t) (t' : Tid) :
    getG (doUnlock s t m c) t' =
      if t' = t then { (getG s t) with held := (getG s t).held.erase (mkey m c) } else getG s t' := by
  unfold doUnlock
  simp only [own_touchM, h, if_true]
  rw [getG_setG]; split
  · simp
  · simp

theorem getG_incRef (s : State) (t : Tid) (c : Nat) (t' : Tid) :
    getG (incRef s t c) t' = if t' = t then { (getG s t) with refs := c :: (getG s t).refs } else getG s t' := by
  unfold incRef
  rw [getG_setG]; split
  · simp [getG_updCl _ _ _ (benign_refCount (· + 1))]
  · simp [getG_updCl _ _ _ (benign_refCount (· + 1))]

theorem getG_decRef {s : State} {t : Tid} {c : Nat} (h : c ∈ (getG s t).refs) (t' : Tid) :
    getG (decRef s t c) t' = if t' = t then { (getG s t) with refs := (getG s t).refs.erase c } else getG s t' := by
  unfold decRef
  simp only [h, if_true]
  rw [getG_setG]; split
  · simp [getG_updCl _ _ _ (benign_refCount (· - 1))]
  · simp [getG_updCl _ _ _ (benign_refCount (· - 1))]

@[simp] theorem getG_signalU (s : State) (c : Nat) (t : Tid) : getG (signalU s c) t = getG s t := by
  unfold signalU; split <;> simp
@[simp] theorem getG_signalD (s : State) (c : Nat) (t : Tid) : getG (signalD s c) t = getG s t := by
  unfold signalD; simp only []; split <;> split <;> split <;> simp

theorem heldOf_setO (s : State) (c : Nat) (pc : OPc) (t : Tid) :
    heldOf (setO s c pc) t = if t = .out c then heldO pc c else heldOf s t := by
  cases t with
  | app => simp [heldOf, setO]
  | lis => simp [heldOf, setO]
  | inp d => simp only [heldOf, setO, updCl_cl]; split <;> simp_all
  | out d =>
    simp only [heldOf, setO, updCl_cl]
    by_cases h : d = c
    · subst h; simp
    · simp [h]

theorem refsOf_setO (s : State) (c : Nat) (pc : OPc) (t : Tid) :
    refsOf (setO s c pc) t = if t = .out c then refsO pc c else refsOf s t := by
  cases t with
  | app => simp [refsOf, setO]
  | lis => simp [refsOf, setO]
  | inp d => simp [refsOf]
  | out d =>
    simp only [refsOf, setO, updCl_cl]
    by_cases h : d = c
    · subst h; simp
    · simp [h]

theorem heldOf_setI (s : State) (c : Nat) (pc : IPc) (t : Tid) :
    heldOf (setI s c pc) t = if t = .inp c then heldI pc c else heldOf s t := by
  cases t with
  | app => simp [heldOf, setI]
  | lis => simp [heldOf, setI]
  | out d => simp only [heldOf, setI, updCl_cl]; split <;> simp_all
  | inp d =>
    simp only [heldOf, setI, updCl_cl]
    by_cases h : d = c
    · subst h; simp
    · simp [h]

theorem refsOf_setI (s : State) (c : Nat) (pc : IPc) (t : Tid) : refsOf (setI s c pc) t = refsOf s t := by
  cases t with
  | app => simp [refsOf, setI]
  | lis => simp [refsOf, setI]
  | inp d => simp [refsOf]
  | out d => simp only [refsOf, setI, updCl_cl]; split <;> simp_all

theorem heldOf_setC (s : State) (t0 : Tid) (pc : CPc) (t : Tid) :
    heldOf (setC s t0 pc) t =
      match t0 with
      | .app => if t = .app then heldC pc s.alk else heldOf s t
      | .lis => if t = .lis then heldC pc [] else heldOf s t
      | _ => heldOf s t := by
  cases t0 <;> cases t <;> simp [heldOf, setC]

theorem refsOf_setC (s : State) (t0 : Tid) (pc : CPc) (t : Tid) :
    refsOf (setC s t0 pc) t =
      match t0 with
      | .app => if t = .app then refsC pc s.alk else refsOf s t
      | .lis => if t = .lis then refsC pc [] else refsOf s t
      | _ => refsOf s t := by
  cases t0 <;> cases t <;> simp [refsOf, setC]

@[simp] theorem heldOf_signalU (s : State) (c : Nat) (t : Tid) : heldOf (signalU s c) t = heldOf s t := by
  unfold signalU; split
  · rename_i h; rw [heldOf_setO]; split
    · rename_i ht; subst ht; simp [heldOf, h, heldO]
    · rfl
  · rfl
@[simp] theorem refsOf_signalU (s : State) (c : Nat) (t : Tid) : refsOf (signalU s c) t = refsOf s t := by
  unfold signalU; split
  · rename_i h; rw [refsOf_setO]; split
    · rename_i ht; subst ht; simp [refsOf, h, refsO]
    · rfl
  · rfl

end VncModel.Threads
