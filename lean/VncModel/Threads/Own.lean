import VncModel.Threads.Prim
import VncModel.Threads.Attr
/-! `OwnInv`: the owner field of every mutex agrees with the ghost `held` lists of the threads.  The
lemmas of `succ_forall` (a property of all successors, clause by clause) stand here too. -/
namespace VncModel.Threads

theorem forall_mem_ite {α} {P : α → Prop} {c : Prop} [Decidable c] {l₁ l₂ : List α} :
    (∀ x ∈ (if c then l₁ else l₂), P x) ↔ (c → ∀ x ∈ l₁, P x) ∧ (¬ c → ∀ x ∈ l₂, P x) := by
  split <;> simp [*]

theorem forall_mem_storeSt {P : Lbl × State → Prop} {s : State} {c : Nat} {v : CSt} {k : State → State} :
    (∀ p ∈ storeSt s c v k, P p) ↔
      ((s.cl c).st = v → P (.tau, k (touch s c))) ∧
      ((s.cl c).st ≠ v → P (.st c v, k (updCl (touch s c) c fun x => { x with st := v }))) := by
  unfold storeSt
  simp only [touch_cl]
  split <;> simp [*]

attribute [succ_forall] forall_mem_ite forall_mem_storeSt List.forall_mem_cons List.forall_mem_append
  List.forall_mem_map List.forall_mem_flatMap Option.mem_toList Option.mem_def List.not_mem_nil
  forall_and imp_and false_imp_iff implies_true and_true true_and

structure OwnInv (s : State) : Prop where
  own_iff : ∀ t m c, own s m c = some t ↔ mkey m c ∈ (getG s t).held
  nodup : ∀ t, (getG s t).held.Nodup
  keyed : ∀ t x, x ∈ (getG s t).held → x = mkey x.1 x.2

theorem mkey_idem (m : MCls) (c : Nat) : mkey (mkey m c).1 (mkey m c).2 = mkey m c := by
  cases m <;> simp [mkey, MCls.perClient]

theorem own_mkey (s : State) (m : MCls) (c : Nat) : own s (mkey m c).1 (mkey m c).2 = own s m c := by
  cases m <;> simp [mkey, MCls.perClient, own]

theorem own_congr_key (s : State) {m m' : MCls} {c c' : Nat} (h : mkey m c = mkey m' c') :
    own s m c = own s m' c' := by
  rw [← own_mkey s m c, ← own_mkey s m' c', h]

theorem ownInv_frame {s s' : State} (h : OwnInv s) (ho : ∀ m c, own s' m c = own s m c)
    (hg : ∀ t, (getG s' t).held = (getG s t).held) : OwnInv s' where
  own_iff t m c := by rw [ho, hg]; exact h.own_iff t m c
  nodup t := by rw [hg]; exact h.nodup t
  keyed t x := by rw [hg]; exact h.keyed t x

theorem ownInv_init : OwnInv State.init where
  own_iff t m c := by cases t <;> cases m <;> simp [State.init, own, getG]
  nodup t := by cases t <;> simp [State.init, getG]
  keyed t x := by cases t <;> simp [State.init, getG]

theorem ownInv_doLock {s s1 : State} {t : Tid} {m : MCls} {c : Nat} (h : OwnInv s)
    (hl : doLock s t m c = some s1) : OwnInv s1 := by
  unfold doLock at hl
  split at hl
  · rename_i hfree
    simp only [Option.some.injEq] at hl
    subst hl
    have hnot : ∀ t', mkey m c ∉ (getG s t').held := by
      intro t' hmem
      have := (h.own_iff t' m c).2 hmem
      rw [hfree] at this; cases this
    constructor
    · intro t' m' c'
      simp only [own_setG, own_setOwn, own_touchM, getG_setG, getG_setOwn, getG_touchM]
      by_cases hk : mkey m' c' = mkey m c
      · simp only [hk, if_true]
        by_cases ht : t' = t
        · subst ht; simp
        · simp only [ht, if_false]
          constructor
          · intro e; cases e; exact absurd rfl ht
          · intro hmem; exact absurd hmem (hnot t')
      · simp only [hk, if_false]
        by_cases ht : t' = t
        · subst ht
          simp only [if_true, List.mem_cons, hk, false_or]
          exact h.own_iff t' m' c'
        · simp only [ht, if_false]; exact h.own_iff t' m' c'
    · intro t'
      simp only [getG_setG, getG_setOwn, getG_touchM]
      by_cases ht : t' = t
      · subst ht; simp only [if_true, List.nodup_cons]; exact ⟨hnot t', h.nodup t'⟩
      · simp only [ht, if_false]; exact h.nodup t'
    · intro t' x
      simp only [getG_setG, getG_setOwn, getG_touchM]
      by_cases ht : t' = t
      · subst ht
        simp only [if_true, List.mem_cons]
        rintro (rfl | hx)
        · exact (mkey_idem m c).symm
        · exact h.keyed t' x hx
      · simp only [ht, if_false]; exact h.keyed t' x
  · cases hl

theorem ownInv_doUnlock {s : State} (t : Tid) (m : MCls) (c : Nat) (h : OwnInv s) : OwnInv (doUnlock s t m c) := by
  unfold doUnlock
  simp only [own_touchM]
  split
  · rename_i hown
    have hmem : mkey m c ∈ (getG s t).held := (h.own_iff t m c).1 hown
    constructor
    · intro t' m' c'
      simp only [own_setG, own_setOwn, own_touchM, getG_setG, getG_setOwn, getG_touchM]
      by_cases hk : mkey m' c' = mkey m c
      · simp only [hk, if_true]
        constructor
        · intro e; cases e
        · intro hm
          by_cases ht : t' = t
          · subst ht
            simp only [if_true] at hm
            exact absurd hm (by
              intro hm'
              exact (List.Nodup.not_mem_erase (h.nodup t')) hm')
          · simp only [ht, if_false] at hm
            have h1 := (h.own_iff t' m c).2 hm
            rw [hown] at h1; cases h1; exact absurd rfl ht
      · simp only [hk, if_false]
        by_cases ht : t' = t
        · subst ht
          simp only [if_true]
          rw [List.mem_erase_of_ne hk]
          exact h.own_iff t' m' c'
        · simp only [ht, if_false]; exact h.own_iff t' m' c'
    · intro t'
      simp only [getG_setG, getG_setOwn, getG_touchM]
      by_cases ht : t' = t
      · subst ht; simp only [if_true]; exact (h.nodup t').erase _
      · simp only [ht, if_false]; exact h.nodup t'
    · intro t' x
      simp only [getG_setG, getG_setOwn, getG_touchM]
      by_cases ht : t' = t
      · subst ht; simp only [if_true]; intro hx; exact h.keyed t' x (List.mem_of_mem_erase hx)
      · simp only [ht, if_false]; exact h.keyed t' x
  · exact ownInv_frame h (fun m' c' => by rw [own_raise, own_touchM]) (fun t' => by rw [raise_getG, getG_touchM])

theorem ownInv_congr {s s' : State} (ho : ∀ m c, own s' m c = own s m c)
    (hg : ∀ t, (getG s' t).held = (getG s t).held) : OwnInv s' ↔ OwnInv s :=
  ⟨fun h => ownInv_frame h (fun m c => (ho m c).symm) (fun t => (hg t).symm), fun h => ownInv_frame h ho hg⟩

@[simp, own_frame] theorem ownInv_setC (s : State) (t : Tid) (pc : CPc) : OwnInv (setC s t pc) ↔ OwnInv s :=
  ownInv_congr (by simp) (by simp)
@[simp, own_frame] theorem ownInv_setI (s : State) (c : Nat) (pc : IPc) : OwnInv (setI s c pc) ↔ OwnInv s :=
  ownInv_congr (by simp) (by simp)
@[simp, own_frame] theorem ownInv_setO (s : State) (c : Nat) (pc : OPc) : OwnInv (setO s c pc) ↔ OwnInv s :=
  ownInv_congr (by simp) (by simp)
@[simp, own_frame] theorem ownInv_touch (s : State) (c : Nat) : OwnInv (touch s c) ↔ OwnInv s :=
  ownInv_congr (by simp) (by simp)

theorem ownInv_updCl (s : State) (c : Nat) (f : Client → Client) (hf : Benign f) :
    OwnInv (updCl s c f) ↔ OwnInv s :=
  ownInv_congr (fun m c' => own_updCl s c f hf m c') (fun t => by rw [getG_updCl s c f hf])

theorem benign_refCount (g : Nat → Nat) : Benign (fun x => { x with refCount := g x.refCount }) := by
  intro x; simp

@[simp, own_frame] theorem ownInv_incRef (s : State) (t : Tid) (c : Nat) : OwnInv (incRef s t c) ↔ OwnInv s := by
  unfold incRef
  refine ownInv_congr (fun m c' => ?_) (fun t' => ?_)
  · rw [own_setG, own_updCl _ _ _ (benign_refCount (· + 1))]
  · rw [getG_setG]; split
    · rename_i h; subst h; simp [getG_updCl _ _ _ (benign_refCount (· + 1))]
    · rw [getG_updCl _ _ _ (benign_refCount (· + 1))]

@[simp, own_frame] theorem ownInv_decRef (s : State) (t : Tid) (c : Nat) : OwnInv (decRef s t c) ↔ OwnInv s := by
  unfold decRef
  split
  · refine ownInv_congr (fun m c' => ?_) (fun t' => ?_)
    · rw [own_setG, own_updCl _ _ _ (benign_refCount (· - 1))]
    · rw [getG_setG]; split
      · rename_i h; subst h; simp [getG_updCl _ _ _ (benign_refCount (· - 1))]
      · rw [getG_updCl _ _ _ (benign_refCount (· - 1))]
  · exact ownInv_congr (fun m c' => by rw [own_raise, own_updCl _ _ _ (benign_refCount (· - 1))])
      (fun t' => by rw [raise_getG, getG_updCl _ _ _ (benign_refCount (· - 1))])

@[simp, own_frame] theorem ownInv_signalU (s : State) (c : Nat) : OwnInv (signalU s c) ↔ OwnInv s := by
  unfold signalU; split <;> simp

@[simp, own_frame] theorem ownInv_signalD (s : State) (c : Nat) : OwnInv (signalD s c) ↔ OwnInv s := by
  unfold signalD
  simp only []
  split <;> split <;> split <;> simp

def TopUpd (s s' : State) : Prop :=
  s'.cl = s.cl ∧ s'.ownL = s.ownL ∧ s'.ownC = s.ownC ∧ s'.ga = s.ga ∧ s'.gl = s.gl

theorem own_top {s s' : State} (h : TopUpd s s') (m : MCls) (c : Nat) : own s' m c = own s m c := by
  obtain ⟨h1, h2, h3, _, _⟩ := h
  cases m <;> simp [own, h1, h2, h3]

theorem getG_top {s s' : State} (h : TopUpd s s') (t : Tid) : getG s' t = getG s t := by
  obtain ⟨h1, _, _, h4, h5⟩ := h
  cases t <;> simp [getG, h1, h4, h5]

theorem ownInv_top {s s' : State} (h : TopUpd s s') : OwnInv s' ↔ OwnInv s :=
  ownInv_congr (own_top h) (fun t => by rw [getG_top h])

theorem benign_st (v : CSt) : Benign (fun x => { x with st := v }) := by intro x; simp
theorem benign_pipe (b : Bool) : Benign (fun x => { x with pipeNote := b }) := by intro x; simp
theorem benign_linked (b : Bool) : Benign (fun x => { x with linked := b }) := by intro x; simp
theorem benign_alive (b : Bool) : Benign (fun x => { x with alive := b }) := by intro x; simp
theorem benign_sock (b : Bool) : Benign (fun x => { x with sockOpen := b }) := by intro x; simp
theorem benign_gone : Benign (fun x => { x with goneCnt := x.goneCnt + 1 }) := by intro x; simp
theorem benign_ijoined (b : Bool) : Benign (fun x => { x with ijoined := b }) := by intro x; simp
theorem benign_ojoined (b : Bool) : Benign (fun x => { x with ojoined := b }) := by intro x; simp

theorem benign_fresh : Benign Client.fresh := by intro x; simp [Client.fresh]

attribute [own_frame] ownInv_updCl benign_st benign_pipe benign_linked benign_alive benign_sock benign_gone benign_ijoined
  benign_ojoined benign_fresh

theorem topUpd_raise (s : State) (f : Flag) : TopUpd s (raise s f) := by cases f <;> exact ⟨rfl, rfl, rfl, rfl, rfl⟩
theorem topUpd_raiseIf (s : State) (f : Flag) (b : Bool) : TopUpd s (raiseIf s f b) := by
  unfold raiseIf; split
  · exact topUpd_raise s f
  · exact ⟨rfl, rfl, rfl, rfl, rfl⟩

@[simp, own_frame] theorem ownInv_raise (s : State) (f : Flag) : OwnInv (raise s f) ↔ OwnInv s := ownInv_top (topUpd_raise s f)
@[simp, own_frame] theorem ownInv_raiseIf (s : State) (f : Flag) (b : Bool) : OwnInv (raiseIf s f b) ↔ OwnInv s :=
  ownInv_top (topUpd_raiseIf s f b)
@[simp, own_frame] theorem ownInv_setAlk (s : State) (l : List Nat) : OwnInv (setAlk s l) ↔ OwnInv s := ownInv_top ⟨rfl, rfl, rfl, rfl, rfl⟩
@[simp, own_frame] theorem ownInv_setAlkT (s : State) (t : Tid) (l : List Nat) : OwnInv (setAlkT s t l) ↔ OwnInv s := by
  unfold setAlkT; split <;> simp
@[simp, own_frame] theorem ownInv_setN (s : State) (n : Nat) : OwnInv (setN s n) ↔ OwnInv s := ownInv_top ⟨rfl, rfl, rfl, rfl, rfl⟩
@[simp, own_frame] theorem ownInv_setAapi (s : State) (a : Api) : OwnInv (setAapi s a) ↔ OwnInv s := ownInv_top ⟨rfl, rfl, rfl, rfl, rfl⟩
@[simp, own_frame] theorem ownInv_setLisDown (s : State) : OwnInv (setLisDown s) ↔ OwnInv s := ownInv_top ⟨rfl, rfl, rfl, rfl, rfl⟩
@[simp, own_frame] theorem ownInv_setLjoined (s : State) : OwnInv (setLjoined s) ↔ OwnInv s := ownInv_top ⟨rfl, rfl, rfl, rfl, rfl⟩

/-! Every successor is a program-counter update of a state obtained from `s` by at most one LOCK or
UNLOCK and updates of `own_frame`; so after `succ_forall` and `own_frame` only the clauses of the
LOCK successors are left. -/

theorem ownInv_out {s : State} {c : Nat} (h : OwnInv s) : ∀ p ∈ outSucc s c, OwnInv p.2 := by
  unfold outSucc
  split
  all_goals simp only [succ_forall, own_frame, h, ownInv_doUnlock, and_self]
  all_goals and_intros
  all_goals exact fun _ => ownInv_doLock h

theorem ownInv_goneSucc {s : State} {t : Tid} {g : GSt} {c : Nat} {setG : State → GSt → State}
    {ret : State → State}
    (hset : ∀ s1 g1, OwnInv (setG s1 g1) ↔ OwnInv s1) (hret : ∀ s1, OwnInv (ret s1) ↔ OwnInv s1)
    (h : OwnInv s) : ∀ p ∈ goneSucc s t g c setG ret, OwnInv p.2 := by
  unfold goneSucc
  split
  all_goals simp only [succ_forall, hset, hret, apply_ite OwnInv, own_frame, h, ownInv_doUnlock, ite_self]
  all_goals exact fun _ => ownInv_doLock h

theorem ownInv_inp {s : State} {c : Nat} (h : OwnInv s) : ∀ p ∈ inpSucc s c, OwnInv p.2 := by
  unfold inpSucc
  split
  case h_21 => exact ownInv_goneSucc (fun _ _ => ownInv_setI _ _ _) (fun _ => ownInv_setI _ _ _) h
  all_goals simp only [succ_forall, own_frame, h, ownInv_doUnlock, and_self]
  all_goals and_intros
  all_goals exact fun _ => ownInv_doLock h

theorem ownInv_iter {s : State} {t : Tid} {p : Proc} {st : ISt} {prev nxt : Option Nat} (h : OwnInv s) :
    ∀ x ∈ iterSucc s t p st prev nxt, OwnInv x.2 := by
  unfold iterSucc
  repeat' split
  all_goals simp only [succ_forall, own_frame, h, ownInv_doUnlock, and_self]
  all_goals exact ownInv_doLock h ‹_›

theorem ownInv_body {s : State} {t : Tid} {p : Proc} {k c : Nat} (h : OwnInv s) :
    ∀ x ∈ bodySucc s t p k c, OwnInv x.2 := by
  unfold bodySucc
  split
  all_goals simp only [succ_forall, own_frame, h, ownInv_doUnlock, and_self]
  all_goals exact fun _ => ownInv_doLock h

theorem ownInv_close {s : State} {t : Tid} {p : Proc} {k : KSt} {c : Nat} (h : OwnInv s) :
    ∀ x ∈ closeSucc s t p k c, OwnInv x.2 := by
  unfold closeSucc
  split
  all_goals simp only [succ_forall, own_frame, h, ownInv_doUnlock, and_self]

theorem ownInv_nf {s : State} {t : Tid} {st : NSt} {i : Nat} (h : OwnInv s) :
    ∀ x ∈ nfSucc s t st i, OwnInv x.2 := by
  unfold nfSucc
  repeat' split
  all_goals simp only [succ_forall, own_frame, h, ownInv_doUnlock, and_self]
  all_goals exact fun _ => ownInv_doLock h

theorem ownInv_cr {s : State} {t : Tid} {st : CrSt} {c : Nat} (h : OwnInv s) :
    ∀ x ∈ crSucc s t st c, OwnInv x.2 := by
  unfold crSucc
  split
  all_goals simp only [succ_forall, own_frame, h, ownInv_doUnlock, and_self]
  all_goals exact fun _ => ownInv_doLock h

theorem ownInv_caller {s : State} {t : Tid} (h : OwnInv s) : ∀ x ∈ callerSucc s t, OwnInv x.2 := by
  unfold callerSucc
  split
  case h_3 => split <;> simp only [succ_forall, own_frame, h, and_self]
  case h_6 => exact ownInv_iter h
  case h_7 => exact ownInv_body h
  case h_8 => exact ownInv_close h
  case h_9 => exact ownInv_nf h
  case h_13 => exact ownInv_cr h
  case h_14 => exact ownInv_goneSucc (fun _ _ => ownInv_setC _ _ _) (fun _ => ownInv_setC _ _ _) h
  all_goals simp only [succ_forall, own_frame, h, and_self]

theorem ownInv_step {s s' : State} (h : OwnInv s) (hs : Step s s') : OwnInv s' := by
  obtain ⟨t, l, hm⟩ := hs
  cases t with
  | app => exact ownInv_caller h _ hm
  | lis =>
    simp only [succ] at hm
    split at hm
    · exact ownInv_caller h _ hm
    · simp at hm
  | inp c => exact ownInv_inp h _ hm
  | out c => exact ownInv_out h _ hm

theorem ownInv_reach {s : State} (h : Reach s) : OwnInv s := by
  induction h with
  | init => exact ownInv_init
  | step _ hs ih => exact ownInv_step ih hs

end VncModel.Threads
