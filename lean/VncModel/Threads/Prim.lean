import VncModel.Threads.Model
/-! Frame lemmas for the primitive state updates of the threads model: how `own`, the ghost lists,
the client records and the top-level fields change. -/
namespace VncModel.Threads

/-- an update of a client record that leaves mutex owners and ghosts alone -/
def Benign (f : Client → Client) : Prop :=
  ∀ x, (f x).ownU = x.ownU ∧ (f x).ownS = x.ownS ∧ (f x).ownO = x.ownO ∧ (f x).ownR = x.ownR ∧
       (f x).gi = x.gi ∧ (f x).go = x.go

@[simp] theorem updCl_cl_same (s : State) (c : Nat) (f : Client → Client) : (updCl s c f).cl c = f (s.cl c) := by
  simp [updCl]

theorem updCl_cl (s : State) (c c' : Nat) (f : Client → Client) :
    (updCl s c f).cl c' = if c' = c then f (s.cl c) else s.cl c' := by
  simp only [updCl]; split <;> simp_all

@[simp] theorem updCl_cl_ne (s : State) {c c' : Nat} (f : Client → Client) (h : c' ≠ c) :
    (updCl s c f).cl c' = s.cl c' := by
  simp [updCl, h]

@[simp] theorem updCl_apc (s : State) (c : Nat) (f) : (updCl s c f).apc = s.apc := rfl
@[simp] theorem updCl_lpc (s : State) (c : Nat) (f) : (updCl s c f).lpc = s.lpc := rfl
@[simp] theorem updCl_n (s : State) (c : Nat) (f) : (updCl s c f).n = s.n := rfl
@[simp] theorem updCl_alk (s : State) (c : Nat) (f) : (updCl s c f).alk = s.alk := rfl
@[simp] theorem updCl_ownL (s : State) (c : Nat) (f) : (updCl s c f).ownL = s.ownL := rfl
@[simp] theorem updCl_ownC (s : State) (c : Nat) (f) : (updCl s c f).ownC = s.ownC := rfl
@[simp] theorem updCl_ga (s : State) (c : Nat) (f) : (updCl s c f).ga = s.ga := rfl
@[simp] theorem updCl_gl (s : State) (c : Nat) (f) : (updCl s c f).gl = s.gl := rfl
@[simp] theorem updCl_lisDown (s : State) (c : Nat) (f) : (updCl s c f).lisDown = s.lisDown := rfl
@[simp] theorem updCl_ljoined (s : State) (c : Nat) (f) : (updCl s c f).ljoined = s.ljoined := rfl
@[simp] theorem updCl_uaf (s : State) (c : Nat) (f) : (updCl s c f).uaf = s.uaf := rfl
@[simp] theorem updCl_dfree (s : State) (c : Nat) (f) : (updCl s c f).dfree = s.dfree := rfl
@[simp] theorem updCl_badUnlock (s : State) (c : Nat) (f) : (updCl s c f).badUnlock = s.badUnlock := rfl
@[simp] theorem updCl_badJoin (s : State) (c : Nat) (f) : (updCl s c f).badJoin = s.badJoin := rfl
@[simp] theorem updCl_conflict (s : State) (c : Nat) (f) : (updCl s c f).conflict = s.conflict := rfl
@[simp] theorem updCl_badRef (s : State) (c : Nat) (f) : (updCl s c f).badRef = s.badRef := rfl
@[simp] theorem updCl_aapi (s : State) (c : Nat) (f) : (updCl s c f).aapi = s.aapi := rfl

theorem own_updCl (s : State) (c : Nat) (f : Client → Client) (hf : Benign f) (m : MCls) (c' : Nat) :
    own (updCl s c f) m c' = own s m c' := by
  have h := hf (s.cl c)
  cases m <;> simp only [own, updCl_ownL, updCl_ownC] <;>
    (rw [updCl_cl]; split <;> simp_all)

theorem getG_updCl (s : State) (c : Nat) (f : Client → Client) (hf : Benign f) (t : Tid) :
    getG (updCl s c f) t = getG s t := by
  have h := hf (s.cl c)
  cases t <;> simp only [getG, updCl_ga, updCl_gl] <;>
    (rw [updCl_cl]; split <;> simp_all)

@[simp] theorem touch_cl (s : State) (c : Nat) : (touch s c).cl = s.cl := by
  unfold touch; split <;> rfl
@[simp] theorem touch_apc (s : State) (c : Nat) : (touch s c).apc = s.apc := by unfold touch; split <;> rfl
@[simp] theorem touch_lpc (s : State) (c : Nat) : (touch s c).lpc = s.lpc := by unfold touch; split <;> rfl
@[simp] theorem touch_n (s : State) (c : Nat) : (touch s c).n = s.n := by unfold touch; split <;> rfl
@[simp] theorem touch_alk (s : State) (c : Nat) : (touch s c).alk = s.alk := by unfold touch; split <;> rfl
@[simp] theorem touch_ownL (s : State) (c : Nat) : (touch s c).ownL = s.ownL := by unfold touch; split <;> rfl
@[simp] theorem touch_ownC (s : State) (c : Nat) : (touch s c).ownC = s.ownC := by unfold touch; split <;> rfl
@[simp] theorem touch_ga (s : State) (c : Nat) : (touch s c).ga = s.ga := by unfold touch; split <;> rfl
@[simp] theorem touch_gl (s : State) (c : Nat) : (touch s c).gl = s.gl := by unfold touch; split <;> rfl
@[simp] theorem touch_lisDown (s : State) (c : Nat) : (touch s c).lisDown = s.lisDown := by unfold touch; split <;> rfl
@[simp] theorem touch_ljoined (s : State) (c : Nat) : (touch s c).ljoined = s.ljoined := by unfold touch; split <;> rfl
@[simp] theorem touch_aapi (s : State) (c : Nat) : (touch s c).aapi = s.aapi := by unfold touch; split <;> rfl
@[simp] theorem touch_dfree (s : State) (c : Nat) : (touch s c).dfree = s.dfree := by unfold touch; split <;> rfl
@[simp] theorem touch_badUnlock (s : State) (c : Nat) : (touch s c).badUnlock = s.badUnlock := by unfold touch; split <;> rfl
@[simp] theorem touch_badJoin (s : State) (c : Nat) : (touch s c).badJoin = s.badJoin := by unfold touch; split <;> rfl
@[simp] theorem touch_conflict (s : State) (c : Nat) : (touch s c).conflict = s.conflict := by unfold touch; split <;> rfl
@[simp] theorem touch_badRef (s : State) (c : Nat) : (touch s c).badRef = s.badRef := by unfold touch; split <;> rfl
theorem touch_uaf (s : State) (c : Nat) : (touch s c).uaf = (s.uaf || !(s.cl c).alive) := by
  unfold touch; split <;> simp_all [raise]

@[simp] theorem own_touch (s : State) (c : Nat) (m : MCls) (c' : Nat) : own (touch s c) m c' = own s m c' := by
  cases m <;> simp [own]
@[simp] theorem getG_touch (s : State) (c : Nat) (t : Tid) : getG (touch s c) t = getG s t := by
  cases t <;> simp [getG]

@[simp] theorem touchM_cl (s : State) (m : MCls) (c : Nat) : (touchM s m c).cl = s.cl := by
  unfold touchM; split <;> simp
@[simp] theorem own_touchM (s : State) (m : MCls) (c : Nat) (m' : MCls) (c' : Nat) :
    own (touchM s m c) m' c' = own s m' c' := by
  unfold touchM; split <;> simp
@[simp] theorem getG_touchM (s : State) (m : MCls) (c : Nat) (t : Tid) : getG (touchM s m c) t = getG s t := by
  unfold touchM; split <;> simp
@[simp] theorem touchM_apc (s : State) (m : MCls) (c : Nat) : (touchM s m c).apc = s.apc := by unfold touchM; split <;> simp
@[simp] theorem touchM_lpc (s : State) (m : MCls) (c : Nat) : (touchM s m c).lpc = s.lpc := by unfold touchM; split <;> simp
@[simp] theorem touchM_n (s : State) (m : MCls) (c : Nat) : (touchM s m c).n = s.n := by unfold touchM; split <;> simp
@[simp] theorem touchM_alk (s : State) (m : MCls) (c : Nat) : (touchM s m c).alk = s.alk := by unfold touchM; split <;> simp

@[simp] theorem own_raise (s : State) (f : Flag) (m : MCls) (c : Nat) : own (raise s f) m c = own s m c := by
  cases f <;> cases m <;> rfl
@[simp] theorem raise_getG (s : State) (f : Flag) (t : Tid) : getG (raise s f) t = getG s t := by
  cases f <;> cases t <;> rfl

@[simp] theorem setC_cl (s : State) (t : Tid) (pc : CPc) : (setC s t pc).cl = s.cl := by
  cases t <;> rfl
@[simp] theorem own_setC (s : State) (t : Tid) (pc : CPc) (m : MCls) (c : Nat) : own (setC s t pc) m c = own s m c := by
  cases t <;> cases m <;> rfl
@[simp] theorem getG_setC (s : State) (t : Tid) (pc : CPc) (t' : Tid) : getG (setC s t pc) t' = getG s t' := by
  cases t <;> cases t' <;> rfl
@[simp] theorem setC_n (s : State) (t : Tid) (pc : CPc) : (setC s t pc).n = s.n := by cases t <;> rfl
@[simp] theorem setC_alk (s : State) (t : Tid) (pc : CPc) : (setC s t pc).alk = s.alk := by cases t <;> rfl
@[simp] theorem setC_app (s : State) (pc : CPc) : (setC s .app pc).apc = pc := rfl
@[simp] theorem setC_app_l (s : State) (pc : CPc) : (setC s .app pc).lpc = s.lpc := rfl
@[simp] theorem setC_lis (s : State) (pc : CPc) : (setC s .lis pc).lpc = pc := rfl
@[simp] theorem setC_lis_a (s : State) (pc : CPc) : (setC s .lis pc).apc = s.apc := rfl

theorem benign_ipc (pc : IPc) : Benign (fun x => { x with ipc := pc }) := by intro x; simp
theorem benign_opc (pc : OPc) : Benign (fun x => { x with opc := pc }) := by intro x; simp

@[simp] theorem own_setI (s : State) (c : Nat) (pc : IPc) (m : MCls) (c' : Nat) : own (setI s c pc) m c' = own s m c' :=
  own_updCl s c _ (benign_ipc pc) m c'
@[simp] theorem getG_setI (s : State) (c : Nat) (pc : IPc) (t : Tid) : getG (setI s c pc) t = getG s t :=
  getG_updCl s c _ (benign_ipc pc) t
@[simp] theorem own_setO (s : State) (c : Nat) (pc : OPc) (m : MCls) (c' : Nat) : own (setO s c pc) m c' = own s m c' :=
  own_updCl s c _ (benign_opc pc) m c'
@[simp] theorem getG_setO (s : State) (c : Nat) (pc : OPc) (t : Tid) : getG (setO s c pc) t = getG s t :=
  getG_updCl s c _ (benign_opc pc) t

@[simp] theorem own_setG (s : State) (t : Tid) (g : Ghost) (m : MCls) (c : Nat) : own (setG s t g) m c = own s m c := by
  cases t with
  | app => cases m <;> rfl
  | lis => cases m <;> rfl
  | inp d => cases m <;> simp only [own, setG, updCl_ownL, updCl_ownC] <;> (rw [updCl_cl]; split <;> simp_all)
  | out d => cases m <;> simp only [own, setG, updCl_ownL, updCl_ownC] <;> (rw [updCl_cl]; split <;> simp_all)

theorem getG_setG (s : State) (t : Tid) (g : Ghost) (t' : Tid) :
    getG (setG s t g) t' = if t' = t then g else getG s t' := by
  cases t <;> cases t' <;> simp [getG, setG, updCl_cl] <;> (split <;> simp_all)

theorem own_setOwn (s : State) (m : MCls) (c : Nat) (o : Option Tid) (m' : MCls) (c' : Nat) :
    own (setOwn s m c o) m' c' = if mkey m' c' = mkey m c then o else own s m' c' := by
  cases m <;> cases m' <;> simp [own, setOwn, mkey, MCls.perClient, updCl_cl] <;> (split <;> simp_all)

@[simp] theorem getG_setOwn (s : State) (m : MCls) (c : Nat) (o : Option Tid) (t : Tid) :
    getG (setOwn s m c o) t = getG s t := by
  cases m <;> cases t <;> simp [getG, setOwn, updCl_cl] <;> (split <;> simp_all)

end VncModel.Threads
