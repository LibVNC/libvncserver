import VncModel.Threads.Gone
/-! Mutex waits always resolve: in every reachable state, whoever owns a mutex can take a step or is
itself waiting for a mutex that is higher in the lock order; following the owners therefore leads to
a thread that can run.  Together with the lock order this is freedom from deadlocks among mutexes,
including the degenerate ones (a mutex left locked by a thread that has ended or sleeps in a
condition wait / join). -/
set_option linter.unusedSimpArgs false
namespace VncModel.Threads

/-- the iterator stages that work on `nxt` / `prev` have one -/
def WfC : CPc → Prop
  | .iter _ .incLock _ none | .iter _ .incUnlock _ none => False
  | .iter _ .decLock none _ | .iter _ .decSignal none _ | .iter _ .decUnlock none _ => False
  | _ => True

/-- ... and the listener thread only ever runs rfbNewClient -/
def Wf (s : State) : Prop := WfC s.apc ∧ WfC s.lpc ∧ lisPc s.lpc = true

theorem wf_init : Wf State.init := ⟨trivial, trivial, rfl⟩

theorem wf_congr {s s' : State} (h1 : s'.apc = s.apc) (h2 : s'.lpc = s.lpc) : Wf s' ↔ Wf s := by
  unfold Wf; rw [h1, h2]

theorem wf_pcSame {s s' : State} (h : PcSame s s') : Wf s' ↔ Wf s := wf_congr h.1 h.2.1

@[wf_frame] theorem wf_setApp (X : State) (pc : CPc) : Wf (setC X .app pc) ↔ WfC pc ∧ WfC X.lpc ∧ lisPc X.lpc = true := Iff.rfl
@[wf_frame] theorem wf_setLis (X : State) (pc : CPc) : Wf (setC X .lis pc) ↔ WfC X.apc ∧ WfC pc ∧ lisPc pc = true := Iff.rfl

@[simp, wf_frame] theorem wf_doUnlock (s : State) (t : Tid) (m : MCls) (c : Nat) : Wf (doUnlock s t m c) ↔ Wf s :=
  wf_pcSame (pcSame_doUnlock s t m c)
@[wf_frame] theorem wf_locked (s : State) (t : Tid) (m : MCls) (c : Nat) : Wf (locked s t m c) ↔ Wf s :=
  wf_congr (apc_locked s t m c) (lpc_locked s t m c)
@[simp, wf_frame] theorem wf_touch (s : State) (c : Nat) : Wf (touch s c) ↔ Wf s := wf_pcSame (pcSame_touch s c)
@[simp, wf_frame] theorem wf_incRef (s : State) (t : Tid) (c : Nat) : Wf (incRef s t c) ↔ Wf s := wf_pcSame (pcSame_incRef s t c)
@[simp, wf_frame] theorem wf_decRef (s : State) (t : Tid) (c : Nat) : Wf (decRef s t c) ↔ Wf s := wf_pcSame (pcSame_decRef s t c)
@[simp, wf_frame] theorem wf_updCl (s : State) (c : Nat) (f) : Wf (updCl s c f) ↔ Wf s := wf_congr rfl rfl
@[simp, wf_frame] theorem wf_setI (s : State) (c : Nat) (pc : IPc) : Wf (setI s c pc) ↔ Wf s := wf_congr rfl rfl
@[simp, wf_frame] theorem wf_setO (s : State) (c : Nat) (pc : OPc) : Wf (setO s c pc) ↔ Wf s := wf_congr rfl rfl
@[simp, wf_frame] theorem wf_raise (s : State) (f : Flag) : Wf (raise s f) ↔ Wf s := wf_congr (apc_raise s f) (lpc_raise s f)
@[simp, wf_frame] theorem wf_raiseIf (s : State) (f : Flag) (b : Bool) : Wf (raiseIf s f b) ↔ Wf s :=
  wf_congr (apc_raiseIf s f b) (lpc_raiseIf s f b)
@[simp] theorem wf_setAapi (s : State) (a : Api) : Wf (setAapi s a) ↔ Wf s := wf_congr rfl rfl
@[simp] theorem wf_setLisDown (s : State) : Wf (setLisDown s) ↔ Wf s := wf_congr rfl rfl
@[simp, wf_frame] theorem wf_setLjoined (s : State) : Wf (setLjoined s) ↔ Wf s := wf_congr rfl rfl
@[simp] theorem wf_setN (s : State) (n : Nat) : Wf (setN s n) ↔ Wf s := wf_congr rfl rfl
@[simp, wf_frame] theorem wf_setAlkT (s : State) (t : Tid) (l : List Nat) : Wf (setAlkT s t l) ↔ Wf s :=
  wf_congr (apc_setAlkT s t l) (lpc_setAlkT s t l)
@[simp, wf_frame] theorem wf_signalU (s : State) (c : Nat) : Wf (signalU s c) ↔ Wf s := wf_congr (apc_signalU s c) (lpc_signalU s c)

/-- TSIGNAL(deleteCond) moves a calling thread from `.gone .blocked` to `.gone .wakeD`: both are well
formed, both are program counters of the listener -/
@[wf_frame] theorem wfC_apc_signalD (s : State) (c : Nat) : WfC (signalD s c).apc ↔ WfC s.apc := by
  rw [apc_signalD']; split
  · rename_i h; rw [h]; exact Iff.rfl
  · exact Iff.rfl
@[wf_frame] theorem wfC_lpc_signalD (s : State) (c : Nat) : WfC (signalD s c).lpc ↔ WfC s.lpc := by
  rw [lpc_signalD']; split
  · rename_i h; rw [h]; exact Iff.rfl
  · exact Iff.rfl
@[wf_frame] theorem lisPc_lpc_signalD (s : State) (c : Nat) : lisPc (signalD s c).lpc = lisPc s.lpc := by
  rw [lpc_signalD']; split
  · rename_i h; rw [h]; rfl
  · rfl
@[wf_frame] theorem wf_signalD (s : State) (c : Nat) : Wf (signalD s c) ↔ Wf s := by
  unfold Wf; rw [wfC_apc_signalD, wfC_lpc_signalD, lisPc_lpc_signalD]

@[wf_frame] theorem wfC_finished (t : Tid) : WfC (finished t) := by cases t <;> trivial
@[wf_frame] theorem wfC_afterNext (t : Tid) (p : Proc) (prev nxt : Option Nat) : WfC (afterNext t p prev nxt) := by
  unfold afterNext; split <;> first | trivial | exact wfC_finished t

@[wf_frame] theorem lisPc_afterNext_count (prev nxt : Option Nat) : lisPc (afterNext .lis .count prev nxt) = true := by
  cases prev <;> cases nxt <;> rfl

attribute [wf_frame] wf_setAapi wf_setLisDown wf_setN apc_doUnlock lpc_doUnlock apc_locked lpc_locked apc_incRef lpc_incRef apc_decRef lpc_decRef apc_raise
  lpc_raise apc_raiseIf lpc_raiseIf touch_apc touch_lpc updCl_apc updCl_lpc apc_setAlkT lpc_setAlkT apc_setN lpc_setN
  apc_setAapi lpc_setAapi apc_setLisDown lpc_setLisDown apc_setLjoined lpc_setLjoined apc_signalU lpc_signalU
  setC_app_l setC_lis_a setC_app setC_lis nextIter lpc_setI apc_setI lpc_setO apc_setO

theorem wf_out {s : State} {c : Nat} (h : Wf s) : ∀ x ∈ outSucc s c, Wf x.2 := by
  unfold outSucc
  split
  all_goals (try unfold storeSt)
  all_goals simp only [succ_forall, wf_frame, h]

theorem wf_gone {s : State} {t : Tid} {g : GSt} {c : Nat} {sg : State → GSt → State} {ret : State → State}
    (hsg : ∀ X g, Wf (sg X g) ↔ Wf X) (hret : ∀ X, Wf (ret X) ↔ Wf X) (h : Wf s) :
    ∀ x ∈ goneSucc s t g c sg ret, Wf x.2 := by
  unfold goneSucc
  split
  all_goals simp only [succ_forall, wf_frame, apply_ite Wf, ite_self, h, hsg, hret]

theorem wf_inp {s : State} {c : Nat} (h : Wf s) : ∀ x ∈ inpSucc s c, Wf x.2 := by
  unfold inpSucc
  split
  all_goals (try unfold storeSt)
  all_goals first
    | (simp only [succ_forall, wf_frame, h]; done)
    | exact wf_gone (fun _ _ => wf_setI _ _ _) (fun _ => wf_setI _ _ _) h

theorem wf_caller {s : State} {t : Tid} (ht : t = .app ∨ t = .lis) (hp : t = .lis → lisPc (getC s t) = true) (h : Wf s) :
    ∀ x ∈ callerSucc s t, Wf x.2 := by
  obtain ⟨h1, h2, h3⟩ := h
  unfold callerSucc
  -- two passes per thread: the frame lemmas first bring `Wf` of each successor down to `WfC`/`lisPc` of
  -- the new program counter and of `s.apc`/`s.lpc` (closed by h1..h3); only then are `WfC`/`lisPc` unfolded,
  -- since unfolding them at a variable program counter leaves a `match` the hypotheses no longer fit
  rcases ht with rfl | rfl
  · simp only [getC]
    split
    all_goals (try unfold iterSucc)
    all_goals (try unfold bodySucc)
    all_goals (try unfold closeSucc)
    all_goals (try unfold nfSucc)
    all_goals (try unfold crSucc)
    all_goals (try unfold goneSucc)
    all_goals (try unfold storeSt)
    all_goals (try simp only [])
    all_goals (repeat' split)
    all_goals (try (simp only [doLock_eq_some] at *; crack_hyps; subst_vars))
    all_goals simp only [succ_forall, wf_frame, *]
    all_goals (repeat' split)
    all_goals simp only [WfC, lisPc, finished, apply_ite WfC, apply_ite lisPc, ite_self, beq_self_eq_true, and_self, and_true, implies_true, *]
  · have hq := hp rfl
    simp only [getC] at hq ⊢
    split
    all_goals (rename_i hpc; rw [hpc] at hq; try simp only [lisPc, beq_iff_eq, Bool.false_eq_true] at hq)
    all_goals (try subst hq)
    all_goals (try unfold iterSucc)
    all_goals (try unfold bodySucc)
    all_goals (try unfold crSucc)
    all_goals (try unfold goneSucc)
    all_goals (try unfold storeSt)
    all_goals (try simp only [])
    all_goals (repeat' split)
    all_goals (try (simp only [doLock_eq_some] at *; crack_hyps; subst_vars))
    all_goals simp only [succ_forall, wf_frame, *]
    all_goals (repeat' split)
    all_goals simp only [WfC, lisPc, finished, apply_ite WfC, apply_ite lisPc, ite_self, beq_self_eq_true, and_self, and_true, implies_true, *]

theorem wf_step {s s' : State} (h : Wf s) (hs : Step s s') : Wf s' :=
  step_cases (fun _ ht hp => wf_caller ht hp h) (fun _ => wf_inp h) (fun _ => wf_out h) hs

theorem wf_reach {s : State} (h : Reach s) : Wf s := by
  induction h with
  | init => exact wf_init
  | step _ hs ih => exact wf_step ih hs

def Enabled (s : State) (t : Tid) : Prop := ∃ x, x ∈ succ s t
/-- `t` requests a mutex that somebody owns -/
def WaitsMutex (s : State) (t : Tid) : Prop := ∃ k, k ∈ pendOf s t ∧ own s k.1 k.2 ≠ none

theorem doLock_dich (s : State) (t : Tid) (m : MCls) (c : Nat) :
    (∃ a, doLock s t m c = some a) ∨ own s m c ≠ none := by
  unfold doLock
  by_cases h : own s m c = none
  · left; rw [if_pos h]; exact ⟨_, rfl⟩
  · right; exact h

theorem storeSt_nonempty (s : State) (c : Nat) (v : CSt) (k : State → State) : ∃ x, x ∈ storeSt s c v k := by
  unfold storeSt; simp only []; split
  · exact ⟨_, List.mem_singleton.2 rfl⟩
  · exact ⟨_, List.mem_singleton.2 rfl⟩

theorem storeSt_nonempty' (s : State) (c : Nat) (v : CSt) (k : State → State) : ∃ a b, (a, b) ∈ storeSt s c v k := by
  obtain ⟨x, hx⟩ := storeSt_nonempty s c v k; exact ⟨x.1, x.2, hx⟩

theorem holder_out (s : State) (c : Nat) (hh : heldOf s (.out c) ≠ []) : Enabled s (.out c) := by
  unfold Enabled
  simp only [heldOf] at hh; simp only [succ, outSucc]
  cases hpc : (s.cl c).opc <;> simp [hpc, heldO] at hh ⊢
  all_goals first
    | (exact ⟨_, _, Or.inr (Or.inr (Or.inr ⟨rfl, rfl⟩))⟩)
    | (rename_i st; cases st <;> first | (simp; done) | (obtain ⟨x, hx⟩ := storeSt_nonempty s c .shutdown (fun s1 => setO s1 c (.k .pipe)); exact ⟨x.1, x.2, hx⟩))

theorem own_of_doLock_none {s : State} {t : Tid} {m : MCls} {c : Nat} (h : doLock s t m c = none) :
    own s (mkey m c).1 (mkey m c).2 ≠ none := by
  rw [own_mkey]
  unfold doLock at h
  split at h
  · cases h
  · assumption

/-- one program counter: either a successor exists, or the step is a LOCK of an owned mutex -/
macro "prog" : tactic => `(tactic| first
  | (left; simp; done)
  | (left; exact storeSt_nonempty _ _ _ _)
  | (left; exact storeSt_nonempty' _ _ _ _)
  | (generalize hd : doLock _ _ _ _ = d at *
     cases d with
     | none => right; refine ⟨_, ?_, own_of_doLock_none hd⟩; simp [mkey, MCls.perClient, mL, mC, pendG, pendI, pendO, pendC, pendBody, *]; done
     | some a => left; simp; done))

theorem holder_gone (s : State) (t : Tid) (g : GSt) (c : Nat) (sg : State → GSt → State) (ret : State → State)
    (hh : heldG g c ≠ []) :
    (∃ x, x ∈ goneSucc s t g c sg ret) ∨ (∃ k, k ∈ pendG g c ∧ own s k.1 k.2 ≠ none) := by
  unfold goneSucc
  cases g <;> simp [heldG] at hh <;> simp only []
  all_goals prog

theorem holder_inp (s : State) (c : Nat) (hh : heldOf s (.inp c) ≠ []) :
    Enabled s (.inp c) ∨ WaitsMutex s (.inp c) := by
  unfold Enabled WaitsMutex
  simp only [heldOf] at hh; simp only [succ, inpSucc, pendOf]
  cases hpc : (s.cl c).ipc <;> simp only [hpc, heldI] at hh ⊢
  all_goals first
    | (exact absurd rfl hh)
    | (exact holder_gone s _ _ c _ _ hh)
    | (rename_i st; cases st <;> first | (exact absurd rfl hh) | prog)
    | prog

theorem holder_iter (s : State) (t : Tid) (p : Proc) (st : ISt) (prev nxt : Option Nat) (alk : List Nat)
    (hw : WfC (.iter p st prev nxt)) :
    (∃ x, x ∈ iterSucc s t p st prev nxt) ∨ (∃ k, k ∈ pendC (.iter p st prev nxt) alk ∧ own s k.1 k.2 ≠ none) := by
  unfold iterSucc
  cases st <;> cases prev <;> cases nxt <;> simp only [WfC] at hw <;> simp only []
  all_goals first
    | (exact hw.elim)
    | prog
    | (generalize hd : doLock _ _ _ _ = d at *
       cases d with
       | none => right; refine ⟨_, ?_, own_of_doLock_none hd⟩; simp [mkey, MCls.perClient, mL, mC, pendC]; done
       | some a => left; simp)

theorem holder_body (s : State) (t : Tid) (p : Proc) (k c : Nat) :
    (∃ x, x ∈ bodySucc s t p k c) ∨ (∃ m, m ∈ pendBody p k c ∧ own s m.1 m.2 ≠ none) := by
  unfold bodySucc
  split
  all_goals prog

theorem holder_nf (s : State) (t : Tid) (st : NSt) (i : Nat) (hh : heldC (.nf st i) s.alk ≠ []) :
    (∃ x, x ∈ nfSucc s t st i) ∨ (∃ m, m ∈ pendC (.nf st i) s.alk ∧ own s m.1 m.2 ≠ none) := by
  unfold nfSucc
  cases st <;> simp only []
  case lockC => prog
  case unlockC => prog
  all_goals (
    cases ha : s.alk[i]? with
    | none => simp [heldC, ha] at hh
    | some a => simp only []; prog)

theorem holder_cr (s : State) (t : Tid) (st : CrSt) (c : Nat) (alk : List Nat) (hh : heldC (.cr st c) alk ≠ []) :
    ∃ x, x ∈ crSucc s t st c := by
  unfold crSucc
  cases st <;> simp [heldC] at hh <;> simp only [] <;> simp

theorem holder_close (s : State) (t : Tid) (p : Proc) (k : KSt) (c : Nat) : ∃ x, x ∈ closeSucc s t p k c := by
  unfold closeSucc
  cases k <;> simp only []
  · simp
  · simp
  · exact storeSt_nonempty _ _ _ _
  · simp

theorem holder_callerSucc (s : State) (t : Tid) (alk : List Nat) (halk : alk = s.alk ∨ (t = .lis ∧ alk = []))
    (hnf : ∀ st i, getC s t = .nf st i → t = .app) (hw : WfC (getC s t))
    (hh : heldC (getC s t) alk ≠ []) :
    (∃ x, x ∈ callerSucc s t) ∨ (∃ k, k ∈ pendC (getC s t) alk ∧ own s k.1 k.2 ≠ none) := by
  unfold callerSucc
  cases hpc : getC s t with
  | notStarted => simp [hpc, heldC] at hh
  | idle => simp [hpc, heldC] at hh
  | done => simp [hpc, heldC] at hh
  | rl => simp [hpc, heldC] at hh
  | sd0 => simp [hpc, heldC] at hh
  | sdJoinL => simp [hpc, heldC] at hh
  | sdJoin c n => simp [hpc, heldC] at hh
  | retp => simp [hpc, heldC] at hh
  | iter p st prev nxt => simp only []; rw [hpc] at hw; exact holder_iter s t p st prev nxt alk hw
  | body p k c => simp only [pendC]; exact holder_body s t p k c
  | close p k c => left; exact holder_close s t p k c
  | nf st i =>
    simp only []
    have ht := hnf st i hpc
    subst ht
    have : alk = s.alk := by rcases halk with h | ⟨h, _⟩ <;> first | exact h | cases h
    subst this
    rw [hpc] at hh
    exact holder_nf s .app st i hh
  | cr st c => left; rw [hpc] at hh; exact holder_cr s t st c alk hh
  | gone g c => simp only [pendC]; rw [hpc] at hh; exact holder_gone s t g c _ _ hh

/-- **who owns a mutex can run, or waits for another mutex that somebody owns** -/
theorem holder_progress {s : State} (h : Reach s) (t : Tid) (hh : heldOf s t ≠ []) :
    Enabled s t ∨ WaitsMutex s t := by
  have hw := wf_reach h
  cases t with
  | out c => exact Or.inl (holder_out s c hh)
  | inp c => exact holder_inp s c hh
  | app =>
    unfold Enabled WaitsMutex
    simp only [succ, pendOf]
    exact holder_callerSucc s .app s.alk (Or.inl rfl) (fun _ _ _ => rfl) hw.1 hh
  | lis =>
    unfold Enabled WaitsMutex
    simp only [succ, pendOf]
    by_cases hp : lisPc s.lpc = true
    · rw [if_pos hp]
      refine holder_callerSucc s .lis [] (Or.inr ⟨rfl, rfl⟩) (fun st i e => ?_) hw.2.1 hh
      simp only [getC] at e; rw [e] at hp; simp [lisPc] at hp
    · exact absurd hw.2.2 hp

theorem rank_le (m : MCls) : rank m ≤ 5 := by cases m <;> simp [rank]

/-- **mutex waits resolve**: if a thread requests a mutex that is owned, then some thread of the system
can take a step — the owner, or (following the chain of owners, which climbs in the lock order and is
therefore finite) a thread further up.  So no set of threads is ever stuck on mutexes alone: no lock
cycle, no mutex left locked by a thread that has ended or that sleeps in a condition wait or a join. -/
theorem mutex_wait_resolves {s : State} (h : Reach s) (k : Mx) (t t' : Tid)
    (hk : k ∈ pendOf s t) (ho : own s k.1 k.2 = some t') : ∃ t'', Enabled s t'' := by
  have hheld : k ∈ heldOf s t' := by
    have := (own_iff_table h t' k.1 k.2).1 ho
    rwa [pend_keyed s t k hk] at this
  rcases holder_progress h t' (List.ne_nil_of_mem hheld) with he | ⟨k', hk', ho'⟩
  · exact ⟨t', he⟩
  · obtain ⟨t2, ht2⟩ := Option.ne_none_iff_exists'.1 ho'
    have hlt := held_lt_pending h t' k' hk' k hheld
    exact mutex_wait_resolves h k' t' t2 hk' ht2
termination_by (5 - rank k.1, if k.1 = MCls.S then k.2 else 0)
decreasing_by
  have h1 := rank_le k.1
  have h2 := rank_le k'.1
  unfold mlt at hlt
  rcases hlt with hr | ⟨e1, e2, e3⟩
  · exact Prod.Lex.left _ _ (by omega)
  · rw [e1, e2]; simp only [if_true]
    exact Prod.Lex.right _ e3

end VncModel.Threads
