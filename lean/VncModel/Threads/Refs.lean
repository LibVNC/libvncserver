import VncModel.Threads.Bound
/-! The reference count of every client is exact: it is the number of counted references held by the
application thread, the listener thread and the client's own output thread. -/
namespace VncModel.Threads

structure RefG (s : State) : Prop where
  cnt : ∀ c, (s.cl c).refCount =
    (getG s .app).refs.count c + (getG s .lis).refs.count c + (getG s (.out c)).refs.count c

theorem refG_init : RefG State.init := ⟨fun c => by simp [State.init, getG]⟩

theorem refG_congr {s s' : State} (hr : ∀ c, (s'.cl c).refCount = (s.cl c).refCount)
    (hg : ∀ t, (getG s' t).refs = (getG s t).refs) : RefG s' ↔ RefG s := by
  constructor <;> intro h <;> constructor <;> intro c
  · have := h.cnt c; rw [hr, hg, hg, hg] at this; exact this
  · rw [hr, hg, hg, hg]; exact h.cnt c

theorem refs_doUnlock (s : State) (t : Tid) (m : MCls) (c : Nat) (t' : Tid) :
    (getG (doUnlock s t m c) t').refs = (getG s t').refs := by
  unfold doUnlock
  simp only []
  split
  · rw [getG_setG]; split
    · rename_i h; subst h; simp
    · simp
  · have : getG (raise (touchM s m c) Flag.badUnlock) t' = getG (touchM s m c) t' := by cases t' <;> rfl
    rw [this, getG_touchM]

@[simp] theorem getG_raiseIf (s : State) (f : Flag) (b : Bool) (t : Tid) : getG (raiseIf s f b) t = getG s t := by
  unfold raiseIf; split <;> simp
@[simp] theorem getG_setAlkT (s : State) (t0 : Tid) (l : List Nat) (t : Tid) : getG (setAlkT s t0 l) t = getG s t := by
  unfold setAlkT; split <;> (cases t <;> rfl)
@[simp] theorem getG_setN (s : State) (k : Nat) (t : Tid) : getG (setN s k) t = getG s t := by cases t <;> rfl
@[simp] theorem getG_setAapi (s : State) (a : Api) (t : Tid) : getG (setAapi s a) t = getG s t := by cases t <;> rfl
@[simp] theorem getG_setLisDown (s : State) (t : Tid) : getG (setLisDown s) t = getG s t := by cases t <;> rfl
@[simp] theorem getG_setLjoined (s : State) (t : Tid) : getG (setLjoined s) t = getG s t := by cases t <;> rfl

@[simp] theorem refG_setC (s : State) (t : Tid) (pc : CPc) : RefG (setC s t pc) ↔ RefG s :=
  refG_congr (by simp) (by simp)
@[simp] theorem refG_setI (s : State) (c : Nat) (pc : IPc) : RefG (setI s c pc) ↔ RefG s :=
  refG_congr (fun c' => by rw [cl_setI]; split <;> simp_all) (by simp)
@[simp] theorem refG_setO (s : State) (c : Nat) (pc : OPc) : RefG (setO s c pc) ↔ RefG s :=
  refG_congr (fun c' => by rw [cl_setO]; split <;> simp_all) (by simp)
theorem refG_doLock {s a : State} {t : Tid} {m : MCls} {c : Nat} (h : doLock s t m c = some a) : RefG a ↔ RefG s :=
  refG_congr (refCount_doLock h) (refs_doLock h)
@[simp] theorem refG_setAlkT (s : State) (t : Tid) (l : List Nat) : RefG (setAlkT s t l) ↔ RefG s := refG_congr (by simp) (by simp)
@[simp] theorem refG_setN (s : State) (k : Nat) : RefG (setN s k) ↔ RefG s := refG_congr (by simp) (by simp)
@[simp] theorem refG_signalU (s : State) (c : Nat) : RefG (signalU s c) ↔ RefG s := by
  unfold signalU; split <;> simp
@[simp] theorem refG_signalD (s : State) (c : Nat) : RefG (signalD s c) ↔ RefG s := by
  unfold signalD; simp only []; split <;> split <;> split <;> simp

/-- record updates that leave the reference count and the ghosts alone -/
def KeepsRef (f : Client → Client) : Prop := ∀ x, (f x).refCount = x.refCount ∧ (f x).gi = x.gi ∧ (f x).go = x.go

theorem refG_updCl (s : State) (c : Nat) (f : Client → Client) (hf : KeepsRef f) : RefG (updCl s c f) ↔ RefG s := by
  refine refG_congr (fun c' => ?_) (fun t => ?_)
  · rw [updCl_cl]; split
    · rename_i h; subst h; exact (hf _).1
    · rfl
  · cases t with
    | app => rfl
    | lis => rfl
    | inp d => simp only [getG, updCl_cl]; split
               · rename_i h; subst h; rw [(hf _).2.1]
               · rfl
    | out d => simp only [getG, updCl_cl]; split
               · rename_i h; subst h; rw [(hf _).2.2]
               · rfl

theorem count_refs_incRef (s : State) (t : Tid) (c : Nat) (t' : Tid) (c' : Nat) :
    (getG (incRef s t c) t').refs.count c' = (getG s t').refs.count c' + if t' = t ∧ c = c' then 1 else 0 := by
  rw [getG_incRef]; split <;> simp [List.count_cons, *]

theorem count_refs_decRef {s : State} {t : Tid} {c : Nat} (hm : c ∈ (getG s t).refs) (t' : Tid) (c' : Nat) :
    (getG (decRef s t c) t').refs.count c' = (getG s t').refs.count c' - if t' = t ∧ c = c' then 1 else 0 := by
  rw [getG_decRef hm]; split <;> simp [List.count_erase, *]

/-- taking a reference: by the application, the listener, or a client's own output thread -/
theorem refG_incRef {s : State} {t : Tid} {c : Nat} (h : RefG s) (ht : t = .app ∨ t = .lis ∨ t = .out c) :
    RefG (incRef s t c) := by
  constructor
  intro c'
  rw [refCount_incRef, count_refs_incRef, count_refs_incRef, count_refs_incRef]
  have hc := h.cnt c'
  by_cases e : c = c'
  · subst e; rcases ht with rfl | rfl | rfl <;> simp <;> omega
  · rcases ht with rfl | rfl | rfl <;> simp [e, Ne.symm e] <;> omega

theorem refG_decRef {s : State} {t : Tid} {c : Nat} (h : RefG s) (ht : t = .app ∨ t = .lis ∨ t = .out c)
    (hm : c ∈ (getG s t).refs) : RefG (decRef s t c) := by
  constructor
  intro c'
  rw [refCount_decRef, count_refs_decRef hm, count_refs_decRef hm, count_refs_decRef hm]
  have hc := h.cnt c'
  have hpos : 0 < (getG s t).refs.count c := List.count_pos_iff.2 hm
  by_cases e : c = c'
  · subst e; rcases ht with rfl | rfl | rfl <;> simp <;> omega
  · rcases ht with rfl | rfl | rfl <;> simp [e, Ne.symm e] <;> omega

theorem refsC_bound {pc : CPc} {alk : List Nat} {n : Nat} (h1 : ∀ x ∈ idxC pc, x < n) (h2 : ∀ x ∈ alk, x < n) :
    ∀ x ∈ refsC pc alk, x < n := by
  intro x hx
  cases pc with
  | iter p st prev nxt =>
    simp only [refsC, List.mem_append] at hx
    rcases hx with hx | hx
    · apply h1; simp only [idxC, List.mem_append, Option.mem_toList]
      cases st <;> cases prev <;> cases nxt <;> simp [refsIt] at hx <;> (first | (simp_all; done) | (rcases hx with rfl | rfl <;> simp))
    · cases p <;> simp [procRefs] at hx; exact h2 x hx
  | body p k c =>
    simp only [refsC, List.mem_append] at hx
    rcases hx with hx | hx
    · have : x = c := by
        cases p <;> simp only [bodyRefs] at hx <;> (try split at hx) <;> simp_all
      subst this; exact h1 x (by simp [idxC])
    · cases p <;> simp [procRefs] at hx; exact h2 x hx
  | close p k c =>
    simp only [refsC, List.mem_append, List.mem_singleton] at hx
    rcases hx with rfl | hx
    · exact h1 x (by simp [idxC])
    · cases p <;> simp [procRefs] at hx; exact h2 x hx
  | nf st i =>
    cases st <;> simp only [refsC] at hx <;> first
      | exact h2 x hx
      | exact h2 x (List.mem_of_mem_drop hx)
      | simp at hx
  | sdJoin c nxt => simp only [refsC] at hx; exact h1 x (by simp [idxC]; right; simpa using hx)
  | _ => simp [refsC] at hx

theorem refs_lt_n {s : State} (hL : Local s) (hb : Bnd s) (t : Tid) (x : Nat) (hx : x ∈ (getG s t).refs) : x < s.n := by
  have hc := (hL t).2 x
  have hx' : x ∈ refsOf s t := List.count_pos_iff.1 (by have := List.count_pos_iff.2 hx; omega)
  cases t with
  | app => exact refsC_bound hb.app hb.alk x hx'
  | lis => exact refsC_bound hb.lis (by simp) x hx'
  | inp c => simp [refsOf] at hx'
  | out c =>
    simp only [refsOf] at hx'
    have : x = c := by cases h : (s.cl c).opc <;> simp [refsO, h] at hx' <;> exact hx'
    subst this
    exact hb.thr x (Or.inr (by intro h; simp [refsO, h] at hx'))

theorem refG_alloc {s : State} (h : RefG s) (hL : Local s) (hb : Bnd s) :
    RefG (setN (updCl s s.n Client.fresh) (s.n + 1)) := by
  rw [refG_setN]
  constructor
  intro c
  have hg : ∀ t, getG (updCl s s.n Client.fresh) t = getG s t :=
    fun t => getG_updCl s s.n _ benign_fresh t
  rw [hg, hg, hg, updCl_cl]
  split
  · rename_i e; subst e
    have z : ∀ t, (getG s t).refs.count s.n = 0 := fun t =>
      List.count_eq_zero.2 (fun hm => by have := refs_lt_n hL hb t _ hm; omega)
    simp [Client.fresh, z]
  · exact h.cnt c

/-- the ghost form of the invariant, read through the thread-local tables -/
theorem refCount_of_refG {s : State} (h : RefG s) (hL : Local s) (c : Nat) :
    (s.cl c).refCount = (refsOf s .app).count c + (refsOf s .lis).count c + (refsOf s (.out c)).count c := by
  rw [h.cnt c, (hL .app).2 c, (hL .lis).2 c, (hL (.out c)).2 c]

end VncModel.Threads
