import VncModel.Threads.Wake
/-! Where the socket of a client is closed: only in the step `x4s` of its own input thread, which
holds the client's outputMutex (clientInput: LOCK O; close; sock = -1; UNLOCK O). -/
set_option linter.unusedSimpArgs false
namespace VncModel.Threads

theorem sock_label_caller {s s' : State} {c : Nat} {t : Tid} (hs : (Lbl.sock c, s') ∈ callerSucc s t) : False := by
  unfold callerSucc at hs
  split at hs
  all_goals (try unfold iterSucc at hs)
  all_goals (try unfold bodySucc at hs)
  all_goals (try unfold closeSucc at hs)
  all_goals (try unfold nfSucc at hs)
  all_goals (try unfold crSucc at hs)
  all_goals (try unfold goneSucc at hs)
  all_goals (try unfold storeSt at hs)
  all_goals (try simp only [] at hs)
  all_goals (repeat' (split at hs))
  all_goals first
    | (simp at hs; done)
    | (simp at hs; crack_hyps; all_goals simp_all)

/-- the label `sock c` is produced by the input thread of c only, at `x4s` -/
theorem sock_label {s s' : State} {c : Nat} {t : Tid} (hs : (Lbl.sock c, s') ∈ succ s t) :
    t = .inp c ∧ (s.cl c).ipc = .x4s := by
  cases t with
  | app => exact (sock_label_caller hs).elim
  | lis =>
    simp only [succ] at hs
    split at hs
    · exact (sock_label_caller hs).elim
    · simp at hs
  | inp d | out d =>
    simp only [succ] at hs
    first | unfold inpSucc at hs | unfold outSucc at hs
    split at hs
    all_goals (try unfold storeSt at hs)
    all_goals (try unfold goneSucc at hs)
    all_goals (try simp only [] at hs)
    all_goals (try split at hs)
    all_goals (try split at hs)
    all_goals first
      | (simp at hs; done)
      | (simp at hs; crack_hyps; all_goals (first | (simp_all; done) | (subst_vars; exact ⟨rfl, ‹_›⟩)))

theorem sock_label_inp' {s s' : State} {c d : Nat} (hs : (Lbl.sock c, s') ∈ succ s (.inp d)) :
    d = c ∧ (s.cl c).ipc = .x4s :=
  ⟨Tid.inp.inj (sock_label hs).1, (sock_label hs).2⟩

theorem sock_label_inp {s s' : State} {c : Nat} {t : Tid} (hs : (Lbl.sock c, s') ∈ succ s t)
    (ht : ∀ d, t ≠ .inp d) : False :=
  ht c (sock_label hs).1

end VncModel.Threads
