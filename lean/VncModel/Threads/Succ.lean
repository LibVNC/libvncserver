import VncModel.Threads.Fields
import VncModel.Threads.AttrSafety
/-! Reading a successor list (simp set `succ_forall`) from here on: a successful LOCK yields the explicit state
`locked s t m c` under the hypothesis that the mutex is free (`forall_doLock`; after a `split` of `iterSucc`'s
`match doLock … with`, `doLock_eq_some` gives the same two facts).  The files before this one read the LOCK
clause as `∀ j, doLock s t m c = some j → P j`. -/
namespace VncModel.Threads

/-- the state right after a successful LOCK(m) by `t` -/
def locked (s : State) (t : Tid) (m : MCls) (c : Nat) : State :=
  let s1 := setOwn (touchM s m c) m c (some t)
  setG s1 t { (getG s1 t) with held := mkey m c :: (getG s1 t).held }

theorem doLock_eq_some {s a : State} {t : Tid} {m : MCls} {c : Nat} :
    doLock s t m c = some a ↔ own s m c = none ∧ a = locked s t m c := by
  unfold doLock locked
  split
  · rename_i h; simp only [Option.some.injEq, h, true_and]; exact eq_comm
  · rename_i h; simp only [h, false_and]; exact ⟨(nomatch ·), False.elim⟩

@[succ_forall] theorem forall_doLock {s : State} {t : Tid} {m : MCls} {c : Nat} {P : State → Prop} :
    (∀ j, doLock s t m c = some j → P j) ↔ (own s m c = none → P (locked s t m c)) := by
  simp only [doLock_eq_some]
  exact ⟨fun h ho => h _ ⟨ho, rfl⟩, fun h j e => e.2 ▸ h e.1⟩

attribute [succ_forall] true_implies and_self

theorem coreEq_locked (s : State) (t : Tid) (m : MCls) (c c' : Nat) : CoreEq ((locked s t m c).cl c') (s.cl c') :=
  coreEq_trans (coreEq_setG _ t _ c') (coreEq_trans (coreEq_setOwn _ m c _ c') (coreEq_touchM s m c c'))

@[simp] theorem alive_locked (s : State) (t : Tid) (m : MCls) (c c' : Nat) :
    ((locked s t m c).cl c').alive = (s.cl c').alive := (coreEq_locked s t m c c').1
@[simp] theorem st_locked (s : State) (t : Tid) (m : MCls) (c c' : Nat) :
    ((locked s t m c).cl c').st = (s.cl c').st := (coreEq_locked s t m c c').2.2.2.1
@[simp] theorem goneCnt_locked (s : State) (t : Tid) (m : MCls) (c c' : Nat) :
    ((locked s t m c).cl c').goneCnt = (s.cl c').goneCnt := (coreEq_locked s t m c c').2.2.2.2.2.2.1
@[simp] theorem ipc_locked (s : State) (t : Tid) (m : MCls) (c c' : Nat) :
    ((locked s t m c).cl c').ipc = (s.cl c').ipc := (coreEq_locked s t m c c').2.2.2.2.2.2.2.1
@[simp] theorem opc_locked (s : State) (t : Tid) (m : MCls) (c c' : Nat) :
    ((locked s t m c).cl c').opc = (s.cl c').opc := (coreEq_locked s t m c c').2.2.2.2.2.2.2.2.1

theorem top_locked (s : State) (t : Tid) (m : MCls) (c : Nat) :
    (locked s t m c).apc = s.apc ∧ (locked s t m c).lpc = s.lpc := by
  unfold locked; simp only []
  exact ⟨(top_setG _ t _).1.trans ((top_setOwn _ m c _).1.trans (top_touchM s m c).1),
    (top_setG _ t _).2.1.trans ((top_setOwn _ m c _).2.1.trans (top_touchM s m c).2.1)⟩
@[simp] theorem apc_locked (s : State) (t : Tid) (m : MCls) (c : Nat) : (locked s t m c).apc = s.apc := (top_locked s t m c).1
@[simp] theorem lpc_locked (s : State) (t : Tid) (m : MCls) (c : Nat) : (locked s t m c).lpc = s.lpc := (top_locked s t m c).2

theorem doLock_of_free {s : State} {m : MCls} {c : Nat} (t : Tid) (h : own s m c = none) :
    doLock s t m c = some (locked s t m c) := doLock_eq_some.2 ⟨h, rfl⟩

theorem opc_setO_same (s : State) (c : Nat) (pc : OPc) : ((setO s c pc).cl c).opc = pc :=
  congrArg Client.opc (updCl_cl_same s c _)

/-! TSIGNAL(updateCond) wakes the output thread if it sleeps and changes nothing else -/

theorem st_signalU (s : State) (c c' : Nat) : ((signalU s c).cl c').st = (s.cl c').st := by
  unfold signalU; split
  · rw [cl_setO]; split
    · rename_i e; subst e; rfl
    · rfl
  · rfl

theorem opc_signalU_awake (s : State) (c : Nat) : ((signalU s c).cl c).opc ≠ .blocked := by
  unfold signalU; split
  · rw [cl_setO, if_pos rfl]; exact nofun
  · assumption

theorem opc_signalU_eq (s : State) (c c' : Nat) {pc : OPc} (h : pc ≠ .blocked) (h' : pc ≠ .woken) :
    ((signalU s c).cl c').opc = pc ↔ (s.cl c').opc = pc := by
  unfold signalU; split
  · rename_i hb; rw [cl_setO]; split
    · rename_i e; subst e; simp only [hb]; exact ⟨fun e => (h' e.symm).elim, fun e => (h e.symm).elim⟩
    · exact Iff.rfl
  · exact Iff.rfl

end VncModel.Threads
