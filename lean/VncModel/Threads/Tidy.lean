import VncModel.Threads.Life
/-! The three invariants on the client records (`Bnd`, `RefG`, `Life`) are carried through a step of a
calling thread together.  A step is a few bookkeeping operations (`Quiet`), at most one operation on a
reference count, a condition variable or a record, and a jump to a new program counter; for most
jumps the new program counter mentions nothing the old one did not (`Calm`).
`CoreEq` (Fields.lean) is the finest "same state up to …" relation; `LSame` is its projection to what `Life`
and `Bnd` read, `GSame` (Gone.lean) to what `GoneInv` reads; `Quiet` is `LSame` plus equal `refs` lists, for `RefG`. -/
set_option linter.unusedSimpArgs false
namespace VncModel.Threads

/-- `X` is `s` up to what none of the three invariants reads: mutex owners, the threads' lists of held
mutexes, the error flags, and the client fields `st`, `sockOpen`, `pipeNote`, `goneCnt`, `ijoined`,
`ojoined` -/
structure Quiet (s X : State) : Prop where
  same : LSame s X
  refs : ∀ t, (getG X t).refs = (getG s t).refs

namespace Quiet
variable {s X : State}

theorem refl (s : State) : Quiet s s := ⟨LSame.refl s, fun _ => rfl⟩

theorem step {Y : State} (q : Quiet s X) (h : LSame X Y) (hr : ∀ t, (getG Y t).refs = (getG X t).refs) : Quiet s Y :=
  ⟨q.same.trans h, fun t => (hr t).trans (q.refs t)⟩

theorem lock {a : State} {t : Tid} {m : MCls} {c : Nat} (q : Quiet s X) (h : doLock X t m c = some a) : Quiet s a :=
  q.step (lsame_doLock h) (refs_doLock h)
theorem unlock {t : Tid} {m : MCls} {c : Nat} (q : Quiet s X) : Quiet s (doUnlock X t m c) :=
  q.step (lsame_doUnlock X t m c) (refs_doUnlock X t m c)
theorem touch {c : Nat} (q : Quiet s X) : Quiet s (touch X c) := q.step (lsame_touch X c) (fun t => by rw [getG_touch])
theorem raise {f : Flag} (q : Quiet s X) : Quiet s (raise X f) := q.step (lsame_raise X f) (fun t => by rw [raise_getG])
theorem raiseIf {f : Flag} {b : Bool} (q : Quiet s X) : Quiet s (raiseIf X f b) :=
  q.step (lsame_raiseIf X f b) (fun t => by rw [getG_raiseIf])
theorem updCl {c : Nat} {f : Client → Client} (q : Quiet s X) (h1 : LifeNeutral f := by intro x; simp)
    (h2 : Benign f := by intro x; simp) : Quiet s (updCl X c f) :=
  q.step (lsame_updCl X c f h1) (fun t => by rw [getG_updCl X c f h2])
theorem setAapi {a : Api} (q : Quiet s X) : Quiet s (setAapi X a) :=
  q.step ⟨fun _ => ⟨rfl, rfl, rfl, rfl, rfl⟩, rfl, rfl, rfl, rfl⟩ (fun t => by rw [getG_setAapi])
theorem setLisDown (q : Quiet s X) : Quiet s (setLisDown X) :=
  q.step ⟨fun _ => ⟨rfl, rfl, rfl, rfl, rfl⟩, rfl, rfl, rfl, rfl⟩ (fun t => by rw [getG_setLisDown])
theorem setLjoined (q : Quiet s X) : Quiet s (setLjoined X) :=
  q.step ⟨fun _ => ⟨rfl, rfl, rfl, rfl, rfl⟩, rfl, rfl, rfl, rfl⟩ (fun t => by rw [getG_setLjoined])

theorem getC (q : Quiet s X) (t : Tid) : getC X t = Threads.getC s t := getC_lsame q.same t
theorem alkOf (q : Quiet s X) (t : Tid) : alkOf X t = Threads.alkOf s t := alkOf_lsame q.same t
theorem refCount (q : Quiet s X) (c : Nat) : (X.cl c).refCount = (s.cl c).refCount := (q.same.cl c).2.2.1
theorem ipc (q : Quiet s X) (c : Nat) : (X.cl c).ipc = (s.cl c).ipc := (q.same.cl c).2.2.2.1
theorem opc (q : Quiet s X) (c : Nat) : (X.cl c).opc = (s.cl c).opc := (q.same.cl c).2.2.2.2
end Quiet

/-- a calling thread may move from `pc` to `pc'` whatever the state is: `pc'` mentions no client,
relies on no client being in the list and constructs no record that `pc` did not, and is not the
point where a record is unlinked -/
structure Calm (pc pc' : CPc) : Prop where
  idx : ∀ x ∈ idxC pc', x ∈ idxC pc
  cr : crOf pc' = none ∨ crOf pc' = crOf pc
  known : ∀ alk, ∀ y ∈ knownC pc' alk, y ∈ knownC pc alk
  zero : ∀ c, pc' ≠ .gone .unlockR c

def ISt.hasNxt : ISt → Bool
  | .incUnlock | .unlockL | .decLock | .decSignal | .decUnlock => true
  | _ => false
def ISt.hasPrev : ISt → Bool
  | .lockL | .incLock | .incUnlock | .unlockL | .decLock => true
  | _ => false

theorem mem_refsIt {st : ISt} {prev nxt : Option Nat} {y : Nat} :
    y ∈ refsIt st prev nxt ↔ (st.hasNxt = true ∧ nxt = some y) ∨ (st.hasPrev = true ∧ prev = some y) := by
  cases st <;> cases prev <;> cases nxt <;> simp [refsIt, ISt.hasNxt, ISt.hasPrev, eq_comm]

theorem mem_bodyRefs {p : Proc} {k c y : Nat} : y ∈ bodyRefs p k c ↔ y = c := by
  unfold bodyRefs; split <;> simp

theorem refsOf_caller {s : State} {t : Tid} (ht : t = .app ∨ t = .lis) : refsOf s t = refsC (getC s t) (alkOf s t) := by
  rcases ht with rfl | rfl <;> rfl

theorem getC_incRef (s : State) (t : Tid) (c : Nat) (t' : Tid) : getC (incRef s t c) t' = getC s t' := by
  cases t' <;> simp [getC]
theorem getC_decRef (s : State) (t : Tid) (c : Nat) (t' : Tid) : getC (decRef s t c) t' = getC s t' := by
  cases t' <;> simp [getC]
theorem getC_signalU (s : State) (c : Nat) (t : Tid) : getC (signalU s c) t = getC s t := by
  cases t <;> simp [getC]
theorem getC_signalD {s : State} {c : Nat} {t : Tid} (h : getC s t ≠ .gone .blocked c) : getC (signalD s c) t = getC s t := by
  cases t <;> simp only [getC] at h ⊢
  · rw [apc_signalD', if_neg h]
  · rw [lpc_signalD', if_neg h]

theorem Calm.ite {pc p1 p2 : CPc} {b : Prop} [Decidable b] (h1 : Calm pc p1) (h2 : Calm pc p2) :
    Calm pc (if b then p1 else p2) := by
  split <;> assumption

/-- `Calm` between given program counters: a test first picks one of two targets; otherwise the four
clauses are computed from the tables (the simp set of the calling file unfolds them) -/
macro "calm" : tactic => `(tactic| (try refine Calm.ite ?_ ?_) <;> (constructor <;> simp <;> grind))


structure Tidy (s : State) : Prop where
  bnd : Bnd s
  refG : RefG s
  life : Life s

namespace Tidy
variable {s X : State} {t : Tid} {pc pc' : CPc}

theorem quiet (h : Tidy s) (q : Quiet s X) : Tidy X :=
  ⟨(bnd_congr q.same.apc q.same.lpc q.same.alk q.same.n (fun c => ⟨(q.same.cl c).2.2.2.1, (q.same.cl c).2.2.2.2⟩)).2 h.bnd,
   (refG_congr q.refCount q.refs).2 h.refG, life_of_lsame q.same h.life⟩

theorem signalU (h : Tidy X) (c : Nat) : Tidy (signalU X c) :=
  ⟨(bnd_signalU X c).2 h.bnd, (refG_signalU X c).2 h.refG, life_signalU c h.life⟩

theorem signalD (h : Tidy X) (c : Nat) : Tidy (signalD X c) :=
  ⟨(bnd_signalD X c).2 h.bnd, (refG_signalD X c).2 h.refG, life_signalD c h.life⟩

/-- `rfbIncrClientRef` right after its LOCK(refCountMutex) -/
theorem incRef {s1 : State} {c : Nat} (ht : t = .app ∨ t = .lis ∨ t = .out c) (hr : Reach s) (h : Tidy s)
    (hl : doLock s t .R c = some s1) : Tidy (incRef s1 t c) :=
  ⟨(bnd_incRef s1 t c).2 ((bnd_doLock hl).2 h.bnd), refG_incRef ((refG_doLock hl).2 h.refG) ht,
   life_incRef_locked hr h.life hl⟩

/-- `rfbDecrClientRef` right after its LOCK(refCountMutex): the thread holds a reference -/
theorem decRef {s1 : State} {c : Nat} (ht : t = .app ∨ t = .lis ∨ t = .out c) (hr : Reach s) (h : Tidy s)
    (hl : doLock s t .R c = some s1) (hm : c ∈ refsOf s t) : Tidy (decRef s1 t c) :=
  ⟨(bnd_decRef s1 t c).2 ((bnd_doLock hl).2 h.bnd),
   refG_decRef ((refG_doLock hl).2 h.refG) ht (by rw [refs_doLock hl]; exact mem_refs_of_local (local_reach hr) hm),
   life_decRef_locked hr h.life hl⟩

theorem out {c : Nat} {pc' : OPc} (h : Tidy X) (hrun : opcRun (X.cl c).opc = true) : Tidy (setO X c pc') :=
  ⟨bnd_setO h.bnd (h.bnd.thr c (Or.inr (fun e => by rw [e] at hrun; cases hrun))), (refG_setO X c pc').2 h.refG,
   life_setO h.life hrun⟩

/-- moves of the input thread during which its record stays allocated and keeps its place in or out of
the list -/
def keepsI (pc pc' : IPc) : Bool :=
  ipcAlive pc && ipcAlive pc' && (ipcLinked pc' == ipcLinked pc) && pc' != .createO

theorem inp {c : Nat} {pc pc' : IPc} (h : Tidy X) (hpc : (X.cl c).ipc = pc) (hk : keepsI pc pc' = true)
    (hho : ipcHasOut pc' = true ∨ ipcHasOut pc = false ∨ opcRun (X.cl c).opc = false)
    (hz : pc' = .g .unlockR → (X.cl c).refCount = 0) : Tidy (setI X c pc') := by
  simp only [keepsI, Bool.and_eq_true, beq_iff_eq, bne_iff_ne] at hk
  obtain ⟨⟨⟨h0, ha⟩, hlk⟩, hns⟩ := hk
  subst hpc
  exact ⟨bnd_setI h.bnd (h.bnd.thr c (Or.inl (fun e => by rw [e] at h0; cases h0))), (refG_setI X c pc').2 h.refG,
    life_setI h.life h0 ha hlk hho hns hz⟩

theorem inpGoto {c : Nat} {pc pc' : IPc} (h : Tidy s) (hpc : (s.cl c).ipc = pc) (q : Quiet s X)
    (hk : keepsI pc pc' = true := by rfl) (hho : ipcHasOut pc' = true ∨ ipcHasOut pc = false := by decide)
    (hz : pc' ≠ .g .unlockR := by decide) : Tidy (setI X c pc') :=
  (h.quiet q).inp ((q.ipc c).trans hpc) hk (hho.imp_right Or.inl) (fun e => absurd e hz)

theorem jump (ht : t = .app ∨ t = .lis) (h : Tidy X) (hidx : ∀ x ∈ idxC pc', x < X.n)
    (hcr : crOf pc' = none ∨ crOf pc' = crOf (getC X t))
    (hkn : ∀ y, y ∈ knownC pc' (alkOf X t) → y ∈ knownC (getC X t) (alkOf X t) ∨ (X.cl y).linked = true)
    (hz : ∀ c, pc' = .gone .unlockR c → (X.cl c).refCount = 0) : Tidy (setC X t pc') :=
  ⟨bnd_setC ht h.bnd hidx, (refG_setC X t pc').2 h.refG, life_move ht h.life hcr hkn hz⟩

theorem move (ht : t = .app ∨ t = .lis) (h : Tidy X) (hpc : getC X t = pc)
    (hc : Calm pc pc' := by calm) : Tidy (setC X t pc') :=
  h.jump ht (fun x hx => h.bnd.idx ht x (hpc ▸ hc.idx x hx)) (hpc ▸ hc.cr)
    (fun y hy => Or.inl (hpc ▸ hc.known _ y hy)) (fun c e => absurd e (hc.zero c))

theorem record {c : Nat} {f : Client → Client} (h : Tidy X) (hf : KeepsPc f := by intro x; simp)
    (hr : KeepsRef f := by intro x; simp) : Bnd (updCl X c f) ∧ RefG (updCl X c f) :=
  ⟨(bnd_updCl X c f hf).2 h.bnd, (refG_updCl X c f hr).2 h.refG⟩

theorem of_life (ht : t = .app ∨ t = .lis) (hb : Bnd X) (hidx : ∀ x ∈ idxC pc', x < X.n) (hg : RefG X)
    (hl : Life (setC X t pc')) : Tidy (setC X t pc') :=
  ⟨bnd_setC ht hb hidx, (refG_setC X t pc').2 hg, hl⟩

theorem goto (ht : t = .app ∨ t = .lis) (h : Tidy s) (hpc : getC s t = pc) (q : Quiet s X)
    (hc : Calm pc pc' := by calm) : Tidy (setC X t pc') :=
  (h.quiet q).move ht ((q.getC t).trans hpc) hc

/-- the common kinds of step: LOCK, UNLOCK or a dereference, then a calm jump -/
theorem lock_goto {m : MCls} {c : Nat} (ht : t = .app ∨ t = .lis) (h : Tidy s) (hpc : getC s t = pc)
    (hc : Calm pc pc') : ∀ a, doLock s t m c = some a → Tidy (setC a t pc') :=
  fun _ hl => h.goto ht hpc ((Quiet.refl s).lock hl) hc
theorem unlock_goto {m : MCls} {c : Nat} (ht : t = .app ∨ t = .lis) (h : Tidy s) (hpc : getC s t = pc)
    (hc : Calm pc pc') : Tidy (setC (doUnlock s t m c) t pc') :=
  h.goto ht hpc (Quiet.refl s).unlock hc
theorem touch_goto {c : Nat} (ht : t = .app ∨ t = .lis) (h : Tidy s) (hpc : getC s t = pc)
    (hc : Calm pc pc') : Tidy (setC (touch s c) t pc') :=
  h.goto ht hpc (Quiet.refl s).touch hc

theorem incRef_goto {a : State} {c : Nat} (ht : t = .app ∨ t = .lis) (hr : Reach s) (h : Tidy s) (hpc : getC s t = pc)
    (hl : doLock s t .R c = some a) (hc : Calm pc pc' := by calm) :
    Tidy (setC (Threads.incRef a t c) t pc') :=
  (incRef (ht.imp_right Or.inl) hr h hl).move ht (by rw [getC_incRef, ((Quiet.refl s).lock hl).getC, hpc]) hc

theorem decRef_goto {a : State} {c : Nat} (ht : t = .app ∨ t = .lis) (hr : Reach s) (h : Tidy s) (hpc : getC s t = pc)
    (hl : doLock s t .R c = some a) (hm : c ∈ refsC pc (alkOf s t))
    (hc : Calm pc pc' := by calm) : Tidy (setC (Threads.decRef a t c) t pc') :=
  (decRef (ht.imp_right Or.inl) hr h hl (refsOf_caller ht ▸ hpc ▸ hm)).move ht (by rw [getC_decRef, ((Quiet.refl s).lock hl).getC, hpc]) hc

theorem signalU_goto {c : Nat} (ht : t = .app ∨ t = .lis) (h : Tidy s) (hpc : getC s t = pc) (q : Quiet s X)
    (hc : Calm pc pc' := by calm) : Tidy (setC (Threads.signalU X c) t pc') :=
  ((h.quiet q).signalU c).move ht (by rw [getC_signalU, q.getC, hpc]) hc

theorem signalD_goto {c : Nat} (ht : t = .app ∨ t = .lis) (h : Tidy s) (hpc : getC s t = pc) (q : Quiet s X)
    (hnb : pc ≠ .gone .blocked c) (hc : Calm pc pc' := by calm) :
    Tidy (setC (Threads.signalD X c) t pc') :=
  ((h.quiet q).signalD c).move ht (by rw [getC_signalD (by rw [q.getC, hpc]; exact hnb), q.getC, hpc]) hc

theorem setAlk_jump {l : List Nat} (h : Tidy X) (hl : ∀ x ∈ l, x < X.n) (hidx : ∀ x ∈ idxC pc', x < X.n)
    (hcr : crOf pc' = none) (hkn : ∀ y, y ∈ knownC pc' l → (X.cl y).linked = true)
    (hz : ∀ c, pc' ≠ .gone .unlockR c) : Tidy (setC (setAlkT X .app l) .app pc') :=
  ⟨bnd_setC (Or.inl rfl) (bnd_setAlkT h.bnd hl) (by rw [n_setAlkT]; exact hidx),
   (refG_setC _ _ _).2 ((refG_setAlkT X .app l).2 h.refG),
   life_setAlkT_setC (Or.inl rfl) h.life (fun c b e => by rw [hcr] at e; cases e)
     (fun _ c b _ _ e => by rw [hcr] at e; cases e) (by rw [if_pos rfl]; exact hkn) (fun c e => absurd e (hz c))⟩

end Tidy

end VncModel.Threads
