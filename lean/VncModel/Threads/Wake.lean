import VncModel.Threads.Progress
/-! The shutdown wake-up of the output thread is never lost: once the input thread has stored
RFB_SHUTDOWN and signalled updateCond under updateMutex (clientInput's exit path), the output thread
is not asleep in its condition wait and cannot go to sleep any more — so the pthread_join that follows
waits for a thread that is running towards its exit. -/
namespace VncModel.Threads

/-- the input thread has stored RFB_SHUTDOWN on its way out -/
def afterStore : IPc → Bool
  | .x1 | .x2 | .x3 => true
  | _ => false
/-- ... and has signalled updateCond -/
def afterSignal : IPc → Bool
  | .x2 | .x3 => true
  | _ => false

structure WakeInv (s : State) : Prop where
  st_sd : ∀ c, afterStore (s.cl c).ipc = true → (s.cl c).st = .shutdown
  awake : ∀ c, afterSignal (s.cl c).ipc = true → (s.cl c).opc ≠ .blocked ∧ (s.cl c).opc ≠ .inU
  started : ∀ c, ipcHasOut (s.cl c).ipc = true → (s.cl c).opc ≠ .notStarted

/-- what the invariant says of one client record -/
def WakeC (x : Client) : Prop :=
  (afterStore x.ipc = true → x.st = .shutdown) ∧
  (afterSignal x.ipc = true → x.opc ≠ .blocked ∧ x.opc ≠ .inU) ∧
  (ipcHasOut x.ipc = true → x.opc ≠ .notStarted)

theorem wake_iff {s : State} : WakeInv s ↔ ∀ c, WakeC (s.cl c) :=
  ⟨fun w c => ⟨w.st_sd c, w.awake c, w.started c⟩, fun h => ⟨fun c => (h c).1, fun c => (h c).2.1, fun c => (h c).2.2⟩⟩

theorem wake_init : WakeInv State.init := wake_iff.2 fun _ => ⟨nofun, nofun, nofun⟩

theorem wake_congr {s s' : State}
    (h : ∀ c, (s'.cl c).st = (s.cl c).st ∧ (s'.cl c).ipc = (s.cl c).ipc ∧ (s'.cl c).opc = (s.cl c).opc) :
    WakeInv s' ↔ WakeInv s := by
  simp only [wake_iff, WakeC, h]

theorem wake_cl {s s' : State} (h : s'.cl = s.cl) : WakeInv s' ↔ WakeInv s := by
  simp only [wake_iff, h]

@[wake_frame] theorem wake_doUnlock (s : State) (t : Tid) (m : MCls) (c : Nat) : WakeInv (doUnlock s t m c) ↔ WakeInv s :=
  wake_congr fun c' => ⟨st_doUnlock s t m c c', ipc_doUnlock s t m c c', opc_doUnlock s t m c c'⟩
@[wake_frame] theorem wake_locked (s : State) (t : Tid) (m : MCls) (c : Nat) : WakeInv (locked s t m c) ↔ WakeInv s :=
  wake_congr fun c' => ⟨st_locked s t m c c', ipc_locked s t m c c', opc_locked s t m c c'⟩
@[wake_frame] theorem wake_incRef (s : State) (t : Tid) (c : Nat) : WakeInv (incRef s t c) ↔ WakeInv s :=
  wake_congr fun c' => ⟨st_incRef s t c c', ipc_incRef s t c c', opc_incRef s t c c'⟩
@[wake_frame] theorem wake_decRef (s : State) (t : Tid) (c : Nat) : WakeInv (decRef s t c) ↔ WakeInv s :=
  wake_congr fun c' => ⟨st_decRef s t c c', ipc_decRef s t c c', opc_decRef s t c c'⟩
@[wake_frame] theorem wake_touch (s : State) (c : Nat) : WakeInv (touch s c) ↔ WakeInv s := wake_cl (touch_cl s c)
@[wake_frame] theorem wake_raise (s : State) (f : Flag) : WakeInv (raise s f) ↔ WakeInv s := wake_cl (cl_raise s f)
@[wake_frame] theorem wake_raiseIf (s : State) (f : Flag) (b : Bool) : WakeInv (raiseIf s f b) ↔ WakeInv s :=
  wake_cl (cl_raiseIf s f b)
@[wake_frame] theorem wake_setC (s : State) (t : Tid) (pc : CPc) : WakeInv (setC s t pc) ↔ WakeInv s := wake_cl (setC_cl s t pc)
@[wake_frame] theorem wake_setAapi (s : State) (a : Api) : WakeInv (setAapi s a) ↔ WakeInv s := wake_cl rfl
@[wake_frame] theorem wake_setLisDown (s : State) : WakeInv (setLisDown s) ↔ WakeInv s := wake_cl rfl
@[wake_frame] theorem wake_setLjoined (s : State) : WakeInv (setLjoined s) ↔ WakeInv s := wake_cl rfl
@[wake_frame] theorem wake_setN (s : State) (n : Nat) : WakeInv (setN s n) ↔ WakeInv s := wake_cl rfl
@[wake_frame] theorem wake_setAlkT (s : State) (t : Tid) (l : List Nat) : WakeInv (setAlkT s t l) ↔ WakeInv s :=
  wake_cl (cl_setAlkT s t l)

theorem wake_updCl {X : State} (w : WakeInv X) (c : Nat) (f : Client → Client) :
    WakeInv (updCl X c f) ↔ WakeC (f (X.cl c)) := by
  rw [wake_iff] at w ⊢
  refine ⟨fun h => updCl_cl_same X c f ▸ h c, fun h c' => ?_⟩
  rw [updCl_cl]; split
  · exact h
  · exact w c'

@[wake_frame] theorem wake_updCl_frame (s : State) (c : Nat) (f : Client → Client)
    (hf : ∀ x, (f x).st = x.st ∧ (f x).ipc = x.ipc ∧ (f x).opc = x.opc) : WakeInv (updCl s c f) ↔ WakeInv s :=
  wake_congr fun c' => by
    rw [updCl_cl]; split
    · rename_i e; subst e; exact hf _
    · exact ⟨rfl, rfl, rfl⟩

/-- a store to `cl->state` -/
@[wake_frame] theorem wake_setSt {X : State} (w : WakeInv X) (c : Nat) (v : CSt) :
    WakeInv (updCl X c (fun x => { x with st := v })) ↔ (afterStore (X.cl c).ipc = true → v = .shutdown) :=
  (wake_updCl w c _).trans ⟨fun h => h.1, fun h => ⟨h, w.awake c, w.started c⟩⟩

@[wake_frame] theorem wake_setI {X : State} (w : WakeInv X) (c : Nat) (pc : IPc) :
    WakeInv (setI X c pc) ↔ (afterStore pc = true → (X.cl c).st = .shutdown) ∧
      (afterSignal pc = true → (X.cl c).opc ≠ .blocked ∧ (X.cl c).opc ≠ .inU) ∧
      (ipcHasOut pc = true → (X.cl c).opc ≠ .notStarted) :=
  wake_updCl w c _

@[wake_frame] theorem wake_setO {X : State} (w : WakeInv X) (c : Nat) (pc : OPc) :
    WakeInv (setO X c pc) ↔ (afterSignal (X.cl c).ipc = true → pc ≠ .blocked ∧ pc ≠ .inU) ∧
      (ipcHasOut (X.cl c).ipc = true → pc ≠ .notStarted) :=
  (wake_updCl w c _).trans ⟨fun h => h.2, fun h => ⟨w.st_sd c, h⟩⟩

attribute [wake_frame] opc_setO_same st_signalU opc_signalU_awake opc_signalU_eq

@[wake_frame] theorem wake_signalU {X : State} (w : WakeInv X) (c : Nat) : WakeInv (signalU X c) := by
  unfold signalU; split
  · exact (wake_setO w c _).2 ⟨fun _ => ⟨nofun, nofun⟩, fun _ => nofun⟩
  · exact w

@[wake_frame] theorem wake_signalD {X : State} (w : WakeInv X) (c : Nat) : WakeInv (signalD X c) := by
  unfold signalD
  simp only [apply_ite WakeInv, wake_setC, ite_self]
  split
  · exact (wake_setI w c _).2 ⟨nofun, nofun, nofun⟩
  · exact w

theorem wake_alloc {s : State} (w : WakeInv s) (hb : Bnd s) : WakeInv (updCl s s.n Client.fresh) := by
  have hi := hb.ipc_n
  refine (wake_updCl w _ _).2 ?_
  simp only [WakeC, Client.fresh, hi]
  exact ⟨nofun, nofun, nofun⟩

theorem afterStore_of_afterSignal {pc : IPc} (h : afterSignal pc = true) : afterStore pc = true := by
  cases pc <;> first | rfl | exact nomatch h

attribute [wake_frame] touch_cl updCl_cl_same st_doUnlock ipc_doUnlock opc_doUnlock st_locked ipc_locked opc_locked
  cl_raise ite_self imp_self ne_eq reduceCtorEq not_false_eq_true

/-- the input thread signals updateCond while it holds updateMutex: the output thread is not between
its check of `state` and its WAIT -/
theorem not_inU_of_x1 {s : State} {c : Nat} (hr : Reach s) (h : (s.cl c).ipc = .x1) : (s.cl c).opc ≠ .inU := by
  intro e
  have hU := (own_iff_table hr (.inp c) .U c).2 (by simp [heldOf, h, heldI, mkey, MCls.perClient])
  have := (own_iff_table hr (.out c) .U c).2 (by simp [heldOf, e, heldO, mkey, MCls.perClient])
  rw [hU] at this; cases this

theorem wake_out {s : State} {c : Nat} (w : WakeInv s) : ∀ x ∈ outSucc s c, WakeInv x.2 := by
  -- the two steps towards the condition wait happen before the signal: at `inU` by `awake`; with
  -- `state ≠ RFB_SHUTDOWN` read under updateMutex because the store precedes the signal
  have hq : (s.cl c).opc = .inU → afterSignal (s.cl c).ipc = false :=
    fun e => Bool.eq_false_iff.2 fun a => (w.awake c a).2 e
  have hu : (s.cl c).st ≠ .shutdown → afterSignal (s.cl c).ipc = false :=
    fun e => Bool.eq_false_iff.2 fun a => e (w.st_sd c (afterStore_of_afterSignal a))
  unfold outSucc
  split
  all_goals (try unfold storeSt)
  all_goals simp only [succ_forall, wake_frame, *]
  -- left: the LOCK at `top` and at `decLock`, whose next program counter is an `if`
  all_goals (split <;> simp only [succ_forall, wake_frame, *])

/-- rfbClientConnectionGone(c), whoever runs it -/
theorem wake_gone {s : State} {t : Tid} {g : GSt} {c : Nat} {sg : State → GSt → State} {ret : State → State}
    (hsg : ∀ X g, WakeInv X → WakeInv (sg X g)) (hret : ∀ X, WakeInv X → WakeInv (ret X)) (w : WakeInv s) :
    ∀ x ∈ goneSucc s t g c sg ret, WakeInv x.2 := by
  unfold goneSucc
  split
  all_goals simp only [succ_forall, wake_frame, apply_ite WakeInv, *]

theorem wake_inp {s : State} {c : Nat} (hr : Reach s) (w : WakeInv s) : ∀ x ∈ inpSucc s c, WakeInv x.2 := by
  -- every step reads and writes record `c` only: what the invariant says of it, and `hx` for the signal at `x1`
  have h1 := w.st_sd c
  have h2 := w.awake c
  have h3 := w.started c
  have hx := not_inU_of_x1 hr (c := c)
  unfold inpSucc
  split
  all_goals (try unfold storeSt)
  all_goals first
    | (simp only [succ_forall, wake_frame, afterStore, afterSignal, ipcHasOut, *]; done)
    | exact wake_gone (fun _ _ h => (wake_setI h c _).2 ⟨nofun, nofun, nofun⟩)
        (fun _ h => (wake_setI h c _).2 ⟨nofun, nofun, nofun⟩) w

theorem wake_iter {s : State} {t : Tid} {p : Proc} {st : ISt} {prev nxt : Option Nat} (w : WakeInv s) :
    ∀ x ∈ iterSucc s t p st prev nxt, WakeInv x.2 := by
  unfold iterSucc
  split
  all_goals (repeat' split)
  all_goals (try simp only [doLock_eq_some] at *)
  all_goals simp only [succ_forall, wake_frame, *]

theorem wake_body {s : State} {t : Tid} {p : Proc} {k c : Nat} (w : WakeInv s) :
    ∀ x ∈ bodySucc s t p k c, WakeInv x.2 := by
  unfold bodySucc
  split
  all_goals simp only [succ_forall, wake_frame, w]

theorem wake_close {s : State} {t : Tid} {p : Proc} {k : KSt} {c : Nat} (w : WakeInv s) :
    ∀ x ∈ closeSucc s t p k c, WakeInv x.2 := by
  unfold closeSucc
  split
  all_goals (try unfold storeSt)
  all_goals simp only [succ_forall, wake_frame, w]

theorem wake_nf {s : State} {t : Tid} {st : NSt} {i : Nat} (w : WakeInv s) : ∀ x ∈ nfSucc s t st i, WakeInv x.2 := by
  unfold nfSucc
  split
  all_goals (repeat' split)
  all_goals simp only [succ_forall, wake_frame, w]

theorem wake_cr {s : State} {t : Tid} {st : CrSt} {c : Nat} (hb : Bnd s) (w : WakeInv s) :
    ∀ x ∈ crSucc s t st c, WakeInv x.2 := by
  have ha := wake_alloc w hb
  unfold crSucc
  split
  all_goals (try unfold storeSt)
  all_goals simp only [succ_forall, wake_frame, afterStore, afterSignal, ipcHasOut, *]

theorem wake_caller {s : State} {t : Tid} (hr : Reach s) (w : WakeInv s) : ∀ x ∈ callerSucc s t, WakeInv x.2 := by
  unfold callerSucc
  cases getC s t with
  | iter p st prev nxt => exact wake_iter w
  | body p k c => exact wake_body w
  | close p k c => exact wake_close w
  | nf st i => exact wake_nf w
  | cr st c => exact wake_cr (bnd_reach hr) w
  | gone g c => exact wake_gone (fun _ _ h => (wake_setC _ t _).2 h) (fun _ h => (wake_setC _ t _).2 h) w
  | _ =>
    simp only []
    repeat' split
    all_goals simp only [succ_forall, wake_frame, w]

theorem wake_step {s s' : State} (hr : Reach s) (w : WakeInv s) (hs : Step s s') : WakeInv s' :=
  step_cases (fun _ _ _ => wake_caller hr w) (fun _ => wake_inp hr w) (fun _ => wake_out w) hs

theorem wake_reach {s : State} (h : Reach s) : WakeInv s := by
  induction h with
  | init => exact wake_init
  | step hr hs ih => exact wake_step hr ih hs

/-- an output thread that has been created, has not ended and is not asleep in its condition wait
can take a step or waits for a mutex that somebody owns -/
theorem out_progress (s : State) (c : Nat) (h1 : (s.cl c).opc ≠ .notStarted) (h2 : (s.cl c).opc ≠ .exited)
    (h3 : (s.cl c).opc ≠ .blocked) : Enabled s (.out c) ∨ WaitsMutex s (.out c) := by
  -- if none of the mutexes it may request is owned, every LOCK succeeds and every list of successors has an element
  refine Classical.or_iff_not_imp_right.2 fun hw => ?_
  have hf : ∀ k ∈ pendO (s.cl c).opc c, own s k.1 k.2 = none :=
    fun k hk => Classical.not_not.1 fun ho => hw ⟨k, hk, ho⟩
  unfold Enabled
  simp only [succ]
  unfold outSucc
  split
  all_goals rename_i hpc
  all_goals first
    | exact (h1 hpc).elim
    | exact (h2 hpc).elim
    | exact (h3 hpc).elim
    | (simp only [hpc, pendO, mC, List.forall_mem_cons, List.not_mem_nil, false_implies, implies_true, and_true] at hf
       refine List.exists_mem_of_ne_nil _ ?_
       simp only [doLock_of_free, hf, Option.toList_some, List.map_cons, List.flatMap_cons, List.cons_append,
         List.append_eq_nil_iff, ne_eq, reduceCtorEq, not_false_eq_true, and_false]
       done)
    | exact storeSt_nonempty _ _ _ _

/-- **the join of the output thread cannot hang on a lost wake-up**: while the input thread waits in
pthread_join for its output thread (clientInput's exit path), the output thread has been created, is
not asleep in WAIT(updateCond) and `state` is RFB_SHUTDOWN; it has ended, or some thread of the system
can take a step -/
theorem output_join_progresses {s : State} (h : Reach s) (c : Nat) (hi : (s.cl c).ipc = .x3) :
    (s.cl c).st = .shutdown ∧ (s.cl c).opc ≠ .blocked ∧ (s.cl c).opc ≠ .inU ∧
    ((s.cl c).opc = .exited ∨ ∃ t, Enabled s t) := by
  have w := wake_reach h
  have h1 := w.st_sd c (by rw [hi]; rfl)
  have h2 := w.awake c (by rw [hi]; rfl)
  have h3 := w.started c (by rw [hi]; rfl)
  refine ⟨h1, h2.1, h2.2, ?_⟩
  by_cases he : (s.cl c).opc = .exited
  · exact Or.inl he
  · right
    rcases out_progress s c h3 he h2.1 with e | ⟨k, hk, ho⟩
    · exact ⟨_, e⟩
    · obtain ⟨t', ht'⟩ := Option.ne_none_iff_exists'.1 ho
      exact mutex_wait_resolves h k (.out c) t' hk ht'

end VncModel.Threads
