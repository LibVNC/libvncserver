import VncModel.Region.Misc
import VncModel.Update.USpec
/-!
CopyRect ordering: the rectangles of a well-formed region, iterated with
`reverseX = dx > 0`, `reverseY = dy > 0` (what `rfbSendCopyRegion` and the fixed
`rfbDoCopyRegion` do), can be copied one after the other: no rectangle reads a source pixel that an
earlier rectangle of the sequence has already overwritten, hence the sequential result is the
simultaneous copy.
-/
namespace VncModel.Update.CopyOrder
open VncModel.Rgn VncModel.USpec

section
open Classical

variable {V : Type}

def mem (r : Rect) (p : Pix) : Prop := r.x1 ≤ p.1 ∧ p.1 < r.x2 ∧ r.y1 ≤ p.2 ∧ p.2 < r.y2

/-- one CopyRect applied by a client (a single rectangle is copied as with `memmove`) -/
noncomputable def applyCopy (d : Pix) (pic : Pix → V) (r : Rect) : Pix → V :=
  fun p => if mem r p then pic (psub p d) else pic p

/-- CopyRects applied in order -/
noncomputable def applySeq (d : Pix) (pic : Pix → V) (rs : List Rect) : Pix → V :=
  rs.foldl (applyCopy d) pic

/-- the simultaneous copy of the union -/
noncomputable def applySim (d : Pix) (pic : Pix → V) (rs : List Rect) : Pix → V :=
  fun p => if ∃ r ∈ rs, mem r p then pic (psub p d) else pic p

/-- `a` is processed before `b`: no source pixel of `b` lies in (the destination) `a` -/
def Safe (d : Pix) (a b : Rect) : Prop := ∀ p, mem b p → ¬ mem a (psub p d)

theorem seq_eq_sim (d : Pix) (rs : List Rect) (h : rs.Pairwise (Safe d)) (pic : Pix → V) :
    applySeq d pic rs = applySim d pic rs := by
  induction rs generalizing pic with
  | nil => funext p; simp [applySeq, applySim]
  | cons r rs ih =>
    rw [List.pairwise_cons] at h
    have := ih h.2 (applyCopy d pic r)
    simp only [applySeq, List.foldl_cons] at this ⊢
    rw [this]
    funext p
    simp only [applySim, List.mem_cons, or_and_right, exists_or, exists_eq_left, applyCopy]
    by_cases h1 : ∃ r' ∈ rs, mem r' p
    · obtain ⟨r', hr', hm⟩ := h1
      have hs : ¬ mem r (psub p d) := h.1 r' hr' p hm
      simp [hs, show ∃ r' ∈ rs, mem r' p from ⟨r', hr', hm⟩]
    · by_cases h3 : mem r p <;> simp [h1, h3]

end

/-- **CopyRect order safety**: for every well-formed region and every offset, iterating with
`reverseX = dx > 0`, `reverseY = dy > 0` yields a sequence in which no rectangle's source has been
overwritten by an earlier rectangle: within a band the x-spans, across bands the bands themselves
are visited against the direction of the move. -/
theorem rects_safe (r : Region) (hwf : r.WF) (dx dy : Int) :
    (r.rects (decide (dx > 0)) (decide (dy > 0))).Pairwise (Safe (dx, dy)) := by
  rw [rects_eq_dir, List.pairwise_flatMap]
  constructor
  · intro b hb
    rw [List.pairwise_map]
    refine (pairwise_dir (Sorted.pairwise (Sorted.all hwf b (mem_dir.mp hb)).2.1) _).imp ?_
    intro a c hac p hp1 hp2
    simp only [mem, psub] at hp1 hp2
    by_cases hdx : dx > 0 <;> simp only [hdx, decide_true, decide_false, if_true, Bool.false_eq_true, if_false] at hac <;> omega
  · refine (pairwise_dir (Sorted.pairwise hwf) _).imp ?_
    intro a c hac q hq q' hq' p hp1 hp2
    obtain ⟨_, _, rfl⟩ := List.mem_map.mp hq
    obtain ⟨_, _, rfl⟩ := List.mem_map.mp hq'
    simp only [mem, psub] at hp1 hp2
    by_cases hdy : dy > 0 <;> simp only [hdy, decide_true, decide_false, if_true, Bool.false_eq_true, if_false] at hac <;> omega

/-- hence: applying the CopyRects of a well-formed region one after the other, in the emitted
order, is the simultaneous copy -/
theorem copy_sequential_eq_simultaneous {V : Type} (r : Region) (hwf : r.WF) (dx dy : Int)
    (pic : Pix → V) :
    applySeq (dx, dy) pic (r.rects (decide (dx > 0)) (decide (dy > 0))) =
    applySim (dx, dy) pic (r.rects (decide (dx > 0)) (decide (dy > 0))) :=
  seq_eq_sim (dx, dy) _ (rects_safe r hwf dx dy) pic

end VncModel.Update.CopyOrder
