import VncModel.Update.Model
import VncModel.Update.USpecProofs
import VncModel.Update.CopyOrder
/-!
# Refinement: the executable region-level model (`Update/Model.lean`) refines the set-level
specification (`Update/USpec.lean`)

Abstraction: a `Client` with well-formed regions is mapped to the `SState` whose `M`, `C`, `R` are
the pixel sets of the three regions and `d = (dx, dy)`; the framebuffer `fb` and the client's
picture `pic` are carried along (the executable model has no pixels; every operation of the model
says which pixels change, the theorems below quantify over all possible contents).

For every operation of the executable model: (i) well-formedness of the three regions is preserved,
(ii) the abstract states are related by one `Step` of the specification (or by `Reach`, for an
operation that can be a no-op).  The `send` step is additionally connected to what a client that
applies the emitted CopyRect and raw rectangles in order really obtains (`client_applies`).
All region facts used are the C11 theorems (`rOr_spec`, `rAnd_spec`, `rSub_spec`, `offset_den`,
`rect_den`, `isEmpty_iff`, `rects_cover`, `bbox_covers`) — nothing is assumed about regions.
-/
namespace VncModel.Update.Refine
open VncModel.Rgn VncModel.USpec VncModel.Update VncModel.Update.CopyOrder
open Classical

variable {V : Type}

/-! ## abstraction -/

/-- pixel set of a region -/
def dset (r : Region) : PSet := fun p => r.den p.1 p.2

def WFc (c : Client) : Prop := c.M.WF ∧ c.C.WF ∧ c.R.WF

def absS (c : Client) (fb pic : Pix → V) : SState V :=
  ⟨fb, pic, dset c.M, dset c.C, dset c.R, (c.dx, c.dy)⟩

/-- the pixels of the screen -/
def S (scr : Screen) : PSet := fun p => 0 ≤ p.1 ∧ p.1 < scr.width ∧ 0 ≤ p.2 ∧ p.2 < scr.height

theorem SState_ext {s t : SState V} (h1 : s.fb = t.fb) (h2 : s.pic = t.pic)
    (h3 : ∀ p, s.M p ↔ t.M p) (h4 : ∀ p, s.C p ↔ t.C p) (h5 : ∀ p, s.R p ↔ t.R p)
    (h6 : s.d = t.d) : s = t := by
  cases s; cases t
  simp only at h1 h2 h3 h4 h5 h6
  have e3 := funext fun p => propext (h3 p)
  have e4 := funext fun p => propext (h4 p)
  have e5 := funext fun p => propext (h5 p)
  subst h1 h2 e3 e4 e5 h6
  rfl

theorem Reach.trans {S : PSet} {a b c : SState V} (h1 : Reach S a b) (h2 : Reach S b c) :
    Reach S a c := by
  induction h2 with
  | refl => exact h1
  | tail _ hs ih => exact Reach.tail ih hs

theorem Reach.single {S : PSet} {a b : SState V} (h : Step S a b) : Reach S a b :=
  Reach.tail (Reach.refl a) h

/-- how each operation of the executable model is matched with a constructor of `Step` -/
theorem Step.cast {S : PSet} {s t t' : SState V} (h : Step S s t) (h1 : t'.fb = t.fb)
    (h2 : t'.pic = t.pic) (h3 : ∀ p, t'.M p ↔ t.M p) (h4 : ∀ p, t'.C p ↔ t.C p)
    (h5 : ∀ p, t'.R p ↔ t.R p) (h6 : t'.d = t.d) : Step S s t' := by
  rw [SState_ext h1 h2 h3 h4 h5 h6]
  exact h

/-! ## the region operations on pixel sets (C11) -/

theorem dset_or {a b : Region} (ha : a.WF) (hb : b.WF) (p : Pix) :
    dset (a.or b) p ↔ (dset a p ∨ dset b p) := (rOr_spec a b ha hb).2 p.1 p.2
theorem wf_or {a b : Region} (ha : a.WF) (hb : b.WF) : (a.or b).WF := (rOr_spec a b ha hb).1

theorem dset_and {a b : Region} (ha : a.WF) (hb : b.WF) (p : Pix) :
    dset (a.and b).1 p ↔ (dset a p ∧ dset b p) := (rAnd_spec a b ha hb).2.1 p.1 p.2
theorem wf_and {a b : Region} (ha : a.WF) (hb : b.WF) : (a.and b).1.WF := (rAnd_spec a b ha hb).1

theorem dset_sub {a b : Region} (ha : a.WF) (hb : b.WF) (p : Pix) :
    dset (a.sub b).1 p ↔ (dset a p ∧ ¬ dset b p) := (rSub_spec a b ha hb).2.1 p.1 p.2
theorem wf_sub {a b : Region} (ha : a.WF) (hb : b.WF) : (a.sub b).1.WF := (rSub_spec a b ha hb).1

theorem dset_offset (r : Region) (dx dy : Int) (p : Pix) :
    dset (r.offset dx dy) p ↔ dset r (psub p (dx, dy)) := offset_den r dx dy p.1 p.2

theorem dset_rect (x1 y1 x2 y2 : Int) (p : Pix) :
    dset (Region.rect x1 y1 x2 y2) p ↔ (x1 ≤ p.1 ∧ p.1 < x2 ∧ y1 ≤ p.2 ∧ p.2 < y2) :=
  rect_den x1 y1 x2 y2 p.1 p.2

theorem dset_empty (p : Pix) : ¬ dset Region.empty p := empty_den p.1 p.2

theorem wf_empty : Region.empty.WF := empty_wf

theorem dset_dup (r : Region) (p : Pix) : dset r.dup p ↔ dset r p := Iff.rfl

theorem isEmpty_dset {r : Region} (h : r.WF) : r.isEmpty = true ↔ ∀ p, ¬ dset r p := by
  rw [isEmpty_iff r h]
  exact ⟨fun hh p => hh p.1 p.2, fun hh x y => hh (x, y)⟩

/-- `if (!sraRgnEmpty(b)) sraRgnOr(a, b)` is the union whether or not the test fires -/
theorem orIfNonEmpty {a b : Region} (ha : a.WF) (hb : b.WF) :
    (if !b.isEmpty then a.or b else a).WF ∧
    ∀ p, dset (if !b.isEmpty then a.or b else a) p ↔ (dset a p ∨ dset b p) := by
  cases he : b.isEmpty
  · exact ⟨wf_or ha hb, dset_or ha hb⟩
  · exact ⟨ha, fun p => ⟨Or.inl, fun h => h.resolve_right ((isEmpty_dset hb).mp he p)⟩⟩

/-- `sraRgnBBox` covers the region (for EVERY region: the `INT_MAX` seeds only matter for
tightness) -/
theorem dset_bbox (r : Region) (p : Pix) (h : dset r p) : dset r.bbox p :=
  bbox_covers r p.1 p.2 h

theorem wf_bbox (r : Region) : r.bbox.WF := bbox_wf_all r

/-! ## 0. a fresh client -/

theorem newClient_wf (scr : Screen) : WFc (newClient scr) :=
  ⟨rect_wf _ _ _ _, wf_empty, wf_empty⟩

theorem newClient_M (scr : Screen) (p : Pix) : dset (newClient scr).M p ↔ S scr p := by
  simp only [newClient, dset_rect, S]

theorem newClient_inv (scr : Screen) (fb pic : Pix → V) :
    Inv (S scr) (absS (newClient scr) fb pic) :=
  Inv_init (S scr) _ fun p hp => (newClient_M scr p).mpr hp

theorem idle_of_inv {Sc : PSet} {c : Client} {fb pic : Pix → V} (w : WFc c)
    (hI : Inv Sc (absS c fb pic)) (hM : c.M.isEmpty = true) (hC : c.C.isEmpty = true) :
    ∀ p, Sc p → pic p = fb p :=
  fun p hp => ((hI p hp ((isEmpty_dset w.1).mp hM p)).2 ((isEmpty_dset w.2.1).mp hC p)).symm

/-! ## 1. rfbMarkRectAsModified / rfbMarkRegionAsModified -/

theorem markClip_eq (scr : Screen) (x1 y1 x2 y2 : Int) :
    markClip scr x1 y1 x2 y2 =
      if max (min x1 x2) 0 ≥ min (max x1 x2) scr.width then none
      else if max (min y1 y2) 0 ≥ min (max y1 y2) scr.height then none
      else some (max (min x1 x2) 0, max (min y1 y2) 0,
        min (max x1 x2) scr.width, min (max y1 y2) scr.height) := by
  have swap : ∀ a b : Int, (if a > b then (b, a) else (a, b)) = (min a b, max a b) := by
    intro a b
    split <;> simp only [Prod.mk.injEq] <;> omega
  have lo : ∀ a : Int, (if a < 0 then 0 else a) = max a 0 := by
    intro a; split <;> omega
  have hi : ∀ a w : Int, (if a > w then w else a) = min a w := by
    intro a w; split <;> omega
  simp only [markClip, swap, lo, hi]

/-- the clipped rectangle of `rfbMarkRectAsModified` is the (normalised) argument rectangle
intersected with the screen, and non-empty -/
theorem markClip_some (scr : Screen) (x1 y1 x2 y2 a b c d : Int)
    (h : markClip scr x1 y1 x2 y2 = some (a, b, c, d)) :
    a = max (min x1 x2) 0 ∧ c = min (max x1 x2) scr.width ∧ a < c ∧
    b = max (min y1 y2) 0 ∧ d = min (max y1 y2) scr.height ∧ b < d := by
  rw [markClip_eq] at h
  split at h
  · cases h
  · split at h
    · cases h
    · simp only [Option.some.injEq, Prod.mk.injEq] at h
      obtain ⟨rfl, rfl, rfl, rfl⟩ := h
      exact ⟨rfl, rfl, by omega, rfl, rfl, by omega⟩

theorem markClip_inside (scr : Screen) (x1 y1 x2 y2 a b c d : Int)
    (h : markClip scr x1 y1 x2 y2 = some (a, b, c, d)) :
    ∀ p, dset (Region.rect a b c d) p → S scr p := by
  obtain ⟨rfl, rfl, _, rfl, rfl, _⟩ := markClip_some scr x1 y1 x2 y2 a b c d h
  intro p hp
  rw [dset_rect] at hp
  exact ⟨Int.le_trans (Int.le_max_right _ _) hp.1, Int.lt_of_lt_of_le hp.2.1 (Int.min_le_right _ _),
    Int.le_trans (Int.le_max_right _ _) hp.2.2.1,
    Int.lt_of_lt_of_le hp.2.2.2 (Int.min_le_right _ _)⟩

theorem markRegion_wf (c : Client) (r : Region) (h : WFc c) (hr : r.WF) : WFc (markRegion c r) :=
  ⟨wf_or h.1 hr, h.2.1, h.2.2⟩

/-- marking a region as modified after the application drew inside it is `Step.draw` -/
theorem markRegion_step (Sc : PSet) (c : Client) (r : Region) (h : WFc c) (hr : r.WF)
    (fb fb' pic : Pix → V) (hfb : ∀ p, Sc p → ¬ dset r p → fb' p = fb p) :
    Step Sc (absS c fb pic) (absS (markRegion c r) fb' pic) := by
  refine Step.cast (Step.draw (absS c fb pic) (dset r) (fun _ => False) fb' hfb) rfl rfl (fun p => ?_)
    (fun _ => Iff.rfl) (fun _ => Iff.rfl) rfl
  simp only [absS, markRegion, dset_or h.1 hr, or_false]

/-! ## 2. SetEncodings -/

theorem cursorBox_wf (scr : Screen) (cx cy : Int) (b : Region) (h : cursorBox scr cx cy = some b) :
    b.WF := by
  unfold cursorBox at h
  simp only at h
  split at h
  · simp only [Option.some.injEq] at h; subst h; exact rect_wf _ _ _ _
  · exact absurd h (by simp)

theorem orCursorBox {a : Region} (ha : a.WF) (ob : Option Region) (hb : ∀ b, ob = some b → b.WF) :
    (match ob with | some b => a.or b | none => a).WF ∧
    ∀ p, dset (match ob with | some b => a.or b | none => a) p ↔
      (dset a p ∨ ∃ b, ob = some b ∧ dset b p) := by
  cases ob with
  | none => exact ⟨ha, fun p => by simp⟩
  | some b =>
    have hb' := hb b rfl
    exact ⟨wf_or ha hb', fun p => by simp [dset_or ha hb']⟩

theorem setEncodings0_wf (scr : Screen) (c : Client) (cr cs : Bool) (h : WFc c) :
    WFc (setEncodings0 scr c cr cs) := by
  unfold setEncodings0
  by_cases hb : (cs || c.cursorShape) = true
  · simp only [hb, if_true]
    exact ⟨(orCursorBox h.1 _ (cursorBox_wf scr _ _)).1, h.2.1, h.2.2⟩
  · simp only [hb]
    exact h

/-- the flag part of SetEncodings is a `Step.draw` that draws nothing (`r = ∅`, framebuffer
unchanged) and may add the cursor box to modifiedRegion (`extra`) -/
theorem setEncodings0_step (Sc : PSet) (scr : Screen) (c : Client) (cr cs : Bool) (h : WFc c)
    (fb pic : Pix → V) :
    Step Sc (absS c fb pic) (absS (setEncodings0 scr c cr cs) fb pic) := by
  refine Step.cast (Step.draw (absS c fb pic) (fun _ => False)
    (fun p => (cs || c.cursorShape) = true ∧
      ∃ b, cursorBox scr c.cursorX c.cursorY = some b ∧ dset b p) fb (fun _ _ _ => rfl))
    rfl rfl (fun p => ?_) (fun _ => Iff.rfl) (fun _ => Iff.rfl) rfl
  unfold setEncodings0
  by_cases hb : (cs || c.cursorShape) = true
  · have := (orCursorBox h.1 (cursorBox scr c.cursorX c.cursorY) (cursorBox_wf scr _ _)).2 p
    simp only [absS, hb, if_true, false_or, true_and]
    exact this
  · simp [absS, hb]

theorem dropCopy_wf (c : Client) (h : WFc c) : WFc (dropCopy c) := by
  unfold dropCopy
  split
  · exact ⟨wf_or h.1 h.2.1, wf_empty, h.2.2⟩
  · exact h

/-- the tail of the SetEncodings handler is `Step.dropCopy` (or nothing) -/
theorem dropCopy_reach (Sc : PSet) (c : Client) (h : WFc c) (fb pic : Pix → V) :
    Reach Sc (absS c fb pic) (absS (dropCopy c) fb pic) := by
  unfold dropCopy
  split
  · refine Reach.single (Step.cast (Step.dropCopy (absS c fb pic) (fun _ => False)) rfl rfl
      (fun p => ?_) (fun p => iff_of_false (dset_empty p) (fun hf => hf)) (fun _ => Iff.rfl) rfl)
    simp only [absS, or_false]
    exact dset_or h.1 h.2.1 p
  · exact Reach.refl _

theorem setEncodings_wf (scr : Screen) (c : Client) (cr cs : Bool) (h : WFc c) :
    WFc (setEncodings scr c cr cs) :=
  dropCopy_wf _ (setEncodings0_wf scr c cr cs h)

/-- SetEncodings: a `Step.draw` that draws nothing and may add the cursor box, followed — for a
client that no longer accepts CopyRect — by `Step.dropCopy` -/
theorem setEncodings_reach (Sc : PSet) (scr : Screen) (c : Client) (cr cs : Bool) (h : WFc c)
    (fb pic : Pix → V) :
    Reach Sc (absS c fb pic) (absS (setEncodings scr c cr cs) fb pic) :=
  Reach.trans (Reach.single (setEncodings0_step Sc scr c cr cs h fb pic))
    (dropCopy_reach Sc _ (setEncodings0_wf scr c cr cs h) fb pic)

/-! ## 3. rfbScheduleCopyRegion (with the framebuffer copy of rfbDoCopyRegion) -/

/-- the pending-copy case analysis of `rfbScheduleCopyRegion`: (modifiedRegion, copyRegion) after
the block "a copy region not yet executed" -/
def scPre (c : Client) (D : Region) (dx dy : Int) : Region × Region :=
  if !c.C.isEmpty then
    if c.dx ≠ dx ∨ c.dy ≠ dy then (c.M.or c.C, Region.empty)
    else (c.M.or ((D.dup.offset (-dx) (-dy)).and c.C).1, c.C)
  else (c.M, c.C)

/-- the cursor rectangle used by `rfbScheduleCopyRegion` (not clipped) -/
def scCursorRect (s : Screen) (c : Client) : Region :=
  Region.rect (c.cursorX - s.cursor.xhot) (c.cursorY - s.cursor.yhot)
    (c.cursorX - s.cursor.xhot + s.cursor.w) (c.cursorY - s.cursor.yhot + s.cursor.h)

/-- the soft-cursor block at the end of `rfbScheduleCopyRegion` -/
def scCursor (s : Screen) (c : Client) (m2 c2 : Region) (dx dy : Int) : Region :=
  if !c.cursorShape then
    let cr1 := ((scCursorRect s c).and c2).1
    let ma := if !cr1.isEmpty then m2.or cr1 else m2
    let cr2 := (((scCursorRect s c).offset dx dy).and c2).1
    if !cr2.isEmpty then ma.or cr2 else ma
  else m2

/-- `scheduleCopy` written with the two blocks named (definitional unfolding) -/
theorem scheduleCopy_eq (s : Screen) (c : Client) (D : Region) (dx dy : Int) :
    scheduleCopy s c D dx dy =
      if !c.useCopyRect then { c with M := c.M.or D } else
      let m1 := (scPre c D dx dy).1
      let c2 := (scPre c D dx dy).2.or D
      let m2 := m1.or ((m1.dup.offset dx dy).and c2).1
      { c with M := scCursor s c m2 c2 dx dy, C := c2, dx := dx, dy := dy } := rfl

/-- pixels the soft-cursor block adds to modifiedRegion: `extra` of the copy steps -/
def scExtra (s : Screen) (c : Client) (c2 : Region) (dx dy : Int) : PSet := fun p =>
  c.cursorShape = false ∧
    (dset (scCursorRect s c) p ∨ dset ((scCursorRect s c).offset dx dy) p) ∧ dset c2 p

theorem scCursor_spec (s : Screen) (c : Client) (m2 c2 : Region) (dx dy : Int) (hm : m2.WF)
    (hc : c2.WF) :
    (scCursor s c m2 c2 dx dy).WF ∧
    ∀ p, dset (scCursor s c m2 c2 dx dy) p ↔ (dset m2 p ∨ scExtra s c c2 dx dy p) := by
  unfold scCursor scExtra
  cases hcs : c.cursorShape
  · simp only [Bool.not_false, if_true, true_and]
    have hr : (scCursorRect s c).WF := rect_wf _ _ _ _
    have hro : ((scCursorRect s c).offset dx dy).WF := offset_wf _ _ _ hr
    have w1 := wf_and hr hc
    have w2 := wf_and hro hc
    obtain ⟨a1, a2⟩ := orIfNonEmpty hm w1
    obtain ⟨b1, b2⟩ := orIfNonEmpty a1 w2
    refine ⟨b1, fun p => ?_⟩
    rw [b2 p, a2 p, dset_and hr hc, dset_and hro hc, or_assoc, ← or_and_right]
  · simp only [Bool.not_true, Bool.false_eq_true, if_false]
    exact ⟨hm, fun _ => by simp⟩

theorem scPre_empty (c : Client) (D : Region) (dx dy : Int) (h : c.C.isEmpty = true) :
    scPre c D dx dy = (c.M, c.C) := by simp [scPre, h]

theorem scPre_diff (c : Client) (D : Region) (dx dy : Int) (h : c.C.isEmpty = false)
    (hd : c.dx ≠ dx ∨ c.dy ≠ dy) : scPre c D dx dy = (c.M.or c.C, Region.empty) := by
  simp only [scPre, h, Bool.not_false, if_true, hd]

theorem scPre_same (c : Client) (D : Region) (dx dy : Int) (h : c.C.isEmpty = false)
    (hd : ¬ (c.dx ≠ dx ∨ c.dy ≠ dy)) :
    scPre c D dx dy = (c.M.or ((D.dup.offset (-dx) (-dy)).and c.C).1, c.C) := by
  simp only [scPre, h, Bool.not_false, if_true, hd, if_false]

theorem scPre_wf (c : Client) (D : Region) (dx dy : Int) (h : WFc c) (hD : D.WF) :
    (scPre c D dx dy).1.WF ∧ (scPre c D dx dy).2.WF := by
  cases he : c.C.isEmpty
  · by_cases hd : c.dx ≠ dx ∨ c.dy ≠ dy
    · rw [scPre_diff c D dx dy he hd]; exact ⟨wf_or h.1 h.2.1, wf_empty⟩
    · rw [scPre_same c D dx dy he hd]
      exact ⟨wf_or h.1 (wf_and (offset_wf _ _ _ hD) h.2.1), h.2.1⟩
  · rw [scPre_empty c D dx dy he]; exact ⟨h.1, h.2.1⟩

theorem scheduleCopy_wf (scr : Screen) (c : Client) (D : Region) (dx dy : Int) (h : WFc c)
    (hD : D.WF) : WFc (scheduleCopy scr c D dx dy) := by
  rw [scheduleCopy_eq]
  obtain ⟨p1, p2⟩ := scPre_wf c D dx dy h hD
  cases c.useCopyRect
  · exact ⟨wf_or h.1 hD, h.2.1, h.2.2⟩
  · have hc2 := wf_or p2 hD
    exact ⟨(scCursor_spec scr c _ _ dx dy
      (wf_or p1 (wf_and (offset_wf _ _ _ p1) hc2)) hc2).1, hc2, h.2.2⟩

/-- set-level description of `scheduleCopy` for a CopyRect client in terms of `scPre` -/
theorem scheduleCopy_true_spec (scr : Screen) (c : Client) (D : Region) (dx dy : Int)
    (huse : c.useCopyRect = true) (h1 : (scPre c D dx dy).1.WF) (h2 : (scPre c D dx dy).2.WF)
    (hD : D.WF) :
    (∀ p, dset (scheduleCopy scr c D dx dy).M p ↔
      ((dset (scPre c D dx dy).1 p ∨ (dset (scPre c D dx dy).1 (psub p (dx, dy)) ∧
          (dset (scPre c D dx dy).2 p ∨ dset D p))) ∨
        scExtra scr c ((scPre c D dx dy).2.or D) dx dy p)) ∧
    (∀ p, dset (scheduleCopy scr c D dx dy).C p ↔ (dset (scPre c D dx dy).2 p ∨ dset D p)) ∧
    (scheduleCopy scr c D dx dy).R = c.R ∧ (scheduleCopy scr c D dx dy).dx = dx ∧
    (scheduleCopy scr c D dx dy).dy = dy := by
  rw [scheduleCopy_eq]
  simp only [huse, Bool.not_true, Bool.false_eq_true, if_false]
  have hc2 := wf_or h2 hD
  have hb := wf_and (offset_wf _ dx dy h1) hc2
  refine ⟨fun p => ?_, fun p => dset_or h2 hD p, by first | rfl | trivial,
    by first | rfl | trivial, by first | rfl | trivial⟩
  simp only [Region.dup]
  rw [(scCursor_spec scr c _ _ dx dy (wf_or h1 hb) hc2).2 p]
  rw [dset_or h1 hb, dset_and (offset_wf _ dx dy h1) hc2, dset_offset, dset_or h2 hD]

theorem psub_neg (q : Pix) (dx dy : Int) : psub q (-dx, -dy) = padd q (dx, dy) := by
  simp [psub, padd, Int.sub_neg]

/-- **rfbDoCopyRegion + rfbScheduleCopyRegion refine the copy steps** of the specification:
`copyNoCR` for a client without CopyRect, `copyNew` when no copy is pending or the pending one has
another offset, `copySame` when the offsets agree.  `extra` = the soft-cursor additions. -/
theorem scheduleCopy_step (scr : Screen) (c : Client) (D : Region) (dx dy : Int) (h : WFc c)
    (hD : D.WF) (hsrc : ∀ p, dset D p → S scr (psub p (dx, dy))) (fb pic : Pix → V) :
    Step (S scr) (absS c fb pic)
      (absS (scheduleCopy scr c D dx dy)
        (fun p => if dset D p then fb (psub p (dx, dy)) else fb p) pic) := by
  cases huse : c.useCopyRect
  · -- no CopyRect: destination is marked modified
    rw [scheduleCopy_eq]
    simp only [huse, Bool.not_false, if_true]
    refine Step.cast (Step.copyNoCR (absS c fb pic) (dset D) (dx, dy) (fun _ => False)) rfl rfl
      (fun p => ?_) (fun _ => Iff.rfl) (fun _ => Iff.rfl) rfl
    simp only [absS, dset_or h.1 hD, or_false]
  · obtain ⟨p1, p2⟩ := scPre_wf c D dx dy h hD
    obtain ⟨sM, sC, sR, sdx, sdy⟩ := scheduleCopy_true_spec scr c D dx dy huse p1 p2 hD
    cases he : c.C.isEmpty
    · by_cases hd : c.dx ≠ dx ∨ c.dy ≠ dy
      · -- pending copy with another offset
        rw [scPre_diff c D dx dy he hd] at sM sC
        have hoff : (absS c fb pic).d ≠ (dx, dy) := by
          intro hh
          simp only [absS, Prod.mk.injEq] at hh
          exact hd.elim (fun k => k hh.1) (fun k => k hh.2)
        refine Step.cast (Step.copyNew (absS c fb pic) (dset D) (dx, dy)
          (scExtra scr c (Region.empty.or D) dx dy) hsrc (Or.inl hoff)) rfl rfl
          (fun p => ?_) (fun p => ?_) (fun p => ?_) ?_
        · simp only [absS]
          rw [sM p, dset_or h.1 h.2.1, dset_or h.1 h.2.1]
          simp only [dset_empty, false_or, or_assoc]
        · simp only [absS]
          rw [sC p]
          simp only [dset_empty, false_or]
        · simp only [absS, sR]
        · simp only [absS, sdx, sdy]
      · -- pending copy with the same offset: merge
        rw [scPre_same c D dx dy he hd] at sM sC
        have hdx : c.dx = dx := Classical.byContradiction fun k => hd (Or.inl k)
        have hdy : c.dy = dy := Classical.byContradiction fun k => hd (Or.inr k)
        have hbk := wf_and (offset_wf D (-dx) (-dy) hD) h.2.1
        have hsrc' : ∀ p, dset D p → S scr (psub p (absS c fb pic).d) := by
          intro p hp; simp only [absS, hdx, hdy]; exact hsrc p hp
        refine Step.cast (Step.copySame (absS c fb pic) (dset D) (scExtra scr c (c.C.or D) dx dy) hsrc')
          ?_ rfl (fun p => ?_) (fun p => ?_) (fun p => ?_) ?_
        · simp only [absS, hdx, hdy]
        · simp only [absS, hdx, hdy]
          rw [sM p]
          simp only [Region.dup]
          rw [dset_or h.1 hbk, dset_or h.1 hbk, dset_and (offset_wf D (-dx) (-dy) hD) h.2.1,
            dset_and (offset_wf D (-dx) (-dy) hD) h.2.1, dset_offset, dset_offset, psub_neg,
            psub_neg]
          simp only [or_assoc]
        · exact sC p
        · simp only [absS, sR]
        · simp only [absS, sdx, sdy, hdx, hdy]
    · -- no copy pending
      rw [scPre_empty c D dx dy he] at sM sC
      have hCe := (isEmpty_dset h.2.1).mp he
      refine Step.cast (Step.copyNew (absS c fb pic) (dset D) (dx, dy) (scExtra scr c (c.C.or D) dx dy) hsrc
        (Or.inr hCe)) rfl rfl (fun p => ?_) (fun p => ?_) (fun p => ?_) ?_
      · simp only [absS]
        rw [sM p]
        simp only [hCe, false_or, or_false, or_assoc]
      · simp only [absS]
        rw [sC p]
        simp only [hCe, false_or]
      · simp only [absS, sR]
      · simp only [absS, sdx, sdy]

/-! ## 4. FramebufferUpdateRequest -/

/-- `rectSwapIfLEAndClip`: an accepted request rectangle lies inside the screen (for all
`x, y ≥ 0`, in particular all uint16 values; any `w`, `h`) -/
theorem requestClip_inside (scr : Screen) (x y w h x' y' w' h' : Int) (hx : 0 ≤ x) (hy : 0 ≤ y)
    (hc : requestClip scr x y w h = some (x', y', w', h')) :
    x' = x ∧ y' = y ∧ x + w' ≤ scr.width ∧ y + h' ≤ scr.height ∧
    ∀ p, dset (Region.rect x' y' (x' + w') (y' + h')) p → S scr p := by
  unfold requestClip at hc
  dsimp only at hc
  generalize (if w > scr.width - x then u16 (scr.width - x) else w) = w1 at hc
  generalize (if h > scr.height - y then u16 (scr.height - y) else h) = h1 at hc
  split at hc
  · cases hc
  · split at hc
    · cases hc
    · simp only [Option.some.injEq, Prod.mk.injEq] at hc
      obtain ⟨rfl, rfl, rfl, rfl⟩ := hc
      refine ⟨rfl, rfl, by omega, by omega, fun p hp => ?_⟩
      rw [dset_rect] at hp
      simp only [S]
      omega

theorem request_wf (scr : Screen) (c : Client) (incr : Bool) (x y w h : Int) (hc : WFc c) :
    WFc (request scr c incr x y w h) := by
  unfold request
  split
  · exact hc
  · cases incr
    · exact ⟨wf_or hc.1 (rect_wf _ _ _ _), wf_sub hc.2.1 (rect_wf _ _ _ _),
        wf_or hc.2.2 (rect_wf _ _ _ _)⟩
    · exact ⟨hc.1, hc.2.1, wf_or hc.2.2 (rect_wf _ _ _ _)⟩

/-- an accepted request is `Step.request` with the clipped rectangle -/
theorem request_step_some (Sc : PSet) (scr : Screen) (c : Client) (incr : Bool)
    (x y w h x' y' w' h' : Int) (hc : WFc c) (fb pic : Pix → V)
    (hq : requestClip scr x y w h = some (x', y', w', h')) :
    Step Sc (absS c fb pic) (absS (request scr c incr x y w h) fb pic) := by
  have hr := rect_wf x' y' (x' + w') (y' + h')
  unfold request
  rw [hq]
  refine Step.cast (Step.request (absS c fb pic) incr (dset (Region.rect x' y' (x' + w') (y' + h'))))
    rfl rfl (fun p => ?_) (fun p => ?_) (fun p => ?_) ?_
  · cases incr
    · simp [absS, dset_or hc.1 hr]
    · simp [absS]
  · cases incr
    · simp [absS, dset_sub hc.2.1 hr]
    · simp [absS]
  · cases incr <;> simp [absS, dset_or hc.2.2 hr]
  · cases incr <;> rfl

/-- the request handler refines `Reach` (no step when the rectangle is rejected) -/
theorem request_reach (Sc : PSet) (scr : Screen) (c : Client) (incr : Bool) (x y w h : Int)
    (hc : WFc c) (fb pic : Pix → V) :
    Reach Sc (absS c fb pic) (absS (request scr c incr x y w h) fb pic) := by
  cases hq : requestClip scr x y w h with
  | none =>
    have : request scr c incr x y w h = c := by unfold request; rw [hq]
    rw [this]; exact Reach.refl _
  | some q =>
    obtain ⟨x', y', w', h'⟩ := q
    exact Reach.single (request_step_some Sc scr c incr x y w h x' y' w' h' hc fb pic hq)

/-! ## 5. rfbSendFramebufferUpdate -/

/-- progressive-slice block: (updateRegion after slicing, new progressiveSliceY) -/
def suSlice (s : Screen) (c : Client) : Region × Int :=
  if s.progSlice > 0 then
    let height := s.progSlice
    let y := c.sliceY
    let bb := c.M.dup.bbox
    let (u, y) := match (bb.popRect 0).2 with
      | some rect =>
        let y := if y < rect.y1 ∨ y ≥ rect.y2 then rect.y1 else y
        ((c.M.dup.and (Region.rect 0 y s.width (y + height))).1, y)
      | none => (c.M.dup, y)
    let y := y + height
    (u, if y ≥ s.height then 0 else y)
  else (c.M.dup, c.sliceY)

/-- copyRegion after `sraRgnSubtract(cl->copyRegion, cl->modifiedRegion)` -/
def suC1 (c : Client) : Region := (c.C.sub c.M).1
/-- updateRegion after `sraRgnOr(updateRegion, copyRegion)`, `sraRgnAnd(.., requestedRegion)` -/
def suUpd3 (s : Screen) (c : Client) : Region × Bool := ((suSlice s c).1.or (suC1 c)).and c.R
def suCursorShape (c : Client) : Bool := c.cursorShape && c.cursorChanged && c.ready
/-- the "nothing to send" test -/
def suEarly (s : Screen) (c : Client) : Bool :=
  !(suUpd3 s c).2 && (suUpd3 s c).1.isEmpty &&
    (c.cursorShape || (c.cursorX == s.cursorX && c.cursorY == s.cursorY)) && !suCursorShape c
/-- updateCopyRegion -/
def suUC (c : Client) : Region :=
  ((((suC1 c).dup.and c.R).1).and (c.R.dup.offset c.dx c.dy)).1
/-- updateRegion after subtracting updateCopyRegion -/
def suUpd4 (s : Screen) (c : Client) : Region := ((suUpd3 s c).1.sub (suUC c)).1
/-- the new modifiedRegion -/
def suM3 (s : Screen) (c : Client) : Region :=
  ((((c.M.or (suC1 c)).sub (suUpd4 s c)).1).sub (suUC c)).1
/-- soft-cursor bookkeeping: (updateRegion, cl->cursorX, cl->cursorY) -/
def suCur (s : Screen) (c : Client) : Region × Int × Int :=
  if !c.cursorShape then
    if c.cursorX ≠ s.cursorX ∨ c.cursorY ≠ s.cursorY then
      let u := match cursorBox s c.cursorX c.cursorY with
        | some b => (suUpd4 s c).or b
        | none => suUpd4 s c
      let u := match cursorBox s s.cursorX s.cursorY with
        | some b => u.or b
        | none => u
      (u, s.cursorX, s.cursorY)
    else (suUpd4 s c, c.cursorX, c.cursorY)
  else (suUpd4 s c, c.cursorX, c.cursorY)
/-- the region whose rectangles are finally sent as pixel data (maxRectsPerUpdate rule) -/
def suUpd6 (s : Screen) (c : Client) : Region :=
  if s.maxRects > 0 ∧ ((suCur s c).1.countRects : Int) > s.maxRects then (suCur s c).1.bbox
  else (suCur s c).1
/-- the CopyRect messages -/
def suCopies (c : Client) : List CopyRectMsg :=
  ((suUC c).rects (decide (c.dx > 0)) (decide (c.dy > 0))).map fun r =>
    { x := r.x1, y := r.y1, w := r.x2 - r.x1, h := r.y2 - r.y1,
      srcX := r.x1 - c.dx, srcY := r.y1 - c.dy : CopyRectMsg }

/-- `sendUpdate` written with its blocks named (definitional unfolding) -/
theorem sendUpdate_eq (s : Screen) (c : Client) :
    sendUpdate s c =
      if suEarly s c then ({ c with C := suC1 c, sliceY := (suSlice s c).2 }, none)
      else
        ({ c with M := suM3 s c, C := Region.empty, R := Region.empty, dx := 0, dy := 0,
                  sliceY := (suSlice s c).2, cursorX := (suCur s c).2.1,
                  cursorY := (suCur s c).2.2,
                  cursorChanged := if suCursorShape c then false else c.cursorChanged },
         some { cursorShape := suCursorShape c, copies := suCopies c,
                raws := (suUpd6 s c).rects false false }) := by
  unfold sendUpdate suEarly suM3 suUpd6 suCur suUpd4 suUC suUpd3 suC1 suSlice suCursorShape suCopies
  rfl

/-- the progressive slice actually used: a horizontal band of the screen, or everything when
slicing is off (`progressiveSliceHeight ≤ 0`) or modifiedRegion's bounding box is empty -/
def slicePred (s : Screen) (c : Client) : PSet :=
  if s.progSlice > 0 then
    match (c.M.dup.bbox.popRect 0).2 with
    | some rect => fun p =>
        0 ≤ p.1 ∧ p.1 < s.width ∧
        (if c.sliceY < rect.y1 ∨ c.sliceY ≥ rect.y2 then rect.y1 else c.sliceY) ≤ p.2 ∧
        p.2 < (if c.sliceY < rect.y1 ∨ c.sliceY ≥ rect.y2 then rect.y1 else c.sliceY) + s.progSlice
    | none => fun _ => True
  else fun _ => True

theorem suSlice_spec (s : Screen) (c : Client) (hM : c.M.WF) :
    (suSlice s c).1.WF ∧ ∀ p, dset (suSlice s c).1 p ↔ (dset c.M p ∧ slicePred s c p) := by
  unfold suSlice slicePred
  by_cases hp : s.progSlice > 0
  · simp only [hp, if_true]
    generalize (c.M.dup.bbox.popRect 0).2 = o
    cases o with
    | none => exact ⟨hM, fun p => by simp [Region.dup]⟩
    | some rect =>
      simp only [Region.dup]
      exact ⟨wf_and hM (rect_wf _ _ _ _), fun p => by rw [dset_and hM (rect_wf _ _ _ _), dset_rect]⟩
  · simp only [hp, if_false]
    exact ⟨hM, fun p => by simp [Region.dup]⟩

theorem suC1_spec (c : Client) (h : WFc c) :
    (suC1 c).WF ∧ ∀ p, dset (suC1 c) p ↔ (dset c.C p ∧ ¬ dset c.M p) :=
  ⟨wf_sub h.2.1 h.1, dset_sub h.2.1 h.1⟩

theorem suUC_spec (c : Client) (h : WFc c) (fb pic : Pix → V) :
    (suUC c).WF ∧ ∀ p, dset (suUC c) p ↔ sendUC (absS c fb pic) p := by
  obtain ⟨w1, d1⟩ := suC1_spec c h
  have w2 := wf_and w1 h.2.2
  have w3 := offset_wf c.R c.dx c.dy h.2.2
  refine ⟨wf_and w2 w3, fun p => ?_⟩
  unfold suUC
  simp only [Region.dup]
  rw [dset_and w2 w3, dset_and w1 h.2.2, d1, dset_offset]
  simp only [sendUC, sendC1, absS, and_assoc]

theorem suUpd3_spec (s : Screen) (c : Client) (h : WFc c) :
    (suUpd3 s c).1.WF ∧
    ∀ p, dset (suUpd3 s c).1 p ↔
      (((dset c.M p ∧ slicePred s c p) ∨ (dset c.C p ∧ ¬ dset c.M p)) ∧ dset c.R p) := by
  obtain ⟨w1, d1⟩ := suC1_spec c h
  obtain ⟨w0, d0⟩ := suSlice_spec s c h.1
  have w2 := wf_or w0 w1
  refine ⟨wf_and w2 h.2.2, fun p => ?_⟩
  unfold suUpd3
  rw [dset_and w2 h.2.2, dset_or w0 w1, d0, d1]

theorem suUpd4_spec (s : Screen) (c : Client) (h : WFc c) (fb pic : Pix → V) :
    (suUpd4 s c).WF ∧ ∀ p, dset (suUpd4 s c) p ↔ sendU0 (absS c fb pic) (slicePred s c) p := by
  obtain ⟨w3, d3⟩ := suUpd3_spec s c h
  obtain ⟨wu, du⟩ := suUC_spec c h fb pic
  refine ⟨wf_sub w3 wu, fun p => ?_⟩
  unfold suUpd4
  rw [dset_sub w3 wu, d3, du]
  simp only [sendU0, sendC1, absS, and_assoc]

theorem suM3_spec (s : Screen) (c : Client) (h : WFc c) (fb pic : Pix → V) :
    (suM3 s c).WF ∧
    ∀ p, dset (suM3 s c) p ↔
      ((dset c.M p ∨ sendC1 (absS c fb pic) p) ∧ ¬ sendU0 (absS c fb pic) (slicePred s c) p ∧
        ¬ sendUC (absS c fb pic) p) := by
  obtain ⟨w1, d1⟩ := suC1_spec c h
  obtain ⟨w4, d4⟩ := suUpd4_spec s c h fb pic
  obtain ⟨wu, du⟩ := suUC_spec c h fb pic
  have wm := wf_or h.1 w1
  have wm2 := wf_sub wm w4
  refine ⟨wf_sub wm2 wu, fun p => ?_⟩
  unfold suM3
  rw [dset_sub wm2 wu, dset_sub wm w4, dset_or h.1 w1, d1, d4, du]
  simp only [sendC1, absS, and_assoc]

/-- the soft-cursor block only adds pixels -/
theorem suCur_spec (s : Screen) (c : Client) (h : WFc c) (fb pic : Pix → V) :
    (suCur s c).1.WF ∧ ∀ p, dset (suUpd4 s c) p → dset (suCur s c).1 p := by
  obtain ⟨w4, _⟩ := suUpd4_spec s c h fb pic
  unfold suCur
  split
  · split
    · obtain ⟨a1, a2⟩ := orCursorBox w4 (cursorBox s c.cursorX c.cursorY) (cursorBox_wf s _ _)
      obtain ⟨b1, b2⟩ := orCursorBox a1 (cursorBox s s.cursorX s.cursorY) (cursorBox_wf s _ _)
      exact ⟨b1, fun p hp => (b2 p).mpr (Or.inl ((a2 p).mpr (Or.inl hp)))⟩
    · exact ⟨w4, fun _ hp => hp⟩
  · exact ⟨w4, fun _ hp => hp⟩

/-- the maxRectsPerUpdate rule only adds pixels -/
theorem suUpd6_spec (s : Screen) (c : Client) (p : Pix) (hp : dset (suCur s c).1 p) :
    dset (suUpd6 s c) p := by
  unfold suUpd6
  split
  · exact dset_bbox _ p hp
  · exact hp

/-- hence everything of the specification's `sendU0` is sent as pixel data -/
theorem sendU0_sub_raw (s : Screen) (c : Client) (h : WFc c) (fb pic : Pix → V) (p : Pix)
    (hp : sendU0 (absS c fb pic) (slicePred s c) p) : dset (suUpd6 s c) p :=
  suUpd6_spec s c p ((suCur_spec s c h fb pic).2 p (((suUpd4_spec s c h fb pic).2 p).mpr hp))

theorem sendUpdate_early (s : Screen) (c : Client) (h : suEarly s c = true) :
    sendUpdate s c = ({ c with C := suC1 c, sliceY := (suSlice s c).2 }, none) := by
  rw [sendUpdate_eq, if_pos h]

theorem sendUpdate_late (s : Screen) (c : Client) (h : suEarly s c = false) :
    sendUpdate s c =
      ({ c with M := suM3 s c, C := Region.empty, R := Region.empty, dx := 0, dy := 0,
                sliceY := (suSlice s c).2, cursorX := (suCur s c).2.1,
                cursorY := (suCur s c).2.2,
                cursorChanged := if suCursorShape c then false else c.cursorChanged },
       some { cursorShape := suCursorShape c, copies := suCopies c,
              raws := (suUpd6 s c).rects false false }) := by
  rw [sendUpdate_eq, if_neg (by simp [h])]

theorem sendUpdate_none_iff (s : Screen) (c : Client) :
    (sendUpdate s c).2 = none ↔ suEarly s c = true := by
  cases he : suEarly s c
  · rw [sendUpdate_late s c he]; simp
  · rw [sendUpdate_early s c he]; simp

theorem sendUpdate_wf (scr : Screen) (c : Client) (h : WFc c) : WFc (sendUpdate scr c).1 := by
  cases he : suEarly scr c
  · rw [sendUpdate_late scr c he]
    exact ⟨(suM3_spec scr c h (fun _ => ()) (fun _ => ())).1, wf_empty, wf_empty⟩
  · rw [sendUpdate_early scr c he]
    exact ⟨h.1, (suC1_spec c h).1, h.2.2⟩

/-- `rfbSendFramebufferUpdate` returning early is `Step.sendNothing` -/
theorem sendUpdate_step_none (Sc : PSet) (scr : Screen) (c : Client) (h : WFc c)
    (fb pic : Pix → V) (hn : (sendUpdate scr c).2 = none) :
    Step Sc (absS c fb pic) (absS (sendUpdate scr c).1 fb pic) := by
  rw [sendUpdate_early scr c ((sendUpdate_none_iff scr c).mp hn)]
  exact Step.cast (Step.sendNothing _) rfl rfl (fun _ => Iff.rfl) (suC1_spec c h).2
    (fun _ => Iff.rfl) rfl

/-- the client's picture after the update, as `Step.send` prescribes it for the slice and the raw
region of the executable model -/
noncomputable def sendPic (scr : Screen) (c : Client) (fb pic : Pix → V) : Pix → V :=
  fun p => if sendU0 (absS c fb pic) (slicePred scr c) p ∨ dset (suUpd6 scr c) p then fb p
           else if sendUC (absS c fb pic) p then pic (psub p (c.dx, c.dy)) else pic p

theorem suEarly_of_some (scr : Screen) (c : Client) (sent : Sent)
    (hs : (sendUpdate scr c).2 = some sent) : suEarly scr c = false := by
  cases hh : suEarly scr c
  · rfl
  · rw [(sendUpdate_none_iff scr c).mpr hh] at hs; exact absurd hs (by simp)

/-- `rfbSendFramebufferUpdate` sending an update is `Step.send` with `slice` = the progressive
slice actually used and `extra` = the pixel set of the region finally emitted as pixel data -/
theorem sendUpdate_step_some (Sc : PSet) (scr : Screen) (c : Client) (h : WFc c)
    (fb pic : Pix → V) (sent : Sent) (hs : (sendUpdate scr c).2 = some sent) :
    Step Sc (absS c fb pic) (absS (sendUpdate scr c).1 fb (sendPic scr c fb pic)) := by
  rw [sendUpdate_late scr c (suEarly_of_some scr c sent hs)]
  exact Step.cast (Step.send _ (slicePred scr c) (dset (suUpd6 scr c))) rfl rfl
    (suM3_spec scr c h fb pic).2 (fun p => iff_of_false (dset_empty p) (fun hf => hf))
    (fun p => iff_of_false (dset_empty p) (fun hf => hf)) rfl

theorem sendUpdate_sent (scr : Screen) (c : Client) (sent : Sent)
    (hs : (sendUpdate scr c).2 = some sent) :
    sent.copies = suCopies c ∧ sent.raws = (suUpd6 scr c).rects false false := by
  rw [sendUpdate_late scr c (suEarly_of_some scr c sent hs)] at hs
  simp only [Option.some.injEq] at hs
  subst hs
  exact ⟨rfl, rfl⟩

/-! ### what the client does with the update -/

/-- destination rectangle of a CopyRect message -/
def msgRect (m : CopyRectMsg) : Rect := ⟨m.x, m.y, m.x + m.w, m.y + m.h⟩

/-- a client applies one CopyRect message: destination pixel `(x+i, y+j)` := picture at
`(srcX+i, srcY+j)` (one rectangle is copied as with `memmove`) -/
noncomputable def applyMsg (pic : Pix → V) (m : CopyRectMsg) : Pix → V :=
  fun p => if mem (msgRect m) p then pic (p.1 - m.x + m.srcX, p.2 - m.y + m.srcY) else pic p

/-- a client applies one rectangle of pixel data (the server read it from the framebuffer) -/
noncomputable def applyRaw (fb : Pix → V) (pic : Pix → V) (r : Rect) : Pix → V :=
  fun p => if mem r p then fb p else pic p

/-- a client applies a whole update, in the order of emission: CopyRects first, then pixel data -/
noncomputable def clientApply (fb pic : Pix → V) (sent : Sent) : Pix → V :=
  sent.raws.foldl (applyRaw fb) (sent.copies.foldl applyMsg pic)

theorem applyRaws_eq (fb : Pix → V) (rs : List Rect) (pic : Pix → V) :
    rs.foldl (applyRaw fb) pic = fun p => if ∃ r ∈ rs, mem r p then fb p else pic p := by
  induction rs generalizing pic with
  | nil => funext p; simp
  | cons r rs ih =>
    rw [List.foldl_cons, ih]
    funext p
    simp only [List.mem_cons, or_and_right, exists_or, exists_eq_left, applyRaw]
    by_cases h1 : ∃ r' ∈ rs, mem r' p <;> by_cases h3 : mem r p <;> simp [h1, h3]

/-- the messages of the model, applied in order, are the sequential copy with offset (dx, dy) -/
theorem copies_fold (dx dy : Int) (rs : List Rect) (pic : Pix → V) :
    (rs.map fun r => (⟨r.x1, r.y1, r.x2 - r.x1, r.y2 - r.y1, r.x1 - dx, r.y1 - dy⟩ :
        CopyRectMsg)).foldl applyMsg pic =
      applySeq (dx, dy) pic rs := by
  rw [List.foldl_map]
  unfold applySeq
  congr 1
  funext pc r
  funext p
  have e3 : p.1 - r.x1 + (r.x1 - dx) = p.1 - dx := by omega
  have e4 : p.2 - r.y1 + (r.y1 - dy) = p.2 - dy := by omega
  have em : msgRect (⟨r.x1, r.y1, r.x2 - r.x1, r.y2 - r.y1, r.x1 - dx, r.y1 - dy⟩ :
      CopyRectMsg) = r := by
    cases r
    simp only [msgRect, Rect.mk.injEq]
    exact ⟨trivial, trivial, by omega, by omega⟩
  simp only [applyMsg, applyCopy, em, psub, e3, e4]

theorem exists_mem_rects (r : Region) (rx ry : Bool) (p : Pix) :
    (∃ rc ∈ r.rects rx ry, mem rc p) ↔ dset r p := (rects_cover r rx ry p.1 p.2).symm

/-- **The client obtains exactly the picture the specification prescribes**: applying the emitted
CopyRect messages one after the other (in the emitted order) and then the pixel rectangles gives
the `pic` of `Step.send`. -/
theorem client_applies (scr : Screen) (c : Client) (h : WFc c) (fb pic : Pix → V) (sent : Sent)
    (hs : (sendUpdate scr c).2 = some sent) :
    clientApply fb pic sent = sendPic scr c fb pic := by
  obtain ⟨hc, hr⟩ := sendUpdate_sent scr c sent hs
  obtain ⟨wu, du⟩ := suUC_spec c h fb pic
  unfold clientApply
  rw [hc, hr, applyRaws_eq]
  unfold suCopies
  rw [copies_fold, copy_sequential_eq_simultaneous (suUC c) wu c.dx c.dy pic]
  funext p
  unfold sendPic applySim
  by_cases h6 : dset (suUpd6 scr c) p
  · rw [if_pos ((exists_mem_rects _ _ _ p).mpr h6), if_pos (Or.inr h6)]
  · have h0 : ¬ (sendU0 (absS c fb pic) (slicePred scr c) p ∨ dset (suUpd6 scr c) p) := by
      rintro (k | k)
      · exact h6 (sendU0_sub_raw scr c h fb pic p k)
      · exact h6 k
    rw [if_neg (fun k => h6 ((exists_mem_rects _ _ _ p).mp k)), if_neg h0]
    by_cases hu : dset (suUC c) p
    · rw [if_pos ((exists_mem_rects _ _ _ p).mpr hu), if_pos ((du p).mp hu)]
    · rw [if_neg (fun k => hu ((exists_mem_rects _ _ _ p).mp k)),
        if_neg (fun k => hu ((du p).mpr k))]

/-! ## 6. all histories of the executable model -/

/-- a state of the world as far as one client is concerned: the model's client record, the
server framebuffer and the picture the client holds -/
structure MState (V : Type) where
  c : Client
  fb : Pix → V
  pic : Pix → V

/-- the client's picture after an (optional) update -/
noncomputable def afterSend (fb pic : Pix → V) : Option Sent → (Pix → V)
  | none => pic
  | some sent => clientApply fb pic sent

/-- One operation of the executable model together with what happens to the pixels.  The premises
of the constructors are the side conditions of the API (the application marks what it draws;
a copy's source lies on the screen; regions handed in are well-formed). -/
inductive MStep (scr : Screen) : MState V → MState V → Prop
  /-- the application draws (any new content `fb'` that differs from `fb` on the screen only
  inside `r`) and calls rfbMarkRectAsModified / rfbMarkRegionAsModified -/
  | mark (c : Client) (fb pic : Pix → V) (r : Region) (fb' : Pix → V) (hr : r.WF)
      (hfb : ∀ p, S scr p → ¬ dset r p → fb' p = fb p) :
      MStep scr ⟨c, fb, pic⟩ ⟨markRegion c r, fb', pic⟩
  | setEncodings (c : Client) (fb pic : Pix → V) (cr cs : Bool) :
      MStep scr ⟨c, fb, pic⟩ ⟨setEncodings scr c cr cs, fb, pic⟩
  /-- rfbDoCopyRegion (framebuffer copy) + rfbScheduleCopyRegion -/
  | copy (c : Client) (fb pic : Pix → V) (D : Region) (dx dy : Int) (hD : D.WF)
      (hsrc : ∀ p, dset D p → S scr (psub p (dx, dy))) :
      MStep scr ⟨c, fb, pic⟩
        ⟨scheduleCopy scr c D dx dy, fun p => if dset D p then fb (psub p (dx, dy)) else fb p, pic⟩
  /-- FramebufferUpdateRequest with ANY field values -/
  | request (c : Client) (fb pic : Pix → V) (incr : Bool) (x y w h : Int) :
      MStep scr ⟨c, fb, pic⟩ ⟨request scr c incr x y w h, fb, pic⟩
  /-- rfbSendFramebufferUpdate; the client applies what was emitted -/
  | send (c : Client) (fb pic : Pix → V) :
      MStep scr ⟨c, fb, pic⟩ ⟨(sendUpdate scr c).1, fb, afterSend fb pic (sendUpdate scr c).2⟩
  /-- rfbUpdateClient (sends only when an update is pending) -/
  | update (c : Client) (fb pic : Pix → V) :
      MStep scr ⟨c, fb, pic⟩ ⟨(updateClient scr c).1, fb, afterSend fb pic (updateClient scr c).2⟩

inductive MReach (scr : Screen) : MState V → MState V → Prop
  | refl (s) : MReach scr s s
  | tail {a b c} : MReach scr a b → MStep scr b c → MReach scr a c

theorem send_sound (scr : Screen) (c : Client) (fb pic : Pix → V) (hw : WFc c) :
    Reach (S scr) (absS c fb pic)
      (absS (sendUpdate scr c).1 fb (afterSend fb pic (sendUpdate scr c).2)) := by
  cases hs : (sendUpdate scr c).2 with
  | none => exact Reach.single (sendUpdate_step_none (S scr) scr c hw fb pic hs)
  | some sent =>
    simp only [afterSend]
    rw [client_applies scr c hw fb pic sent hs]
    exact Reach.single (sendUpdate_step_some (S scr) scr c hw fb pic sent hs)

/-- every operation of the executable model preserves well-formedness and is simulated by the
specification -/
theorem MStep_sound (scr : Screen) (s t : MState V) (hw : WFc s.c) (h : MStep scr s t) :
    WFc t.c ∧ Reach (S scr) (absS s.c s.fb s.pic) (absS t.c t.fb t.pic) := by
  cases h with
  | mark c fb pic r fb' hr hfb =>
    exact ⟨markRegion_wf c r hw hr, Reach.single (markRegion_step (S scr) c r hw hr fb fb' pic hfb)⟩
  | setEncodings c fb pic cr cs =>
    exact ⟨setEncodings_wf scr c cr cs hw, setEncodings_reach (S scr) scr c cr cs hw fb pic⟩
  | copy c fb pic D dx dy hD hsrc =>
    exact ⟨scheduleCopy_wf scr c D dx dy hw hD,
      Reach.single (scheduleCopy_step scr c D dx dy hw hD hsrc fb pic)⟩
  | request c fb pic incr x y w h =>
    exact ⟨request_wf scr c incr x y w h hw, request_reach (S scr) scr c incr x y w h hw fb pic⟩
  | send c fb pic =>
    exact ⟨sendUpdate_wf scr c hw, send_sound scr c fb pic hw⟩
  | update c fb pic =>
    unfold updateClient
    split
    · exact ⟨sendUpdate_wf scr c hw, send_sound scr c fb pic hw⟩
    · exact ⟨hw, Reach.refl _⟩

theorem MReach_sound (scr : Screen) (s t : MState V) (hw : WFc s.c) (h : MReach scr s t) :
    WFc t.c ∧ Reach (S scr) (absS s.c s.fb s.pic) (absS t.c t.fb t.pic) := by
  induction h with
  | refl => exact ⟨hw, Reach.refl _⟩
  | tail _ hstep ih =>
    obtain ⟨w1, r1⟩ := ih
    obtain ⟨w2, r2⟩ := MStep_sound scr _ _ w1 hstep
    exact ⟨w2, Reach.trans r1 r2⟩

/-- **Convergence invariant for the executable model**: after ANY sequence of model operations on
a fresh client (any initial framebuffer and client picture), the regions are well-formed and the
convergence invariant of the specification holds for the pixel sets of the model's regions. -/
theorem model_inv (scr : Screen) (fb0 pic0 : Pix → V) (t : MState V)
    (h : MReach scr ⟨newClient scr, fb0, pic0⟩ t) :
    WFc t.c ∧ Inv (S scr) (absS t.c t.fb t.pic) := by
  obtain ⟨w, r⟩ := MReach_sound scr _ t (newClient_wf scr) h
  exact ⟨w, Inv_reach (S scr) _ _ (newClient_inv scr fb0 pic0) r⟩

/-- **When the model's client has nothing pending (`modifiedRegion` and `copyRegion` empty), the
client's picture equals the framebuffer on the whole screen.** -/
theorem model_idle_converged (scr : Screen) (fb0 pic0 : Pix → V) (t : MState V)
    (h : MReach scr ⟨newClient scr, fb0, pic0⟩ t)
    (hM : t.c.M.isEmpty = true) (hC : t.c.C.isEmpty = true) :
    ∀ p, S scr p → t.pic p = t.fb p := by
  obtain ⟨w, hI⟩ := model_inv scr fb0 pic0 t h
  exact idle_of_inv w hI hM hC

/-- more generally, at any time a screen pixel outside `modifiedRegion` and `copyRegion` is
already correct in the client's picture -/
theorem model_unmodified_current (scr : Screen) (fb0 pic0 : Pix → V) (t : MState V)
    (h : MReach scr ⟨newClient scr, fb0, pic0⟩ t) (p : Pix) (hp : S scr p)
    (hM : ¬ dset t.c.M p) (hC : ¬ dset t.c.C p) : t.pic p = t.fb p :=
  (((model_inv scr fb0 pic0 t h).2 p hp hM).2 hC).symm

end VncModel.Update.Refine
