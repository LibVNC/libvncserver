import VncModel.Update.Refine
/-!
The all-histories theorem with a changing environment: between the operations of the executable
model the screen's pointer position, cursor shape / hot spot, progressive-slice height and
maxRectsPerUpdate may change arbitrarily (pointer events of any client, rfbSetCursor, the
application tuning the knobs); only the framebuffer size is fixed (a size change is C16's
rfbNewFramebuffer).  The convergence invariant speaks about the cursor-less picture, so an
environment step changes neither side of it, and every model operation is a specification step for
whatever screen it runs against.
-/
namespace VncModel.Update.Refine
open VncModel.Rgn VncModel.USpec VncModel.Update VncModel.Update.CopyOrder
open Classical

variable {V : Type}

theorem S_congr (a b : Screen) (hw : b.width = a.width) (hh : b.height = a.height) : S b = S a := by
  funext p
  simp only [S, hw, hh]

/-- a step of the system "screen + one client": a model operation against the current screen, or
a change of anything in the screen but its size -/
inductive EStep : Screen × MState V → Screen × MState V → Prop
  | op (scr : Screen) (s t : MState V) : MStep scr s t → EStep (scr, s) (scr, t)
  | env (scr scr' : Screen) (s : MState V) (hw : scr'.width = scr.width)
      (hh : scr'.height = scr.height) : EStep (scr, s) (scr', s)

inductive EReach : Screen × MState V → Screen × MState V → Prop
  | refl (x) : EReach x x
  | tail {a b c} : EReach a b → EStep b c → EReach a c

theorem EReach_sound (x y : Screen × MState V) (hw : WFc x.2.c) (h : EReach x y) :
    WFc y.2.c ∧ S y.1 = S x.1 ∧
    Reach (S x.1) (absS x.2.c x.2.fb x.2.pic) (absS y.2.c y.2.fb y.2.pic) := by
  induction h with
  | refl => exact ⟨hw, rfl, Reach.refl _⟩
  | tail _ hstep ih =>
    obtain ⟨w1, e1, r1⟩ := ih
    cases hstep with
    | op scr s t hm =>
      obtain ⟨w2, r2⟩ := MStep_sound scr s t w1 hm
      refine ⟨w2, e1, Reach.trans r1 ?_⟩
      simp only at e1
      rw [← e1]
      exact r2
    | env scr scr' s hw' hh' =>
      exact ⟨w1, (S_congr scr scr' hw' hh').trans e1, r1⟩

/-- **Convergence with a moving pointer and changing knobs**: after any interleaving of model
operations with environment changes, starting from a fresh client, the regions are well-formed
and the convergence invariant holds -/
theorem model_inv_env (scr0 : Screen) (fb0 pic0 : Pix → V) (y : Screen × MState V)
    (h : EReach (scr0, ⟨newClient scr0, fb0, pic0⟩) y) :
    WFc y.2.c ∧ Inv (S y.1) (absS y.2.c y.2.fb y.2.pic) := by
  obtain ⟨w, e, r⟩ := EReach_sound _ y (newClient_wf scr0) h
  exact ⟨w, e ▸ Inv_reach (S scr0) _ _ (newClient_inv scr0 fb0 pic0) r⟩

theorem model_idle_converged_env (scr0 : Screen) (fb0 pic0 : Pix → V) (y : Screen × MState V)
    (h : EReach (scr0, ⟨newClient scr0, fb0, pic0⟩) y)
    (hM : y.2.c.M.isEmpty = true) (hC : y.2.c.C.isEmpty = true) :
    ∀ p, S y.1 p → y.2.pic p = y.2.fb p := by
  obtain ⟨w, hI⟩ := model_inv_env scr0 fb0 pic0 y h
  exact idle_of_inv w hI hM hC

end VncModel.Update.Refine
