import VncModel.Update.RefineEnv
/-!
N simultaneous clients of one screen.  The application's operations (draw + mark, copy) reach every
client's bookkeeping at once and change the one shared framebuffer; requests, SetEncodings and
updates are per client; clients come and go; the pointer and the knobs change in between.  Every
client's regions stay well-formed and every client satisfies the convergence invariant — the
clients do not disturb each other because all they share is the framebuffer, which only the
application's operations change, and those are steps of every client's specification.
-/
namespace VncModel.Update.Refine
open VncModel.Rgn VncModel.USpec VncModel.Update VncModel.Update.CopyOrder
open Classical

variable {V : Type}

structure NState (V : Type) where
  scr : Screen
  fb : Pix → V
  cls : List (Client × (Pix → V))      -- each client's bookkeeping and its picture

inductive NStep : NState V → NState V → Prop
  /-- the application draws and reports it: every client's modifiedRegion grows -/
  | mark (st : NState V) (r : Region) (fb' : Pix → V) (hr : r.WF)
      (hfb : ∀ p, S st.scr p → ¬ dset r p → fb' p = st.fb p) :
      NStep st ⟨st.scr, fb', st.cls.map (fun cp => (markRegion cp.1 r, cp.2))⟩
  /-- rfbDoCopyRegion + rfbScheduleCopyRegion for every client -/
  | copy (st : NState V) (D : Region) (dx dy : Int) (hD : D.WF)
      (hsrc : ∀ p, dset D p → S st.scr (psub p (dx, dy))) :
      NStep st ⟨st.scr, fun p => if dset D p then st.fb (psub p (dx, dy)) else st.fb p,
                st.cls.map (fun cp => (scheduleCopy st.scr cp.1 D dx dy, cp.2))⟩
  /-- one client's own step (request, SetEncodings, update, send): the framebuffer stays -/
  | client (scr : Screen) (fb : Pix → V) (pre post : List (Client × (Pix → V)))
      (c : Client) (pic : Pix → V) (c' : Client) (pic' : Pix → V)
      (h : MStep scr ⟨c, fb, pic⟩ ⟨c', fb, pic'⟩) :
      NStep ⟨scr, fb, pre ++ (c, pic) :: post⟩ ⟨scr, fb, pre ++ (c', pic') :: post⟩
  /-- a new client (any initial picture) -/
  | connect (st : NState V) (pic0 : Pix → V) :
      NStep st ⟨st.scr, st.fb, st.cls ++ [(newClient st.scr, pic0)]⟩
  /-- a client leaves -/
  | leave (scr : Screen) (fb : Pix → V) (pre post : List (Client × (Pix → V)))
      (cp : Client × (Pix → V)) :
      NStep ⟨scr, fb, pre ++ cp :: post⟩ ⟨scr, fb, pre ++ post⟩
  /-- pointer moves, cursor and knob changes: anything in the screen but its size -/
  | env (st : NState V) (scr' : Screen) (hw : scr'.width = st.scr.width)
      (hh : scr'.height = st.scr.height) : NStep st ⟨scr', st.fb, st.cls⟩

inductive NReach : NState V → NState V → Prop
  | refl (x) : NReach x x
  | tail {a b c} : NReach a b → NStep b c → NReach a c

/-- what holds for every client at every time -/
def NInv (st : NState V) : Prop :=
  ∀ cp ∈ st.cls, WFc cp.1 ∧ Inv (S st.scr) (absS cp.1 st.fb cp.2)

theorem MStep_inv (scr : Screen) (s t : MState V) (hw : WFc s.c)
    (hI : Inv (S scr) (absS s.c s.fb s.pic)) (h : MStep scr s t) :
    WFc t.c ∧ Inv (S scr) (absS t.c t.fb t.pic) := by
  obtain ⟨w, r⟩ := MStep_sound scr s t hw h
  exact ⟨w, Inv_reach (S scr) _ _ hI r⟩

theorem NStep_inv {a b : NState V} (h : NStep a b) : NInv a → NInv b := by
  cases h with
  | mark st r fb' hr hfb =>
    intro hI cp hcp
    obtain ⟨cp0, h0, rfl⟩ := List.mem_map.mp hcp
    obtain ⟨w, i⟩ := hI cp0 h0
    exact MStep_inv a.scr ⟨cp0.1, a.fb, cp0.2⟩ ⟨markRegion cp0.1 r, fb', cp0.2⟩ w i
      (MStep.mark cp0.1 a.fb cp0.2 r fb' hr hfb)
  | copy st D dx dy hD hsrc =>
    intro hI cp hcp
    obtain ⟨cp0, h0, rfl⟩ := List.mem_map.mp hcp
    obtain ⟨w, i⟩ := hI cp0 h0
    exact MStep_inv a.scr ⟨cp0.1, a.fb, cp0.2⟩ _ w i
      (MStep.copy cp0.1 a.fb cp0.2 D dx dy hD hsrc)
  | client scr fb pre post c pic c' pic' hm =>
    intro hI cp hcp
    rcases List.mem_append.mp hcp with hp | hp
    · exact hI cp (List.mem_append.mpr (Or.inl hp))
    · rcases List.mem_cons.mp hp with rfl | hp
      · obtain ⟨w, i⟩ := hI (c, pic) (List.mem_append.mpr (Or.inr (List.mem_cons_self ..)))
        exact MStep_inv scr ⟨c, fb, pic⟩ ⟨c', fb, pic'⟩ w i hm
      · exact hI cp (List.mem_append.mpr (Or.inr (List.mem_cons_of_mem _ hp)))
  | connect st pic0 =>
    intro hI cp hcp
    rcases List.mem_append.mp hcp with hp | hp
    · exact hI cp hp
    · have : cp = (newClient a.scr, pic0) := by simpa using hp
      subst this
      exact ⟨newClient_wf a.scr, newClient_inv a.scr a.fb pic0⟩
  | leave scr fb pre post cp0 =>
    intro hI cp hcp
    rcases List.mem_append.mp hcp with hp | hp
    · exact hI cp (List.mem_append.mpr (Or.inl hp))
    · exact hI cp (List.mem_append.mpr (Or.inr (List.mem_cons_of_mem _ hp)))
  | env st scr' hw hh =>
    intro hI cp hcp
    obtain ⟨w, i⟩ := hI cp hcp
    refine ⟨w, ?_⟩
    show Inv (S scr') _
    rw [S_congr a.scr scr' hw hh]
    exact i

/-- **N clients converge**: in every state reachable from a screen without clients, every
connected client's regions are well-formed and its convergence invariant holds -/
theorem multi_inv (scr0 : Screen) (fb0 : Pix → V) (st : NState V)
    (h : NReach ⟨scr0, fb0, []⟩ st) : NInv st := by
  induction h with
  | refl => intro cp hcp; cases hcp
  | tail _ hstep ih => exact NStep_inv hstep ih

theorem multi_idle_converged (scr0 : Screen) (fb0 : Pix → V) (st : NState V)
    (h : NReach ⟨scr0, fb0, []⟩ st) (cp : Client × (Pix → V)) (hcp : cp ∈ st.cls)
    (hM : cp.1.M.isEmpty = true) (hC : cp.1.C.isEmpty = true) :
    ∀ p, S st.scr p → cp.2 p = st.fb p := by
  obtain ⟨w, hI⟩ := multi_inv scr0 fb0 st h cp hcp
  exact idle_of_inv w hI hM hC

end VncModel.Update.Refine
