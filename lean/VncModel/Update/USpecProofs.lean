import VncModel.Update.USpec
/-! Invariant preservation for the set-level update specification. -/
namespace VncModel.USpec
open Classical
variable {V : Type}

/-- the steps that only enlarge the modified set and shrink the copy set -/
theorem Inv_of_le {S : PSet} {s t : SState V} (hI : Inv S s)
    (h : ∀ p, S p → ¬ t.M p → ¬ s.M p ∧ t.fb p = s.fb p ∧ t.pic = s.pic ∧
      (t.C p → s.C p ∧ t.d = s.d) ∧ (¬ t.C p → ¬ s.C p)) : Inv S t := by
  intro p hS hM
  obtain ⟨h1, h2, h3, h4, h5⟩ := h p hS hM
  rw [h2, h3]
  exact ⟨fun hC => (h4 hC).2 ▸ (hI p hS h1).1 (h4 hC).1, fun hC => (hI p hS h1).2 (h5 hC)⟩

theorem Inv_step (S : PSet) (s t : SState V) (hI : Inv S s) (hst : Step S s t) : Inv S t := by
  cases hst with
  | draw r extra fb' hfb =>
    exact Inv_of_le hI fun p hS hM => ⟨fun h => hM (Or.inl h),
      hfb p hS fun h => hM (Or.inr (Or.inl h)), rfl, fun hC => ⟨hC, rfl⟩, fun hC => hC⟩
  | copyNoCR D d' extra =>
    refine Inv_of_le hI fun p hS hM => ⟨fun h => hM (Or.inl h), ?_, rfl, fun hC => ⟨hC, rfl⟩,
      fun hC => hC⟩
    exact if_neg fun h => hM (Or.inr (Or.inl h))
  | copyNew D d' extra hsrc hoff =>
    intro p hS hM
    simp only at hM ⊢
    have hM' : ¬ s.M p := fun h => hM (Or.inl (Or.inl h))
    have hC' : ¬ s.C p := fun h => hM (Or.inl (Or.inr h))
    constructor
    · intro hD
      simp only [hD, if_true]
      have hq : ¬ (s.M (psub p d') ∨ s.C (psub p d')) := fun h => hM (Or.inr (Or.inl ⟨h, hD⟩))
      have hqM : ¬ s.M (psub p d') := fun h => hq (Or.inl h)
      have hqC : ¬ s.C (psub p d') := fun h => hq (Or.inr h)
      exact (hI (psub p d') (hsrc p hD) hqM).2 hqC
    · intro hD
      simp only [hD, if_false]
      exact (hI p hS hM').2 hC'
  | copySame D extra hsrc =>
    intro p hS hM
    simp only at hM ⊢
    have hM1 : ¬ (s.M p ∨ (D (padd p s.d) ∧ s.C p)) := fun h => hM (Or.inl h)
    have hMp : ¬ s.M p := fun h => hM1 (Or.inl h)
    constructor
    · intro hCD
      by_cases hD : D p
      · simp only [hD, if_true]
        have hq : ¬ (s.M (psub p s.d) ∨ (D (padd (psub p s.d) s.d) ∧ s.C (psub p s.d))) :=
          fun h => hM (Or.inr (Or.inl ⟨h, hCD⟩))
        have hqM : ¬ s.M (psub p s.d) := fun h => hq (Or.inl h)
        have hqC : ¬ s.C (psub p s.d) := fun h => hq (Or.inr ⟨by simpa using hD, h⟩)
        exact (hI (psub p s.d) (hsrc p hD) hqM).2 hqC
      · simp only [hD, if_false]
        have hC : s.C p := hCD.resolve_right hD
        exact (hI p hS hMp).1 hC
    · intro hCD
      have hD : ¬ D p := fun h => hCD (Or.inr h)
      have hC : ¬ s.C p := fun h => hCD (Or.inl h)
      simp only [hD, if_false]
      exact (hI p hS hMp).2 hC
  | request incr r =>
    exact Inv_of_le hI fun p hS hM => ⟨fun h => hM (Or.inl h), rfl, rfl, fun hC => ⟨hC.1, rfl⟩,
      fun hC h => hC ⟨h, fun k => hM (Or.inr k)⟩⟩
  | dropCopy extra =>
    exact Inv_of_le hI fun p hS hM => ⟨fun h => hM (Or.inl h), rfl, rfl, fun hC => hC.elim,
      fun _ h => hM (Or.inr (Or.inl h))⟩
  | sendNothing =>
    exact Inv_of_le hI fun p hS hM => ⟨hM, rfl, rfl, fun hC => ⟨hC.1, rfl⟩,
      fun hC h => hC ⟨h, hM⟩⟩
  | send slice extra =>
    intro p hS hM
    simp only at hM ⊢
    refine ⟨fun h => h.elim, fun _ => ?_⟩
    by_cases hU : sendU0 s slice p ∨ extra p
    · simp only [hU, if_true]
    · simp only [hU, if_false]
      have hU0 : ¬ sendU0 s slice p := fun h => hU (Or.inl h)
      by_cases hUC : sendUC s p
      · simp only [hUC, if_true]
        have hC1 : sendC1 s p := hUC.1
        exact (hI p hS hC1.2).1 hC1.1
      · simp only [hUC, if_false]
        have hMC : ¬ (s.M p ∨ sendC1 s p) := fun h => hM ⟨h, hU0, hUC⟩
        have hMp : ¬ s.M p := fun h => hMC (Or.inl h)
        have hCp : ¬ s.C p := fun h => hMC (Or.inr ⟨h, hMp⟩)
        exact (hI p hS hMp).2 hCp

theorem Inv_reach (S : PSet) (s t : SState V) (hI : Inv S s) (h : Reach S s t) : Inv S t := by
  induction h with
  | refl => exact hI
  | tail _ hstep ih => exact Inv_step S _ _ ih hstep

/-- initial state of a connection: everything modified (cl->modifiedRegion = whole screen) -/
theorem Inv_init (S : PSet) (s : SState V) (h : ∀ p, S p → s.M p) : Inv S s :=
  fun p hS hM => absurd (h p hS) hM

end VncModel.USpec
