/-
Byte-level helpers of the wire model (C03): big-endian fields, bounded reads.  Core Lean only.
All multi-byte fields of the RFB protocol are big-endian (`Swap16IfLE` / `Swap32IfLE` on a
little-endian host).
-/
namespace VncModel.Wire

abbrev Bytes := List UInt8

/-- 16-bit big-endian field; values ≥ 2^16 wrap exactly like the C assignment to `uint16_t`. -/
def be16 (n : Nat) : Bytes := [UInt8.ofNat (n / 256), UInt8.ofNat n]

/-- 32-bit big-endian field (wraps mod 2^32 like `uint32_t`). -/
def be32 (n : Nat) : Bytes :=
  [UInt8.ofNat (n / 16777216), UInt8.ofNat (n / 65536), UInt8.ofNat (n / 256), UInt8.ofNat n]

/-! Literal factors are written on the LEFT of every product: `Nat.mul` recurses on its second
argument, and the kernel unfolds `x * 16777216` (x not a literal) sixteen million levels deep. -/

def rd8 : Bytes → Option (Nat × Bytes)
  | b :: r => some (b.toNat, r)
  | [] => none

def rd16 : Bytes → Option (Nat × Bytes)
  | a :: b :: r => some (256 * a.toNat + b.toNat, r)
  | _ => none

def rd32 : Bytes → Option (Nat × Bytes)
  | a :: b :: c :: d :: r =>
    some (16777216 * a.toNat + 65536 * b.toNat + 256 * c.toNat + d.toNat, r)
  | _ => none

/-- exactly `n` bytes or failure (never a short read) -/
def takeN (n : Nat) (bs : Bytes) : Option (Bytes × Bytes) :=
  let a := bs.take n
  if a.length = n then some (a, bs.drop n) else none

/-- skip exactly `n` bytes or fail -/
def dropN (n : Nat) (bs : Bytes) : Option Bytes := (takeN n bs).map (·.2)

theorem rd8_cons (b : UInt8) (r : Bytes) : rd8 (b :: r) = some (b.toNat, r) := rfl

theorem rd16_be16 (n : Nat) (h : n < 65536) (r : Bytes) : rd16 (be16 n ++ r) = some (n, r) := by
  simp only [be16, List.cons_append, List.nil_append, rd16, UInt8.toNat_ofNat', Nat.reducePow]
  rw [Nat.mod_eq_of_lt (Nat.div_lt_of_lt_mul h : n / 256 < 256), Nat.div_add_mod]

theorem rd32_be32 (n : Nat) (h : n < 4294967296) (r : Bytes) : rd32 (be32 n ++ r) = some (n, r) := by
  simp only [be32, List.cons_append, List.nil_append, rd32, UInt8.toNat_ofNat', Nat.reducePow]
  have h0 := Nat.div_add_mod n 256
  have h1 := Nat.div_add_mod (n / 256) 256
  have h2 := Nat.div_add_mod (n / 65536) 256
  rw [Nat.div_div_eq_div_mul] at h1 h2
  rw [Nat.mod_eq_of_lt (Nat.div_lt_of_lt_mul h : n / 16777216 < 256)]
  -- Horner form, then one division step per digit
  have : 16777216 * (n / 16777216) + 65536 * (n / 65536 % 256) + 256 * (n / 256 % 256) + n % 256
      = 256 * (256 * (256 * (n / 16777216) + n / 65536 % 256) + n / 256 % 256) + n % 256 := by
    simp only [Nat.mul_add, ← Nat.mul_assoc, Nat.add_assoc]
  rw [this, h2, h1, h0]

theorem be16_length (n : Nat) : (be16 n).length = 2 := rfl
theorem be32_length (n : Nat) : (be32 n).length = 4 := rfl

theorem takeN_append (a r : Bytes) (n : Nat) (h : a.length = n) : takeN n (a ++ r) = some (a, r) := by
  simp [takeN, List.take_left' h, List.drop_left' h, h]

theorem takeN_length {n : Nat} {bs a r : Bytes} (h : takeN n bs = some (a, r)) :
    a.length = n ∧ bs = a ++ r := by
  unfold takeN at h
  simp only at h
  split at h
  · rename_i hl
    simp only [Option.some.injEq, Prod.mk.injEq] at h
    obtain ⟨rfl, rfl⟩ := h
    exact ⟨hl, (List.take_append_drop n bs).symm⟩
  · cases h

theorem takeN_none_of_short {n : Nat} {bs : Bytes} (h : bs.length < n) : takeN n bs = none := by
  unfold takeN
  simp only
  rw [if_neg]
  simp [List.length_take]; omega

end VncModel.Wire
