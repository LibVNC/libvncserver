import VncModel.Wire.Caps
/-
Capability invariant (C03): whatever flag the SetEncodings code has set, the corresponding number
occurs in a SetEncodings message the client sent; the preferred encoding is Raw or was listed.
-/
namespace VncModel.Wire
open VncModel.Gen.C03

/-- every capability flag is justified by an encoding number in `H` (the advertisement history) -/
structure Adv (H : List Nat) (k : Caps) : Prop where
  preferred : ∀ e, k.preferred = some e → e = rfbEncodingRaw ∨ e ∈ H
  copyRect : k.useCopyRect = true → rfbEncodingCopyRect ∈ H
  newFBSize : k.useNewFBSize = true → rfbEncodingNewFBSize ∈ H ∨ rfbEncodingExtDesktopSize ∈ H
  extDesktop : k.useExtDesktopSize = true → rfbEncodingExtDesktopSize ∈ H
  cursorShape : k.cursorShape = true → rfbEncodingXCursor ∈ H ∨ rfbEncodingRichCursor ∈ H
  xCursor : k.cursorShape = true → k.richCursor = false → rfbEncodingXCursor ∈ H
  richCursor : k.richCursor = true → rfbEncodingRichCursor ∈ H
  cursorPos : k.cursorPos = true → rfbEncodingPointerPos ∈ H
  lastRect : k.lastRect = true → rfbEncodingLastRect ∈ H
  led : k.led = true → rfbEncodingKeyboardLedState ∈ H
  supMsgs : k.supMsgs = true → rfbEncodingSupportedMessages ∈ H
  supEncs : k.supEncs = true → rfbEncodingSupportedEncodings ∈ H
  identity : k.identity = true → rfbEncodingServerIdentity ∈ H
  extClip : k.extClip = true → rfbEncodingExtendedClipboard ∈ H

theorem Adv.mono {H H' : List Nat} {k : Caps} (a : Adv H k) (hs : ∀ e, e ∈ H → e ∈ H') : Adv H' k where
  preferred := fun e he => (a.preferred e he).imp id (hs _)
  copyRect := fun h => hs _ (a.copyRect h)
  newFBSize := fun h => (a.newFBSize h).imp (hs _) (hs _)
  extDesktop := fun h => hs _ (a.extDesktop h)
  cursorShape := fun h => (a.cursorShape h).imp (hs _) (hs _)
  xCursor := fun h h2 => hs _ (a.xCursor h h2)
  richCursor := fun h => hs _ (a.richCursor h)
  cursorPos := fun h => hs _ (a.cursorPos h)
  lastRect := fun h => hs _ (a.lastRect h)
  led := fun h => hs _ (a.led h)
  supMsgs := fun h => hs _ (a.supMsgs h)
  supEncs := fun h => hs _ (a.supEncs h)
  identity := fun h => hs _ (a.identity h)
  extClip := fun h => hs _ (a.extClip h)

theorem adv_initial (H : List Nat) : Adv H {} := by
  constructor <;> simp

/-- the reset block clears every flag the invariant speaks of except `extClip` -/
theorem adv_resetCaps {H : List Nat} {k : Caps}
    (h : k.extClip = true → rfbEncodingExtendedClipboard ∈ H) : Adv H (resetCaps k) := by
  constructor <;> simp [resetCaps]
  exact h

local macro "close_field" : tactic => `(tactic|
  first
  | exact fun h => Or.inl h
  | exact fun _ => Or.inr ‹_›
  | exact fun _ => Or.inr (Or.inl ‹_›)
  | exact fun _ => Or.inr (Or.inr ‹_›)
  | exact fun h => Or.inr (Option.some.inj h).symm
  | exact fun h1 h2 => Or.inl ⟨h1, h2⟩
  | exact fun _ _ => Or.inr ‹_›
  | exact fun _ h => Bool.noConfusion h)

local macro "branch" : tactic => `(tactic|
  ((try dsimp only); first | close_field | (split <;> (try dsimp only) <;> close_field)))

local macro "case_if" c:term : tactic => `(tactic|
  (by_cases hc : $c
   · rw [if_pos hc]; branch
   rw [if_neg hc]))

/-- walk down the `if e = … then … else …` chain of `applyEnc` (cheap `rw`s, no big `simp`) -/
local macro "apply_enc_tac" e:ident : tactic => `(tactic|
  (unfold applyEnc
   case_if ($e = rfbEncodingCopyRect)
   case_if (isPixelEncoding $e = true)
   case_if ($e = rfbEncodingXCursor)
   case_if ($e = rfbEncodingRichCursor)
   case_if ($e = rfbEncodingPointerPos)
   case_if ($e = rfbEncodingLastRect)
   case_if ($e = rfbEncodingNewFBSize)
   case_if ($e = rfbEncodingExtDesktopSize)
   case_if ($e = rfbEncodingKeyboardLedState)
   case_if ($e = rfbEncodingSupportedMessages)
   case_if ($e = rfbEncodingSupportedEncodings)
   case_if ($e = rfbEncodingServerIdentity)
   case_if ($e = rfbEncodingXvp)
   case_if ($e = rfbEncodingExtendedClipboard)
   branch))

/-- numbers without effect on the capability state fall under `other` -/
theorem applyEnc_cases (g : SrvCfg) (k : Caps) (e : Nat) {P : Caps → Prop}
    (copyRect : e = rfbEncodingCopyRect → P { k with useCopyRect := true })
    (pixel : isPixelEncoding e = true →
      P (if k.preferred.isNone then { k with preferred := some e } else k))
    (xCursor : e = rfbEncodingXCursor →
      P (if !g.noRichToX then { k with cursorShape := true, cursorWasChanged := true } else k))
    (richCursor : e = rfbEncodingRichCursor →
      P { k with cursorShape := true, richCursor := true, cursorWasChanged := true })
    (pointerPos : e = rfbEncodingPointerPos →
      P (if !k.cursorPos then { k with cursorPos := true, cursorWasMoved := true } else k))
    (lastRect : e = rfbEncodingLastRect → P { k with lastRect := true })
    (newFBSize : e = rfbEncodingNewFBSize → P { k with useNewFBSize := true })
    (extDesktop : e = rfbEncodingExtDesktopSize →
      P { k with useExtDesktopSize := true, useNewFBSize := true })
    (led : e = rfbEncodingKeyboardLedState → P { k with led := true })
    (supMsgs : e = rfbEncodingSupportedMessages → P { k with supMsgs := true })
    (supEncs : e = rfbEncodingSupportedEncodings → P { k with supEncs := true })
    (identity : e = rfbEncodingServerIdentity → P { k with identity := true })
    (extClip : e = rfbEncodingExtendedClipboard → P { k with extClip := true })
    (other : isPixelEncoding e = false → P k) : P (applyEnc g k e).1 := by
  unfold applyEnc
  by_cases h : e = rfbEncodingCopyRect
  · rw [if_pos h]; exact copyRect h
  rw [if_neg h]
  by_cases hpx : isPixelEncoding e = true
  · rw [if_pos hpx]; exact pixel hpx
  rw [if_neg hpx]
  have hnp := other (eq_false_of_ne_true hpx)
  by_cases h : e = rfbEncodingXCursor
  · rw [if_pos h]; exact xCursor h
  rw [if_neg h]
  by_cases h : e = rfbEncodingRichCursor
  · rw [if_pos h]; exact richCursor h
  rw [if_neg h]
  by_cases h : e = rfbEncodingPointerPos
  · rw [if_pos h]; exact pointerPos h
  rw [if_neg h]
  by_cases h : e = rfbEncodingLastRect
  · rw [if_pos h]; exact lastRect h
  rw [if_neg h]
  by_cases h : e = rfbEncodingNewFBSize
  · rw [if_pos h]; exact newFBSize h
  rw [if_neg h]
  by_cases h : e = rfbEncodingExtDesktopSize
  · rw [if_pos h]; exact extDesktop h
  rw [if_neg h]
  by_cases h : e = rfbEncodingKeyboardLedState
  · rw [if_pos h]; exact led h
  rw [if_neg h]
  by_cases h : e = rfbEncodingSupportedMessages
  · rw [if_pos h]; exact supMsgs h
  rw [if_neg h]
  by_cases h : e = rfbEncodingSupportedEncodings
  · rw [if_pos h]; exact supEncs h
  rw [if_neg h]
  by_cases h : e = rfbEncodingServerIdentity
  · rw [if_pos h]; exact identity h
  rw [if_neg h]
  by_cases h : e = rfbEncodingXvp
  · rw [if_pos h]; exact hnp
  rw [if_neg h]
  by_cases h : e = rfbEncodingExtendedClipboard
  · rw [if_pos h]
    split
    · exact extClip h
    · exact hnp
  rw [if_neg h]
  exact hnp

theorem adv_applyEnc (g : SrvCfg) {H : List Nat} {k : Caps} (a : Adv H k) (e : Nat) (he : e ∈ H) :
    Adv H (applyEnc g k e).1 :=
  applyEnc_cases g k e
    (copyRect := fun h => { a with copyRect := fun _ => h ▸ he })
    (pixel := fun _ => by
      split
      · exact { a with preferred := fun p hp => Or.inr (Option.some.inj hp ▸ he) }
      · exact a)
    (xCursor := fun h => by
      split
      · exact { a with cursorShape := fun _ => Or.inl (h ▸ he), xCursor := fun _ _ => h ▸ he }
      · exact a)
    (richCursor := fun h =>
      { a with cursorShape := fun _ => Or.inr (h ▸ he), xCursor := fun _ hr => Bool.noConfusion hr,
               richCursor := fun _ => h ▸ he })
    (pointerPos := fun h => by
      split
      · exact { a with cursorPos := fun _ => h ▸ he }
      · exact a)
    (lastRect := fun h => { a with lastRect := fun _ => h ▸ he })
    (newFBSize := fun h => { a with newFBSize := fun _ => Or.inl (h ▸ he) })
    (extDesktop := fun h =>
      { a with extDesktop := fun _ => h ▸ he, newFBSize := fun _ => Or.inr (h ▸ he) })
    (led := fun h => { a with led := fun _ => h ▸ he })
    (supMsgs := fun h => { a with supMsgs := fun _ => h ▸ he })
    (supEncs := fun h => { a with supEncs := fun _ => h ▸ he })
    (identity := fun h => { a with identity := fun _ => h ▸ he })
    (extClip := fun h => { a with extClip := fun _ => h ▸ he })
    (other := fun _ => a)

theorem adv_applyEncs (g : SrvCfg) {H : List Nat} :
    ∀ (es : List Nat) (k : Caps) (acc : List Immediate), Adv H k → (∀ e ∈ es, e ∈ H) →
      Adv H (applyEncs g k es acc).1 := by
  intro es
  induction es with
  | nil => intro k acc a _; simpa [applyEncs] using a
  | cons e t ih =>
    intro k acc a hs
    simp only [applyEncs]
    exact ih _ _ (adv_applyEnc g a e (hs e (by simp))) (fun q hq => hs q (by simp [hq]))

theorem adv_fallbackPreferred {H : List Nat} {k : Caps} (a : Adv H k) (last : Option Nat)
    (hl : ∀ e, last = some e → e = rfbEncodingRaw ∨ e ∈ H) : Adv H (fallbackPreferred last k) := by
  unfold fallbackPreferred
  split
  · exact a
  · refine { a with preferred := ?_ }
    intro e he
    cases hk : last with
    | none =>
      simp only [hk, Option.getD_none, Option.some.injEq] at he
      exact Or.inl he.symm
    | some v =>
      simp only [hk, Option.getD_some, Option.some.injEq] at he
      exact he ▸ hl v hk

theorem adv_dropPos {H : List Nat} {k : Caps} (a : Adv H k) : Adv H (dropPosWithoutShape k) := by
  unfold dropPosWithoutShape
  split
  · exact { a with cursorPos := fun h => Bool.noConfusion h }
  · exact a

/-- what a SetEncodings message leaves set is justified by any `H` that holds the new list and
what the reset block does not clear: `extClip` and the encoding in use before -/
theorem adv_setEncodings_of (g : SrvCfg) {H : List Nat} (k : Caps) (encs : List Nat)
    (hs : ∀ e ∈ encs, e ∈ H) (hc : k.extClip = true → rfbEncodingExtendedClipboard ∈ H)
    (hp : ∀ e, k.preferred = some e → e = rfbEncodingRaw ∨ e ∈ H) :
    Adv H (setEncodings g k encs).1 :=
  adv_dropPos (adv_fallbackPreferred (adv_applyEncs g encs (resetCaps k) [] (adv_resetCaps hc) hs)
    k.preferred hp)

/-- **capability invariant**: processing a SetEncodings message keeps every flag justified by the
history extended with the new list -/
theorem adv_setEncodings (g : SrvCfg) {H : List Nat} {k : Caps} (a : Adv H k) (encs : List Nat) :
    Adv (H ++ encs) (setEncodings g k encs).1 :=
  have a' : Adv (H ++ encs) k := a.mono fun _ he => List.mem_append_left _ he
  adv_setEncodings_of g k encs (fun _ he => List.mem_append_right _ he) a'.extClip a'.preferred

/-! ### the CURRENT list: every SetEncodings message resets the flags -/

/-- what survives the reset block: `enableExtendedClipboard` (never reset) and the encoding in use
before the message (`lastPreferredEncoding`, used only if the new list names no pixel encoding) -/
def carry (k : Caps) : List Nat :=
  (if k.extClip then [rfbEncodingExtendedClipboard] else []) ++ k.preferred.toList

/-- after a SetEncodings message every flag is justified by THAT message's list, apart from the two
carried items -/
theorem adv_setEncodings_current (g : SrvCfg) (k : Caps) (encs : List Nat) :
    Adv (encs ++ carry k) (setEncodings g k encs).1 :=
  adv_setEncodings_of g k encs (fun _ he => List.mem_append_left _ he)
    (fun h => by simp [carry, h]) (fun e he => by simp [carry, he])

theorem applyEnc_preferred (g : SrvCfg) (k : Caps) (e : Nat) :
    (applyEnc g k e).1.preferred =
      if isPixelEncoding e && k.preferred.isNone then some e else k.preferred :=
  applyEnc_cases g k e
    (P := fun k' => k'.preferred = if isPixelEncoding e && k.preferred.isNone then some e else k.preferred)
    (copyRect := fun h => by rw [h]; rfl)
    (pixel := fun h => by rw [h, Bool.true_and]; split <;> rfl)
    (xCursor := fun h => by rw [h]; split <;> rfl)
    (richCursor := fun h => by rw [h]; rfl)
    (pointerPos := fun h => by rw [h]; split <;> rfl)
    (lastRect := fun h => by rw [h]; rfl)
    (newFBSize := fun h => by rw [h]; rfl)
    (extDesktop := fun h => by rw [h]; rfl)
    (led := fun h => by rw [h]; rfl)
    (supMsgs := fun h => by rw [h]; rfl)
    (supEncs := fun h => by rw [h]; rfl)
    (identity := fun h => by rw [h]; rfl)
    (extClip := fun h => by rw [h]; rfl)
    (other := fun h => by rw [h]; rfl)

/-- the preferred encoding is always a pixel encoding -/
def PrefPixel (k : Caps) : Prop := ∀ p, k.preferred = some p → isPixelEncoding p = true

theorem prefPixel_applyEnc (g : SrvCfg) (k : Caps) (e : Nat) (h : PrefPixel k) :
    PrefPixel (applyEnc g k e).1 := by
  intro p hp
  rw [applyEnc_preferred] at hp
  split at hp
  · rename_i hpx
    exact Option.some.inj hp ▸ (Bool.and_eq_true_iff.mp hpx).1
  · exact h p hp

theorem prefPixel_applyEncs (g : SrvCfg) :
    ∀ (es : List Nat) (k : Caps) (acc : List Immediate), PrefPixel k → PrefPixel (applyEncs g k es acc).1 := by
  intro es
  induction es with
  | nil => intro k acc h; simpa [applyEncs] using h
  | cons e t ih => intro k acc h; simp only [applyEncs]; exact ih _ _ (prefPixel_applyEnc g k e h)

theorem prefPixel_setEncodings (g : SrvCfg) (k : Caps) (encs : List Nat) (h : PrefPixel k) :
    PrefPixel (setEncodings g k encs).1 := by
  have h0 : PrefPixel (resetCaps k) := by intro p hp; simp [resetCaps] at hp
  have h1 := prefPixel_applyEncs g encs (resetCaps k) [] h0
  unfold setEncodings
  simp only []
  generalize (applyEncs g (resetCaps k) encs []).1 = c1 at h1
  intro p hp
  unfold dropPosWithoutShape at hp
  have hp' : (fallbackPreferred k.preferred c1).preferred = some p := by
    split at hp <;> exact hp
  unfold fallbackPreferred at hp'
  split at hp'
  · exact h1 p hp'
  · simp only [Option.some.injEq] at hp'
    cases hk : k.preferred with
    | none => simp only [hk, Option.getD_none] at hp'; rw [← hp']; decide
    | some v => simp only [hk, Option.getD_some] at hp'; exact hp' ▸ h v hk

theorem mem_carry {k : Caps} {e : Nat} :
    e ∈ carry k ↔ (k.extClip = true ∧ e = rfbEncodingExtendedClipboard) ∨ k.preferred = some e := by
  unfold carry
  cases k.extClip <;> simp [Option.mem_toList]

theorem mem_of_mem_append_carry {k : Caps} {encs : List Nat} {e : Nat} (hpp : PrefPixel k)
    (he : e ∈ encs ++ carry k) (h1 : e ≠ rfbEncodingExtendedClipboard := by decide)
    (h2 : isPixelEncoding e = false := by decide) : e ∈ encs := by
  rcases List.mem_append.mp he with h | h
  · exact h
  · rcases mem_carry.mp h with ⟨_, h⟩ | h
    · exact absurd h h1
    · exact absurd (hpp e h) (by rw [h2]; decide)

end VncModel.Wire
