import VncModel.Wire.PlanLemmas
/-
The announced rectangle count of a FramebufferUpdate versus the rectangles that follow (C03).
-/
namespace VncModel.Wire
open VncModel.Gen.C03

/-- region rectangles are never empty (rfbregion.c keeps only non-empty spans; rfbScaledCorrection
bumps a zero width/height to 1) -/
def Geo.pos (g : Geo) : Prop := 1 ≤ g.w ∧ 1 ≤ g.h

theorem tightCount_false_pos (w h : Nat) : 1 ≤ tightCount false w h := by
  unfold tightCount
  simp only [Bool.false_eq_true, false_and, if_false]
  split
  · exact Nat.mul_pos (Nat.succ_pos _) (Nat.succ_pos _)
  · exact Nat.le_refl _

/-- **count = emission** for one region rectangle, every encoding: whenever the split is
determined by the geometry, the number `rfbSendFramebufferUpdate` adds equals the number of
rectangles the encoder emits -/
theorem countFor_eq_emitted (enc : Nat) (lastRect : Bool) (g : Geo) (l : List Geo) (hp : g.pos)
    (he : emitFor enc lastRect g = some l) : l.length = countFor enc lastRect g := by
  obtain ⟨hw, hh⟩ := hp
  unfold emitFor at he
  unfold countFor
  by_cases h1 : enc = rfbEncodingCoRRE
  · rw [if_pos h1] at he ⊢
    cases he
    exact correSplit_length _ _ (by decide) (by decide) _ _ _ _ _ hw hh (Nat.le_succ _)
  rw [if_neg h1] at he ⊢
  by_cases h2 : enc = rfbEncodingUltra
  · rw [if_pos h2] at he ⊢
    cases he
    exact linesSplit_count _ _ _ _ _ hw hh
  rw [if_neg h2] at he ⊢
  by_cases h3 : enc = rfbEncodingZlib
  · rw [if_pos h3] at he ⊢
    cases he
    exact linesSplit_count _ _ _ _ _ hw hh
  rw [if_neg h3] at he ⊢
  by_cases h4 : enc = rfbEncodingTight ∨ enc = rfbEncodingTightPng
  · rw [if_pos h4] at he ⊢
    split at he
    · cases he
      rw [tightSimpleSplit_length _ _ _ _ hw hh, tightCount_of_simple lastRect _ _ ‹_›]
    · cases he
  · rw [if_neg h4] at he ⊢
    cases he
    rfl

/-- only Tight's count can be 0, and then the emitter searches -/
theorem countFor_pos_of_emit (enc : Nat) (lastRect : Bool) (g : Geo) (l : List Geo)
    (he : emitFor enc lastRect g = some l) : 1 ≤ countFor enc lastRect g := by
  unfold countFor
  split
  · exact Nat.mul_pos (Nat.succ_pos _) (Nat.succ_pos _)
  split
  · exact Nat.succ_pos _
  split
  · exact Nat.succ_pos _
  split
  · rw [emitFor, if_neg ‹_›, if_neg ‹_›, if_neg ‹_›, if_pos ‹_›] at he
    split at he
    · rw [tightCount_of_simple _ _ _ ‹_›]
      exact tightCount_false_pos _ _
    · cases he
  · exact Nat.le_refl _

theorem countFor_tight (enc : Nat) (lastRect : Bool) (g : Geo)
    (ht : enc = rfbEncodingTight ∨ enc = rfbEncodingTightPng) :
    countFor enc lastRect g = tightCount lastRect g.w g.h := by
  rcases ht with rfl | rfl <;> rfl

/-- sum of the per-rectangle counts -/
def sumCounts (enc : Nat) (lastRect : Bool) : List Geo → Nat
  | [] => 0
  | g :: gs => countFor enc lastRect g + sumCounts enc lastRect gs

/-- all splits of the region are determined by the geometry -/
def AllKnown (enc : Nat) (lastRect : Bool) (gs : List Geo) : Prop :=
  ∀ g ∈ gs, g.pos ∧ ∃ l, emitFor enc lastRect g = some l

theorem regionCount_of_pos (enc : Nat) (lastRect : Bool) (gs : List Geo)
    (hk : ∀ g ∈ gs, 1 ≤ countFor enc lastRect g) :
    ∀ acc, regionCount enc lastRect gs acc = acc + sumCounts enc lastRect gs := by
  induction gs with
  | nil => intro acc; rfl
  | cons g t ih =>
    intro acc
    have hpos := hk g List.mem_cons_self
    rw [regionCount, if_neg (fun h => by omega), ih (fun q hq => hk q (List.mem_cons_of_mem _ hq)),
      sumCounts, Nat.add_assoc]

theorem emittedCount_go_of_len (enc : Nat) (lastRect : Bool) (gs : List Geo)
    (hk : ∀ g ∈ gs, ∃ l, emitFor enc lastRect g = some l ∧ l.length = countFor enc lastRect g) :
    ∀ acc, emittedCount.go enc lastRect gs acc = some (acc + sumCounts enc lastRect gs) := by
  induction gs with
  | nil => intro acc; rfl
  | cons g t ih =>
    intro acc
    obtain ⟨l, hl, hlen⟩ := hk g List.mem_cons_self
    simp only [emittedCount.go, hl]
    rw [ih (fun q hq => hk q (List.mem_cons_of_mem _ hq)), hlen, sumCounts, Nat.add_assoc]

theorem regionCount_known (enc : Nat) (lastRect : Bool) (gs : List Geo)
    (hk : AllKnown enc lastRect gs) :
    ∀ acc, regionCount enc lastRect gs acc = acc + sumCounts enc lastRect gs :=
  regionCount_of_pos enc lastRect gs fun g hg =>
    (hk g hg).2.elim fun l hl => countFor_pos_of_emit enc lastRect g l hl

theorem emittedCount_go_known (enc : Nat) (lastRect : Bool) (gs : List Geo)
    (hk : AllKnown enc lastRect gs) :
    ∀ acc, emittedCount.go enc lastRect gs acc = some (acc + sumCounts enc lastRect gs) :=
  emittedCount_go_of_len enc lastRect gs fun g hg =>
    (hk g hg).2.elim fun l hl => ⟨l, hl, countFor_eq_emitted enc lastRect g l (hk g hg).1 hl⟩

/-- the Tight planning loop `break`s with 0xFFFF at the first rectangle whose count is unknown -/
theorem regionCount_sentinel (enc : Nat) (lastRect : Bool) (gs : List Geo)
    (ht : enc = rfbEncodingTight ∨ enc = rfbEncodingTightPng)
    (hex : ∃ g ∈ gs, countFor enc lastRect g = 0) :
    ∀ acc, regionCount enc lastRect gs acc = nRectsSentinel := by
  induction gs with
  | nil => obtain ⟨g, hg, _⟩ := hex; simp at hg
  | cons g t ih =>
    intro acc
    unfold regionCount
    by_cases h0 : countFor enc lastRect g = 0
    · rw [if_pos ⟨ht, h0⟩]
    · rw [if_neg (fun h => h0 h.2)]
      obtain ⟨q, hq, hq0⟩ := hex
      simp only [List.mem_cons] at hq
      rcases hq with rfl | hq
      · exact absurd hq0 h0
      · exact ih ⟨q, hq, hq0⟩ _

theorem sumCounts_raw (lastRect : Bool) (gs : List Geo) :
    sumCounts rfbEncodingRaw lastRect gs = gs.length := by
  induction gs with
  | nil => rfl
  | cons g t ih => rw [sumCounts, ih, List.length_cons, Nat.add_comm]; rfl

theorem regionCount_raw (lastRect : Bool) (gs : List Geo) (acc : Nat) :
    regionCount rfbEncodingRaw lastRect gs acc = acc + gs.length :=
  (regionCount_of_pos rfbEncodingRaw lastRect gs (fun _ _ => Nat.le_refl 1) acc).trans (by rw [sumCounts_raw])

theorem emittedCount_go_raw (lastRect : Bool) (gs : List Geo) (acc : Nat) :
    emittedCount.go rfbEncodingRaw lastRect gs acc = some (acc + gs.length) :=
  (emittedCount_go_of_len rfbEncodingRaw lastRect gs (fun g _ => ⟨[g], rfl, rfl⟩) acc).trans (by rw [sumCounts_raw])

end VncModel.Wire
