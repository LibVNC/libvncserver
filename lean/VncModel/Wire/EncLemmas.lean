import VncModel.Wire.ParseLemmas
/-
Which rectangles are well-formed for the strict parser (C03): for every encoding whose layout is a
fixed function of the header and of counts/length fields, the natural description of the payload
satisfies `RectWF`.  (Hextile's tile walk and Tight's control-byte grammar are covered by the generic
round-trip theorem only: their `RectWF` is the parser's own walk.)
-/
namespace VncModel.Wire
open VncModel.Gen.C03

variable (c : PCtx) (x y w h : Nat)

theorem rectWF_raw (hx : x < 65536) (hy : y < 65536) (hw : w < 65536) (hh : h < 65536) (p : Bytes)
    (hp : p.length = w * h * c.bpp) : RectWF c ⟨⟨x, y, w, h, rfbEncodingRaw⟩, p⟩ :=
  ⟨⟨hx, hy, hw, hh, by dsimp only; decide⟩, fun rest => by simp +decide only [payloadLen, ↓reduceIte, hp]⟩

theorem rectWF_copyRect (hx : x < 65536) (hy : y < 65536) (hw : w < 65536) (hh : h < 65536)
    (sx sy : Nat) : RectWF c ⟨⟨x, y, w, h, rfbEncodingCopyRect⟩, be16 sx ++ be16 sy⟩ :=
  ⟨⟨hx, hy, hw, hh, by dsimp only; decide⟩, fun rest => by
    simp +decide only [payloadLen, ↓reduceIte]; rfl⟩

/-- RRE: `nSubrects`, background pixel, `nSubrects` × (pixel + x y w h as 16-bit) -/
theorem rectWF_rre (hx : x < 65536) (hy : y < 65536) (hw : w < 65536) (hh : h < 65536)
    (n : Nat) (hn : n < 4294967296) (bg subs : Bytes) (hbg : bg.length = c.bpp)
    (hs : subs.length = n * (c.bpp + 8)) :
    RectWF c ⟨⟨x, y, w, h, rfbEncodingRRE⟩, be32 n ++ (bg ++ subs)⟩ :=
  ⟨⟨hx, hy, hw, hh, by dsimp only; decide⟩, fun rest => by
    simp +decide only [payloadLen, ↓reduceIte, List.append_assoc, rd32_be32 n hn, List.length_append,
      be32_length, hbg, hs, sz_rfbRREHeader, sz_rfbRectangle, Nat.add_assoc]⟩

/-- CoRRE: like RRE with 8-bit sub-rectangle coordinates -/
theorem rectWF_corre (hx : x < 65536) (hy : y < 65536) (hw : w < 65536) (hh : h < 65536)
    (n : Nat) (hn : n < 4294967296) (bg subs : Bytes) (hbg : bg.length = c.bpp)
    (hs : subs.length = n * (c.bpp + 4)) :
    RectWF c ⟨⟨x, y, w, h, rfbEncodingCoRRE⟩, be32 n ++ (bg ++ subs)⟩ :=
  ⟨⟨hx, hy, hw, hh, by dsimp only; decide⟩, fun rest => by
    simp +decide only [payloadLen, ↓reduceIte, List.append_assoc, rd32_be32 n hn, List.length_append,
      be32_length, hbg, hs, sz_rfbRREHeader, sz_rfbCoRRERectangle, Nat.add_assoc]⟩

/-- Zlib, ZRLE, ZYWRLE, Ultra: a 32-bit byte count and that many bytes -/
theorem rectWF_lenPrefixed (hx : x < 65536) (hy : y < 65536) (hw : w < 65536) (hh : h < 65536)
    (enc : Nat) (he : enc = rfbEncodingZlib ∨ enc = rfbEncodingZRLE ∨ enc = rfbEncodingZYWRLE ∨
      enc = rfbEncodingUltra) (n : Nat) (hn : n < 4294967296) (d : Bytes) (hd : d.length = n) :
    RectWF c ⟨⟨x, y, w, h, enc⟩, be32 n ++ d⟩ :=
  ⟨⟨hx, hy, hw, hh, by dsimp only; rcases he with rfl | rfl | rfl | rfl <;> decide⟩, fun rest => by
    rcases he with rfl | rfl | rfl | rfl <;>
      simp +decide only [payloadLen, ↓reduceIte, lenPrefixed, List.append_assoc, rd32_be32 n hn,
        List.length_append, be32_length, hd]⟩

/-- pseudo-rectangles without payload: PointerPos, LastRect, NewFBSize, KeyboardLedState -/
theorem rectWF_empty (hx : x < 65536) (hy : y < 65536) (hw : w < 65536) (hh : h < 65536) (enc : Nat)
    (he : enc = rfbEncodingPointerPos ∨ enc = rfbEncodingLastRect ∨ enc = rfbEncodingNewFBSize ∨
      enc = rfbEncodingKeyboardLedState) : RectWF c ⟨⟨x, y, w, h, enc⟩, []⟩ :=
  ⟨⟨hx, hy, hw, hh, by dsimp only; rcases he with rfl | rfl | rfl | rfl <;> decide⟩, fun rest => by
    rcases he with rfl | rfl | rfl | rfl <;> simp +decide only [payloadLen, ↓reduceIte, List.length_nil]⟩

/-- RichCursor: `w*h` pixels in the client's format followed by the 1-bit mask -/
theorem rectWF_richCursor (hx : x < 65536) (hy : y < 65536) (hw : w < 65536) (hh : h < 65536)
    (hpos : w * h ≠ 0) (pix mask : Bytes) (hpx : pix.length = w * h * c.bpp)
    (hm : mask.length = (w + 7) / 8 * h) :
    RectWF c ⟨⟨x, y, w, h, rfbEncodingRichCursor⟩, pix ++ mask⟩ :=
  ⟨⟨hx, hy, hw, hh, by dsimp only; decide⟩, fun rest => by
    simp +decide only [payloadLen, ↓reduceIte, hpos, List.length_append, hpx, hm]⟩

/-- XCursor: two RGB colours, bitmap and mask of `(w+7)/8*h` bytes each -/
theorem rectWF_xCursor (hx : x < 65536) (hy : y < 65536) (hw : w < 65536) (hh : h < 65536)
    (hpos : w * h ≠ 0) (cols bits mask : Bytes) (hc : cols.length = 6)
    (hb : bits.length = (w + 7) / 8 * h) (hm : mask.length = (w + 7) / 8 * h) :
    RectWF c ⟨⟨x, y, w, h, rfbEncodingXCursor⟩, cols ++ (bits ++ mask)⟩ :=
  ⟨⟨hx, hy, hw, hh, by dsimp only; decide⟩, fun rest => by
    simp +decide only [payloadLen, ↓reduceIte, hpos, List.length_append, hc, hb, hm, sz_rfbXCursorColors,
      Nat.two_mul]⟩

/-- the empty cursor (`w*h = 0`) has no payload in either cursor encoding -/
theorem rectWF_emptyCursor (hx : x < 65536) (hy : y < 65536) (enc : Nat)
    (he : enc = rfbEncodingXCursor ∨ enc = rfbEncodingRichCursor) :
    RectWF c ⟨⟨x, y, 0, 0, enc⟩, []⟩ :=
  ⟨⟨hx, hy, by dsimp only; decide, by dsimp only; decide, by dsimp only; rcases he with rfl | rfl <;> decide⟩, fun rest => by
    rcases he with rfl | rfl <;> simp +decide only [payloadLen, ↓reduceIte, List.length_nil]⟩

theorem payloadLen_tight (bs : Bytes) :
    payloadLen c ⟨x, y, w, h, rfbEncodingTight⟩ bs = tightLen c false w h bs := by
  simp +decide only [payloadLen, ↓reduceIte]

/-- Tight "fill" sub-encoding: control byte 0x8_ and one pixel -/
theorem rectWF_tightFill (hx : x < 65536) (hy : y < 65536) (hw : w < 65536) (hh : h < 65536)
    (lo : Nat) (hlo : lo < 16) (pix : Bytes) (hp : pix.length = tightPix c) :
    RectWF c ⟨⟨x, y, w, h, rfbEncodingTight⟩, UInt8.ofNat (rfbTightFill * 16 + lo) :: pix⟩ :=
  ⟨⟨hx, hy, hw, hh, by dsimp only; decide⟩, fun rest => by
    have hctl : (UInt8.ofNat (rfbTightFill * 16 + lo)).toNat / 16 = rfbTightFill := by
      have h8 : rfbTightFill = 8 := rfl
      rw [h8, toNat_ofNat_lt (8 * 16 + lo) (by omega)]
      omega
    rw [payloadLen_tight]
    simp only [List.cons_append, tightLen, hctl, if_true, List.length_cons, hp]
    congr 1
    omega⟩

/-- the strict parser reads back every length the C writer can produce (22 bits) -/
theorem compactLen_encCompact (n : Nat) (hn : n < 4194304) (rest : Bytes) :
    compactLen (encCompact n ++ rest) = some (n, (encCompact n).length) := by
  have t2 : compactTwoFrom = 128 := rfl
  have t3 : compactThreeFrom = 16384 := rfl
  have d0 : n % 128 < 128 := Nat.mod_lt _ (by decide)
  have d1 : n / 128 % 128 < 128 := Nat.mod_lt _ (by decide)
  have last (d : Nat) (hd : d < 128) : (UInt8.ofNat d).toNat = d :=
    toNat_ofNat_lt d (Nat.lt_trans hd (by decide))
  have more (d : Nat) (hd : d < 128) : (UInt8.ofNat (d + 128)).toNat = d + 128 :=
    toNat_ofNat_lt _ (Nat.add_lt_add_right hd 128)
  have topBit (d : Nat) : ¬ d + 128 < 128 := Nat.not_lt.mpr (Nat.le_add_left _ _)
  have low7 (d : Nat) (hd : d < 128) : (d + 128) % 128 = d := by
    rw [Nat.add_mod_right, Nat.mod_eq_of_lt hd]
  unfold encCompact
  rw [t2, t3]
  by_cases h1 : n < 128
  · rw [if_pos h1, Nat.mod_eq_of_lt h1]
    simp only [List.cons_append, List.nil_append, compactLen, last n h1, h1, if_true, List.length_cons,
      List.length_nil]
  rw [if_neg h1]
  by_cases h2 : n < 16384
  · rw [if_pos h2]
    have hq : n / 128 < 128 := Nat.div_lt_of_lt_mul h2
    simp only [List.cons_append, List.nil_append, compactLen, more _ d0, topBit, if_false,
      Nat.mod_eq_of_lt hq, last _ hq, hq, if_true, low7 _ d0, List.length_cons, List.length_nil,
      Nat.mod_add_div]
  rw [if_neg h2]
  have d2 : n / 16384 < 256 := Nat.div_lt_of_lt_mul hn
  have digits : n % 128 + 128 * (n / 128 % 128) + 16384 * (n / 16384) = n := by omega
  simp only [List.cons_append, List.nil_append, compactLen, more _ d0, more _ d1, topBit, if_false,
    low7 _ d0, low7 _ d1, Nat.mod_eq_of_lt d2, toNat_ofNat_lt _ d2, digits, List.length_cons,
    List.length_nil]

end VncModel.Wire
