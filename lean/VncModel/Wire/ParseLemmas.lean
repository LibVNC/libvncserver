import VncModel.Wire.Parse
/-
parse ∘ serialise = id for the strict parser (C03): every length the parser derives from a
header / count / length field is exactly the number of bytes the serialiser wrote.
-/
namespace VncModel.Wire
open VncModel.Gen.C03

structure HdrWF (hd : RectHdr) : Prop where
  x : hd.x < 65536
  y : hd.y < 65536
  w : hd.w < 65536
  h : hd.h < 65536
  enc : hd.enc < 4294967296

/-- a rectangle whose payload is exactly as long as the length rule of its encoding says,
whatever follows it on the wire -/
structure RectWF (c : PCtx) (r : Rect) : Prop where
  hdr : HdrWF r.hdr
  len : ∀ rest : Bytes, payloadLen c r.hdr (r.payload ++ rest) = some r.payload.length

theorem serHdr_length (h : RectHdr) : (serHdr h).length = 12 := by
  simp [serHdr, be16, be32]

theorem rdHdr_serHdr (h : RectHdr) (wf : HdrWF h) (rest : Bytes) :
    rdHdr (serHdr h ++ rest) = some (h, rest) := by
  simp only [rdHdr, serHdr, List.append_assoc, rd16_be16 _ wf.x, rd16_be16 _ wf.y, rd16_be16 _ wf.w,
    rd16_be16 _ wf.h, rd32_be32 _ wf.enc, Option.bind_eq_bind, Option.bind_some, Option.pure_def]

theorem parseRect_serRect (c : PCtx) (r : Rect) (wf : RectWF c r) (rest : Bytes) :
    parseRect c (serRect r ++ rest) = some (r, rest) := by
  simp only [parseRect, serRect, List.append_assoc, rdHdr_serHdr _ wf.hdr, wf.len rest,
    takeN_append _ _ _ rfl, Option.bind_eq_bind, Option.bind_some, Option.pure_def]

theorem serRects_cons (r : Rect) (rs : List Rect) : serRects (r :: rs) = serRect r ++ serRects rs := by
  simp [serRects]

theorem parseRectsN_ser (c : PCtx) (rs : List Rect)
    (hwf : ∀ r ∈ rs, RectWF c r ∧ r.hdr.enc ≠ rfbEncodingLastRect) (rest : Bytes) :
    parseRectsN c rs.length (serRects rs ++ rest) = some (rs, rest) := by
  induction rs with
  | nil => rfl
  | cons r t ih =>
    have hr := hwf r List.mem_cons_self
    rw [List.length_cons, parseRectsN, serRects_cons, List.append_assoc, parseRect_serRect c r hr.1]
    simp only [hr.2, if_false, ih fun q hq => hwf q (List.mem_cons_of_mem _ hq)]

theorem parseRectsUntilLast_ser (c : PCtx) (rs : List Rect) (last : Rect)
    (hwf : ∀ r ∈ rs, RectWF c r ∧ r.hdr.enc ≠ rfbEncodingLastRect)
    (hl : RectWF c last) (hle : last.hdr.enc = rfbEncodingLastRect) (rest : Bytes) :
    ∀ fuel, rs.length < fuel →
      parseRectsUntilLast c fuel (serRects (rs ++ [last]) ++ rest) = some (rs ++ [last], rest) := by
  induction rs with
  | nil =>
    intro fuel hf
    obtain ⟨f, rfl⟩ := Nat.exists_eq_add_one_of_ne_zero (Nat.ne_of_gt hf)
    rw [List.nil_append, serRects_cons, List.append_assoc, parseRectsUntilLast,
      parseRect_serRect c last hl]
    simp only [hle, if_true]
    rfl
  | cons r t ih =>
    intro fuel hf
    obtain ⟨f, rfl⟩ := Nat.exists_eq_add_one_of_ne_zero (Nat.ne_of_gt (Nat.lt_of_le_of_lt (Nat.zero_le _) hf))
    have hr := hwf r List.mem_cons_self
    rw [List.cons_append, serRects_cons, List.append_assoc, parseRectsUntilLast,
      parseRect_serRect c r hr.1]
    simp only [hr.2, if_false,
      ih (fun q hq => hwf q (List.mem_cons_of_mem _ hq)) f (Nat.lt_of_succ_lt_succ hf)]

theorem serRect_length_ge (r : Rect) : 12 ≤ (serRect r).length := by
  simp [serRect, serHdr_length]

theorem serRects_length_ge (rs : List Rect) : 12 * rs.length ≤ (serRects rs).length := by
  induction rs with
  | nil => simp [serRects]
  | cons r t ih =>
    rw [serRects_cons, List.length_append, List.length_cons]
    have := serRect_length_ge r
    omega

/-- well-formed messages: exactly the ones the serialiser/parser pair is a bijection on -/
inductive MsgWF (c : PCtx) : ServerMsg → Prop where
  | fbuCounted (pad n : Nat) (rs : List Rect) (hp : pad < 256) (hn : n < 65536)
      (hlen : rs.length = n) (hopen : ¬ (c.lastRect = true ∧ n = nRectsSentinel))
      (hwf : ∀ r ∈ rs, RectWF c r ∧ r.hdr.enc ≠ rfbEncodingLastRect) : MsgWF c (.fbu pad n rs)
  | fbuOpen (pad : Nat) (rs : List Rect) (last : Rect) (hp : pad < 256) (hl : c.lastRect = true)
      (hwf : ∀ r ∈ rs, RectWF c r ∧ r.hdr.enc ≠ rfbEncodingLastRect)
      (hlast : RectWF c last) (hle : last.hdr.enc = rfbEncodingLastRect) :
      MsgWF c (.fbu pad nRectsSentinel (rs ++ [last]))
  | colourMap (pad first n : Nat) (d : Bytes) (hp : pad < 256) (hf : first < 65536) (hn : n < 65536)
      (hd : d.length = 6 * n) : MsgWF c (.colourMap pad first n d)
  | bell : MsgWF c .bell
  | cutText (pad : Bytes) (len : Nat) (d : Bytes) (hp : pad.length = 3) (hl : len < 4294967296)
      (hd : d.length = cutTextDataLen len) : MsgWF c (.cutText pad len d)
  | resizeFB (pad w h : Nat) (hp : pad < 256) (hw : w < 65536) (hh : h < 65536) : MsgWF c (.resizeFB pad w h)
  | palmResize (p1 dw dh bw bh p2 : Nat) (h1 : p1 < 256) (h2 : dw < 65536) (h3 : dh < 65536)
      (h4 : bw < 65536) (h5 : bh < 65536) (h6 : p2 < 65536) : MsgWF c (.palmResize p1 dw dh bw bh p2)
  | xvp (pad v cd : Nat) (hp : pad < 256) (hv : v < 256) (hc : cd < 256) : MsgWF c (.xvp pad v cd)
  | textChat (pad : Bytes) (len : Nat) (d : Bytes) (hp : pad.length = 3) (hl : len < 4294967296)
      (hd : d.length = textChatDataLen len) : MsgWF c (.textChat pad len d)

theorem toNat_ofNat_lt (n : Nat) (h : n < 256) : (UInt8.ofNat n).toNat = n := by
  simp [UInt8.toNat_ofNat]; omega

theorem rd8_ofNat (n : Nat) (h : n < 256) (r : Bytes) : rd8 (UInt8.ofNat n :: r) = some (n, r) := by
  simp [rd8, toNat_ofNat_lt n h]

theorem parseMsg_serMsg (c : PCtx) (m : ServerMsg) (wf : MsgWF c m) (rest : Bytes) :
    parseMsg c (serMsg m ++ rest) = some (m, rest) := by
  -- the type byte selects the parser's branch by evaluation …
  cases wf <;>
    simp +decide only [serMsg, parseMsg, List.cons_append, List.nil_append, List.append_assoc, ↓reduceIte,
      Option.bind_eq_bind, Option.pure_def]
  -- … and each field read is the round trip of the field written
  case fbuCounted pad n rs hp hn hlen hopen hwf =>
    subst hlen
    simp only [rd8_ofNat _ hp, rd16_be16 _ hn, hopen, parseRectsN_ser c rs hwf, Option.bind_some, if_false]
  case fbuOpen pad rs last hp hl hwf hlast hle =>
    have hfuel : rs.length < (serRects (rs ++ [last]) ++ rest).length / sz_rfbFramebufferUpdateRectHeader + 1 := by
      have h1 := serRects_length_ge (rs ++ [last])
      have h2 : sz_rfbFramebufferUpdateRectHeader = 12 := rfl
      rw [List.length_append, List.length_singleton] at h1
      rw [h2, List.length_append, Nat.lt_succ_iff, Nat.le_div_iff_mul_le (by decide)]
      omega
    simp only [rd8_ofNat _ hp, rd16_be16 nRectsSentinel (by decide), hl, true_and, if_true,
      parseRectsUntilLast_ser c rs last hwf hlast hle rest _ hfuel, Option.bind_some]
  case colourMap pad first n d hp hf hn hd =>
    simp only [rd8_ofNat _ hp, rd16_be16 _ hf, rd16_be16 _ hn, takeN_append d rest _ hd, Option.bind_some]
  case cutText pad len d hp hl hd =>
    simp only [takeN_append pad _ 3 hp, rd32_be32 _ hl, takeN_append d rest _ hd, Option.bind_some]
  case resizeFB pad w h hp hw hh =>
    simp only [rd8_ofNat _ hp, rd16_be16 _ hw, rd16_be16 _ hh, Option.bind_some]
  case palmResize p1 dw dh bw bh p2 h1 h2 h3 h4 h5 h6 =>
    simp only [rd8_ofNat _ h1, rd16_be16 _ h2, rd16_be16 _ h3, rd16_be16 _ h4, rd16_be16 _ h5,
      rd16_be16 _ h6, Option.bind_some]
  case xvp pad v cd hp hv hc =>
    simp only [rd8_ofNat _ hp, rd8_ofNat _ hv, rd8_ofNat _ hc, Option.bind_some]
  case textChat pad len d hp hl hd =>
    simp only [takeN_append pad _ 3 hp, rd32_be32 _ hl, takeN_append d rest _ hd, Option.bind_some]

theorem serMsg_cons (m : ServerMsg) : ∃ b r, serMsg m = b :: r := by
  cases m <;> exact ⟨_, _, rfl⟩

theorem serMsgs_cons (m : ServerMsg) (ms : List ServerMsg) : serMsgs (m :: ms) = serMsg m ++ serMsgs ms :=
  List.flatMap_cons

theorem serMsgs_length_ge (ms : List ServerMsg) : ms.length ≤ (serMsgs ms).length := by
  induction ms with
  | nil => exact Nat.le_refl 0
  | cons m t ih =>
    obtain ⟨b, r, h⟩ := serMsg_cons m
    rw [serMsgs_cons, h, List.length_append, List.length_cons, List.length_cons]
    omega

theorem parseAllAux_ser (c : PCtx) (ms : List ServerMsg) (hwf : ∀ m ∈ ms, MsgWF c m) :
    ∀ (fuel off : Nat) (acc : List ServerMsg), ms.length ≤ fuel →
      parseAllAux c fuel (serMsgs ms) off acc = .ok (acc.reverse ++ ms) := by
  induction ms with
  | nil =>
    intro fuel off acc _
    cases fuel <;> simp [parseAllAux, serMsgs]
  | cons m t ih =>
    intro fuel off acc hf
    cases fuel with
    | zero => exact absurd hf (Nat.not_succ_le_zero _)
    | succ f =>
      obtain ⟨b, r, h⟩ := serMsg_cons m
      have hne : (serMsgs (m :: t)).isEmpty = false := by rw [serMsgs_cons, h]; rfl
      simp only [parseAllAux, hne]
      rw [serMsgs_cons, parseMsg_serMsg c m (hwf m List.mem_cons_self)]
      simp only [Bool.false_eq_true, if_false]
      rw [ih (fun q hq => hwf q (List.mem_cons_of_mem _ hq)) f _ (m :: acc) (Nat.le_of_succ_le_succ hf)]
      simp

/-- **parse ∘ serialise = id** on streams of well-formed messages -/
theorem parseServer_serMsgs (c : PCtx) (ms : List ServerMsg) (hwf : ∀ m ∈ ms, MsgWF c m) :
    parseServer c (serMsgs ms) = some ms := by
  unfold parseServer parseAll
  rw [parseAllAux_ser c ms hwf (serMsgs ms).length 0 [] (serMsgs_length_ge ms)]
  simp

end VncModel.Wire
