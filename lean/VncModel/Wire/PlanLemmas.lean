import VncModel.Wire.Plan
/-
Lemmas about the planning model (C03): the count expressions of `rfbSendFramebufferUpdate` equal
the number of rectangles the encoders' splitting code emits, and the emitted rectangles tile the
rectangle they come from.
-/
namespace VncModel.Wire
open VncModel.Gen.C03

theorem div_step (n m : Nat) (hm : 0 < m) (h : m < n) : (n - 1) / m = (n - m - 1) / m + 1 := by
  have : n - 1 = (n - m - 1) + m := by omega
  rw [this, Nat.add_div_right _ hm]

theorem div_small (n m : Nat) (h : n ≤ m) : (n - 1) / m = 0 := by
  rcases Nat.eq_zero_or_pos m with rfl | hm
  · simp
  · exact Nat.div_eq_of_lt (by omega)

/-- `MAX_SIZE(w) / w` is never 0 for a non-empty rectangle: the division in the count expression
and the loop of the encoder are safe and the loop makes progress. -/
theorem maxLines_ge_two (R w : Nat) (hw : 1 ≤ w) : 2 ≤ maxLines R w := by
  unfold maxLines maxSize
  split
  · rw [Nat.le_div_iff_mul_le (by omega)]
    omega
  · rename_i h
    rw [Nat.le_div_iff_mul_le (by omega)]
    omega

theorem linesSplit_length (ml : Nat) (hml : 1 ≤ ml) :
    ∀ (fuel x y w rem : Nat), rem ≤ fuel →
      (linesSplit ml fuel x y w rem).length = if rem = 0 then 0 else (rem - 1) / ml + 1 := by
  intro fuel
  induction fuel with
  | zero => intro x y w rem h; rw [Nat.le_zero.mp h]; rfl
  | succ f ih =>
    intro x y w rem h
    rw [linesSplit]
    split
    · have hne : rem ≠ 0 := by omega
      dsimp only
      rw [List.length_cons, if_neg hne]
      by_cases hlt : ml < rem
      · rw [if_pos hlt, ih _ _ _ _ (by omega), if_neg (by omega), div_step rem ml hml hlt]
      · rw [if_neg hlt, ih _ _ _ _ (by omega), Nat.sub_self, if_pos rfl, div_small rem ml (by omega)]
    · rw [if_pos (by omega)]; rfl

theorem linesSplit_count (R x y w h : Nat) (hw : 1 ≤ w) (hh : 1 ≤ h) :
    (linesSplit (maxLines R w) h x y w h).length = linesCount R w h :=
  (linesSplit_length _ (Nat.le_of_succ_le (maxLines_ge_two R w hw)) _ _ _ _ _ (Nat.le_refl _)).trans
    (if_neg (Nat.ne_of_gt hh))

theorem linesSplit_inside (ml : Nat) :
    ∀ (fuel x y w rem : Nat) (g : Geo), g ∈ linesSplit ml fuel x y w rem →
      g.x = x ∧ g.w = w ∧ y ≤ g.y ∧ g.y + g.h ≤ y + rem := by
  intro fuel
  induction fuel with
  | zero => intro x y w rem g h; cases h
  | succ f ih =>
    intro x y w rem g h
    rw [linesSplit] at h
    split at h
    · rcases List.mem_cons.mp h with rfl | h
      · dsimp only; split <;> omega
      · have := ih _ _ _ _ _ h
        split at this <;> omega
    · cases h

theorem correSplit_length (mw mh : Nat) (hmw : 1 ≤ mw) (hmh : 1 ≤ mh) :
    ∀ (fuel x y w h : Nat), 1 ≤ w → 1 ≤ h → w + h ≤ fuel →
      (correSplit mw mh fuel x y w h).length = correCount mw mh w h := by
  intro fuel
  induction fuel with
  | zero => intro x y w h hw hh hf; omega
  | succ f ih =>
    intro x y w h hw hh hf
    unfold correCount
    rw [correSplit]
    by_cases h1 : h > mh
    · rw [if_pos h1, List.length_append, ih x y w mh hw hmh (by omega),
        ih x (y + mh) w (h - mh) hw (by omega) (by omega), correCount, correCount,
        div_small mh mh (Nat.le_refl _), div_step h mh hmh h1, Nat.mul_add _ (_ + 1) 1, Nat.add_comm]
    rw [if_neg h1, div_small h mh (by omega)]
    by_cases h2 : w > mw
    · rw [if_pos h2, List.length_append, ih x y mw h hmw hh (by omega),
        ih (x + mw) y (w - mw) h (by omega) hh (by omega), correCount, correCount,
        div_small h mh (by omega), div_small mw mw (Nat.le_refl _), div_step w mw hmw h2]
      omega
    · rw [if_neg h2, div_small w mw (by omega)]
      rfl

theorem correSplit_inside (mw mh : Nat) :
    ∀ (fuel x y w h : Nat) (g : Geo), g ∈ correSplit mw mh fuel x y w h →
      x ≤ g.x ∧ g.x + g.w ≤ x + w ∧ y ≤ g.y ∧ g.y + g.h ≤ y + h := by
  intro fuel
  induction fuel with
  | zero => intro x y w h g hg; cases hg
  | succ f ih =>
    intro x y w h g hg
    rw [correSplit] at hg
    split at hg
    · rcases List.mem_append.mp hg with hg | hg <;> have := ih _ _ _ _ _ hg <;> omega
    split at hg
    · rcases List.mem_append.mp hg with hg | hg <;> have := ih _ _ _ _ _ hg <;> omega
    · rw [List.mem_singleton.mp hg]
      exact ⟨Nat.le_refl _, Nat.le_refl _, Nat.le_refl _, Nat.le_refl _⟩

/-! ### Tight (no solid-area search) -/

theorem loopVals_length (st n : Nat) (hst : 1 ≤ st) :
    ∀ (fuel d : Nat), n ≤ d + fuel →
      (loopVals st n fuel d).length = if d < n then (n - d - 1) / st + 1 else 0 := by
  intro fuel
  induction fuel with
  | zero => intro d h; rw [if_neg (by omega)]; rfl
  | succ f ih =>
    intro d h
    rw [loopVals]
    by_cases hd : d < n
    · rw [if_pos hd, if_pos hd, List.length_cons, ih (d + st) (by omega)]
      by_cases hd2 : d + st < n
      · rw [if_pos hd2, show n - d - 1 = (n - (d + st) - 1) + st by omega, Nat.add_div_right _ hst]
      · rw [if_neg hd2, Nat.div_eq_of_lt (by omega)]
    · rw [if_neg hd, if_neg hd]; rfl

theorem loopVals_lt (st n : Nat) :
    ∀ (fuel d v : Nat), v ∈ loopVals st n fuel d → d ≤ v ∧ v < n := by
  intro fuel
  induction fuel with
  | zero => intro d v h; cases h
  | succ f ih =>
    intro d v h
    rw [loopVals] at h
    split at h
    · rcases List.mem_cons.mp h with rfl | h
      · omega
      · have := ih _ _ h; omega
    · cases h

theorem length_flatMap_const {α β : Type} (l : List α) (f : α → List β) (k : Nat)
    (h : ∀ a ∈ l, (f a).length = k) : (l.flatMap f).length = l.length * k := by
  induction l with
  | nil => simp
  | cons a t ih =>
    simp only [List.flatMap_cons, List.length_append, List.length_cons]
    rw [h a (by simp), ih (fun b hb => h b (by simp [hb]))]
    rw [Nat.add_mul, Nat.one_mul, Nat.add_comm]

/-- the sub-rectangle height bound used by Tight is positive for the generated constants -/
theorem tight_smh_pos (smw : Nat) (h1 : 1 ≤ smw) (h2 : smw ≤ TIGHT_MAX_RECT_WIDTH) :
    1 ≤ TIGHT_MAX_RECT_SIZE / smw := by
  rw [Nat.le_div_iff_mul_le (by omega)]
  have : TIGHT_MAX_RECT_WIDTH ≤ TIGHT_MAX_RECT_SIZE := by decide
  omega

theorem tightSimpleSplit_length (x y w h : Nat) (hw : 1 ≤ w) (hh : 1 ≤ h) :
    (tightSimpleSplit x y w h).length = tightCount false w h := by
  unfold tightSimpleSplit tightCount
  have hW : 1 ≤ TIGHT_MAX_RECT_WIDTH := by decide
  by_cases hc : w > TIGHT_MAX_RECT_WIDTH ∨ w * h > TIGHT_MAX_RECT_SIZE
  · simp only [hc, if_true]
    have hsmw1 : 1 ≤ (if w > TIGHT_MAX_RECT_WIDTH then TIGHT_MAX_RECT_WIDTH else w) := by
      split <;> omega
    have hsmw2 : (if w > TIGHT_MAX_RECT_WIDTH then TIGHT_MAX_RECT_WIDTH else w) ≤ TIGHT_MAX_RECT_WIDTH := by
      split <;> omega
    have hsmh := tight_smh_pos _ hsmw1 hsmw2
    generalize (TIGHT_MAX_RECT_SIZE / (if w > TIGHT_MAX_RECT_WIDTH then TIGHT_MAX_RECT_WIDTH else w)) = smh at *
    rw [length_flatMap_const _ _ ((w - 1) / TIGHT_MAX_RECT_WIDTH + 1)]
    · rw [loopVals_length smh h hsmh h 0 (by omega)]
      have : (0 : Nat) < h := by omega
      simp only [this, if_true, Nat.sub_zero]
      simp
      exact Nat.mul_comm _ _
    · intro dy _
      rw [List.length_map, loopVals_length TIGHT_MAX_RECT_WIDTH w hW w 0 (by omega)]
      have : (0 : Nat) < w := by omega
      simp [this]
  · simp [hc]

theorem tightCount_of_simple (lastRect : Bool) (w h : Nat) (hs : tightIsSimple lastRect w h = true) :
    tightCount lastRect w h = tightCount false w h := by
  unfold tightIsSimple at hs
  unfold tightCount
  cases lastRect with
  | false => rfl
  | true =>
    simp only [Bool.not_true, Bool.false_or, decide_eq_true_eq] at hs
    have hn : ¬ (MIN_SPLIT_RECT_SIZE ≤ w * h) := by omega
    simp [hn]

theorem tightCount_eq_zero_iff (lastRect : Bool) (w h : Nat) :
    tightCount lastRect w h = 0 ↔ lastRect = true ∧ w * h ≥ MIN_SPLIT_RECT_SIZE := by
  unfold tightCount
  split
  · exact ⟨fun _ => ‹_›, fun _ => rfl⟩
  · refine ⟨fun h0 => ?_, fun hc => absurd hc ‹_›⟩
    split at h0
    · exact absurd h0 (Nat.mul_ne_zero (Nat.succ_ne_zero _) (Nat.succ_ne_zero _))
    · cases h0

end VncModel.Wire
