import VncModel.Wire.Session
import VncModel.Wire.CapsLemmas
import VncModel.Wire.PlanLemmas
/-
Lemmas about the session model (C03): ServerInit round trip, "only advertised encodings" for the
predicted update, emitted rectangles stay inside their region rectangle.
-/
namespace VncModel.Wire
open VncModel.Gen.C03

theorem parseServerInit_ser (si : ServerInit) (hw : si.w < 65536) (hh : si.h < 65536)
    (hpf : si.pf.length = sz_rfbPixelFormat) (hn : si.name.length < 4294967296) (rest : Bytes) :
    parseServerInit (serServerInit si ++ rest) = some (si, rest) := by
  simp only [parseServerInit, serServerInit, List.append_assoc, rd16_be16 _ hw, rd16_be16 _ hh,
    takeN_append _ _ _ hpf, rd32_be32 _ hn, takeN_append _ _ _ rfl]

def Geo.inside (q g : Geo) : Prop :=
  g.x ≤ q.x ∧ q.x + q.w ≤ g.x + g.w ∧ g.y ≤ q.y ∧ q.y + q.h ≤ g.y + g.h

theorem tightSimpleSplit_inside (x y w h : Nat) (q : Geo) (hq : q ∈ tightSimpleSplit x y w h) :
    q.inside ⟨x, y, w, h⟩ := by
  unfold tightSimpleSplit at hq
  by_cases hc : w > TIGHT_MAX_RECT_WIDTH ∨ w * h > TIGHT_MAX_RECT_SIZE
  · simp only [hc, if_true] at hq
    generalize (TIGHT_MAX_RECT_SIZE / (if w > TIGHT_MAX_RECT_WIDTH then TIGHT_MAX_RECT_WIDTH else w)) = smh at hq
    simp only [List.mem_flatMap, List.mem_map] at hq
    obtain ⟨dy, hdy, dx, hdx, rfl⟩ := hq
    have h1 := loopVals_lt _ _ _ _ _ hdy
    have h2 := loopVals_lt _ _ _ _ _ hdx
    unfold Geo.inside
    simp only
    refine ⟨by omega, ?_, by omega, ?_⟩
    · by_cases hh : dx + TIGHT_MAX_RECT_WIDTH < w
      · rw [if_pos hh]; omega
      · rw [if_neg hh]; omega
    · by_cases hh : dy + smh < h
      · rw [if_pos hh]; omega
      · rw [if_neg hh]; omega
  · simp only [hc, if_false, List.mem_singleton] at hq
    subst hq
    simp [Geo.inside]

theorem Geo.inside_refl (g : Geo) : g.inside g :=
  ⟨Nat.le_refl _, Nat.le_refl _, Nat.le_refl _, Nat.le_refl _⟩

theorem Geo.inside_of_band {q g : Geo} (h : q.x = g.x ∧ q.w = g.w ∧ g.y ≤ q.y ∧ q.y + q.h ≤ g.y + g.h) :
    q.inside g := by
  obtain ⟨hx, hw, h1, h2⟩ := h
  exact ⟨Nat.le_of_eq hx.symm, Nat.le_of_eq (by rw [hx, hw]), h1, h2⟩

theorem emitFor_inside (enc : Nat) (lastRect : Bool) (g : Geo) (l : List Geo)
    (he : emitFor enc lastRect g = some l) (q : Geo) (hq : q ∈ l) : q.inside g := by
  unfold emitFor at he
  by_cases h1 : enc = rfbEncodingCoRRE
  · rw [if_pos h1] at he
    cases he
    exact correSplit_inside _ _ _ _ _ _ _ _ hq
  rw [if_neg h1] at he
  by_cases h2 : enc = rfbEncodingUltra
  · rw [if_pos h2] at he
    cases he
    exact Geo.inside_of_band (linesSplit_inside _ _ _ _ _ _ _ hq)
  rw [if_neg h2] at he
  by_cases h3 : enc = rfbEncodingZlib
  · rw [if_pos h3] at he
    cases he
    exact Geo.inside_of_band (linesSplit_inside _ _ _ _ _ _ _ hq)
  rw [if_neg h3] at he
  by_cases h4 : enc = rfbEncodingTight ∨ enc = rfbEncodingTightPng
  · rw [if_pos h4] at he
    split at he
    · cases he
      exact tightSimpleSplit_inside _ _ _ _ _ hq
    · cases he
  rw [if_neg h4] at he
  cases he
  rw [List.mem_singleton.mp hq]
  exact g.inside_refl

theorem allowedEncs_mem (enc e : Nat) (h : e ∈ allowedEncs enc) : e = enc ∨ e = rfbEncodingRaw := by
  unfold allowedEncs at h
  split at h <;> simp at h <;> omega

theorem mem_ite_singleton {α : Type} {c : Prop} [Decidable c] {p q : α}
    (h : p ∈ if c then [q] else []) : c ∧ p = q := by
  split at h
  · exact ⟨‹_›, List.mem_singleton.mp h⟩
  · cases h

theorem pseudoPats_adv (s : Screen) (c : Conn) (H : List Nat) (a : Adv H c.caps)
    (p : RPat) (hp : p ∈ pseudoPats s c (pseudoFlags s c)) (e : Nat) (he : e ∈ p.encs) : e ∈ H := by
  unfold pseudoPats pseudoFlags at hp
  simp only [List.mem_append] at hp
  rcases hp with ((((hp | hp) | hp) | hp) | hp) | hp <;> obtain ⟨hs, rfl⟩ := mem_ite_singleton hp
  · -- cursor shape, sent or replaced by the empty cursor: the encoding is `cursorEnc` either way
    simp only [Bool.and_eq_true] at hs
    have : e = cursorEnc c.caps := by split at he <;> exact List.mem_singleton.mp he
    rw [this, cursorEnc]
    split
    · exact a.richCursor ‹_›
    · exact a.xCursor hs.1.1 (eq_false_of_ne_true ‹_›)
  · simp only [Bool.and_eq_true] at hs
    exact List.mem_singleton.mp he ▸ a.cursorPos hs.1
  · simp only [Bool.and_eq_true] at hs
    exact List.mem_singleton.mp he ▸ a.led hs.1.1
  · exact List.mem_singleton.mp he ▸ a.supMsgs hs
  · exact List.mem_singleton.mp he ▸ a.supEncs hs
  · exact List.mem_singleton.mp he ▸ a.identity hs

theorem pixPats_adv (enc : Nat) (lastRect : Bool) (gs : List Geo) (p : RPat)
    (hp : p ∈ pixPats enc lastRect gs) (e : Nat) (he : e ∈ p.encs) : e = enc ∨ e = rfbEncodingRaw := by
  unfold pixPats at hp
  simp only [List.mem_flatMap] at hp
  obtain ⟨g, _, hp⟩ := hp
  split at hp
  · simp only [List.mem_map] at hp
    obtain ⟨q, _, rfl⟩ := hp
    exact allowedEncs_mem enc e he
  · simp only [List.mem_singleton] at hp
    subst hp
    simp only [RPat.encs, List.mem_singleton] at he
    exact Or.inl he

end VncModel.Wire
