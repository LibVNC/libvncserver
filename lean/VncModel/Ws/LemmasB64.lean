import VncModel.Ws.Base64
/-! Structural lemmas about `ntop` (base64 encoding): length, compatibility with 3-byte / 4-character
chunking.  (The round trip `pton (ntop z) = z` is proved in `LemmasB64Law`.) -/
namespace VncModel.Ws

theorem ntop_length (x : List Byte) : (ntop x).length = 4 * ((x.length + 2) / 3) := by
  fun_induction ntop x with
  | case1 a b c rest ih => simp only [List.length_cons, ih]; omega
  | case2 a b => simp
  | case3 a => simp
  | case4 => simp

theorem ntop_length_mod4 (x : List Byte) : (ntop x).length % 4 = 0 := by
  rw [ntop_length]; omega

theorem ntop_nil : ntop [] = [] := by simp [ntop]

theorem ntop_take_drop (y : List Byte) (j : Nat) (h : 4 * j ≤ (ntop y).length) :
    (ntop y).take (4 * j) = ntop (y.take (3 * j)) ∧ (ntop y).drop (4 * j) = ntop (y.drop (3 * j)) := by
  fun_induction ntop y generalizing j with
  | case1 a b c rest ih =>
    cases j with
    | zero => simp [ntop]
    | succ j =>
      have h' : 4 * j ≤ (ntop rest).length := by simp only [List.length_cons] at h; omega
      obtain ⟨h1, h2⟩ := ih j h'
      have e1 : 4 * (j + 1) = 4 * j + 1 + 1 + 1 + 1 := by omega
      have e2 : 3 * (j + 1) = 3 * j + 1 + 1 + 1 := by omega
      rw [e1, e2]
      simp only [List.take_succ_cons, List.drop_succ_cons, ntop, h1, h2, and_self]
  | case2 a b =>
    have : j = 0 ∨ j = 1 := by simp at h; omega
    rcases this with rfl | rfl <;> simp [ntop]
  | case3 a =>
    have : j = 0 ∨ j = 1 := by simp at h; omega
    rcases this with rfl | rfl <;> simp [ntop]
  | case4 =>
    have : j = 0 := by simp at h; omega
    subst this; simp [ntop]

end VncModel.Ws
