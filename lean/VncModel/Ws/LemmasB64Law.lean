import VncModel.Ws.Base64
import VncModel.Ws.LemmasB64
import VncModel.Ws.Spec
/-! The round-trip law of the base64 model: `pton (ntop z) = z` (by induction over 3-byte groups;
the bit manipulations are discharged by kernel evaluation over the small finite domains they
depend on). -/
namespace VncModel.Ws

theorem forall_byte {p : Byte → Prop} (h : ∀ n : Fin 256, p (UInt8.ofNat n.val)) : ∀ b : Byte, p b := by
  intro b
  have := h ⟨b.toNat, b.toNat_lt⟩
  simpa using this

theorem b64Char_facts : ∀ n : Fin 64,
    isSpace (b64Char (UInt8.ofNat n.val)) = false ∧ b64Char (UInt8.ofNat n.val) ≠ pad64 ∧
    b64Val (b64Char (UInt8.ofNat n.val)) = some (UInt8.ofNat n.val) := by
  decide +kernel

theorem b64Char_ok (v : Byte) (hv : v.toNat < 64) :
    isSpace (b64Char v) = false ∧ b64Char v ≠ pad64 ∧ b64Val (b64Char v) = some v := by
  have := b64Char_facts ⟨v.toNat, hv⟩
  simpa using this

-- a byte split at bit 2, 4 or 6 (the three positions in a 3-byte group), and the 6-bit value put
-- together from the low part of one byte and the high part of the next (or padding)
theorem byte_hi6_lo2 : ∀ a : Byte, (a >>> 2).toNat < 64 ∧ (a &&& 0x03).toNat < 4 ∧
    ((a >>> 2) <<< 2) ||| (a &&& 0x03) = a := by
  apply forall_byte; decide +kernel
theorem byte_hi4_lo4 : ∀ b : Byte, (b >>> 4).toNat < 16 ∧ (b &&& 0x0f).toNat < 16 ∧
    ((b >>> 4) <<< 4) ||| (b &&& 0x0f) = b := by
  apply forall_byte; decide +kernel
theorem byte_hi2_lo6 : ∀ c : Byte, (c >>> 6).toNat < 4 ∧ (c &&& 0x3f).toNat < 64 ∧
    ((c >>> 6) <<< 6) ||| (c &&& 0x3f) = c := by
  apply forall_byte; decide +kernel

theorem sextet_lo2_hi4 : ∀ (al : Fin 4) (bh : Fin 16),
    let v := ((UInt8.ofNat al.val) <<< 4) + (UInt8.ofNat bh.val)
    v.toNat < 64 ∧ v >>> 4 = UInt8.ofNat al.val ∧ (v &&& 0x0f) = UInt8.ofNat bh.val := by
  decide +kernel
theorem sextet_lo4_hi2 : ∀ (bl : Fin 16) (ch : Fin 4),
    let v := ((UInt8.ofNat bl.val) <<< 2) + (UInt8.ofNat ch.val)
    v.toNat < 64 ∧ v >>> 2 = UInt8.ofNat bl.val ∧ (v &&& 0x03) = UInt8.ofNat ch.val := by
  decide +kernel

theorem ptonGo_char0 (ts : Nat) (v : Byte) (hv : v.toNat < 64) (tl : List Byte)
    (out : List Byte) (cur : Byte) (hlt : out.length < ts) :
    ptonGo ts (b64Char v :: tl) 0 out cur = ptonGo ts tl 1 out (v <<< 2) := by
  obtain ⟨h1, h2, h3⟩ := b64Char_ok v hv
  have hge : ¬ out.length ≥ ts := by omega
  rw [ptonGo]
  simp only [h1, Bool.false_eq_true, if_false, h2, h3, hge]

theorem ptonGo_char1 (ts : Nat) (v : Byte) (hv : v.toNat < 64) (tl : List Byte)
    (out : List Byte) (cur : Byte) (hlt : out.length < ts)
    (hc : out.length + 1 < ts ∨ (v &&& 0x0f) <<< 4 = 0) :
    ptonGo ts (b64Char v :: tl) 1 out cur =
      ptonGo ts tl 2 ((cur ||| (v >>> 4)) :: out) ((v &&& 0x0f) <<< 4) := by
  obtain ⟨h1, h2, h3⟩ := b64Char_ok v hv
  have hge : ¬ out.length ≥ ts := by omega
  rw [ptonGo]
  simp only [h1, Bool.false_eq_true, if_false, h2, h3, hge, hc, if_true]

theorem ptonGo_char2 (ts : Nat) (v : Byte) (hv : v.toNat < 64) (tl : List Byte)
    (out : List Byte) (cur : Byte) (hlt : out.length < ts)
    (hc : out.length + 1 < ts ∨ (v &&& 0x03) <<< 6 = 0) :
    ptonGo ts (b64Char v :: tl) 2 out cur =
      ptonGo ts tl 3 ((cur ||| (v >>> 2)) :: out) ((v &&& 0x03) <<< 6) := by
  obtain ⟨h1, h2, h3⟩ := b64Char_ok v hv
  have hge : ¬ out.length ≥ ts := by omega
  rw [ptonGo]
  simp only [h1, Bool.false_eq_true, if_false, h2, h3, hge, hc, if_true]

theorem ptonGo_char3 (ts : Nat) (v : Byte) (hv : v.toNat < 64) (tl : List Byte)
    (out : List Byte) (cur : Byte) (hlt : out.length < ts) :
    ptonGo ts (b64Char v :: tl) 3 out cur = ptonGo ts tl 0 ((cur ||| v) :: out) 0 := by
  obtain ⟨h1, h2, h3⟩ := b64Char_ok v hv
  have hge : ¬ out.length ≥ ts := by omega
  rw [ptonGo]
  simp only [h1, Bool.false_eq_true, if_false, h2, h3, hge]

theorem ofNat_toNat_eq (x : Byte) : UInt8.ofNat x.toNat = x := by simp

theorem ptonGo_group (ts : Nat) (a b c : Byte) (tl out : List Byte) (cur : Byte)
    (h : out.length + 3 ≤ ts) :
    ptonGo ts (b64Char (a >>> 2) :: b64Char (((a &&& 0x03) <<< 4) + (b >>> 4)) ::
      b64Char (((b &&& 0x0f) <<< 2) + (c >>> 6)) :: b64Char (c &&& 0x3f) :: tl) 0 out cur =
    ptonGo ts tl 0 (c :: b :: a :: out) 0 := by
  obtain ⟨ha1, ha2, ha3⟩ := byte_hi6_lo2 a
  obtain ⟨hb1, hb2, hb3⟩ := byte_hi4_lo4 b
  obtain ⟨hc1, hc2, hc3⟩ := byte_hi2_lo6 c
  have hv1 := sextet_lo2_hi4 ⟨(a &&& 0x03).toNat, ha2⟩ ⟨(b >>> 4).toNat, hb1⟩
  have hv2 := sextet_lo4_hi2 ⟨(b &&& 0x0f).toNat, hb2⟩ ⟨(c >>> 6).toNat, hc1⟩
  simp only [ofNat_toNat_eq] at hv1 hv2
  obtain ⟨v1lt, v1hi, v1lo⟩ := hv1
  obtain ⟨v2lt, v2hi, v2lo⟩ := hv2
  rw [ptonGo_char0 ts _ ha1 _ out cur (by omega)]
  rw [ptonGo_char1 ts _ v1lt _ out _ (by omega) (Or.inl (by omega))]
  rw [v1hi, v1lo, ha3]
  rw [ptonGo_char2 ts _ v2lt _ (a :: out) _ (by simp; omega) (Or.inl (by simp; omega))]
  rw [v2hi, v2lo, hb3]
  rw [ptonGo_char3 ts _ hc2 _ (b :: a :: out) _ (by simp; omega)]
  rw [hc3]

theorem sextet_lo2_pad : ∀ (al : Fin 4),
    let v := (UInt8.ofNat al.val) <<< 4
    v.toNat < 64 ∧ v >>> 4 = UInt8.ofNat al.val ∧ (v &&& 0x0f) <<< 4 = 0 := by
  decide +kernel
theorem sextet_lo4_pad : ∀ (bl : Fin 16),
    let v := (UInt8.ofNat bl.val) <<< 2
    v.toNat < 64 ∧ v >>> 2 = UInt8.ofNat bl.val ∧ (v &&& 0x03) <<< 6 = 0 := by
  decide +kernel

theorem ptonGo_tail1 (ts : Nat) (a : Byte) (out : List Byte) (h : out.length + 1 ≤ ts) :
    ptonGo ts [b64Char (a >>> 2), b64Char ((a &&& 0x03) <<< 4), pad64, pad64] 0 out 0 =
      some (out.reverse ++ [a]) := by
  obtain ⟨ha1, ha2, ha3⟩ := byte_hi6_lo2 a
  have ht := sextet_lo2_pad ⟨(a &&& 0x03).toNat, ha2⟩
  simp only [ofNat_toNat_eq] at ht
  obtain ⟨vlt, vhi, vlo⟩ := ht
  rw [ptonGo_char0 ts _ ha1 _ out 0 (by omega)]
  rw [ptonGo_char1 ts _ vlt _ out _ (by omega) (Or.inr vlo)]
  rw [vhi, vlo, ha3]
  rw [ptonGo]
  have e1 : isSpace pad64 = false := by decide
  simp only [e1, Bool.false_eq_true, if_false, if_true, ptonPad]
  have e2 : List.dropWhile isSpace [pad64] = [pad64] := by decide
  simp [e2, ptonAfterPad]

theorem ptonGo_tail2 (ts : Nat) (a b : Byte) (out : List Byte) (h : out.length + 2 ≤ ts) :
    ptonGo ts [b64Char (a >>> 2), b64Char (((a &&& 0x03) <<< 4) + (b >>> 4)),
      b64Char ((b &&& 0x0f) <<< 2), pad64] 0 out 0 = some (out.reverse ++ [a, b]) := by
  obtain ⟨ha1, ha2, ha3⟩ := byte_hi6_lo2 a
  obtain ⟨hb1, hb2, hb3⟩ := byte_hi4_lo4 b
  have hv1 := sextet_lo2_hi4 ⟨(a &&& 0x03).toNat, ha2⟩ ⟨(b >>> 4).toNat, hb1⟩
  have ht := sextet_lo4_pad ⟨(b &&& 0x0f).toNat, hb2⟩
  simp only [ofNat_toNat_eq] at hv1 ht
  obtain ⟨v1lt, v1hi, v1lo⟩ := hv1
  obtain ⟨vlt, vhi, vlo⟩ := ht
  rw [ptonGo_char0 ts _ ha1 _ out 0 (by omega)]
  rw [ptonGo_char1 ts _ v1lt _ out _ (by omega) (Or.inl (by omega))]
  rw [v1hi, v1lo, ha3]
  rw [ptonGo_char2 ts _ vlt _ (a :: out) _ (by simp; omega) (Or.inr vlo)]
  rw [vhi, vlo, hb3]
  rw [ptonGo]
  have e1 : isSpace pad64 = false := by decide
  simp [e1, ptonPad, ptonAfterPad]

theorem ptonGo_ntop (ts : Nat) (z : List Byte) : ∀ out : List Byte, out.length + z.length < ts →
    ptonGo ts (ntop z) 0 out 0 = some (out.reverse ++ z) := by
  fun_induction ntop z with
  | case1 a b c rest ih =>
    intro out h
    simp only [List.length_cons] at h
    rw [ptonGo_group ts a b c _ out 0 (by omega), ih (c :: b :: a :: out) (by simp; omega)]
    simp
  | case2 a b =>
    intro out h
    simp only [List.length_cons, List.length_nil] at h
    exact ptonGo_tail2 ts a b out (by omega)
  | case3 a =>
    intro out h
    simp only [List.length_cons, List.length_nil] at h
    exact ptonGo_tail1 ts a out (by omega)
  | case4 =>
    intro out h
    simp [ptonGo]

theorem b64Char_ne_zero : ∀ v : Byte, b64Char v ≠ 0 := by
  apply forall_byte; decide +kernel

theorem ntop_nonzero (z : List Byte) : ∀ c ∈ ntop z, (c != 0) = true := by
  fun_induction ntop z with
  | case1 a b c rest ih => simpa [b64Char_ne_zero] using ih
  | case2 a b => simp [b64Char_ne_zero, pad64]
  | case3 a => simp [b64Char_ne_zero, pad64]
  | case4 => simp

theorem takeWhile_all {α : Type} (p : α → Bool) (l : List α) (h : ∀ x ∈ l, p x = true) :
    l.takeWhile p = l := by
  simpa using List.takeWhile_append_of_pos (l₂ := []) h

/-- **the law of base64.c, proved for the model**: decoding an encoding gives the original back
whenever the target buffer is larger than the data -/
theorem pton_ntop (z : List Byte) (ts : Nat) (h : z.length < ts) : pton (ntop z) ts = some z := by
  unfold pton
  have : (ntop z).takeWhile (· != 0) = ntop z := by
    exact takeWhile_all _ _ (ntop_nonzero z)
  rw [this, ptonGo_ntop ts z [] (by simpa using h)]
  simp

theorem b64Law : B64RoundTrip := fun z ts h => pton_ntop z ts h

end VncModel.Ws
