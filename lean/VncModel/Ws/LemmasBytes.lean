import VncModel.Ws.Bytes
/-! Lemmas about masking and big-endian fields. -/
namespace VncModel.Ws

theorem xorFrom_length (m : Mask) (i : Nat) (bs : List Byte) : (xorFrom m i bs).length = bs.length := by
  induction bs generalizing i with
  | nil => rfl
  | cons b bs ih => simp [xorFrom, ih]

theorem xorFrom_nil (m : Mask) (i : Nat) : xorFrom m i [] = [] := rfl

theorem xorFrom_append (m : Mask) (i : Nat) (a b : List Byte) :
    xorFrom m i (a ++ b) = xorFrom m i a ++ xorFrom m (i + a.length) b := by
  induction a generalizing i with
  | nil => simp [xorFrom]
  | cons x xs ih => simp [xorFrom, ih, Nat.add_assoc, Nat.add_comm 1]

theorem Mask.get_mod (m : Mask) (i : Nat) : m.get (i % 4) = m.get i := by
  simp [Mask.get]

theorem xorFrom_mod (m : Mask) (i : Nat) (bs : List Byte) : xorFrom m (i % 4) bs = xorFrom m i bs := by
  induction bs generalizing i with
  | nil => rfl
  | cons b bs ih =>
    simp only [xorFrom, Mask.get_mod]
    rw [← ih (i % 4 + 1), ← ih (i + 1)]
    congr 2
    omega

theorem xorFrom_aligned (m : Mask) (a : Nat) (h : a % 4 = 0) (bs : List Byte) :
    xorFrom m a bs = xorFrom m 0 bs := by
  rw [← xorFrom_mod, h]

theorem xorFrom_take (m : Mask) (i n : Nat) (bs : List Byte) :
    (xorFrom m i bs).take n = xorFrom m i (bs.take n) := by
  induction bs generalizing i n with
  | nil => simp [xorFrom]
  | cons b bs ih => cases n <;> simp [xorFrom, ih]

theorem xorFrom_drop (m : Mask) (i n : Nat) (bs : List Byte) :
    (xorFrom m i bs).drop n = xorFrom m (i + n) (bs.drop n) := by
  induction bs generalizing i n with
  | nil => simp [xorFrom]
  | cons b bs ih =>
    cases n with
    | zero => simp
    | succ n => simp [xorFrom, ih, Nat.add_assoc, Nat.add_comm 1]

theorem xorFrom_involutive (m : Mask) (i : Nat) (bs : List Byte) :
    xorFrom m i (xorFrom m i bs) = bs := by
  induction bs generalizing i with
  | nil => rfl
  | cons b bs ih => simp [xorFrom, ih, UInt8.xor_assoc]

theorem xorMask_xorFrom_aligned (m : Mask) (a : Nat) (h : a % 4 = 0) (bs : List Byte) :
    xorMask m (xorFrom m a bs) = bs := by
  unfold xorMask
  rw [xorFrom_aligned m a h, xorFrom_involutive]

theorem beDec_foldl (acc : Nat) (bs : List Byte) :
    bs.foldl (fun acc b => acc * 256 + b.toNat) acc = acc * 256 ^ bs.length + beDec bs := by
  induction bs generalizing acc with
  | nil => simp [beDec]
  | cons b bs ih =>
    simp only [List.foldl_cons, List.length_cons, beDec]
    rw [ih, ih (0 * 256 + b.toNat)]
    simp only [Nat.pow_succ]
    grind

theorem beDec_cons (b : Byte) (bs : List Byte) :
    beDec (b :: bs) = b.toNat * 256 ^ bs.length + beDec bs := by
  simp only [beDec, List.foldl_cons]
  rw [beDec_foldl]; simp [beDec]

theorem beEnc_length (k n : Nat) : (beEnc k n).length = k := by
  induction k with
  | zero => rfl
  | succ k ih => simp [beEnc, ih]

theorem beDec_beEnc (k n : Nat) : beDec (beEnc k n) = n % 256 ^ k := by
  induction k with
  | zero => simp [beEnc, beDec, Nat.mod_one]
  | succ k ih =>
    simp only [beEnc]
    rw [beDec_cons, ih, beEnc_length, Nat.mod_pow_succ]
    simp
    grind

theorem beDec_beEnc_lt (k n : Nat) (h : n < 256 ^ k) : beDec (beEnc k n) = n := by
  rw [beDec_beEnc, Nat.mod_eq_of_lt h]

theorem lenbyte_short : ∀ n, n < 126 →
    ((UInt8.ofNat (128 + n)) &&& 0x7f).toNat = n ∧ (UInt8.ofNat (128 + n)) &&& 0x80 ≠ 0 ∧
    (UInt8.ofNat (128 + n)) &&& 0x7f ≠ 126 ∧ (UInt8.ofNat (128 + n)) &&& 0x7f ≠ 127 := by
  decide

end VncModel.Ws
