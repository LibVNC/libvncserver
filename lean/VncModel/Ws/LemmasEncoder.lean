import VncModel.Ws.Codec
import VncModel.Ws.LemmasBytes
import VncModel.Ws.LemmasB64
import VncModel.Ws.Spec
/-! The server-side encoder (`webSocketsEncodeHybi`, chunking of `rfbWriteExact`) against an RFC 6455
parser. -/
namespace VncModel.Ws
open VncModel.Gen

theorem lenbyte_unmasked : ∀ n, n < 126 →
    ((UInt8.ofNat n) &&& 0x7f).toNat = n ∧ ((UInt8.ofNat n) &&& 0x80 != 0) = false := by
  decide

theorem parseHeader_encHeader (op : Byte) (hop : op = opText ∨ op = opBinary) (n : Nat) (hn : n < 2 ^ 64)
    (h65536 : n ≠ 65536) (rest : List Byte) :
    parseHeader (encHeader op n ++ rest) = some ⟨true, op, false, n, (encHeader op n).length⟩ := by
  have hb0 : ((0x80 ||| (op &&& 0x0f)) &&& 0x80 != (0 : Byte)) = true ∧
      (0x80 ||| (op &&& 0x0f)) &&& 0x0f = op := by
    rcases hop with rfl | rfl <;> decide
  unfold encHeader
  simp only [C09.encShortMax, C09.encExtMax]
  by_cases h1 : n ≤ 125
  · obtain ⟨h2, h3⟩ := lenbyte_unmasked n (by omega)
    simp only [h1, if_true, List.cons_append, List.nil_append, parseHeader, hb0, h2, h3]
    have : n < 126 := by omega
    simp [this]
  · by_cases h2 : n ≤ 65536
    · have e2 : beDec (beEnc 2 n) = n := beDec_beEnc_lt 2 n (by omega)
      simp only [h1, h2, if_false, if_true, List.cons_append, List.nil_append, parseHeader, hb0]
      simp only [beEnc, List.cons_append, List.nil_append] at e2 ⊢
      have hl7 : ((0x7e : Byte) &&& 0x7f).toNat = 126 := by decide
      have hm : ((0x7e : Byte) &&& 0x80 != 0) = false := by decide
      simp [hl7, hm]
      simpa using e2
    · have e2 : beDec (beEnc 8 n) = n := beDec_beEnc_lt 8 n (by omega)
      simp only [h1, h2, if_false, List.cons_append, List.nil_append, parseHeader, hb0]
      simp only [beEnc, List.cons_append, List.nil_append] at e2 ⊢
      have hl7 : ((0x7f : Byte) &&& 0x7f).toNat = 127 := by decide
      have hm : ((0x7f : Byte) &&& 0x80 != 0) = false := by decide
      simp [hm]
      simpa using e2

/-- the boundary the code gets wrong: a 65536-byte payload would be announced as 0 bytes
(`blen <= 65536` selects the 16-bit form, `(uint16_t)blen` wraps).  Not reachable through
`webSocketsEncodeHybi`, whose input is limited to UPDATE_BUF_SIZE (see `encodeHybi_lengths`). -/
theorem encHeader_65536 (rest : List Byte) :
    parseHeader (encHeader opBinary 65536 ++ rest) = some ⟨true, opBinary, false, 0, 4⟩ := by
  have h : encHeader opBinary 65536 = [0x82, 0x7e, 0, 0] := by decide
  rw [h]
  have h1 : ((0x7e : Byte) &&& 0x7f).toNat = 126 := by decide
  simp only [List.cons_append, List.nil_append, parseHeader, h1]
  simp
  decide

theorem encHeader_ne_nil (op : Byte) (n : Nat) : ∃ x xs, encHeader op n = x :: xs := by
  unfold encHeader
  simp only
  split
  · exact ⟨_, _, rfl⟩
  · split <;> exact ⟨_, _, rfl⟩

theorem parseFrames_cons (op : Byte) (hop : op = opText ∨ op = opBinary) (payload rest : List Byte)
    (hn : payload.length < 2 ^ 64) (h65536 : payload.length ≠ 65536) (fuel : Nat)
    (frames : List (Byte × List Byte)) (hrest : parseFrames fuel rest = some frames) :
    parseFrames (fuel + 1) (encHeader op payload.length ++ (payload ++ rest)) =
      some ((op, payload) :: frames) := by
  obtain ⟨x, xs, hx⟩ := encHeader_ne_nil op payload.length
  have hph := parseHeader_encHeader op hop payload.length hn h65536 (payload ++ rest)
  have hbs : encHeader op payload.length ++ (payload ++ rest) = x :: (xs ++ (payload ++ rest)) := by
    rw [hx]; rfl
  rw [hbs] at hph ⊢
  simp only [parseFrames, hph]
  rw [← hbs]
  have hd : (encHeader op payload.length ++ (payload ++ rest)).drop (encHeader op payload.length).length
      = payload ++ rest := List.drop_left
  rw [hd]
  simp [hrest]

theorem b64Len_eq (x : List Byte) : b64Len x.length = (ntop x).length := by
  rw [ntop_length]; unfold b64Len; omega

/-- payload bytes of the frame the encoder makes for `src` -/
def encPayload (base64 : Bool) (src : List Byte) : List Byte := if base64 then ntop src else src
def encOp (base64 : Bool) : Byte := if base64 then opText else opBinary

theorem encodeHybi_eq (base64 : Bool) (src : List Byte) (h0 : src ≠ [])
    (hle : src.length ≤ C09.updateBufSize) :
    encodeHybi base64 src =
      some (encHeader (encOp base64) (encPayload base64 src).length ++ encPayload base64 src) := by
  have hl0 : ¬ src.length = 0 := fun h => h0 (List.length_eq_zero_iff.mp h)
  have hgt : ¬ src.length > C09.updateBufSize := by omega
  unfold encodeHybi
  simp only [hl0, hgt, if_false]
  cases base64 with
  | false => simp [encOp, encPayload, opBinary]
  | true =>
    have hlen : (ntop src).length ≤ 43692 := by
      rw [ntop_length]; simp only [C09.updateBufSize] at hle; omega
    have hh : (encHeader 0x01 (b64Len src.length)).length ≤ 10 := by
      unfold encHeader; simp only
      split
      · simp
      · split <;> simp [beEnc_length]
    have hfit : (ntop src).length < C09.encodeBufSize - (encHeader 0x01 (b64Len src.length)).length := by
      simp only [C09.encodeBufSize]; omega
    rw [b64Len_eq] at hfit
    simp only [if_true, ntopN, encOp, encPayload, b64Len_eq, opText, hfit]

theorem encodeHybi_lengths (base64 : Bool) (src : List Byte) (hle : src.length ≤ C09.updateBufSize) :
    (encPayload base64 src).length < 65536 := by
  simp only [C09.updateBufSize] at hle
  cases base64 with
  | false => simp [encPayload]; omega
  | true => simp only [encPayload, if_true, ntop_length]; omega

theorem encOp_cases (b : Bool) : encOp b = opText ∨ encOp b = opBinary := by
  cases b <;> simp [encOp]

theorem wsWriteFuel_valid (base64 : Bool) : ∀ (fuel : Nat) (buf : List Byte),
    buf.length / C09.updateBufSize + 1 ≤ fuel →
    ∃ w frames, wsWriteFuel base64 fuel buf = some w ∧ parseFrames fuel w = some frames ∧
      (∀ fr ∈ frames, fr.1 = encOp base64) ∧
      ∃ chunks : List (List Byte), chunks.flatten = buf ∧
        frames.map Prod.snd = chunks.map (encPayload base64) := by
  intro fuel
  induction fuel with
  | zero => intro buf h; exact absurd h (by simp)
  | succ fuel ih =>
    intro buf hf
    have hU : C09.updateBufSize = 32768 := rfl
    unfold wsWriteFuel
    by_cases hbig : buf.length > C09.updateBufSize
    · simp only [hbig, if_true]
      have htl : (buf.take C09.updateBufSize).length = C09.updateBufSize := by
        simp only [List.length_take]; omega
      have hne : buf.take C09.updateBufSize ≠ [] := by
        intro h; rw [h] at htl; simp [hU] at htl
      rw [encodeHybi_eq base64 _ hne (by omega)]
      simp only
      have hf' : (buf.drop C09.updateBufSize).length / C09.updateBufSize + 1 ≤ fuel := by
        have hf2 : buf.length / 32768 + 1 ≤ fuel + 1 := hf
        have hbig2 : buf.length > 32768 := hbig
        show (buf.drop 32768).length / 32768 + 1 ≤ fuel
        simp only [List.length_drop]
        omega
      obtain ⟨w', frames', h1, h2, h3, chunks', h4, h5⟩ := ih (buf.drop C09.updateBufSize) hf'
      rw [h1]
      simp only
      have hl := encodeHybi_lengths base64 (buf.take C09.updateBufSize) (by omega)
      refine ⟨_, (encOp base64, encPayload base64 (buf.take C09.updateBufSize)) :: frames', rfl, ?_, ?_,
        buf.take C09.updateBufSize :: chunks', ?_, ?_⟩
      · rw [List.append_assoc]
        exact parseFrames_cons (encOp base64) (encOp_cases base64) _ w' (by omega) (by omega) fuel frames' h2
      · intro fr hfr
        simp only [List.mem_cons] at hfr
        rcases hfr with rfl | hfr
        · rfl
        · exact h3 fr hfr
      · simp [h4]
      · simp [h5]
    · simp only [hbig, if_false]
      by_cases h0 : buf = []
      · subst h0
        refine ⟨[], [], by simp [encodeHybi], by simp [parseFrames], by simp, [], rfl, rfl⟩
      · rw [encodeHybi_eq base64 buf h0 (by omega)]
        have hl := encodeHybi_lengths base64 buf (by omega)
        refine ⟨_, [(encOp base64, encPayload base64 buf)], rfl, ?_, by simp, [buf], by simp, by simp⟩
        have := parseFrames_cons (encOp base64) (encOp_cases base64) (encPayload base64 buf) [] (by omega)
          (by omega) fuel [] (by cases fuel <;> simp [parseFrames])
        simpa using this

end VncModel.Ws
