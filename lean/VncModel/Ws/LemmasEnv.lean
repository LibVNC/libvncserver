import VncModel.Ws.Spec
/-! The read oracle: what a well-formed request can return on a fault-free transport. -/
namespace VncModel.Ws

theorem Env.next_props (e : Env) (h : e.FaultFree) :
    (e.next).1.benign = true ∧ (e.next).2.FaultFree ∧ (e.next).2.pending = e.pending ∧
    (e.next).2.log = e.log := by
  obtain ⟨h1, h2⟩ := h
  unfold Env.next
  split
  · rename_i r rs heq
    refine ⟨h1 r (by simp [heq]), ⟨fun x hx => h1 x (by simp [heq, hx]), h2⟩, rfl, rfl⟩
  · split
    · rename_i r rs heq
      refine ⟨h2 r (by simp [heq]), ⟨fun x hx => h2 x (by simp [heq, hx]), h2⟩, rfl, rfl⟩
    · exact ⟨rfl, ⟨h1, h2⟩, rfl, rfl⟩

/-- a request inside the buffer on a fault-free transport: EAGAIN (nothing consumed) or a
non-empty prefix of the pending bytes, at most `n` long -/
theorem Env.read_cases (e : Env) (off : Nat) (n : Int) (hn : 0 < n) (hb : (off : Int) + n ≤ BUF)
    (hf : e.FaultFree) (hs : e.Safe) :
    ∃ e', e'.FaultFree ∧ e'.Safe ∧
      ((e.read off n = (.again, e') ∧ e'.pending = e.pending ∧ e.Stuck) ∨
       (∃ t : Nat, 0 < t ∧ (t : Int) ≤ n ∧ t ≤ e.pending.length ∧
          e.read off n = (.data (e.pending.take t), e') ∧ e'.pending = e.pending.drop t)) := by
  obtain ⟨hb1, hff, hp, hl⟩ := Env.next_props e hf
  have hnb : ¬ (n ≤ 0 ∨ (off : Int) + n > BUF) := by omega
  unfold Env.read Env.Stuck
  simp only [hnb, if_false]
  generalize e.next = nx at *
  obtain ⟨r, e1⟩ := nx
  simp only at hb1 hff hp hl
  have hsafe : ∀ (o : RdOut) (p : List Byte),
      ({ e1 with pending := p, log := ⟨off, n, o⟩ :: e1.log } : Env).Safe := by
    intro o p x hx
    rcases List.mem_cons.mp hx with rfl | hx
    · exact ⟨hn, hb⟩
    · exact hs x (hl ▸ hx)
  have hffk : ∀ (o : RdOut) (p : List Byte),
      ({ e1 with pending := p, log := ⟨off, n, o⟩ :: e1.log } : Env).FaultFree := fun _ _ => hff
  cases r with
  | eof => cases hb1
  | fail => cases hb1
  | eagain => exact ⟨_, hffk _ _, hsafe _ _, Or.inl ⟨rfl, hp, Or.inl rfl⟩⟩
  | chunk k =>
    by_cases hpe : e1.pending = []
    · simp only [hpe, if_true]
      exact ⟨_, hffk _ _, hsafe _ _, Or.inl ⟨rfl, (hp ▸ hpe).symm, Or.inr (hp ▸ hpe)⟩⟩
    · simp only [hpe, if_false]
      rw [hp]
      have : 0 < e.pending.length := List.length_pos_iff.mpr (hp ▸ hpe)
      refine ⟨⟨e.pending.drop (min (k + 1) n.toNat), e1.sched, e1.cycle,
          ⟨off, n, .data (e.pending.take (min (k + 1) n.toNat))⟩ :: e1.log⟩, hffk _ _, hsafe _ _,
        Or.inr ⟨min (min (k + 1) n.toNat) e.pending.length, by omega, by omega, by omega, ?_, ?_⟩⟩
      · rw [← List.take_eq_take_min]
      · exact List.drop_eq_drop_iff.mpr (by omega)

theorem Env.read_prefix (e : Env) (off : Nat) (n : Int) (X Y : List Byte) (hp : e.pending = X ++ Y)
    (hn : 0 < n) (hX : n ≤ X.length) (hb : (off : Int) + n ≤ BUF) (hf : e.FaultFree) (hs : e.Safe) :
    ∃ e', e'.FaultFree ∧ e'.Safe ∧
      ((e.read off n = (.again, e') ∧ e'.pending = X ++ Y ∧ e.Stuck) ∨
       (∃ t : Nat, 0 < t ∧ (t : Int) ≤ n ∧
          e.read off n = (.data (X.take t), e') ∧ e'.pending = X.drop t ++ Y)) := by
  obtain ⟨e', h1, h2, ⟨h3, h4, h5⟩ | ⟨t, ht0, htn, _, h3, h4⟩⟩ := Env.read_cases e off n hn hb hf hs
  · exact ⟨e', h1, h2, Or.inl ⟨h3, hp ▸ h4, h5⟩⟩
  · have htX : t ≤ X.length := by omega
    refine ⟨e', h1, h2, Or.inr ⟨t, ht0, htn, ?_, ?_⟩⟩
    · rw [h3, hp, List.take_append_of_le_length htX]
    · rw [h4, hp, List.drop_append_of_le_length htX]

end VncModel.Ws
