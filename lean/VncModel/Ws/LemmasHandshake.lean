import VncModel.Ws.Handshake
/-! The handshake scanner for arbitrary request bytes: every index written stays inside the buffer,
what an acceptance implies, and the sub-protocol choice as a function of the offered tokens.
Well-formed requests are in `LemmasHandshakeWF`. -/
namespace VncModel.Ws
open VncModel.Gen

theorem applyLine_props (s : Scan) (k : LineKind) :
    (applyLine s k).len = s.len ∧ (applyLine s k).linestart = s.linestart ∧
    (∀ i ∈ (applyLine s k).writes, i ∈ s.writes ∨ i ≤ s.len) := by
  cases k <;>
    (refine ⟨by simp [applyLine, Scan.patch, Scan.setPtr, Scan.len], by simp [applyLine, Scan.patch, Scan.setPtr], ?_⟩
     intro i hi
     simp only [applyLine, Scan.patch, Scan.setPtr, List.mem_cons] at hi
     first
       | exact Or.inl hi
       | (rcases hi with h | h
          · right; rw [h]; simp [Scan.len]
          · exact Or.inl h))

theorem scanLoop_bounds (req : List Byte) : ∀ s : Scan, s.len ≤ HSMAX - 1 → (∀ i ∈ s.writes, i < HSMAX) →
    (scanLoop req s).1.len < HSMAX ∧ ∀ i ∈ (scanLoop req s).1.writes, i < HSMAX := by
  have hM : HSMAX = 4096 := rfl
  induction req with
  | nil => intro s h1 h2; simp only [scanLoop]; exact ⟨by omega, h2⟩
  | cons b rest ih =>
    intro s h1 h2
    unfold scanLoop
    by_cases hfull : s.len ≥ HSMAX - 1
    · simp only [hfull, if_true]; exact ⟨by omega, h2⟩
    · simp only [hfull, if_false]
      have hpl : (s.push b).len = s.len + 1 := by simp [Scan.push, Scan.len]
      have hpw : ∀ i ∈ (s.push b).writes, i < HSMAX := by
        intro i hi
        simp only [Scan.push, List.mem_cons] at hi
        rcases hi with h | h | h
        · omega
        · omega
        · exact h2 i h
      by_cases h1 : (s.push b).len - (s.push b).linestart ≥ 2 ∧ b = 10
      · obtain ⟨h1, rfl⟩ := h1
        by_cases h2 : (s.push 10).line = [13, 10]
        · by_cases hk : (s.push 10).key1 = true ∧ (s.push 10).key2 = true ∧ (s.push 10).len + 8 < HSMAX
          · by_cases h8 : rest.length ≥ 8
            · simp only [h1, h2, hk, h8, and_self, eq_self, if_true]
              refine ⟨?_, ?_⟩
              · simp only [Scan.len, List.length_append, List.length_take] at hk ⊢
                simp only [Scan.len] at hpl; omega
              · intro i hi
                simp only [List.mem_append, List.mem_map, List.mem_range] at hi
                rcases hi with ⟨a, ha, rfl⟩ | hi
                · omega
                · exact hpw i hi
            · simp only [h1, h2, hk, h8, and_self, eq_self, if_true, if_false]
              refine ⟨by simp only [Scan.len] at *; omega, ?_⟩
              intro i hi
              simp only [List.mem_append, List.mem_map, List.mem_range] at hi
              rcases hi with ⟨a, ha, rfl⟩ | hi
              · omega
              · exact hpw i hi
          · simp only [h1, h2, hk, and_self, eq_self, if_true, if_false]
            exact ⟨by simp only [Scan.len] at *; omega, hpw⟩
        · simp only [h1, h2, and_self, eq_self, if_true, if_false]
          obtain ⟨p1, p2, p3⟩ := applyLine_props (s.push 10) (lineKind (s.push 10).line)
          apply ih
          · simp only [processLine, Scan.len] at *; omega
          · intro i hi
            simp only [processLine] at hi
            rcases p3 i hi with h | h
            · exact hpw i h
            · omega
      · simp only [h1, if_false]
        exact ih _ (by omega) hpw

theorem hasInfix_sound (needle : List Byte) : ∀ hay : List Byte, hasInfix needle hay = true →
    ∃ a b, hay = a ++ needle ++ b := by
  intro hay
  induction hay with
  | nil =>
    intro h
    simp only [hasInfix, List.isEmpty_iff] at h
    exact ⟨[], [], by simp [h]⟩
  | cons x xs ih =>
    intro h
    simp only [hasInfix, Bool.or_eq_true] at h
    rcases h with h | h
    · obtain ⟨t, ht⟩ := List.isPrefixOf_iff_prefix.mp h
      exact ⟨[], t, by simp [ht]⟩
    · obtain ⟨a, b, hab⟩ := ih h
      exact ⟨x :: a, b, by simp [hab]⟩

theorem chooseProtocol_spec (offered : Option (List Byte)) :
    ((chooseProtocol offered).2 = [] ∧ (chooseProtocol offered).1 = false) ∨
    (∃ p, offered = some p ∧ (chooseProtocol offered).2 ∈ offerTokens p ∧
      (((chooseProtocol offered).2 = bBase64 ∧ (chooseProtocol offered).1 = true) ∨
       ((chooseProtocol offered).2 = bBinary ∧ (chooseProtocol offered).1 = false))) := by
  cases offered with
  | none => left; simp [chooseProtocol]
  | some p =>
    by_cases h1 : bBase64 ∈ offerTokens p
    · right
      refine ⟨p, rfl, ?_, ?_⟩ <;> simp [chooseProtocol, h1]
    · by_cases h2 : bBinary ∈ offerTokens p
      · right
        refine ⟨p, rfl, ?_, ?_⟩ <;> simp [chooseProtocol, h1, h2]
      · left; simp [chooseProtocol, h1, h2]

theorem chooseProtocol_complete (p : List Byte) :
    (bBase64 ∈ offerTokens p → chooseProtocol (some p) = (true, bBase64)) ∧
    (bBase64 ∉ offerTokens p → bBinary ∈ offerTokens p → chooseProtocol (some p) = (false, bBinary)) ∧
    (bBase64 ∉ offerTokens p → bBinary ∉ offerTokens p → chooseProtocol (some p) = (false, [])) := by
  refine ⟨fun h => ?_, fun h1 h2 => ?_, fun h1 h2 => ?_⟩
  · simp [chooseProtocol, h]
  · simp [chooseProtocol, h1, h2]
  · simp [chooseProtocol, h1, h2]

/-- what `finishHandshake` has checked when it accepts -/
theorem finishHandshake_ok (sha1 : List Byte → List Byte) (s : Scan) (un resp path unread : List Byte)
    (b64 : Bool) (h : finishHandshake sha1 s un = .ok resp b64 path unread) :
    s.version = true ∧ (s.ptr .path).isSome ∧ (s.ptr .host).isSome ∧
    ((s.ptr .origin).isSome ∨ (s.ptr .secOrigin).isSome) ∧
    ∃ k, s.ptr .key = some k ∧ b64 = (chooseProtocol ((s.ptr .protocol).map s.strAt)).1 ∧
      resp = (if (chooseProtocol ((s.ptr .protocol).map s.strAt)).2.length > 0 then
                fmt2 C09.handshakeFmt (ntop (sha1 (s.strAt k ++ strBytes C09.guid)))
                  (chooseProtocol ((s.ptr .protocol).map s.strAt)).2
              else fmt2 C09.handshakeFmtNoProto (ntop (sha1 (s.strAt k ++ strBytes C09.guid))) []) := by
  unfold finishHandshake at h
  by_cases hv : s.version = true
  · simp only [hv, Bool.not_true, Bool.false_eq_true, if_false] at h
    cases hk : s.ptr .key with
    | none => simp [hk] at h
    | some k =>
      simp only [hk] at h
      split at h
      · cases h
      · rename_i hnot
        simp only [HsResult.ok.injEq, acceptKey] at h
        obtain ⟨h1, h2, _, _⟩ := h
        have hp : (s.ptr .path).isSome := by
          cases hpp : s.ptr .path <;> simp_all
        have hh : (s.ptr .host).isSome := by
          cases hpp : s.ptr .host <;> simp_all
        have ho : (s.ptr .origin).isSome ∨ (s.ptr .secOrigin).isSome := by
          cases h1o : s.ptr .origin <;> cases h2o : s.ptr .secOrigin <;> simp_all
        exact ⟨hv, hp, hh, ho, k, rfl, h2.symm, h1.symm⟩
  · simp [hv] at h

theorem handshake_ok_shape (sha1 : List Byte → List Byte) (req : List Byte) (ending : HsEnd)
    (resp path unread : List Byte) (b64 : Bool) (h : handshake sha1 req ending = .ok resp b64 path unread) :
    pGet.isPrefixOf req = true ∧
    finishHandshake sha1 (scanLoop req {}).1 (scanLoop req {}).2.1 = .ok resp b64 path unread := by
  unfold handshake at h
  by_cases hg : pGet.isPrefixOf req = true
  · simp only [hg, Bool.not_true, Bool.false_eq_true, if_false] at h
    split at h
    · cases h
    · exact ⟨hg, h⟩
  · simp [hg] at h

theorem splitComma_head (p : List Byte) : ∃ t, splitComma p = p.takeWhile (· != 44) :: t := by
  induction p with
  | nil => exact ⟨[], rfl⟩
  | cons c r ih =>
    obtain ⟨t, ht⟩ := ih
    by_cases hc : c = 44
    · exact ⟨splitComma r, by simp [splitComma, hc]⟩
    · exact ⟨t, by simp [splitComma, hc, ht]⟩

theorem splitComma_cons (c : Byte) (r : List Byte) (hc : c ≠ 44) :
    ∃ h t, splitComma r = h :: t ∧ splitComma (c :: r) = (c :: h) :: t := by
  obtain ⟨t, ht⟩ := splitComma_head r
  exact ⟨_, t, ht, by simp [splitComma, hc, ht]⟩

theorem prefix_in_first_segment (n l : List Byte) (hn : ∀ c ∈ n, c ≠ 44) (hp : n.isPrefixOf l = true) :
    ∃ h t, splitComma l = h :: t ∧ n.isPrefixOf h = true := by
  obtain ⟨k, rfl⟩ := List.isPrefixOf_iff_prefix.mp hp
  obtain ⟨t, ht⟩ := splitComma_head (n ++ k)
  refine ⟨_, t, ht, List.isPrefixOf_iff_prefix.mpr ?_⟩
  rw [List.takeWhile_append_of_pos (by simpa using hn)]
  exact List.prefix_append _ _

/-- a word without commas that occurs in the header value occurs inside one of its elements -/
theorem infix_in_segment (n : List Byte) (hn : ∀ c ∈ n, c ≠ 44) (hne : n ≠ []) :
    ∀ p : List Byte, hasInfix n p = true → ∃ s ∈ splitComma p, hasInfix n s = true := by
  intro p
  induction p with
  | nil =>
    intro h
    simp only [hasInfix, List.isEmpty_iff] at h
    exact absurd h hne
  | cons c r ih =>
    intro h
    simp only [hasInfix, Bool.or_eq_true] at h
    by_cases hc : c = 44
    · subst hc
      have hnp : n.isPrefixOf (44 :: r) = false := by
        cases n with
        | nil => exact absurd rfl hne
        | cons x n' =>
          have : x ≠ 44 := hn x (by simp)
          simp [List.isPrefixOf, this]
      rw [hnp] at h
      simp only [Bool.false_eq_true, false_or] at h
      obtain ⟨s, hs, hi⟩ := ih h
      exact ⟨s, by simp [splitComma, hs], hi⟩
    · obtain ⟨hd, tl, hs, hsc⟩ := splitComma_cons c r hc
      rcases h with h | h
      · obtain ⟨h', t', hs', hpre⟩ := prefix_in_first_segment n (c :: r) hn h
        rw [hsc] at hs'
        injection hs' with e1 e2
        subst e1
        exact ⟨c :: hd, by rw [hsc]; simp, by simp [hasInfix, hpre]⟩
      · obtain ⟨s, hs', hi⟩ := ih h
        rw [hs] at hs'
        simp only [List.mem_cons] at hs'
        rcases hs' with rfl | hs'
        · exact ⟨c :: s, by rw [hsc]; simp, by simp [hasInfix, hi]⟩
        · exact ⟨s, by rw [hsc]; simp [hs'], hi⟩

/-- the code as found (`strstr`): the selected sub-protocol is an offered token or absent only for
offers in which the words "base64" / "binary" occur as whole tokens; see
`Props.C09.defect_subprotocol_substring_match_unfixed` for the counterexample otherwise -/
theorem chooseProtocolUnfixed_token (p : List Byte)
    (hclean : ∀ s ∈ splitComma p, (hasInfix bBase64 s = true → stripBlanks s = bBase64) ∧
      (hasInfix bBinary s = true → stripBlanks s = bBinary)) :
    (chooseProtocolUnfixed (some p)).2 = [] ∨ (chooseProtocolUnfixed (some p)).2 ∈ offerTokens p := by
  simp only [chooseProtocolUnfixed]
  by_cases h1 : hasInfix bBase64 p = true
  · obtain ⟨s, hs, hi⟩ := infix_in_segment bBase64 (by decide) (by decide) p h1
    right
    simp only [h1, if_true, offerTokens, List.mem_map]
    exact ⟨s, hs, (hclean s hs).1 hi⟩
  · by_cases h2 : hasInfix bBinary p = true
    · obtain ⟨s, hs, hi⟩ := infix_in_segment bBinary (by decide) (by decide) p h2
      right
      simp only [h1, h2, if_true, offerTokens, List.mem_map]
      exact ⟨s, hs, (hclean s hs).2 hi⟩
    · left; simp [h1, h2]

end VncModel.Ws
