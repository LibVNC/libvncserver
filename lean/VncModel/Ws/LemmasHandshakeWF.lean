import VncModel.Ws.LemmasHandshake
/-! Well-formed upgrade requests: the offset/patch scanner refines the value-level reading of the
header lines (`specLine`). -/
namespace VncModel.Ws
open VncModel.Gen

/-- pointer `p` holds the NUL-terminated value `v`, entirely inside the finished lines -/
def Holds (s : Scan) (p : Nat) (v : List Byte) : Prop :=
  ∃ post, s.buf.drop p = v ++ 0 :: post ∧ (∀ x ∈ v, x ≠ 0) ∧ p + v.length < s.linestart

theorem takeWhile_append_stop (v post : List Byte) (h : ∀ x ∈ v, x ≠ 0) :
    (v ++ 0 :: post).takeWhile (· != 0) = v := by
  rw [List.takeWhile_append_of_pos (by simpa using h)]; simp

theorem Holds.strAt {s : Scan} {p : Nat} {v : List Byte} (h : Holds s p v) : s.strAt p = v := by
  obtain ⟨post, h1, h2, _⟩ := h
  simp only [Scan.strAt, h1]
  exact takeWhile_append_stop v post h2

/-- a value held by `s` is held by every state whose buffer agrees with that of `s` on the finished
lines: all the scanner does later is append, and patch inside the current line -/
theorem Holds.of_take {s s' : Scan} {p : Nat} {v : List Byte} (h : Holds s p v)
    (hb : s'.buf.take s.linestart = s.buf.take s.linestart) (hl : s.linestart ≤ s'.linestart) :
    Holds s' p v := by
  obtain ⟨post, h1, h2, h3⟩ := h
  have hlen : s.buf.length - p = v.length + (post.length + 1) := by
    rw [← List.length_drop, h1]; simp
  obtain ⟨k, hk⟩ : ∃ k, s.linestart - p = v.length + (k + 1) := ⟨s.linestart - p - v.length - 1, by omega⟩
  refine ⟨post.take k ++ s'.buf.drop s.linestart, ?_, h2, by omega⟩
  have e : s'.buf.drop p = (s.buf.drop p).take (s.linestart - p) ++ s'.buf.drop s.linestart := by
    conv => lhs; rw [← List.take_append_drop s.linestart s'.buf, hb]
    rw [List.drop_append_of_le_length (by rw [List.length_take]; omega), List.drop_take]
  rw [e, h1, hk, List.take_append, List.take_of_length_le (by omega)]
  simp

/-- value-level view of what the scanner has collected -/
structure ReqSpec where
  val : Fld → Option (List Byte) := fun _ => none
  key1 : Bool := false
  key2 : Bool := false
  version : Bool := false

def ReqSpec.set (F : ReqSpec) (f : Fld) (v : List Byte) : ReqSpec :=
  { F with val := fun g => if g = f then some v else F.val g }

/-- what one well-formed header line (content `l`, followed by CR LF) contributes -/
def specLine (F : ReqSpec) (l : List Byte) : ReqSpec :=
  match lineKind (l ++ [13, 10]) with
  | .get => F.set .path ((l.drop 4).take (l.length - 13))
  | .hdr f plen => F.set f (l.drop plen)
  | .key1 => { F with key1 := true }
  | .key2 => { F with key2 := true }
  | .version => { F with version := versionNonZero (l.drop 23 ++ [13, 10]) }
  | .other => F

def OptHolds (s : Scan) : Option Nat → Option (List Byte) → Prop
  | none, none => True
  | some p, some v => Holds s p v
  | _, _ => False

structure Abs (s : Scan) (F : ReqSpec) : Prop where
  atStart : s.linestart = s.len
  ptrs : ∀ f, OptHolds s (s.ptr f) (F.val f)
  wspath : s.wspath = F.val .path
  k1 : s.key1 = F.key1
  k2 : s.key2 = F.key2
  ver : s.version = F.version

def pushAll (s : Scan) (bs : List Byte) : Scan := bs.foldl Scan.push s

theorem pushAll_buf (s : Scan) (bs : List Byte) :
    (pushAll s bs).buf = s.buf ++ bs ∧ (pushAll s bs).linestart = s.linestart ∧
    (pushAll s bs).ptr = s.ptr ∧ (pushAll s bs).key1 = s.key1 ∧ (pushAll s bs).key2 = s.key2 ∧
    (pushAll s bs).version = s.version ∧ (pushAll s bs).wspath = s.wspath := by
  induction bs generalizing s with
  | nil => simp [pushAll]
  | cons b bs ih =>
    obtain ⟨a1, a2, a3, a4, a5, a6, a7⟩ := ih (s.push b)
    have e : pushAll s (b :: bs) = pushAll (s.push b) bs := rfl
    rw [e, a1, a2, a3, a4, a5, a6, a7]
    simp [Scan.push]

theorem scan_plain (bs rest : List Byte) : ∀ s : Scan, (∀ x ∈ bs, x ≠ 10) →
    s.len + bs.length ≤ HSMAX - 1 → scanLoop (bs ++ rest) s = scanLoop rest (pushAll s bs) := by
  induction bs with
  | nil => intro s _ _; simp [pushAll]
  | cons b bs ih =>
    intro s h10 hlen
    have hb : b ≠ 10 := h10 b (by simp)
    simp only [List.cons_append, List.length_cons] at hlen ⊢
    rw [scanLoop]
    have hfull : ¬ s.len ≥ HSMAX - 1 := by omega
    simp only [hfull, if_false, hb, and_false]
    have hl : (s.push b).len = s.len + 1 := by simp [Scan.push, Scan.len]
    rw [ih (s.push b) (fun x hx => h10 x (by simp [hx])) (by omega)]
    simp [pushAll]

theorem scan_lf (rest : List Byte) (s : Scan) (hlen : s.len < HSMAX - 1)
    (h2 : (s.push 10).len - (s.push 10).linestart ≥ 2) (hne : (s.push 10).line ≠ [13, 10]) :
    scanLoop (10 :: rest) s =
      scanLoop rest { processLine (s.push 10) with linestart := (processLine (s.push 10)).len } := by
  rw [scanLoop]
  have hfull : ¬ s.len ≥ HSMAX - 1 := by omega
  simp only [hfull, if_false, h2, and_self, if_true, hne]

theorem prefix_len_le (p l : List Byte) (h : hasPrefixCI p (l ++ [13, 10]) = true)
    (hp : ∀ c ∈ p.map lowerB, c ≠ 13 ∧ c ≠ 10) : p.length ≤ l.length := by
  simp only [hasPrefixCI, Bool.and_eq_true, decide_eq_true_eq, beq_iff_eq] at h
  obtain ⟨h1, h2⟩ := h
  rcases Nat.lt_or_ge l.length p.length with hlt' | hge
  · exfalso
    have hmem : lowerB 13 ∈ (List.take p.length (l ++ [13, 10])).map lowerB := by
      apply List.mem_map_of_mem
      rw [List.take_append]
      apply List.mem_append_right
      obtain ⟨k, hk⟩ : ∃ k, p.length - l.length = k + 1 := ⟨p.length - l.length - 1, by omega⟩
      rw [hk]; simp
    rw [h2] at hmem
    exact (hp _ hmem).1 (by decide)
  · exact hge

/-- the header names tried after the request line, in the order of the `else if` chain of the code,
each with the branch it selects -/
def hdrKinds : List (List Byte × LineKind) :=
  [(pHost, .hdr .host 6), (pOrigin, .hdr .origin 8), (pKey1, .key1), (pKey2, .key2),
   (pProtocol, .hdr .protocol 24), (pSecOrigin, .hdr .secOrigin 22), (pKey, .hdr .key 19),
   (pVersion, .version)]

theorem find?_cons_getD {α β : Type} (p : α → Bool) (f : α → β) (d : β) (a : α) (l : List α) :
    (((a :: l).find? p).map f).getD d = if p a = true then f a else ((l.find? p).map f).getD d := by
  rw [List.find?_cons]; cases p a <;> rfl

theorem lineKind_eq_find (line : List Byte) :
    lineKind line = if line.length ≥ 16 ∧ pGet.isPrefixOf line then .get
      else ((hdrKinds.find? (fun pk => hasPrefixCI pk.1 line)).map (·.2)).getD .other := by
  simp only [hdrKinds, find?_cons_getD, List.find?_nil, Option.map_none, Option.getD_none]
  rfl

/-- a header value starts where its name ends and is never the request path; no name contains
CR or LF -/
theorem hdrKinds_spec : ∀ pk ∈ hdrKinds, (∀ c ∈ pk.1.map lowerB, c ≠ 13 ∧ c ≠ 10) ∧
    (match pk.2 with
     | .hdr f n => decide (n = pk.1.length ∧ f ≠ .path)
     | .version => decide (pk.1.length = 23)
     | .get | .other => false
     | _ => true) = true := by
  decide

theorem lineKind_sound {line : List Byte} {k : LineKind} (h : lineKind line = k) :
    (k = .get ∧ 16 ≤ line.length) ∨ k = .other ∨
      ∃ p, (p, k) ∈ hdrKinds ∧ hasPrefixCI p line = true := by
  rw [lineKind_eq_find] at h
  split at h
  · next hg => exact .inl ⟨h.symm, hg.1⟩
  · cases hf : hdrKinds.find? (fun pk => hasPrefixCI pk.1 line) with
    | none => rw [hf] at h; exact .inr (.inl h.symm)
    | some pk =>
      rw [hf] at h
      obtain rfl : pk.2 = k := h
      exact .inr (.inr ⟨pk.1, List.mem_of_find?_eq_some hf, List.find?_some (p := fun pk : List Byte × LineKind => hasPrefixCI pk.1 line) hf⟩)

theorem lineKind_hdr_len (l : List Byte) (f : Fld) (plen : Nat)
    (h : lineKind (l ++ [13, 10]) = .hdr f plen) : plen ≤ l.length := by
  obtain ⟨h, _⟩ | h | ⟨p, hm, hp⟩ := lineKind_sound h
  · cases h
  · cases h
  · obtain ⟨hc, hk⟩ := hdrKinds_spec _ hm
    exact (of_decide_eq_true hk).1 ▸ prefix_len_le p l hp hc

theorem lineKind_hdr_ne_path (line : List Byte) (f : Fld) (plen : Nat)
    (h : lineKind line = .hdr f plen) : f ≠ Fld.path := by
  obtain ⟨h, _⟩ | h | ⟨p, hm, _⟩ := lineKind_sound h
  · cases h
  · cases h
  · exact (of_decide_eq_true (hdrKinds_spec _ hm).2).2

theorem lineKind_get_len (line : List Byte) (h : lineKind line = .get) : line.length ≥ 16 := by
  obtain ⟨_, h⟩ | h | ⟨p, hm, _⟩ := lineKind_sound h
  · exact h
  · cases h
  · cases (hdrKinds_spec _ hm).2

theorem lineKind_version_len (l : List Byte) (h : lineKind (l ++ [13, 10]) = .version) : 23 ≤ l.length := by
  obtain ⟨h, _⟩ | h | ⟨p, hm, hp⟩ := lineKind_sound h
  · cases h
  · cases h
  · obtain ⟨hc, hk⟩ := hdrKinds_spec _ hm
    exact of_decide_eq_true hk ▸ prefix_len_le p l hp hc

theorem OptHolds.mono {s s' : Scan} {po : Option Nat} {vo : Option (List Byte)}
    (h : OptHolds s po vo) (f : ∀ p v, Holds s p v → Holds s' p v) : OptHolds s' po vo := by
  cases po with
  | none => cases vo <;> simpa [OptHolds] using h
  | some p =>
    cases vo with
    | none => simpa [OptHolds] using h
    | some v => exact f p v h

/-- a well-formed header line: not empty, no LF, no NUL -/
def WFLine (l : List Byte) : Prop := l ≠ [] ∧ (∀ x ∈ l, x ≠ 10) ∧ (∀ x ∈ l, x ≠ 0)

theorem takeWhile_all_ne {l : List Byte} (h : ∀ x ∈ l, x ≠ 0) : l.takeWhile (· != 0) = l := by
  simpa using List.takeWhile_append_of_pos (p := (· != 0)) (l₂ := []) (by simpa using h)

theorem buf_after_patch (B l : List Byte) :
    (B ++ (l ++ [13, 10])).set (B.length + l.length) 0 = B ++ (l ++ [0, 10]) := by
  rw [List.set_append_right _ _ (by omega)]
  congr 1
  rw [List.set_append_right _ _ (by omega)]
  have : B.length + l.length - B.length - l.length = 0 := by omega
  rw [this]; rfl

/-- the request line `l` behind `B`, patched nine bytes before its end, read from its fifth byte -/
theorem drop_after_patch11 (B l : List Byte) (h : 14 ≤ l.length) :
    ((B ++ (l ++ [13, 10])).set (B.length + (l.length - 9)) 0).drop (B.length + 4) =
      (l.drop 4).take (l.length - 13) ++ 0 :: (l.drop 4 ++ [13, 10]).drop (l.length - 13 + 1) := by
  rw [List.drop_set, if_neg (by omega), List.drop_append, List.drop_of_length_le (by omega),
    List.nil_append, show B.length + 4 - B.length = 4 by omega,
    List.drop_append_of_le_length (by omega), List.set_eq_take_append_cons_drop,
    if_pos (by simp only [List.length_append, List.length_drop]; omega),
    show B.length + (l.length - 9) - (B.length + 4) = l.length - 13 by omega,
    List.take_append_of_le_length (by rw [List.length_drop]; omega)]

/-- the abstraction survives a step that keeps the finished lines, moves the line start to the end
and, for every field, keeps pointer and value or sets the pointer to a value that is held -/
theorem Abs.step {s s2 : Scan} {F F2 : ReqSpec} (habs : Abs s F)
    (hbuf : s2.buf.take s.len = s.buf) (hls : s2.linestart = s2.len)
    (hptr : ∀ g, (s2.ptr g = s.ptr g ∧ F2.val g = F.val g) ∨
      ∃ p v, s2.ptr g = some p ∧ F2.val g = some v ∧ Holds s2 p v)
    (hws : s2.wspath = F2.val .path) (hk1 : s2.key1 = F2.key1) (hk2 : s2.key2 = F2.key2)
    (hver : s2.version = F2.version) : Abs s2 F2 := by
  refine ⟨hls, fun g => ?_, hws, hk1, hk2, hver⟩
  rcases hptr g with ⟨h1, h2⟩ | ⟨p, v, h1, h2, h3⟩
  · rw [h1, h2]
    have hle : s.len ≤ s2.len := by
      have := congrArg List.length hbuf
      simp only [List.length_take, Scan.len] at this ⊢; omega
    exact (habs.ptrs g).mono fun p v h =>
      h.of_take (by rw [habs.atStart, hbuf]; exact List.take_length.symm) (by rw [habs.atStart, hls]; exact hle)
  · rw [h1, h2]; exact h3

theorem abs_line (s : Scan) (F : ReqSpec) (l rest : List Byte) (habs : Abs s F) (hwf : WFLine l)
    (hlen : s.len + l.length + 2 ≤ HSMAX - 1) :
    ∃ s', scanLoop (l ++ [13, 10] ++ rest) s = scanLoop rest s' ∧ s'.len = s.len + l.length + 2 ∧
      Abs s' (specLine F l) := by
  obtain ⟨hne, h10, h0⟩ := hwf
  have hM : HSMAX = 4096 := rfl
  have hls : s.linestart = s.buf.length := habs.atStart
  -- the state when the line feed has been stored: `Q`
  obtain ⟨Q, hQ⟩ : ∃ Q, (pushAll s (l ++ [13])).push 10 = Q := ⟨_, rfl⟩
  obtain ⟨b1, b2, b3, b4, b5, b6, b7⟩ := pushAll_buf s (l ++ [13, 10])
  have hQ' : pushAll s (l ++ [13, 10]) = Q := by rw [← hQ]; simp [pushAll]
  rw [hQ'] at b1 b2 b3 b4 b5 b6 b7
  have hQline : Q.line = l ++ [13, 10] := by simp [Scan.line, b1, b2, hls]
  have hQlen : Q.len = s.buf.length + l.length + 2 := by simp [Scan.len, b1]; omega
  have hplain : ∀ x ∈ l ++ [13], x ≠ 10 := by
    intro x hx
    rcases List.mem_append.mp hx with hx | hx
    · exact h10 x hx
    · rw [List.mem_singleton.mp hx]; decide
  have hnotblank : Q.line ≠ [13, 10] := by
    rw [hQline]
    intro h
    have hl2 := congrArg List.length h
    simp only [List.length_append, List.length_cons, List.length_nil] at hl2
    exact hne (List.length_eq_zero_iff.mp (by omega))
  have e1 : l ++ [13, 10] ++ rest = (l ++ [13]) ++ (10 :: rest) := by simp
  rw [e1, scan_plain (l ++ [13]) (10 :: rest) s hplain (by simp; omega),
    scan_lf rest _ (by simp only [Scan.len, (pushAll_buf s (l ++ [13])).1, List.length_append] at hlen ⊢; simp; omega)
      (by rw [hQ, hQlen, b2, hls]; omega) (by rw [hQ]; exact hnotblank), hQ]
  refine ⟨_, rfl, (applyLine_props Q _).1.trans hQlen, ?_⟩
  have hi2 : s.len ≤ Q.len - 2 := by rw [hQlen]; exact Nat.le_add_right _ _
  have hbuf2 : Q.buf.set (Q.len - 2) 0 = s.buf ++ (l ++ [0, 10]) := by
    rw [b1, hQlen, show s.buf.length + l.length + 2 - 2 = s.buf.length + l.length from rfl, buf_after_patch]
  -- a NUL patch inside the new line leaves the finished lines alone
  have htake : ∀ i, s.len ≤ i → (Q.buf.set i 0).take s.len = s.buf := fun i hi => by
    rw [List.take_set_of_le hi, b1]; exact List.take_left
  have hold : ∀ g : Fld, Q.ptr g = s.ptr g := congrFun b3
  simp only [processLine, hQline, specLine]
  cases hk : lineKind (l ++ [13, 10]) with
  | other =>
    exact habs.step (by rw [show (applyLine Q .other).buf = Q.buf from rfl, b1]; exact List.take_left) rfl
      (fun g => Or.inl ⟨hold g, rfl⟩) (b7.trans habs.wspath) (b4.trans habs.k1) (b5.trans habs.k2)
      (b6.trans habs.ver)
  | key1 =>
    exact habs.step (htake _ hi2) rfl (fun g => Or.inl ⟨hold g, rfl⟩) (b7.trans habs.wspath) rfl
      (b5.trans habs.k2) (b6.trans habs.ver)
  | key2 =>
    exact habs.step (htake _ hi2) rfl (fun g => Or.inl ⟨hold g, rfl⟩) (b7.trans habs.wspath)
      (b4.trans habs.k1) rfl (b6.trans habs.ver)
  | version =>
    have h23 := lineKind_version_len l hk
    have hstr : Q.strAt (Q.linestart + 23) = l.drop 23 ++ [13, 10] := by
      simp only [Scan.strAt, b1, b2, hls]
      rw [List.drop_append, List.drop_of_length_le (by omega)]
      simp only [List.nil_append]
      have : s.buf.length + 23 - s.buf.length = 23 := by omega
      rw [this, List.drop_append_of_le_length h23]
      apply takeWhile_all_ne
      intro x hx
      simp only [List.mem_append, List.mem_cons, List.not_mem_nil, or_false] at hx
      rcases hx with hx | rfl | rfl
      · exact h0 x (List.mem_of_mem_drop hx)
      · decide
      · decide
    exact habs.step (htake _ hi2) rfl (fun g => Or.inl ⟨hold g, rfl⟩) (b7.trans habs.wspath)
      (b4.trans habs.k1) (b5.trans habs.k2) (congrArg versionNonZero hstr)
  | hdr f plen =>
    have hpl := lineKind_hdr_len l f plen hk
    have hfp : f ≠ Fld.path := lineKind_hdr_ne_path _ f plen hk
    refine habs.step (htake _ hi2) rfl (fun g => ?_)
      (by simp [applyLine, Scan.patch, Scan.setPtr, ReqSpec.set, Ne.symm hfp, b7, habs.wspath])
      (b4.trans habs.k1) (b5.trans habs.k2) (b6.trans habs.ver)
    by_cases hg : g = f
    · refine Or.inr ⟨s.buf.length + plen, l.drop plen, by simp [applyLine, Scan.setPtr, hg, b2, hls],
        by simp [ReqSpec.set, hg], [10], ?_, fun x hx => h0 x (List.mem_of_mem_drop hx), ?_⟩
      · show (Q.buf.set (Q.len - 2) 0).drop (s.buf.length + plen) = _
        rw [hbuf2, List.drop_append, List.drop_of_length_le (by omega)]
        simp only [List.nil_append]
        rw [show s.buf.length + plen - s.buf.length = plen by omega, List.drop_append_of_le_length hpl]
      · show _ < (Q.buf.set (Q.len - 2) 0).length
        rw [hbuf2]; simp only [List.length_append, List.length_drop, List.length_cons, List.length_nil]
        omega
    · exact Or.inl ⟨by simp [applyLine, Scan.setPtr, Scan.patch, hg, hold g], by simp [ReqSpec.set, hg]⟩
  | get =>
    have h16 := lineKind_get_len _ hk
    simp only [List.length_append, List.length_cons, List.length_nil] at h16
    have hidx : Q.len - 11 = s.buf.length + (l.length - 9) := by rw [hQlen]; omega
    have hdrop : (Q.buf.set (Q.len - 11) 0).drop (s.buf.length + 4) =
        (l.drop 4).take (l.length - 13) ++ 0 :: (l.drop 4 ++ [13, 10]).drop (l.length - 13 + 1) := by
      rw [b1, hidx]; exact drop_after_patch11 s.buf l (by omega)
    have hnz : ∀ x ∈ (l.drop 4).take (l.length - 13), x ≠ 0 :=
      fun x hx => h0 x (List.mem_of_mem_drop (List.mem_of_mem_take hx))
    have hws : ((Q.patch (Q.len - 11)).setPtr Fld.path (Q.linestart + 4)).strAt (Q.linestart + 4) =
        (l.drop 4).take (l.length - 13) := by
      simp only [Scan.strAt, Scan.setPtr, Scan.patch, b2, hls, hdrop]
      exact takeWhile_append_stop _ _ hnz
    simp only [applyLine, hws]
    refine habs.step (htake _ (by rw [hidx]; exact Nat.le_add_right _ _)) rfl (fun g => ?_)
      (by simp [ReqSpec.set]) (b4.trans habs.k1) (b5.trans habs.k2) (b6.trans habs.ver)
    by_cases hg : g = Fld.path
    · refine Or.inr ⟨s.buf.length + 4, _, by simp [Scan.setPtr, hg, b2, hls], by simp [ReqSpec.set, hg],
        _, hdrop, hnz, ?_⟩
      show _ < (Q.buf.set (Q.len - 11) 0).length
      have := hQlen
      simp only [Scan.len, List.length_set, List.length_take, List.length_drop] at this ⊢
      omega
    · exact Or.inl ⟨by simp [Scan.setPtr, Scan.patch, hg, hold g], by simp [ReqSpec.set, hg]⟩

/-- the bytes of a request made of the given header lines (each followed by CR LF) and the
terminating empty line -/
def wfRequest (lines : List (List Byte)) : List Byte := lines.flatMap (· ++ [13, 10]) ++ [13, 10]

theorem scan_lines (lines : List (List Byte)) (tail : List Byte) : ∀ (s : Scan) (F : ReqSpec), Abs s F →
    (∀ l ∈ lines, WFLine l) → s.len + (lines.flatMap (· ++ [13, 10])).length + 2 ≤ HSMAX - 1 →
    ∃ s', scanLoop (lines.flatMap (· ++ [13, 10]) ++ tail) s = scanLoop tail s' ∧
      Abs s' (lines.foldl specLine F) ∧
      s'.len = s.len + (lines.flatMap (· ++ [13, 10])).length := by
  induction lines with
  | nil => intro s F h _ _; exact ⟨s, by simp, by simpa using h, by simp⟩
  | cons l ls ih =>
    intro s F habs hwf hlen
    simp only [List.flatMap_cons, List.length_append, List.length_cons, List.length_nil] at hlen
    obtain ⟨s1, h1, hlen1, habs1⟩ := abs_line s F l (ls.flatMap (· ++ [13, 10]) ++ tail) habs
      (hwf l (by simp)) (by omega)
    obtain ⟨s2, h2, habs2, hl2⟩ := ih s1 (specLine F l) habs1 (fun x hx => hwf x (by simp [hx])) (by omega)
    refine ⟨s2, ?_, by simpa using habs2, ?_⟩
    · simp only [List.flatMap_cons, List.append_assoc] at h1 ⊢
      rw [h1, h2]
    · simp only [List.flatMap_cons, List.length_append, List.length_cons, List.length_nil]
      omega

theorem OptHolds.spec {s : Scan} {po : Option Nat} {vo : Option (List Byte)} (h : OptHolds s po vo) :
    po.isNone = vo.isNone ∧ po.map s.strAt = vo := by
  cases po with
  | none => cases vo <;> simp_all [OptHolds]
  | some p =>
    cases vo with
    | none => simp [OptHolds] at h
    | some v => simp [Holds.strAt h]

/-- what the value-level fields decide -/
def specResult (sha1 : List Byte → List Byte) (F : ReqSpec) (unread : List Byte) : HsResult :=
  if !F.version then .fail else
  match F.val .key with
  | none => .fail
  | some k =>
    if (F.val .path).isNone ∨ (F.val .host).isNone ∨
       ((F.val .origin).isNone ∧ (F.val .secOrigin).isNone) then .fail else
    let ch := chooseProtocol (F.val .protocol)
    let acc := acceptKey sha1 k
    let resp := if ch.2.length > 0 then fmt2 C09.handshakeFmt acc ch.2
                else fmt2 C09.handshakeFmtNoProto acc []
    .ok resp ch.1 ((F.val .path).getD []) unread

theorem finishHandshake_spec (sha1 : List Byte → List Byte) (s : Scan) (F : ReqSpec) (unread : List Byte)
    (hp : ∀ f, OptHolds s (s.ptr f) (F.val f)) (hw : s.wspath = F.val .path) (hv : s.version = F.version) :
    finishHandshake sha1 s unread = specResult sha1 F unread := by
  obtain ⟨k1, k2⟩ := (hp .key).spec
  obtain ⟨p1, _⟩ := (hp .path).spec
  obtain ⟨h1, _⟩ := (hp .host).spec
  obtain ⟨o1, _⟩ := (hp .origin).spec
  obtain ⟨so1, _⟩ := (hp .secOrigin).spec
  obtain ⟨_, pr2⟩ := (hp .protocol).spec
  unfold finishHandshake specResult
  rw [hv, p1, h1, o1, so1, pr2, hw]
  cases hk : s.ptr .key with
  | none =>
    rw [hk] at k1 k2
    have : F.val .key = none := by simpa using k2.symm
    simp [this]
  | some k =>
    rw [hk] at k2
    simp only [Option.map_some] at k2
    rw [← k2]

theorem scan_blank (rest : List Byte) (s : Scan) (F : ReqSpec) (habs : Abs s F)
    (hk : ¬ (F.key1 = true ∧ F.key2 = true)) (hlen : s.len + 2 ≤ HSMAX - 1) :
    ∃ sF, scanLoop (13 :: 10 :: rest) s = (sF, rest, .blank) ∧ (∀ f, OptHolds sF (sF.ptr f) (F.val f)) ∧
      sF.wspath = F.val .path ∧ sF.version = F.version := by
  have hM : HSMAX = 4096 := rfl
  have hls : s.linestart = s.buf.length := habs.atStart
  rw [scanLoop]
  have c1 : ¬ s.len ≥ HSMAX - 1 := by omega
  have c13 : ¬ ((13 : Byte) = 10) := by decide
  simp only [c1, if_false, c13, and_false]
  rw [scanLoop]
  have hl1 : (s.push 13).len = s.len + 1 := by simp [Scan.push, Scan.len]
  have c2 : ¬ (s.push 13).len ≥ HSMAX - 1 := by omega
  have hline : ((s.push 13).push 10).line = [13, 10] := by
    simp [Scan.line, Scan.push, hls]
  have hllen : ((s.push 13).push 10).len - ((s.push 13).push 10).linestart ≥ 2 := by
    simp only [Scan.push, Scan.len, List.length_append, List.length_cons, List.length_nil, hls]
    omega
  have hkk : ¬ (((s.push 13).push 10).key1 = true ∧ ((s.push 13).push 10).key2 = true ∧
      ((s.push 13).push 10).len + 8 < HSMAX) := by
    intro ⟨a, b, _⟩
    apply hk
    simp only [Scan.push] at a b
    exact ⟨habs.k1 ▸ a, habs.k2 ▸ b⟩
  simp only [c2, if_false, hllen, and_self, if_true, hline, hkk]
  refine ⟨_, rfl, ?_, by simp [Scan.push, habs.wspath], by simp [Scan.push, habs.ver]⟩
  intro f
  have h0 := habs.ptrs f
  simp only [Scan.push]
  exact h0.mono fun p v h => h.of_take (by simp [hls]) (Nat.le_refl _)

theorem Abs_init : Abs {} {} :=
  ⟨rfl, fun _ => by simp [OptHolds], rfl, rfl, rfl, rfl⟩

/-- **well-formed requests**: header lines without LF / NUL, each terminated by CR LF, an empty line
at the end, at most 4095 bytes, no Hixie key1+key2 pair: the byte-wise scanner (offsets, NUL
patches) decides exactly what the value-level reading of the lines (`specLine`) says; what follows
the request is left unread. -/
theorem handshake_wellformed (sha1 : List Byte → List Byte) (lines : List (List Byte)) (rest : List Byte)
    (ending : HsEnd) (hwf : ∀ l ∈ lines, WFLine l) (hlen : (wfRequest lines).length ≤ HSMAX - 1)
    (hget : pGet.isPrefixOf (wfRequest lines ++ rest) = true)
    (hk : ¬ ((lines.foldl specLine {}).key1 = true ∧ (lines.foldl specLine {}).key2 = true)) :
    handshake sha1 (wfRequest lines ++ rest) ending =
      specResult sha1 (lines.foldl specLine {}) rest := by
  unfold handshake
  simp only [hget, Bool.not_true, Bool.false_eq_true, if_false]
  have hl' : (lines.flatMap (· ++ [13, 10])).length + 2 ≤ HSMAX - 1 := by
    simpa [wfRequest] using hlen
  obtain ⟨s1, h1, habs1, hlen1⟩ := scan_lines lines (13 :: 10 :: rest) {} {} Abs_init hwf
    (by simpa [Scan.len] using hl')
  obtain ⟨sF, h2, hp, hw, hv⟩ := scan_blank rest s1 _ habs1 hk
    (by rw [hlen1]; simp only [Scan.len, List.length_nil] ; omega)
  have hreq : wfRequest lines ++ rest = lines.flatMap (· ++ [13, 10]) ++ 13 :: 10 :: rest := by
    simp [wfRequest]
  rw [hreq, h1, h2]
  simp only [reduceCtorEq, false_or, false_and, if_false]
  exact finishHandshake_spec sha1 sF _ rest hp hw hv

theorem hasPrefixCI_iff (p line : List Byte) :
    hasPrefixCI p line = true ↔ p.map lowerB <+: line.map lowerB := by
  simp only [hasPrefixCI, Bool.and_eq_true, decide_eq_true_eq, beq_iff_eq, List.prefix_iff_eq_take,
    List.length_map, List.map_take]
  constructor
  · intro ⟨_, h⟩; exact h.symm
  · intro h; refine ⟨?_, h.symm⟩
    have := congrArg List.length h
    simp at this; omega

theorem find?_unique {α : Type} {p : α → Bool} {l : List α} {a : α} (hm : a ∈ l) (hp : p a = true)
    (hu : ∀ b ∈ l, p b = true → b = a) : l.find? p = some a := by
  induction l with
  | nil => cases hm
  | cons b t ih =>
    rw [List.find?_cons]
    cases hb : p b with
    | true => rw [hu b List.mem_cons_self hb]
    | false =>
      have hat : a ∈ t := (List.mem_cons.mp hm).resolve_left fun h => by rw [h, hb] at hp; cases hp
      exact ih hat fun c hc => hu c (List.mem_cons_of_mem _ hc)

/-- the names are in lower case, none starts with `g`, and none is a prefix of another: a line can
match at most one of them, and never also the request-line test -/
theorem hdrKinds_names : (∀ a ∈ hdrKinds, a.1.map lowerB = a.1 ∧ a.1 ≠ [] ∧ ∀ c ∈ a.1.head?, c ≠ 103) ∧
    ∀ a ∈ hdrKinds, ∀ b ∈ hdrKinds, a.1 <+: b.1 → a = b := by
  decide

theorem lineKind_of_name (n x : List Byte) (pk : List Byte × LineKind) (hm : pk ∈ hdrKinds)
    (hq : n.map lowerB = pk.1) : lineKind (n ++ x) = pk.2 := by
  obtain ⟨hlow, hfree⟩ := hdrKinds_names
  have hget : pGet.isPrefixOf (n ++ x) = false := by
    cases n with
    | nil => exact absurd hq.symm (hlow pk hm).2.1
    | cons c t =>
      have hc : c ≠ 71 := fun h => (hlow pk hm).2.2 (lowerB 71) (by rw [← hq, h]; rfl) (by decide)
      simp [pGet, List.isPrefixOf, Ne.symm hc]
  have hline : ∀ a ∈ hdrKinds, hasPrefixCI a.1 (n ++ x) = true ↔ a.1 <+: pk.1 ++ x.map lowerB := fun a ha => by
    rw [hasPrefixCI_iff, (hlow a ha).1, List.map_append, hq]
  have hfind : hdrKinds.find? (fun a => hasPrefixCI a.1 (n ++ x)) = some pk := by
    refine find?_unique hm ((hline pk hm).mpr (List.prefix_append _ _)) fun b hb h => ?_
    rcases List.prefix_or_prefix_of_prefix ((hline b hb).mp h) (List.prefix_append _ _) with h | h
    · exact hfree b hb pk hm h
    · exact (hfree pk hm b hb h).symm
  rw [lineKind_eq_find, hget, hfind]
  simp

theorem specLine_of_name (F : ReqSpec) (n v p : List Byte) (f : Fld) (plen : Nat)
    (hm : (p, LineKind.hdr f plen) ∈ hdrKinds) (hq : n.map lowerB = p) :
    specLine F (n ++ v) = F.set f v := by
  have hlen : plen = n.length := by
    rw [(of_decide_eq_true (hdrKinds_spec _ hm).2).1, ← hq, List.length_map]
  unfold specLine
  rw [List.append_assoc, lineKind_of_name n _ _ hm hq, hlen]
  simp only [List.drop_left]

end VncModel.Ws
