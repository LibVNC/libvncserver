import VncModel.Ws.LemmasPayload
/-! The header phase.  `readHeader_generic` describes `readHeader` on a strict prefix `H.take j` of
any header `H`, given only how `parse2` and `finishHeader` treat the prefixes of `H`; it is
instantiated for acceptable frames (valid data / ping / pong frames, and Close frames) here and for
non-minimal headers in `LemmasStrictRun`. -/
namespace VncModel.Ws

/-- the second header byte of a masked, minimally encoded frame -/
def Frame.b1 (f : Frame) : Byte :=
  if f.payload.length < 126 then UInt8.ofNat (128 + f.payload.length)
  else if f.payload.length < 65536 then 0xfe else 0xff

/-- the 7-bit length code -/
def Frame.l7 (f : Frame) : Nat :=
  if f.payload.length < 126 then f.payload.length else if f.payload.length < 65536 then 126 else 127

theorem header_cons (f : Frame) : ∃ tl, f.header = f.b0 :: f.b1 :: tl := by
  unfold Frame.header lenField Frame.b1
  split
  · exact ⟨_, rfl⟩
  · split <;> exact ⟨_, rfl⟩

theorem b1_facts (f : Frame) :
    (f.b1 &&& 0x7f).toNat = f.l7 ∧ f.b1 &&& 0x80 ≠ 0 ∧
    (f.b1 &&& 0x7f = 126 ↔ f.l7 = 126) ∧ (f.b1 &&& 0x7f = 127 ↔ f.l7 = 127) := by
  unfold Frame.b1 Frame.l7
  split
  · rename_i h
    obtain ⟨h1, h2, h3, h4⟩ := lenbyte_short _ h
    refine ⟨h1, h2, ?_, ?_⟩
    · constructor
      · intro hh; exact absurd hh h3
      · intro hh; omega
    · constructor
      · intro hh; exact absurd hh h4
      · intro hh; omega
  · split
    · refine ⟨by decide, by decide, by decide, by decide⟩
    · refine ⟨by decide, by decide, by decide, by decide⟩

theorem l7_header_length (f : Frame) :
    f.header.length = if f.l7 = 126 then 8 else if f.l7 = 127 then 14 else 6 := by
  rw [header_length]; unfold Frame.l7
  split
  · rename_i h
    have h1 : ¬ f.payload.length = 126 := by omega
    have h2 : ¬ f.payload.length = 127 := by omega
    simp [h1, h2]
  · split <;> simp

theorem hdrWant_take (f : Frame) (j : Nat) :
    hdrWant (f.header.take j) = if 2 ≤ j then f.header.length else 6 := by
  obtain ⟨tl, htl⟩ := header_cons f
  obtain ⟨_, _, h3, h4⟩ := b1_facts f
  by_cases hj : 2 ≤ j
  · obtain ⟨k, rfl⟩ : ∃ k, j = k + 2 := ⟨j - 2, by omega⟩
    rw [htl]
    simp only [List.take_succ_cons, hdrWant, hj, if_true]
    rw [← htl, l7_header_length]
    by_cases a1 : f.l7 = 126
    · simp [a1, h3.mpr a1]
    · have n1 : ¬ (f.b1 &&& 0x7f = 126) := fun h => a1 (h3.mp h)
      by_cases a2 : f.l7 = 127
      · simp [a2, h4.mpr a2]
      · have n2 : ¬ (f.b1 &&& 0x7f = 127) := fun h => a2 (h4.mp h)
        simp [a1, a2, n1, n2]
  · simp only [hj, if_false]
    have : j = 0 ∨ j = 1 := by omega
    rcases this with rfl | rfl
    · simp [hdrWant]
    · rw [htl]; simp [hdrWant]

theorem not_reserved_of_hok (f : Frame) (co : Byte) (hok : f.hok co) : isReservedOp f.opcode = false := by
  obtain ⟨_, hctl, hdat⟩ := hok
  by_cases hc : f.isControl = true
  · rcases (hctl hc).2.1 with h | h | h <;> rw [h] <;> decide
  · have hc' : f.isControl = false := by simpa using hc
    obtain ⟨_, h4⟩ := hdat hc'
    by_cases h0 : f.opcode = opContinuation
    · rw [h0]; decide
    · have : f.effOp co = f.opcode := by simp [Frame.effOp, hc', h0]
      rw [this] at h4
      rcases h4 with h4 | h4 <;> rw [h4] <;> decide

theorem not_reserved_of_ok (f : Frame) (co : Byte) (hok : f.ok co) : isReservedOp f.opcode = false :=
  not_reserved_of_hok f co hok.hok

theorem effOp_isControl_hok (f : Frame) (co : Byte) (hok : f.hok co) :
    ((f.effOp co) &&& 0x08 != 0) = f.isControl := by
  obtain ⟨_, _, h3⟩ := hok
  by_cases hc : f.isControl = true
  · simp only [Frame.effOp, hc, if_true]; exact hc
  · have hc' : f.isControl = false := by simpa using hc
    obtain ⟨_, h4⟩ := h3 hc'
    rw [hc']
    rcases h4 with h4 | h4 <;> rw [h4] <;> decide

theorem parse2_short (f : Frame) (j : Nat) (hj : j < 2) (opc fin : Byte) (pl : Nat) (co' : Byte) :
    parse2 (ctxAtHeader (f.header.take j) opc fin pl co') = .pending := by
  obtain ⟨tl, htl⟩ := header_cons f
  have : j = 0 ∨ j = 1 := by omega
  rcases this with rfl | rfl
  · simp [parse2, ctxAtHeader]
  · rw [htl]; simp [parse2, ctxAtHeader]

theorem parse2_hok (f : Frame) (co co' : Byte) (hok : f.hok co) (j : Nat) (hj : 2 ≤ j)
    (hco : co' = co ∨ co' = f.nextCo co) (opc fin : Byte) (pl : Nat) :
    parse2 (ctxAtHeader (f.header.take j) opc fin pl co') =
      .ok (ctxAtHeader (f.header.take j) (f.effOp co) f.fin f.l7 (f.nextCo co)) := by
  obtain ⟨tl, htl⟩ := header_cons f
  obtain ⟨hl7, hmask, _, _⟩ := b1_facts f
  obtain ⟨k, rfl⟩ : ∃ k, j = k + 2 := ⟨j - 2, by omega⟩
  have hres : isReservedOp f.opcode = false := not_reserved_of_hok f co hok
  have heffc := effOp_isControl_hok f co hok
  obtain ⟨_, hctl, hdat⟩ := hok
  rw [htl]
  simp only [List.take_succ_cons, parse2, ctxAtHeader, Ctx.isControl]
  have hop : f.b0 &&& 0x0f = f.opcode := rfl
  have hfin : (f.b0 &&& 0x80) >>> 7 = f.fin := rfl
  rw [hop, hfin]
  by_cases hc : f.isControl = true
  · have hc2 : (f.opcode &&& 0x08 != 0) = true := hc
    have hfn := (hctl hc).1
    have hco' : co' = co := by
      rcases hco with h | h
      · exact h
      · rw [h]; simp [Frame.nextCo, hc]
    have hle : ¬ (125 < f.l7) := by
      have := (hctl hc).2.2
      unfold Frame.l7; split <;> omega
    simp only [hres, Bool.false_eq_true, hc2, if_true, hfn, if_false, hmask, hl7, hle, true_and]
    simp [Frame.effOp, Frame.nextCo, hc, hco']
  · have hc' : f.isControl = false := by simpa using hc
    have hc2 : (f.opcode &&& 0x08 != 0) = false := hc'
    obtain ⟨hcont, _⟩ := hdat hc'
    simp only [hres, hc2, Bool.false_eq_true, if_false]
    by_cases h0 : f.opcode = opContinuation
    · have hco' : co' = co := by
        rcases hco with h | h
        · exact h
        · rw [h]; simp [Frame.nextCo, hc', h0]
      have hne := hcont h0
      have heff : f.effOp co = co := by simp [Frame.effOp, hc', h0]
      have hcoc : (co &&& 0x08 != 0) = false := by rw [← heff, heffc, hc']
      simp only [h0, if_true, hco', hne, if_false, hmask, hl7, hcoc, Bool.false_eq_true, false_and]
      simp [Frame.effOp, Frame.nextCo, hc', h0]
    · simp only [h0, if_false, hmask, hl7, hc2, Bool.false_eq_true, false_and]
      simp [Frame.effOp, Frame.nextCo, hc', h0]

theorem finishHeader_incomplete (f : Frame) (j : Nat) (hj2 : j < f.header.length)
    (op fin co'' : Byte) (e : Env) :
    finishHeader (ctxAtHeader (f.header.take j) op fin f.l7 co'') e =
      ⟨ctxAtHeader (f.header.take j) op fin f.l7 co'', e, .headerPending, .again, []⟩ := by
  have hl := l7_header_length f
  have hlen : (f.header.take j).length = j := by simp; omega
  unfold finishHeader
  simp only [ctxAtHeader, Ctx.nRead, hlen]
  have c1 : ¬ (f.l7 < 126 ∧ j ≥ 6) := by
    intro ⟨h1, h2⟩
    have a1 : ¬ f.l7 = 126 := by omega
    have a2 : ¬ f.l7 = 127 := by omega
    simp [a1, a2] at hl; omega
  have c2 : ¬ (f.l7 = 126 ∧ 8 ≤ j) := by
    intro ⟨h1, h2⟩
    simp [h1] at hl; omega
  have c3 : ¬ (f.l7 = 127 ∧ 14 ≤ j) := by
    intro ⟨h1, h2⟩
    simp [h1] at hl; omega
  simp only [c1, c2, c3, if_false]

theorem finishHeader_complete (f : Frame) (co : Byte) (hlt : f.payload.length < 2 ^ 64) (e : Env) :
    finishHeader (ctxAtHeader f.header (f.effOp co) f.fin f.l7 (f.nextCo co)) e =
      ⟨ctxInFrame f co 0 [] [] (some f.header.length) .headerPending, e, .dataNeeded, .again, []⟩ := by
  unfold finishHeader
  by_cases h1 : f.payload.length < 126
  · have hl7 : f.l7 = f.payload.length := by simp [Frame.l7, h1]
    have hh : f.header = [f.b0, UInt8.ofNat (128 + f.payload.length), f.mask.b0, f.mask.b1, f.mask.b2, f.mask.b3] := by
      simp [Frame.header, lenField, h1, Mask.toList]
    simp only [ctxAtHeader, Ctx.nRead, hl7, hh, h1]
    simp [ctxInFrame, xorFrom, hh, h1]
  · by_cases h2 : f.payload.length < 65536
    · have hl7 : f.l7 = 126 := by simp [Frame.l7, h1, h2]
      have e2 := beDec_beEnc_lt 2 f.payload.length (by omega)
      have hh : f.header = f.b0 :: 0xfe :: (beEnc 2 f.payload.length ++ f.mask.toList) := by
        simp [Frame.header, lenField, h1, h2]
      simp [beEnc] at e2
      simp only [beEnc, Mask.toList, List.cons_append, List.nil_append] at hh
      simp only [ctxAtHeader, Ctx.nRead, hl7, hh]
      simp [ctxInFrame, cleanupComplete, xorFrom, e2, h1]
      rw [hh]; simp
    · have hl7 : f.l7 = 127 := by simp [Frame.l7, h1, h2]
      have e2 := beDec_beEnc_lt 8 f.payload.length (by omega)
      have hh : f.header = f.b0 :: 0xff :: (beEnc 8 f.payload.length ++ f.mask.toList) := by
        simp [Frame.header, lenField, h1, h2]
      simp [beEnc] at e2
      simp only [beEnc, Mask.toList, List.cons_append, List.nil_append] at hh
      simp only [ctxAtHeader, Ctx.nRead, hl7, hh]
      simp [ctxInFrame, cleanupComplete, xorFrom, e2, h1, h2]
      rw [hh]; simp

theorem ctxAtHeader_set_hdr (h h' : List Byte) (opc fin : Byte) (pl : Nat) (co : Byte) :
    { ctxAtHeader h opc fin pl co with hdr := h' } = ctxAtHeader h' opc fin pl co := rfl

theorem hdrMissing_atHeader (f : Frame) (j : Nat) (hj : j ≤ f.header.length) (opc fin : Byte) (pl : Nat) (co : Byte) :
    hdrMissing (ctxAtHeader (f.header.take j) opc fin pl co) =
      ((if 2 ≤ j then f.header.length else 6 : Nat) : Int) - j := by
  simp only [hdrMissing, ctxAtHeader, Ctx.nRead, hdrWant_take, List.length_take]
  congr 2
  omega

/-- the outcome `r` of a header read that started with `j` bytes of the header `H` (followed by
`body`) collected: still collecting, with `j' < |H|` bytes and the rest of `H` pending (and progress,
unless the transport had nothing to give), or the complete header went through `OUT` -/
abbrev HdrStep (H body : List Byte) (okco : Byte → Prop) (OUT : Env → HdrOut) (e : Env) (j : Nat)
    (r : HdrOut) : Prop :=
  ∃ e', e'.FaultFree ∧ e'.Safe ∧
    ((∃ j' opc' fin' pl' co'', j' < H.length ∧ okco co'' ∧
        r = ⟨ctxAtHeader (H.take j') opc' fin' pl' co'', e', .headerPending, .again, []⟩ ∧
        e'.pending = H.drop j' ++ body ∧ (e.Stuck ∨ j < j')) ∨
     (r = OUT e' ∧ e'.pending = body))

theorem readHeader_generic (H : List Byte) (OP FIN : Byte) (L7 : Nat) (CO : Byte) (okco : Byte → Prop)
    (OUT : Env → HdrOut) (hH : 6 ≤ H.length ∧ H.length ≤ 14)
    (hwant : ∀ j, j ≤ H.length → hdrWant (H.take j) = if 2 ≤ j then H.length else 6)
    (hshort : ∀ j, j < 2 → ∀ opc fin pl co', parse2 (ctxAtHeader (H.take j) opc fin pl co') = .pending)
    (hp2 : ∀ j, 2 ≤ j → j ≤ H.length → ∀ opc fin pl co', okco co' →
      parse2 (ctxAtHeader (H.take j) opc fin pl co') = .ok (ctxAtHeader (H.take j) OP FIN L7 CO))
    (hCO : okco CO)
    (hinc : ∀ j, j < H.length → ∀ e, finishHeader (ctxAtHeader (H.take j) OP FIN L7 CO) e =
      ⟨ctxAtHeader (H.take j) OP FIN L7 CO, e, .headerPending, .again, []⟩)
    (hcomp : ∀ e, finishHeader (ctxAtHeader H OP FIN L7 CO) e = OUT e)
    (j : Nat) (opc fin : Byte) (pl : Nat) (co' : Byte) (e : Env) (body : List Byte)
    (hj : j < H.length) (hco : okco co')
    (hpend : e.pending = H.drop j ++ body) (hff : e.FaultFree) (hs : e.Safe) :
    HdrStep H body okco OUT e j (readHeader (ctxAtHeader (H.take j) opc fin pl co') e) := by
  obtain ⟨hH6, hH14⟩ := hH
  have hBUF : (14 : Int) ≤ BUF := by simp [BUF, Gen.C09.decodeBufSize]
  have hmiss : hdrMissing (ctxAtHeader (H.take j) opc fin pl co') = ((if 2 ≤ j then H.length else 6 : Nat) : Int) - j := by
    simp only [hdrMissing, ctxAtHeader, Ctx.nRead, hwant j (by omega), List.length_take]
    congr 2; omega
  have hnr : (ctxAtHeader (H.take j) opc fin pl co').nRead = j := by
    simp [ctxAtHeader, Ctx.nRead]; omega
  unfold readHeader
  rw [hnr, hmiss]
  generalize hN : (if 2 ≤ j then H.length else 6 : Nat) = W
  have hW : j < W ∧ W ≤ H.length := by
    rw [← hN]; split <;> omega
  obtain ⟨e1, hff1, hs1, ⟨hr, hp1, hstuck⟩ | ⟨t, ht0, htN, hr, hp1⟩⟩ :=
    Env.read_prefix e j ((W : Int) - j) (H.drop j) body hpend (by omega) (by simp; omega) (by omega) hff hs
  · -- EAGAIN on the first read: everything kept
    rw [hr]
    exact ⟨e1, hff1, hs1, Or.inl ⟨j, opc, fin, pl, co', hj, hco, rfl, hp1, Or.inl hstuck⟩⟩
  · rw [hr, List.drop_drop] at *
    simp only
    have htj : j + t ≤ H.length := by omega
    have hhdr : ∀ h o fi p c, (ctxAtHeader h o fi p c).hdr = h := fun _ _ _ _ _ => rfl
    rw [ctxAtHeader_set_hdr, hhdr, ← List.take_add]
    by_cases hj1 : j + t < 2
    · rw [hshort (j + t) hj1]
      exact ⟨e1, hff1, hs1, Or.inl ⟨j + t, opc, fin, pl, co', by omega, hco, rfl, hp1, Or.inr (by omega)⟩⟩
    · rw [hp2 (j + t) (by omega) htj opc fin pl co' hco]
      simp only [ctxAtHeader_set_hdr, hhdr]
      have hmiss2 : hdrMissing (ctxAtHeader (H.take (j + t)) OP FIN L7 CO) = (H.length : Int) - ((j + t : Nat) : Int) := by
        have h2le : 2 ≤ j + t := by omega
        simp only [hdrMissing, ctxAtHeader, Ctx.nRead, hwant (j + t) htj, h2le, if_true, List.length_take]
        congr 2; omega
      have hnr2 : (ctxAtHeader (H.take (j + t)) OP FIN L7 CO).nRead = j + t := by
        simp [ctxAtHeader, Ctx.nRead]; omega
      have hpl2 : (ctxAtHeader (H.take (j + t)) OP FIN L7 CO).payloadLen = L7 := rfl
      rw [hmiss2, hnr2, hpl2]
      -- after the (possible) second read: finishHeader on a prefix of length j2
      have hfin : ∀ (j2 : Nat) (e2 : Env), j + t ≤ j2 → j2 ≤ H.length → e2.FaultFree → e2.Safe →
          e2.pending = H.drop j2 ++ body →
          HdrStep H body okco OUT e j (finishHeader (ctxAtHeader (H.take j2) OP FIN L7 CO) e2) := by
        intro j2 e2 h1 h2 hf2 hs2 hp2
        by_cases hlt : j2 < H.length
        · exact ⟨e2, hf2, hs2, Or.inl ⟨j2, _, _, _, _, hlt, hCO, hinc j2 hlt e2, hp2, Or.inr (by omega)⟩⟩
        · obtain rfl : j2 = H.length := by omega
          refine ⟨e2, hf2, hs2, Or.inr ⟨?_, by simpa using hp2⟩⟩
          rw [List.take_length]; exact hcomp e2
      by_cases hcond : (L7 = 126 ∨ L7 = 127) ∧ (H.length : Int) - ((j + t : Nat) : Int) > 0
      · simp only [hcond, and_self, if_true]
        obtain ⟨e2, hff2, hs2, ⟨hr2, hp2, _⟩ | ⟨t2, ht20, ht2N, hr2, hp2⟩⟩ :=
          Env.read_prefix e1 (j + t) ((H.length : Int) - ((j + t : Nat) : Int)) (H.drop (j + t)) body hp1
            (by omega) (by simp; omega) (by omega) hff1 hs1
        · rw [hr2]
          exact ⟨e2, hff2, hs2, Or.inl ⟨j + t, _, _, _, _, by omega, hCO, rfl, hp2, Or.inr (by omega)⟩⟩
        · rw [hr2]
          simp only
          rw [List.drop_drop] at hp2
          rw [← List.take_add]
          exact hfin (j + t + t2) e2 (by omega) (by omega) hff2 hs2 hp2
      · simp only [hcond, if_false]
        exact hfin (j + t) e1 (by omega) htj hff1 hs1 hp1

theorem readHeader_cases_hok (f : Frame) (co co' : Byte) (j : Nat) (opc fin : Byte) (pl : Nat)
    (e : Env) (body : List Byte) (hok : f.hok co) (hj : j < f.header.length)
    (hco : co' = co ∨ co' = f.nextCo co)
    (hpend : e.pending = f.header.drop j ++ body) (hff : e.FaultFree) (hs : e.Safe) :
    HdrStep f.header body (fun c => c = co ∨ c = f.nextCo co)
      (fun e' => ⟨ctxInFrame f co 0 [] [] (some f.header.length) .headerPending, e', .dataNeeded, .again, []⟩) e j
      (readHeader (ctxAtHeader (f.header.take j) opc fin pl co') e) := by
  obtain ⟨hH14, hH6⟩ := header_length_le f
  exact readHeader_generic f.header (f.effOp co) f.fin f.l7 (f.nextCo co) _ _ ⟨hH6, hH14⟩ (fun j _ => hdrWant_take f j) (fun j hj opc fin pl co' => parse2_short f j hj opc fin pl co')
    (fun j hj _ opc fin pl co' hc => parse2_hok f co co' hok j hj hc opc fin pl) (Or.inr rfl)
    (fun j hj e => finishHeader_incomplete f j hj _ _ _ e) (fun e => finishHeader_complete f co hok.1 e)
    j opc fin pl co' e body hj hco hpend hff hs

end VncModel.Ws
