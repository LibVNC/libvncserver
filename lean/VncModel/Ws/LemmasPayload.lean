import VncModel.Ws.State
import VncModel.Ws.LemmasBytes
import VncModel.Ws.LemmasB64
import VncModel.Ws.LemmasEnv
/-! The payload phase on the abstract states of `State.lean`.  `ctxF` is `ctxInFrame` with the
position fields free, so that `advance`, `release`, `finishChunk` and `returnData` can be computed on
it one after the other; `returnData_frame`, `decodeChunk_frame` and `readAndDecode_frame` then say
that a call made inside a frame hands out the next bytes owed and ends in a state `Inv` describes. -/
namespace VncModel.Ws

theorem ntop_eq_nil (x : List Byte) (h : ntop x = []) : x = [] := by
  have := congrArg List.length h
  rw [ntop_length] at this
  simp at this
  cases x with
  | nil => rfl
  | cons a t => simp at this; omega

theorem Rem_nil (op : Byte) (V : List Byte) (h : Rem op [] V) : V = [] := by
  unfold Rem at h
  split at h
  · exact h
  · split at h
    · exact ntop_eq_nil V h.symm
    · exact h

theorem release_rem (hb : B64RoundTrip) (c : Ctx) (R V : List Byte) (m bufsize : Nat)
    (hrem : Rem c.opcode R V) (hm4 : c.opcode = opText → m % 4 = 0) (hm : m ≤ R.length) (hbs : m ≤ bufsize + 3)
    (hbig : 10 ≤ bufsize) (hrl : c.readlen = 0) (hrd : c.rd = []) :
    ∃ out V', V = out ++ V' ∧ Rem c.opcode (R.drop m) V' ∧ out.length ≤ m ∧
      release c (R.take m) bufsize =
        { c with readlen := out.length, rd := out,
                 writePos := if isDataOp c.opcode then some c.headerLen else c.writePos } := by
  unfold Rem at hrem
  by_cases hbin : c.opcode = opBinary
  · simp only [hbin, if_true] at hrem
    refine ⟨R.take m, R.drop m, by rw [hrem, List.take_append_drop], ?_, by simp; omega, ?_⟩
    · simp [Rem, hbin]
    · have : opBinary ≠ opText := by decide
      simp [release, hbin, isDataOp, this]
  · by_cases htx : c.opcode = opText
    · simp only [htx, if_true] at hrem
      have hne : opText ≠ opBinary := by decide
      simp only [hne, if_false] at hrem
      have hm4' := hm4 htx
      obtain ⟨j, rfl⟩ : ∃ j, m = 4 * j := ⟨m / 4, by omega⟩
      rw [hrem] at hm
      obtain ⟨h1, h2⟩ := ntop_take_drop V j hm
      have hlen : (V.take (3 * j)).length < bufsize := by
        simp only [List.length_take]; omega
      refine ⟨V.take (3 * j), V.drop (3 * j), (List.take_append_drop _ V).symm, ?_, ?_, ?_⟩
      · simp [Rem, htx, hne, hrem, h2]
      · simp only [List.length_take]; omega
      · simp [release, htx, hrem, h1, hb _ _ hlen, isDataOp]
    · simp only [hbin, htx, if_false] at hrem
      refine ⟨[], [], by simp [hrem], ?_, by simp, ?_⟩
      · simp [Rem, hbin, htx]
      · have : isDataOp c.opcode = false := by
          simp [isDataOp, hbin, htx]
        simp only [release, hbin, htx, this, if_false]
        cases c; simp_all

theorem Inv_start (T : List Byte) (cE co : Byte) (fs : List Frame) (hv : ValidSeq co fs)
    (hE : endCo co fs = cE) (opc fin : Byte) (pl : Nat) :
    ∃ lv, Inv T cE lv (ctxAtHeader [] opc fin pl co) (wireOf fs ++ T) (expected co fs) := by
  cases fs with
  | nil =>
    simp only [endCo] at hE
    subst hE
    exact ⟨false, by simpa [wireOf, expected] using Inv.done (T := T) (cE := co) opc fin pl⟩
  | cons f fs =>
    have h := Inv.header (T := T) (cE := cE) f fs co co 0 opc fin pl hv hE (by simp [Frame.header]) (Or.inl rfl)
    exact ⟨true, by simpa [wireOf, Frame.wire, List.append_assoc] using h⟩

def wpOf (f : Frame) (co : Byte) (a : Nat) : Nat :=
  if isDataOp (f.effOp co) then f.header.length else f.header.length + a

def ctxF (f : Frame) (co : Byte) (st : St) (np : Nat) (carry : List Byte) (wp rp : Option Nat)
    (rl : Int) (rd : List Byte) : Ctx :=
  { st := st, hdr := f.header, opcode := f.effOp co, fin := f.fin, payloadLen := f.payload.length,
    mask := f.mask, headerLen := f.header.length, nReadPayload := np, carry := carry,
    writePos := wp, readPos := rp, readlen := rl, rd := rd, contOp := f.nextCo co }

theorem ctxInFrame_eq (f : Frame) (co : Byte) (a : Nat) (cu rd : List Byte) (rp : Option Nat) (st : St) :
    ctxInFrame f co a cu rd rp st =
      ctxF f co st (a + cu.length) (xorFrom f.mask a cu) (some (wpOf f co a)) rp rd.length rd := rfl

theorem ctxF_eq_ctxInFrame (f : Frame) (co : Byte) (st : St) (np a : Nat) (cu rd : List Byte)
    (wp rp : Option Nat) (hnp : np = a + cu.length) (hwp : wp = some (wpOf f co a)) :
    ctxF f co st np (xorFrom f.mask a cu) wp rp rd.length rd = ctxInFrame f co a cu rd rp st := by
  subst hnp hwp; rfl

theorem advance_ctxF (f : Frame) (co : Byte) (st : St) (np n : Nat) (carry : List Byte)
    (wp rp : Option Nat) (rl : Int) (rd : List Byte) (h1 : np + n ≤ f.payload.length)
    (h2 : f.payload.length < 2 ^ 64) :
    advance (ctxF f co st np carry wp rp rl rd) n =
      ctxF f co (if np + n = f.payload.length then .frameComplete else st) (np + n) carry wp rp rl rd := by
  have e1 : (np + n) % 2 ^ 64 = np + n := Nat.mod_eq_of_lt (by omega)
  have e2 : ((f.payload.length + 2 ^ 64 - (np + n)) % 2 ^ 64 = 0) ↔ np + n = f.payload.length := by
    constructor
    · intro h
      have : f.payload.length + 2 ^ 64 - (np + n) = 2 ^ 64 + (f.payload.length - (np + n)) := by omega
      rw [this, Nat.add_mod_left, Nat.mod_eq_of_lt (by omega)] at h
      omega
    · intro h; rw [h]; simp
  simp only [advance, ctxF, e1, e2]

theorem ctxF_remaining (f : Frame) (co : Byte) (st : St) (np : Nat) (carry : List Byte)
    (wp rp : Option Nat) (rl : Int) (rd : List Byte) (h1 : np ≤ f.payload.length)
    (h2 : f.payload.length < 2 ^ 64) :
    (ctxF f co st np carry wp rp rl rd).remaining = f.payload.length - np := by
  simp only [Ctx.remaining, ctxF]
  have : f.payload.length + 2 ^ 64 - np = 2 ^ 64 + (f.payload.length - np) := by omega
  rw [this, Nat.add_mod_left, Nat.mod_eq_of_lt (by omega)]

theorem returnData_nil (c : Ctx) (len : Nat) (h : c.readlen = 0) : returnData c len = (c, c.st, .again) := by
  simp [returnData, h]

theorem returnData_ctxF (f : Frame) (co : Byte) (st : St) (np : Nat) (carry : List Byte)
    (wp : Option Nat) (rp : Nat) (rd : List Byte) (len : Nat) (hrd : rd ≠ [])
    (h1 : np ≤ f.payload.length) (h2 : f.payload.length < 2 ^ 64) :
    returnData (ctxF f co st np carry wp (some rp) rd.length rd) len =
      if len < rd.length then
        (ctxF f co st np carry wp (some (rp + len)) (rd.drop len).length (rd.drop len), .dataAvailable,
          .data (rd.take len))
      else
        (ctxF f co st np carry wp none 0 [],
          if np = f.payload.length then .frameComplete else .dataNeeded, .data rd) := by
  have hpos : (0 : Int) < rd.length := by
    have := List.length_pos_iff.mpr hrd; omega
  have hrem := ctxF_remaining f co st np carry wp (some rp) rd.length rd h1 h2
  unfold returnData
  rw [hrem]
  simp only [ctxF] at *
  simp only [hpos, if_true]
  by_cases hl : len < rd.length
  · have : (rd.length : Int) > len := by omega
    simp only [this, hl, if_true, List.length_drop]
    congr 2
    omega
  · have : ¬ (rd.length : Int) > len := by omega
    simp only [this, hl, if_false]
    have e : (f.payload.length - np = 0) ↔ np = f.payload.length := by omega
    simp only [e]

theorem effOp_isControl (f : Frame) (co : Byte) (hok : f.ok co) :
    ((f.effOp co) &&& 0x08 != 0) = f.isControl := by
  obtain ⟨_, _, h3⟩ := hok
  by_cases hc : f.isControl = true
  · simp only [Frame.effOp, hc, if_true]; exact hc
  · have hc' : f.isControl = false := by simpa using hc
    obtain ⟨_, h4⟩ := h3 hc'
    rw [hc']
    rcases h4 with h4 | ⟨h4, _⟩ <;> rw [h4] <;> decide

theorem effOp_not_close (f : Frame) (co : Byte) (hok : f.ok co) : f.effOp co ≠ opClose := by
  obtain ⟨_, h2, h3⟩ := hok
  by_cases hc : f.isControl = true
  · simp only [Frame.effOp, hc, if_true]
    rcases (h2 hc).2.1 with h | h <;> rw [h] <;> decide
  · have hc' : f.isControl = false := by simpa using hc
    obtain ⟨_, h4⟩ := h3 hc'
    rcases h4 with h4 | ⟨h4, _⟩ <;> rw [h4] <;> decide

theorem ctxF_set_st (f : Frame) (co : Byte) (st st' : St) (np : Nat) (carry : List Byte)
    (wp rp : Option Nat) (rl : Int) (rd : List Byte) :
    { ctxF f co st np carry wp rp rl rd with st := st' } = ctxF f co st' np carry wp rp rl rd := rfl

theorem ctxF_set_rp (f : Frame) (co : Byte) (st : St) (np : Nat) (carry : List Byte)
    (wp rp rp' : Option Nat) (rl : Int) (rd : List Byte) :
    { ctxF f co st np carry wp rp rl rd with readPos := rp' } = ctxF f co st np carry wp rp' rl rd := rfl

theorem spor_ctxF_complete (f : Frame) (co : Byte) (hok : f.ok co) (np : Nat) (carry : List Byte)
    (wp rp : Option Nat) (rl : Int) (rd : List Byte) :
    spor (ctxF f co .frameComplete np carry wp rp rl rd) =
      ctxAtHeader [] opInvalid f.fin 0 (f.afterCo co) := by
  have hic := effOp_isControl f co hok
  simp only [spor, ctxF, Ctx.isControl, hic, if_true, cleanupComplete, cleanupBasics, ctxAtHeader,
    Frame.afterCo]
  split <;> rfl

theorem spor_ctxF_other (f : Frame) (co : Byte) (st : St) (h1 : st ≠ .frameComplete) (h2 : st ≠ .err)
    (np : Nat) (carry : List Byte) (wp rp : Option Nat) (rl : Int) (rd : List Byte) :
    spor (ctxF f co st np carry wp rp rl rd) = ctxF f co st np carry wp rp rl rd := by
  simp [spor, ctxF, h1, h2]

/-- `hybiReturnData` inside a frame followed by the clean-up at `spor`: the caller gets the next
buffered bytes (EAGAIN when none are buffered); the decoder stays inside the frame, or is behind it
when nothing of the frame is buffered or pending any more -/
theorem returnData_frame (T : List Byte) (cE : Byte) (f : Frame) (fs : List Frame) (co : Byte) (a : Nat)
    (cu rest rd Vf : List Byte) (rp : Nat) (st : St) (len : Nat)
    (hv : ValidSeq co (f :: fs)) (hE : endCo co (f :: fs) = cE) (ha : rest ≠ [] → a % 4 = 0)
    (hcu : cu.length ≤ 3) (hP : f.payload.length = a + cu.length + rest.length) (hce : rest = [] → cu = [])
    (hrem : Rem (f.effOp co) (cu ++ rest) Vf) (hlen : 0 < len)
    (hst : rd = [] → st = if rest = [] then .frameComplete else .dataNeeded) :
    ∃ out V', (returnData (ctxInFrame f co a cu rd (some rp) st) len).2.2 =
        (if out = [] then Res.again else Res.data out) ∧
      out.length ≤ len ∧ (rd ≠ [] → out ≠ []) ∧ rd ++ (Vf ++ expected (f.afterCo co) fs) = out ++ V' ∧
      ∃ lv, Inv T cE lv (spor { (returnData (ctxInFrame f co a cu rd (some rp) st) len).1 with
                                 st := (returnData (ctxInFrame f co a cu rd (some rp) st) len).2.1 })
        (xorFrom f.mask (a + cu.length) rest ++ (wireOf fs ++ T)) V' := by
  have hok := hv.1
  have hnp : a + cu.length = f.payload.length ↔ rest = [] := by
    rw [hP, ← List.length_eq_zero_iff]; omega
  -- nothing buffered any more: behind the frame if nothing of it is pending, else still inside
  have hmoved : ∀ rpN, ∃ lv, Inv T cE lv
      (spor (ctxF f co (if rest = [] then .frameComplete else .dataNeeded) (a + cu.length)
        (xorFrom f.mask a cu) (some (wpOf f co a)) rpN 0 []))
      (xorFrom f.mask (a + cu.length) rest ++ (wireOf fs ++ T)) (Vf ++ expected (f.afterCo co) fs) := by
    intro rpN
    by_cases hr : rest = []
    · have hVf : Vf = [] := Rem_nil (f.effOp co) Vf (by simpa [hr, hce hr] using hrem)
      obtain ⟨lv, h⟩ := Inv_start T cE (f.afterCo co) fs hv.2 (by simpa [endCo] using hE) opInvalid f.fin 0
      rw [if_pos hr, spor_ctxF_complete f co hok, hr, hVf, xorFrom_nil]
      exact ⟨lv, by simpa using h⟩
    · rw [if_neg hr, spor_ctxF_other _ _ _ (by decide) (by decide)]
      exact ⟨true, Inv.frame f fs co a cu rest [] Vf rpN .dataNeeded hv hE ha hcu hP hce hrem
        (Or.inl ⟨rfl, rfl, hr⟩)⟩
  rw [ctxInFrame_eq]
  by_cases hrd : rd = []
  · subst hrd
    rw [returnData_nil _ _ rfl, hst rfl]
    exact ⟨[], _, rfl, Nat.zero_le _, fun h => absurd rfl h, rfl, hmoved _⟩
  · rw [returnData_ctxF f co _ _ _ _ _ rd len hrd (by omega) hok.1]
    by_cases hl : len < rd.length
    · have htne : rd.take len ≠ [] := by
        rw [← List.length_pos_iff, List.length_take]; omega
      have hdne : rd.drop len ≠ [] := by
        rw [← List.length_pos_iff, List.length_drop]; omega
      refine ⟨rd.take len, rd.drop len ++ (Vf ++ expected (f.afterCo co) fs), by simp [hl, htne],
        by rw [List.length_take]; omega, fun _ => htne, by rw [← List.append_assoc (rd.take len), List.take_append_drop], true, ?_⟩
      simp only [hl, if_true, ctxF_set_st]
      rw [spor_ctxF_other _ _ _ (by decide) (by decide)]
      exact Inv.frame f fs co a cu rest (rd.drop len) Vf (some (rp + len)) .dataAvailable hv hE ha hcu hP hce hrem
        (Or.inr ⟨hdne, rfl, rfl⟩)
    · refine ⟨rd, Vf ++ expected (f.afterCo co) fs, by simp [hl, hrd], by omega, fun h => h, rfl, ?_⟩
      simp only [hl, if_false, ctxF_set_st, hnp]
      exact hmoved none

/-- how many of the `n` bytes in front of the write position are unmasked and released: all of them
when the frame is complete, else the whole 32-bit words -/
def wordCut (complete : Bool) (n : Nat) : Nat := if complete then n else 4 * (n / 4)

theorem wordCut_le (c : Bool) (n : Nat) : wordCut c n ≤ n := by unfold wordCut; split <;> omega

theorem wordCut_rest (c : Bool) (n : Nat) : n - wordCut c n ≤ 3 := by unfold wordCut; split <;> omega

theorem wordCut_false (n : Nat) : wordCut false n % 4 = 0 := by simp [wordCut]

theorem unmaskChunk_aligned (complete : Bool) (m : Mask) (a : Nat) (ha : a % 4 = 0) (X : List Byte) :
    unmaskChunk complete m (xorFrom m a X) =
      (X.take (wordCut complete X.length),
       xorFrom m (a + wordCut complete X.length) (X.drop (wordCut complete X.length))) := by
  cases complete with
  | true => simp [unmaskChunk, wordCut, xorMask_xorFrom_aligned m a ha, xorFrom_nil]
  | false =>
    simp only [unmaskChunk, wordCut, xorFrom_length, xorFrom_take, xorFrom_drop,
      xorMask_xorFrom_aligned m a ha]
    simp

theorem release_ctxF (hb : B64RoundTrip) (f : Frame) (co : Byte) (st : St) (np : Nat)
    (carry : List Byte) (wp rp : Option Nat) (R V : List Byte) (m bufsize : Nat)
    (hrem : Rem (f.effOp co) R V) (hm4 : f.effOp co = opText → m % 4 = 0) (hm : m ≤ R.length)
    (hbs : m ≤ bufsize + 3) (hbig : 10 ≤ bufsize) :
    ∃ out V', V = out ++ V' ∧ Rem (f.effOp co) (R.drop m) V' ∧ out.length ≤ m ∧
      release (ctxF f co st np carry wp rp 0 []) (R.take m) bufsize =
        ctxF f co st np carry (if isDataOp (f.effOp co) then some f.header.length else wp) rp
          out.length out := by
  obtain ⟨out, V', h1, h2, h3, h4⟩ :=
    release_rem hb (ctxF f co st np carry wp rp 0 []) R V m bufsize hrem hm4 hm hbs hbig rfl rfl
  exact ⟨out, V', h1, h2, h3, h4⟩

theorem finishChunk_ctxF (f : Frame) (co : Byte) (hok : f.ok co) (st : St) (np : Nat)
    (carry : List Byte) (wp rp : Option Nat) (e : Env) (len wpEnd bufsize a : Nat) (ha : a % 4 = 0)
    (X : List Byte) (m : Nat)
    (hm : m = wordCut (st == .frameComplete) X.length) :
    finishChunk (ctxF f co st np carry wp rp 0 []) e len wpEnd bufsize (xorFrom f.mask a X) =
      let r := returnData { release (ctxF f co st np (xorFrom f.mask (a + m) (X.drop m))
        (some (wpEnd - (X.drop m).length)) rp 0 []) (X.take m) bufsize with
        readPos := some (wpEnd - X.length) } len
      ⟨r.1, e, r.2.1, r.2.2⟩ := by
  have hnc := effOp_not_close f co hok
  subst hm
  unfold finishChunk
  have hu := unmaskChunk_aligned (st == .frameComplete) f.mask a ha X
  simp only [ctxF] at hu ⊢
  rw [hu]
  simp only [hnc, if_false, xorFrom_length]

theorem decodeChunk_frame (hb : B64RoundTrip) (T : List Byte) (cE : Byte) (f : Frame) (fs : List Frame)
    (co : Byte) (a : Nat)
    (cu rest Vf : List Byte) (rp : Option Nat) (e : Env) (len t : Nat)
    (hv : ValidSeq co (f :: fs)) (hE : endCo co (f :: fs) = cE) (ha : a % 4 = 0) (hcu : cu.length ≤ 3)
    (hP : f.payload.length = a + cu.length + rest.length) (hrem : Rem (f.effOp co) (cu ++ rest) Vf)
    (ht : t ≤ rest.length) (hlen : 0 < len)
    (bufsize : Nat) (htb : t ≤ bufsize) (hbig : 10 ≤ bufsize) :
    ∃ d, decodeChunk (ctxInFrame f co a cu [] rp .dataNeeded) e len [] (wpOf f co a + cu.length)
              bufsize (xorFrom f.mask (a + cu.length) (rest.take t)) = d ∧
    d.e = e ∧ ∃ out V', d.res = (if out = [] then Res.again else Res.data out) ∧ out.length ≤ len ∧
      Vf ++ expected (f.afterCo co) fs = out ++ V' ∧
      ∃ lv, Inv T cE lv (spor { d.c with st := d.st })
        (xorFrom f.mask (a + cu.length + t) (rest.drop t) ++ (wireOf fs ++ T)) V' := by
  obtain ⟨hok, hvs⟩ := hv
  have hPlt : f.payload.length < 2 ^ 64 := hok.1
  -- `ha : a % 4 = 0` is kept out of the context during the linear arithmetic below (`omega` would
  -- case-split on the congruence in every call); it is re-introduced by `intro ha` after it
  revert ha
  -- the bytes in front of writePos
  let X := cu ++ rest.take t
  have hXlen : X.length = cu.length + t := by simp [X]; omega
  have hdata : xorFrom f.mask a cu ++ xorFrom f.mask (a + cu.length) (rest.take t) = xorFrom f.mask a X := by
    simp [X, xorFrom_append]
  let complete : Bool := decide (t = rest.length)
  let m := wordCut complete X.length
  have hmX : m ≤ X.length := wordCut_le _ _
  have hmr : X.length ≤ m + 3 := by have := wordCut_rest complete X.length; omega
  -- the arithmetic of the new position (before any case distinction enters the context)
  have hbnd : m ≤ bufsize + 3 := by omega
  have hmR : m ≤ (cu ++ rest).length := by
    simp only [List.length_append]; omega
  have hbsl : (xorFrom f.mask (a + cu.length) (rest.take t)).length = t := by
    simp [xorFrom_length]; omega
  have hnub : ¬ (wpOf f co a + cu.length + t < (xorFrom f.mask a X).length) := by
    rw [xorFrom_length, hXlen]; omega
  have hwp : (if isDataOp (f.effOp co) = true then some f.header.length
      else some (wpOf f co a + cu.length + t - (X.drop m).length)) = some (wpOf f co (a + m)) := by
    simp only [wpOf, List.length_drop]
    split
    · rfl
    · congr 1; omega
  have hnp' : a + cu.length + t = a + m + (X.drop m).length := by simp only [List.length_drop]; omega
  have hcu' : (X.drop m).length ≤ 3 := by rw [List.length_drop]; omega
  have hP' : f.payload.length = a + m + (X.drop m).length + (rest.drop t).length := by
    simp only [List.length_drop]; omega
  intro ha
  have hR : cu ++ rest = X ++ rest.drop t := by
    simp [X, List.append_assoc]
  have hRtake : (cu ++ rest).take m = X.take m := by
    rw [hR, List.take_append_of_le_length hmX]
  have hRdrop : (cu ++ rest).drop m = X.drop m ++ rest.drop t := by
    rw [hR, List.drop_append_of_le_length hmX]
  -- complete frame: everything is released; otherwise whole words
  have hrest0 : rest.drop t = [] ↔ t = rest.length := by
    rw [← List.length_eq_zero_iff, List.length_drop]; omega
  have hnp : a + cu.length + t = f.payload.length ↔ t = rest.length := by omega
  have hmc : (t = rest.length ∧ m = X.length) ∨ (t ≠ rest.length ∧ m % 4 = 0) := by
    by_cases hc : t = rest.length
    · exact Or.inl ⟨hc, by simp [m, complete, hc, wordCut]⟩
    · exact Or.inr ⟨hc, by simpa [m, complete, hc] using wordCut_false X.length⟩
  have hstC : ((if a + cu.length + t = f.payload.length then St.frameComplete else St.dataNeeded)
      == St.frameComplete) = complete := by
    by_cases h : t = rest.length
    · simp [complete, h]; omega
    · simp [complete, h, mt hnp.mp h]
  have hm4 : f.effOp co = opText → m % 4 = 0 := by
    intro htx
    rcases hmc with ⟨htl, hm⟩ | ⟨_, hm⟩
    · have hne : opText ≠ opBinary := by decide
      simp only [Rem, htx, hne, if_false, if_true] at hrem
      have h4 := ntop_length_mod4 Vf
      rw [← hrem, List.length_append] at h4
      rw [hm, hXlen, htl]; exact h4
    · exact hm
  have ha' : rest.drop t ≠ [] → (a + m) % 4 = 0 := fun hne => by
    rcases hmc with ⟨hc, _⟩ | ⟨_, hm⟩
    · exact absurd (hrest0.mpr hc) hne
    · rw [Nat.add_mod, ha, hm]
  have hce' : rest.drop t = [] → X.drop m = [] := fun h => by
    rcases hmc with ⟨_, hm⟩ | ⟨hc, _⟩
    · rw [hm, List.drop_length]
    · exact absurd (hrest0.mp h) hc
  have hadv := advance_ctxF f co .dataNeeded (a + cu.length) t (xorFrom f.mask a cu)
    (some (wpOf f co a)) rp 0 [] (by omega) hPlt
  obtain ⟨out, Vr, hVf, hRem', houtm, hrel⟩ :=
    release_ctxF hb f co (if a + cu.length + t = f.payload.length then St.frameComplete else St.dataNeeded)
      (a + cu.length + t) (xorFrom f.mask (a + m) (X.drop m))
      (some (wpOf f co a + cu.length + t - (X.drop m).length)) rp (cu ++ rest) Vf m
      bufsize hrem hm4 hmR hbnd hbig
  -- the call as `hybiReturnData` on that state
  have hd : decodeChunk (ctxInFrame f co a cu [] rp .dataNeeded) e len [] (wpOf f co a + cu.length)
      bufsize (xorFrom f.mask (a + cu.length) (rest.take t)) =
      let r := returnData (ctxInFrame f co (a + m) (X.drop m) out (some (wpOf f co a + cu.length + t - X.length))
        (if a + cu.length + t = f.payload.length then .frameComplete else .dataNeeded)) len
      ⟨r.1, e, r.2.1, r.2.2⟩ := by
    rw [ctxInFrame_eq, decodeChunk]
    simp only [List.nil_append]
    rw [show (ctxF f co .dataNeeded (a + cu.length) (xorFrom f.mask a cu) (some (wpOf f co a)) rp
        ((([] : List Byte).length : Nat) : Int) []).carry = xorFrom f.mask a cu from rfl, hdata, hbsl, if_neg hnub]
    erw [hadv]
    rw [finishChunk_ctxF f co hok _ _ _ _ _ e len _ _ a ha X m (by rw [hstC]), ← hRtake, hrel, ctxF_set_rp,
      ctxF_eq_ctxInFrame f co _ _ (a + m) (X.drop m) out _ _ hnp' hwp]
  obtain ⟨o, V', h1, h2, _, h4, h5⟩ := returnData_frame T cE f fs co (a + m) (X.drop m) (rest.drop t) out Vr
    (wpOf f co a + cu.length + t - X.length)
    (if a + cu.length + t = f.payload.length then .frameComplete else .dataNeeded) len ⟨hok, hvs⟩ hE
    ha' hcu' hP' hce' (hRdrop ▸ hRem') hlen (fun _ => by simp only [hnp, hrest0])
  refine ⟨_, hd, rfl, o, V', h1, h2, by rw [hVf, List.append_assoc, h4], ?_⟩
  rw [← hnp'] at h5; exact h5

theorem lenField_length (n : Nat) :
    (lenField n).length = if n < 126 then 1 else if n < 65536 then 3 else 9 := by
  unfold lenField
  split
  · rfl
  · split <;> simp [beEnc_length]

theorem header_length (f : Frame) :
    f.header.length = if f.payload.length < 126 then 6 else if f.payload.length < 65536 then 8 else 14 := by
  simp only [Frame.header, List.length_cons, List.length_append, lenField_length, Mask.toList]
  split
  · rfl
  · split <;> rfl

theorem header_length_le (f : Frame) : f.header.length ≤ 14 ∧ 6 ≤ f.header.length := by
  rw [header_length]; split
  · omega
  · split <;> omega

theorem isDataOp_of_ok (f : Frame) (co : Byte) (hok : f.ok co) :
    isDataOp (f.effOp co) = !f.isControl := by
  obtain ⟨_, _, h3⟩ := hok
  by_cases hc : f.isControl = true
  · rw [hc]
    have : f.effOp co = f.opcode := by simp [Frame.effOp, hc]
    rw [this]
    simp only [Frame.isControl] at hc
    simp only [isDataOp, Bool.not_true, Bool.or_eq_false_iff, beq_eq_false_iff_ne]
    constructor
    · intro h; rw [h] at hc; revert hc; decide
    · intro h; rw [h] at hc; revert hc; decide
  · have hc' : f.isControl = false := by simpa using hc
    obtain ⟨_, h4⟩ := h3 hc'
    rw [hc']
    rcases h4 with h4 | ⟨h4, _⟩ <;> rw [h4] <;> decide

theorem wp_bound (f : Frame) (co : Byte) (hok : f.ok co) (a k : Nat) (h : a + k ≤ f.payload.length)
    (hk : k ≤ 3) : wpOf f co a + k + 1900 ≤ BUF := by
  have hl := (header_length_le f).1
  have hd := isDataOp_of_ok f co hok
  unfold wpOf
  by_cases hc : f.isControl = true
  · have := (hok.2.1 hc).2.2
    simp only [hd, hc, Bool.not_true]
    simp [BUF, Gen.C09.decodeBufSize]; omega
  · have hc' : f.isControl = false := by simpa using hc
    simp only [hd, hc', Bool.not_false, if_true]
    simp [BUF, Gen.C09.decodeBufSize]; omega

theorem readAndDecode_some (c : Ctx) (e : Env) (len : Nat) (inbuf : List Byte) (wp0 : Nat)
    (h : c.writePos = some wp0) (hb : wp0 + c.carry.length + 1 ≤ BUF) :
    readAndDecode c e len inbuf =
      if (if c.remaining > BUF - (wp0 + c.carry.length) - 1 then BUF - (wp0 + c.carry.length) - 1
          else c.remaining) > 0 then
        match e.read (wp0 + c.carry.length)
            ((if c.remaining > BUF - (wp0 + c.carry.length) - 1 then BUF - (wp0 + c.carry.length) - 1
              else c.remaining : Nat)) with
        | (.bad, e) => ⟨c, e, .err, .ub⟩
        | (.fail, e) => ⟨c, e, .err, .err .eio⟩
        | (.closed, e) => ⟨c, e, .err, .closed⟩
        | (.again, e) => ⟨c, e, c.st, .again⟩
        | (.data bs, e) =>
          decodeChunk c e len inbuf (wp0 + c.carry.length) (BUF - (wp0 + c.carry.length) - 1) bs
      else decodeChunk c e len inbuf (wp0 + c.carry.length) (BUF - (wp0 + c.carry.length) - 1) [] := by
  unfold readAndDecode
  rw [h]
  have : ¬ (wp0 + c.carry.length + 1 > BUF) := by omega
  simp only [this, if_false]
  rfl

theorem readAndDecode_frame (hb : B64RoundTrip) (T : List Byte) (cE : Byte) (f : Frame) (fs : List Frame)
    (co : Byte) (a : Nat)
    (cu rest Vf : List Byte) (rp : Option Nat) (e : Env) (len : Nat)
    (hv : ValidSeq co (f :: fs)) (hE : endCo co (f :: fs) = cE) (ha : a % 4 = 0) (hcu : cu.length ≤ 3)
    (hP : f.payload.length = a + cu.length + rest.length) (hce : rest = [] → cu = [])
    (hrem : Rem (f.effOp co) (cu ++ rest) Vf)
    (hlen : 0 < len) (hpend : e.pending = xorFrom f.mask (a + cu.length) rest ++ (wireOf fs ++ T))
    (hff : e.FaultFree) (hs : e.Safe) :
    ∃ d, readAndDecode (ctxInFrame f co a cu [] rp .dataNeeded) e len [] = d ∧
    d.e.FaultFree ∧ d.e.Safe ∧ ∃ out V', d.res = (if out = [] then Res.again else Res.data out) ∧
      out.length ≤ len ∧ Vf ++ expected (f.afterCo co) fs = out ++ V' ∧
      (∃ lv, Inv T cE lv (spor { d.c with st := d.st }) d.e.pending V') ∧
      d.e.pending.length ≤ e.pending.length ∧
      (out ≠ [] ∨ d.e.pending.length < e.pending.length ∨ e.Stuck ∨ rest = []) := by
  refine ⟨_, rfl, ?_⟩
  generalize hd : readAndDecode (ctxInFrame f co a cu [] rp .dataNeeded) e len [] = d
  -- `ha` is kept out of the context while `omega` works, as in `decodeChunk_frame`
  revert ha
  have hok := hv.1
  have hPlt : f.payload.length < 2 ^ 64 := hok.1
  have hwpb := wp_bound f co hok a cu.length (by omega) hcu
  have hcl : (ctxInFrame f co a cu [] rp .dataNeeded).carry.length = cu.length := xorFrom_length _ _ _
  have hremv : (ctxInFrame f co a cu [] rp .dataNeeded).remaining = rest.length := by
    rw [ctxInFrame_eq, ctxF_remaining f co _ _ _ _ _ _ _ (by omega) hPlt]; omega
  rw [readAndDecode_some _ e len [] (wpOf f co a) rfl (by rw [hcl]; omega), hcl, hremv] at hd
  generalize hN : (if rest.length > BUF - (wpOf f co a + cu.length) - 1
      then BUF - (wpOf f co a + cu.length) - 1 else rest.length) = N at hd
  have hNle : N ≤ rest.length ∧ N ≤ BUF - (wpOf f co a + cu.length) - 1 := by
    rw [← hN]; split <;> omega
  have hbig : 10 ≤ BUF - (wpOf f co a + cu.length) - 1 := by omega
  by_cases hN0 : N > 0
  · rw [if_pos hN0] at hd
    obtain ⟨e', hff', hs', ⟨hr, hp', hstuck⟩ | ⟨t, ht0, htN, hr, hp'⟩⟩ :=
      Env.read_prefix e (wpOf f co a + cu.length) (N : Int) _ _ hpend (by omega)
        (by rw [xorFrom_length]; omega) (by omega) hff hs
    · -- EAGAIN: state kept
      rw [hr] at hd
      subst hd
      have hrne : rest ≠ [] := by
        intro h; rw [h] at hNle; simp at hNle; omega
      intro ha
      refine ⟨hff', hs', [], Vf ++ expected (f.afterCo co) fs, rfl, by simp, rfl, ⟨true, ?_⟩,
        by rw [hp', hpend]; exact Nat.le_refl _, Or.inr (Or.inr (Or.inl hstuck))⟩
      have hsp : spor { ctxInFrame f co a cu [] rp .dataNeeded with
          st := (ctxInFrame f co a cu [] rp .dataNeeded).st } = ctxInFrame f co a cu [] rp .dataNeeded := by
        simp [spor, ctxInFrame]
      simp only [hsp, hp']
      exact Inv.frame (T := T) (cE := cE) f fs co a cu rest [] Vf rp .dataNeeded hv hE (fun _ => ha) hcu hP hce hrem
        (Or.inl ⟨rfl, rfl, hrne⟩)
    · -- t bytes of payload arrive
      rw [hr, xorFrom_take] at hd
      rw [xorFrom_drop] at hp'
      have htr : t ≤ rest.length := by omega
      have htb : t ≤ BUF - (wpOf f co a + cu.length) - 1 := by omega
      have hlt : e'.pending.length < e.pending.length := by
        rw [hp', hpend]; simp only [List.length_append, xorFrom_length, List.length_drop]; omega
      intro ha
      obtain ⟨d', hd', hde, out, V', h1, h2, h3, h4⟩ :=
        decodeChunk_frame hb T cE f fs co a cu rest Vf rp e' len t hv hE ha hcu hP hrem htr hlen _ htb hbig
      obtain rfl : d' = d := hd'.symm.trans hd
      rw [hde]
      exact ⟨hff', hs', out, V', h1, h2, h3, hp' ▸ h4, Nat.le_of_lt hlt, Or.inr (Or.inl hlt)⟩
  · -- nothing left to read (empty payload / everything already in the buffer)
    rw [if_neg hN0] at hd
    have hr0 : rest = [] := by
      have : rest.length = 0 := by rw [← hN] at hN0; split at hN0 <;> omega
      exact List.length_eq_zero_iff.mp this
    intro ha
    obtain ⟨d', hd', hde, out, V', h1, h2, h3, h4⟩ :=
      decodeChunk_frame hb T cE f fs co a cu rest Vf rp e len 0 hv hE ha hcu hP hrem (Nat.zero_le _) hlen _
        (Nat.zero_le _) hbig
    obtain rfl : d' = d := hd'.symm.trans hd
    rw [hde]
    refine ⟨hff, hs, out, V', h1, h2, h3, ?_, Nat.le_refl _, Or.inr (Or.inr (Or.inr hr0))⟩
    rw [hpend]; simpa using h4

end VncModel.Ws
