import VncModel.Ws.LemmasHeader
/-! `decode_step`: one `webSocketsDecodeHybi` call from a state `Inv` describes returns the next
bytes owed (or EAGAIN), ends in a state `Inv` describes, logs only safe read requests and makes
progress unless the transport is stuck.  `run_inv` iterates it over the caller's lengths;
`Inv_init` / `Inv_finished` are the two ends (fresh context; nothing pending and nothing buffered
means nothing owed). -/
namespace VncModel.Ws

theorem Rem_out (hb : B64RoundTrip) (f : Frame) (co : Byte) (hok : f.ok co) :
    Rem (f.effOp co) f.payload (f.out co) := by
  unfold Rem Frame.out
  by_cases h1 : f.effOp co = opBinary
  · simp [h1]
  · by_cases h2 : f.effOp co = opText
    · simp only [h2, if_true]
      have hne : opText ≠ opBinary := by decide
      simp only [hne, if_false]
      obtain ⟨_, hctl, hdat⟩ := hok
      have hnc : f.isControl = false := by
        by_cases hc : f.isControl = true
        · exfalso
          have : f.effOp co = f.opcode := by simp [Frame.effOp, hc]
          rw [this] at h2
          simp only [Frame.isControl] at hc
          rw [h2] at hc
          revert hc; decide
        · simpa using hc
      obtain ⟨_, h4⟩ := hdat hnc
      rcases h4 with h4 | ⟨_, x, hx⟩
      · exact absurd h4 h1
      · rw [hx]
        have hl : x.length < (ntop x).length + 1 := by rw [ntop_length]; omega
        simp [b64Inv, hb x _ hl]
    · simp [h1, h2]

theorem decode_header_pending (c c' : Ctx) (e e' : Env) (len : Nat) (r : Res) (hst : c.st = .headerPending)
    (hst' : c'.st = .headerPending) (h : readHeader c e = ⟨c', e', .headerPending, r, []⟩) :
    decode c e len = (c', e', r) := by
  have hc' : { c' with st := .headerPending } = c' := by cases c'; cases hst'; rfl
  simp [decode, hst, h, hc', spor]

theorem decode_header_done (c c1 : Ctx) (e e' : Env) (len : Nat) (r : Res) (inbuf : List Byte)
    (hst : c.st = .headerPending) (h : readHeader c e = ⟨c1, e', .dataNeeded, r, inbuf⟩) :
    decode c e len =
      (spor { (readAndDecode { c1 with st := .dataNeeded } e' len inbuf).c with
                st := (readAndDecode { c1 with st := .dataNeeded } e' len inbuf).st },
       (readAndDecode { c1 with st := .dataNeeded } e' len inbuf).e,
       (readAndDecode { c1 with st := .dataNeeded } e' len inbuf).res) := by
  simp [decode, hst, h]

theorem decode_step (hb : B64RoundTrip) (T : List Byte) (cE : Byte) (lv : Bool) (c : Ctx) (e : Env)
    (V : List Byte) (len : Nat)
    (hinv : Inv T cE lv c e.pending V) (hT : lv = true ∨ T = []) (hff : e.FaultFree) (hs : e.Safe)
    (hlen : 0 < len) :
    ∃ out V', (decode c e len).2.2 = (if out = [] then Res.again else Res.data out) ∧
      out.length ≤ len ∧ V = out ++ V' ∧
      (∃ lv', Inv T cE lv' (decode c e len).1 (decode c e len).2.1.pending V') ∧
      (decode c e len).2.1.FaultFree ∧ (decode c e len).2.1.Safe ∧
      (out ≠ [] ∨ (decode c e len).2.1.pending.length < e.pending.length ∨ e.Stuck) := by
  generalize hp : e.pending = p at hinv
  cases hinv with
  | done opc fin pl =>
    obtain rfl : T = [] := by rcases hT with h | h; · cases h
                              · exact h
    -- nothing is pending: the header read can only report EAGAIN
    have hBUF : (6 : Int) ≤ BUF := by simp [BUF, Gen.C09.decodeBufSize]
    obtain ⟨e1, hff1, hs1, ⟨hr, hp1, hstuck⟩ | ⟨t, ht0, _, htl, _⟩⟩ :=
      Env.read_cases e 0 6 (by omega) (by omega) hff hs
    · have hrd : readHeader (ctxAtHeader [] opc fin pl cE) e =
          ⟨ctxAtHeader [] opc fin pl cE, e1, .headerPending, .again, []⟩ := by
        have h2 : hdrMissing (ctxAtHeader [] opc fin pl cE) = 6 := by
          simp [hdrMissing, ctxAtHeader, hdrWant, Ctx.nRead]
        unfold readHeader
        rw [show (ctxAtHeader [] opc fin pl cE).nRead = 0 from rfl, h2, hr]
      rw [decode_header_pending _ _ _ _ len _ rfl rfl hrd]
      exact ⟨[], [], rfl, by simp, rfl, ⟨false, by rw [hp1, hp]; exact Inv.done opc fin pl⟩, hff1, hs1,
        Or.inr (Or.inr hstuck)⟩
    · rw [hp] at htl; simp at htl; omega
  | header f fs co co' j opc fin pl hv hE hj hco =>
    have hok := hv.1
    obtain ⟨e', hff', hs', hcs⟩ := readHeader_cases_hok f co co' j opc fin pl e
      (xorMask f.mask f.payload ++ (wireOf fs ++ T)) hok.hok hj hco hp hff hs
    rcases hcs with ⟨j', opc', fin', pl', co'', hj', hco'', hrh, hpe, hprog⟩ | ⟨hrh, hpe⟩
    · -- header still incomplete
      rw [decode_header_pending _ _ _ _ len _ rfl rfl hrh]
      refine ⟨[], expected co (f :: fs), rfl, by simp, rfl,
        ⟨true, hpe ▸ Inv.header f fs co co'' j' opc' fin' pl' hv hE hj' hco''⟩, hff', hs', ?_⟩
      rcases hprog with h | h
      · exact Or.inr (Or.inr h)
      · refine Or.inr (Or.inl ?_)
        simp only [hpe, List.length_append, List.length_drop]
        omega
    · -- header complete: go on with the payload in the same call
      rw [decode_header_done _ _ _ _ len _ _ rfl hrh]
      obtain ⟨d, hd, hdff, hds, out, V', h1, h2, h3, h4, h5, _⟩ :=
        readAndDecode_frame hb T cE f fs co 0 [] f.payload (f.out co) (some f.header.length) e' len hv hE
          (by omega) (by simp) (by simp) (fun _ => rfl) (by simpa using Rem_out hb f co hok) hlen
          (by rw [hpe]; simp [xorMask]) hff' hs'
      rw [show ({ ctxInFrame f co 0 [] [] (some f.header.length) St.headerPending with st := St.dataNeeded } : Ctx) =
          ctxInFrame f co 0 [] [] (some f.header.length) St.dataNeeded from rfl, hd]
      refine ⟨out, V', h1, h2, by simpa [expected] using h3, h4, hdff, hds, Or.inr (Or.inl ?_)⟩
      rw [hpe] at h5
      simp only [List.length_append, List.length_drop] at h5 ⊢
      omega
  | frame f fs co a cu rest rd Vf rp st hv hE ha hcu hP hce hrem hcase =>
    have hok := hv.1
    have hPlt : f.payload.length < 2 ^ 64 := hok.1
    rcases hcase with ⟨hrd, hst, hrne⟩ | ⟨hrd, hst, hrp⟩
    · -- more payload needed
      subst hrd; subst hst
      obtain ⟨d, hd, hdff, hds, out, V', h1, h2, h3, h4, _, h6⟩ :=
        readAndDecode_frame hb T cE f fs co a cu rest Vf rp e len hv hE (ha hrne) hcu hP hce hrem hlen hp hff hs
      have hst0 : (ctxInFrame f co a cu [] rp St.dataNeeded).st = St.dataNeeded := rfl
      refine ⟨out, V', ?_, h2, by simpa using h3, ?_, ?_, ?_, ?_⟩ <;>
        simp only [decode, hst0, hd]
      · exact h1
      · exact h4
      · exact hdff
      · exact hds
      · rcases h6 with h | h | h | h
        · exact Or.inl h
        · exact Or.inr (Or.inl (hp ▸ h))
        · exact Or.inr (Or.inr h)
        · exact absurd h hrne
    · -- decoded bytes are waiting in the buffer
      subst hst
      obtain ⟨rpv, rfl⟩ := Option.isSome_iff_exists.mp hrp
      obtain ⟨out, V', h1, h2, h3, h4, h5⟩ := returnData_frame T cE f fs co a cu rest rd Vf rpv .dataAvailable len
        hv hE ha hcu hP hce hrem hlen (fun h => absurd h hrd)
      exact ⟨out, V', h1, h2, h4, hp ▸ h5, hff, hs, Or.inl (h3 hrd)⟩

theorem Inv_init (fs : List Frame) (hv : ValidSeq opInvalid fs) :
    ∃ lv, Inv [] (endCo opInvalid fs) lv Ctx.init (wireOf fs) (expected opInvalid fs) := by
  obtain ⟨lv, h⟩ := Inv_start [] (endCo opInvalid fs) opInvalid fs hv rfl opInvalid 0 0
  simp only [List.append_nil] at h
  exact ⟨lv, h⟩

theorem Inv_finished (cE : Byte) (lv : Bool) (c : Ctx) (p V : List Byte) (h : Inv [] cE lv c p V)
    (hp : [] = p) (hrl : c.readlen = 0) : V = [] := by
  cases h with
  | done => rfl
  | header f fs co co' j opc fin pl hv hE hj hco =>
    exfalso
    have := congrArg List.length hp
    simp only [List.length_nil, List.length_append, List.length_drop] at this
    omega
  | frame f fs co a cu rest rd Vf rp st hv hE ha hcu hP hce hrem hcase =>
    exfalso
    have hl := congrArg List.length hp
    simp only [List.length_nil, List.length_append, xorFrom_length] at hl
    have hr : rest = [] := List.length_eq_zero_iff.mp (by omega)
    rcases hcase with ⟨_, _, hne⟩ | ⟨hne, _, _⟩
    · exact hne hr
    · have : (rd.length : Int) = 0 := hrl
      exact hne (List.length_eq_zero_iff.mp (by omega))

theorem Res.bytes_of_out (out : List Byte) : (if out = [] then Res.again else Res.data out).bytes = out := by
  split <;> simp_all [Res.bytes]

theorem Res.fine_of_out (out : List Byte) : (if out = [] then Res.again else Res.data out).fine = true := by
  split <;> rfl

theorem delivered_cons (r : Res) (rs : List Res) : delivered (r :: rs) = r.bytes ++ delivered rs := by
  simp [delivered]

theorem run_cons (c : Ctx) (e : Env) (len : Nat) (ls : List Nat) :
    run c e (len :: ls) =
      ⟨(decode c e len).2.2 :: (run (decode c e len).1 (decode c e len).2.1 ls).outs,
       (run (decode c e len).1 (decode c e len).2.1 ls).c, (run (decode c e len).1 (decode c e len).2.1 ls).e⟩ :=
  rfl

theorem run_inv (hb : B64RoundTrip) (cE : Byte) (lens : List Nat) (hl : ∀ l ∈ lens, 0 < l) (lv : Bool)
    (c : Ctx) (e : Env)
    (V : List Byte) (hinv : Inv [] cE lv c e.pending V) (hff : e.FaultFree) (hs : e.Safe) :
    (∀ o ∈ (run c e lens).outs, o.fine = true) ∧
    ∃ V' lv', V = delivered (run c e lens).outs ++ V' ∧
      Inv [] cE lv' (run c e lens).c (run c e lens).e.pending V' ∧
      (run c e lens).e.FaultFree ∧ (run c e lens).e.Safe := by
  induction lens generalizing c e V lv with
  | nil => exact ⟨by simp [run], V, lv, by simp [run, delivered], hinv, hff, hs⟩
  | cons len ls ih =>
    obtain ⟨out, V1, h1, _, h3, ⟨lv1, h4⟩, h5, h6, _⟩ :=
      decode_step hb [] cE lv c e V len hinv (Or.inr rfl) hff hs (hl len (by simp))
    obtain ⟨ih1, V2, lv2, ih2, ih3, ih4, ih5⟩ :=
      ih (fun l hl' => hl l (by simp [hl'])) lv1 (decode c e len).1 (decode c e len).2.1 V1 h4 h5 h6
    rw [run_cons]
    refine ⟨?_, V2, lv2, ?_, ih3, ih4, ih5⟩
    · intro o ho
      rcases List.mem_cons.mp ho with rfl | ho
      · rw [h1]; exact Res.fine_of_out out
      · exact ih1 o ho
    · rw [delivered_cons, h1, Res.bytes_of_out, h3, ih2, List.append_assoc]

end VncModel.Ws
