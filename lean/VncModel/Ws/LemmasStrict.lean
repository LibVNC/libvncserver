import VncModel.Ws.LemmasStep
/-! Strictness: header violations and Close frames end the call with an error, never with payload. -/
namespace VncModel.Ws

/-- the first two header bytes already violate the protocol (given the open message `co`) -/
def Viol2 (co b0 b1 : Byte) : Prop :=
  isReservedOp (b0 &&& 0x0f) = true ∨
  (((b0 &&& 0x0f) &&& 0x08 != 0) = true ∧ (b0 &&& 0x80) >>> 7 = 0) ∨
  (((b0 &&& 0x0f) &&& 0x08 != 0) = false ∧ b0 &&& 0x0f = opContinuation ∧ co = opInvalid) ∨
  (((b0 &&& 0x0f) &&& 0x08 != 0) = true ∧ (b1 &&& 0x7f).toNat > 125) ∨
  b1 &&& 0x80 = 0

theorem parse2_viol (c : Ctx) (b0 b1 : Byte) (tl : List Byte) (hh : c.hdr = b0 :: b1 :: tl)
    (hv : Viol2 c.contOp b0 b1) : ∃ c', parse2 c = .error .eproto c' := by
  unfold parse2
  rw [hh]
  simp only [Ctx.isControl]
  -- the checks in the order of the code; a header that passes them all violates nothing
  by_cases hres : isReservedOp (b0 &&& 0x0f) = true
  · rw [if_pos hres]; exact ⟨_, rfl⟩
  by_cases hm : b1 &&& 0x80 = 0
  · -- unmasked: whatever the opcode checks say, the last test fails
    simp only [hres, hm, if_true]
    repeat' split
    all_goals exact ⟨_, rfl⟩
  rw [if_neg hres]
  by_cases hctl : ((b0 &&& 0x0f) &&& 0x08 != 0) = true
  · have hnc : ¬ ((b0 &&& 0x0f) &&& 0x08 != 0) = false := by simp [hctl]
    obtain h | h : (b0 &&& 0x80) >>> 7 = 0 ∨ (b1 &&& 0x7f).toNat > 125 := by
      rcases hv with h | ⟨_, h⟩ | ⟨h, _⟩ | ⟨_, h⟩ | h
      · exact absurd h hres
      · exact Or.inl h
      · exact absurd h hnc
      · exact Or.inr h
      · exact absurd h hm
    · simp only [hctl, if_true, h]; exact ⟨_, rfl⟩
    · by_cases hfin : (b0 &&& 0x80) >>> 7 = 0
      · simp only [hctl, if_true, hfin]; exact ⟨_, rfl⟩
      · simp only [hctl, if_true, hfin, if_false, h, and_self]; exact ⟨_, rfl⟩
  · obtain ⟨h1, h2⟩ : b0 &&& 0x0f = opContinuation ∧ c.contOp = opInvalid := by
      rcases hv with h | ⟨h, _⟩ | ⟨_, h⟩ | ⟨h, _⟩ | h
      · exact absurd h hres
      · exact absurd h hctl
      · exact h
      · exact absurd h hctl
      · exact absurd h hm
    simp only [h1, if_true, h2]; exact ⟨_, rfl⟩

theorem decode_parse2_error (c : Ctx) (e e1 : Env) (len : Nat) (bs : List Byte) (en : Errno) (c' : Ctx)
    (hst : c.st = .headerPending) (hrd : e.read c.nRead (hdrMissing c) = (.data bs, e1))
    (hp : parse2 { c with hdr := c.hdr ++ bs } = .error en c') :
    decode c e len = (cleanupComplete { cleanupComplete c' with st := .err }, e1, .err en) := by
  have hrh : readHeader c e = ⟨cleanupComplete c', e1, .err, .err en, []⟩ := by
    unfold readHeader
    rw [hrd]; simp only [hp]
  unfold decode
  rw [hst]
  simp only [hrh, if_true, spor]
  simp [cleanupComplete, cleanupBasics]

theorem finishHeader_nonminimal16 (c : Ctx) (e : Env) (b0 b1 l0 l1 m0 m1 m2 m3 : Byte) (tl : List Byte)
    (hpl : c.payloadLen = 126) (hh : c.hdr = b0 :: b1 :: l0 :: l1 :: m0 :: m1 :: m2 :: m3 :: tl)
    (hlen : beDec [l0, l1] < 126) :
    (finishHeader c e).st = .err ∧ (finishHeader c e).res = .err .eproto ∧
    (finishHeader c e).c.st = .headerPending ∧ (finishHeader c e).c.hdr = [] := by
  unfold finishHeader
  have hn : c.nRead = 8 + tl.length := by simp [Ctx.nRead, hh]; omega
  have c1 : ¬ (c.payloadLen < 126 ∧ c.nRead ≥ 6) := by rw [hpl]; omega
  have c2 : c.payloadLen = 126 ∧ 8 ≤ c.nRead := ⟨hpl, by omega⟩
  simp only [c2, and_self, if_true, hh]
  simp [hlen, cleanupComplete, cleanupBasics]

theorem finishHeader_nonminimal64 (c : Ctx) (e : Env)
    (b0 b1 l0 l1 l2 l3 l4 l5 l6 l7 m0 m1 m2 m3 : Byte) (tl : List Byte)
    (hpl : c.payloadLen = 127)
    (hh : c.hdr = b0 :: b1 :: l0 :: l1 :: l2 :: l3 :: l4 :: l5 :: l6 :: l7 :: m0 :: m1 :: m2 :: m3 :: tl)
    (hlen : beDec [l0, l1, l2, l3, l4, l5, l6, l7] < 65536) :
    (finishHeader c e).st = .err ∧ (finishHeader c e).res = .err .eproto ∧
    (finishHeader c e).c.st = .headerPending ∧ (finishHeader c e).c.hdr = [] := by
  unfold finishHeader
  have hn : c.nRead = 14 + tl.length := by simp [Ctx.nRead, hh]; omega
  have c1 : ¬ (c.payloadLen < 126 ∧ c.nRead ≥ 6) := by rw [hpl]; omega
  have c2 : ¬ (c.payloadLen = 126 ∧ 8 ≤ c.nRead) := by rw [hpl]; omega
  have c3 : c.payloadLen = 127 ∧ 14 ≤ c.nRead := ⟨hpl, by omega⟩
  simp only [c3, and_self, if_true, hh]
  have : beDec [l0, l1, l2, l3, l4, l5, l6, l7] < 126 ∨ ¬ beDec [l0, l1, l2, l3, l4, l5, l6, l7] < 126 := by omega
  rcases this with h | h <;> simp [hlen, h, cleanupComplete, cleanupBasics]

theorem readHeader_res_not_data (c : Ctx) (e : Env) (bs : List Byte) : (readHeader c e).res ≠ .data bs := by
  have hfin : ∀ c e, (finishHeader c e).res ≠ .data bs := by
    intro c e
    unfold finishHeader
    simp only
    split
    · simp
    · split <;> simp
  unfold readHeader
  split <;> try simp
  split <;> try simp
  split
  · split <;> try simp
    exact hfin _ _
  · exact hfin _ _

theorem decode_header_no_data (c : Ctx) (e : Env) (len : Nat) (hst : c.st = .headerPending)
    (h : (readHeader c e).st = .err ∨ (readHeader c e).st = .headerPending) (bs : List Byte) :
    (decode c e len).2.2 ≠ .data bs := by
  unfold decode
  rw [hst]
  simp only
  rcases h with h | h
  · simp only [h, if_true]; exact readHeader_res_not_data c e bs
  · simp only [h, reduceCtorEq, if_false, ne_eq, not_true_eq_false]; exact readHeader_res_not_data c e bs

theorem finishChunk_close (c : Ctx) (e : Env) (len wpEnd bufsize : Nat) (data : List Byte)
    (hop : c.opcode = opClose) :
    (finishChunk c e len wpEnd bufsize data).res =
      (if c.remaining = 0 then .err .econnreset else .again) := by
  unfold finishChunk
  simp only [hop, if_true, Ctx.remaining]
  split <;> simp_all

theorem readAndDecode_shape (c : Ctx) (e : Env) (len : Nat) (inbuf : List Byte) :
    (readAndDecode c e len inbuf).res = .ub ∨ (readAndDecode c e len inbuf).res = .err .eio ∨
    (readAndDecode c e len inbuf).res = .closed ∨ (readAndDecode c e len inbuf).res = .again ∨
    ∃ e' wp bufsize xs, readAndDecode c e len inbuf = decodeChunk c e' len inbuf wp bufsize xs := by
  unfold readAndDecode
  cases hw : c.writePos with
  | none => exact .inl rfl
  | some wp0 =>
    simp only
    by_cases h1 : wp0 + c.carry.length + 1 > BUF
    · rw [if_pos h1]; exact .inl rfl
    · simp only [h1, if_false]
      generalize (if c.remaining > BUF - (wp0 + c.carry.length) - 1 then BUF - (wp0 + c.carry.length) - 1
        else c.remaining) = N
      by_cases h2 : N > 0
      · simp only [h2, if_true]
        generalize e.read (wp0 + c.carry.length) (N : Int) = r
        obtain ⟨o, e1⟩ := r
        cases o with
        | data xs => right; right; right; right; exact ⟨e1, _, _, xs, rfl⟩
        | again => exact .inr (.inr (.inr (.inl rfl)))
        | closed => exact .inr (.inr (.inl rfl))
        | fail => exact .inr (.inl rfl)
        | bad => exact .inl rfl
      · simp only [h2, if_false]
        right; right; right; right; exact ⟨e, _, _, [], rfl⟩

theorem readAndDecode_close_no_data (c : Ctx) (e : Env) (len : Nat) (inbuf bs : List Byte)
    (hop : c.opcode = opClose) : (readAndDecode c e len inbuf).res ≠ .data bs := by
  have hadv : ∀ n, (advance c n).opcode = opClose := fun n => by simp [advance, hop]
  have hdc : ∀ e wp bufsize xs, (decodeChunk c e len inbuf wp bufsize xs).res ≠ .data bs := by
    intro e wp bufsize xs
    unfold decodeChunk
    simp only
    split
    · simp
    · rw [finishChunk_close _ _ _ _ _ _ (hadv _)]
      split <;> simp
  rcases readAndDecode_shape c e len inbuf with h | h | h | h | ⟨e', wp, bufsize, xs, h⟩
  · rw [h]; simp
  · rw [h]; simp
  · rw [h]; simp
  · rw [h]; simp
  · rw [h]; exact hdc _ _ _ _

theorem decode_close_no_data (c : Ctx) (e : Env) (len : Nat) (bs : List Byte)
    (hst : c.st = .dataNeeded ∨ c.st = .closeReasonPending) (hop : c.opcode = opClose) :
    (decode c e len).2.2 ≠ .data bs := by
  unfold decode
  rcases hst with h | h <;> rw [h] <;> exact readAndDecode_close_no_data c e len [] bs hop

end VncModel.Ws
