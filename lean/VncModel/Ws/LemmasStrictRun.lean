import VncModel.Ws.LemmasStrict
/-! Run-level strictness: streams whose first protocol violation comes after a valid prefix. -/
namespace VncModel.Ws

/-- one call while fewer than two bytes of a violating header have been collected: EAGAIN with the
state still in front of the violation, or the protocol error -/
theorem decode_bad2 (h : List Byte) (opc fin : Byte) (pl : Nat) (co b0 b1 : Byte) (junk : List Byte)
    (e : Env) (len : Nat) (hh2 : h.length < 2) (hcat : h ++ e.pending = b0 :: b1 :: junk)
    (hv : Viol2 co b0 b1) (hff : e.FaultFree) (hs : e.Safe) :
    ∃ c' e' res, decode (ctxAtHeader h opc fin pl co) e len = (c', e', res) ∧ e'.FaultFree ∧ e'.Safe ∧
      (res = .err .eproto ∨
       (res = .again ∧ ∃ h', h'.length < 2 ∧ c' = ctxAtHeader h' opc fin pl co ∧
          h' ++ e'.pending = b0 :: b1 :: junk)) := by
  have hBUF : (14 : Int) ≤ BUF := by simp [BUF, Gen.C09.decodeBufSize]
  have hnr : (ctxAtHeader h opc fin pl co).nRead = h.length := rfl
  have hmiss : hdrMissing (ctxAtHeader h opc fin pl co) = 6 - (h.length : Int) := by
    have : hdrWant h = 6 := by
      match h, hh2 with
      | [], _ => rfl
      | [_], _ => rfl
    simp [hdrMissing, ctxAtHeader, Ctx.nRead, this]
  obtain ⟨e1, hff1, hs1, ⟨hr, hp1, _⟩ | ⟨t, ht0, htN, htl, hr, hp1⟩⟩ :=
    Env.read_cases e h.length (6 - (h.length : Int)) (by omega) (by omega) hff hs
  · -- EAGAIN
    have hrh : readHeader (ctxAtHeader h opc fin pl co) e =
        ⟨ctxAtHeader h opc fin pl co, e1, .headerPending, .again, []⟩ := by
      unfold readHeader
      rw [hnr, hmiss, hr]
    exact ⟨_, _, _, decode_header_pending _ _ _ _ len _ rfl rfl hrh, hff1, hs1,
      Or.inr ⟨rfl, h, hh2, rfl, by rw [hp1]; exact hcat⟩⟩
  · have hsplit : e.pending = e.pending.take t ++ e1.pending := by rw [hp1, List.take_append_drop]
    by_cases hlt : (h ++ e.pending.take t).length < 2
    · -- still fewer than two bytes
      have hp2 : parse2 (ctxAtHeader (h ++ e.pending.take t) opc fin pl co) = .pending := by
        unfold parse2
        simp only [ctxAtHeader]
        match hx : h ++ List.take t e.pending, hlt with
        | [], _ => rfl
        | [_], _ => rfl
      have hrh : readHeader (ctxAtHeader h opc fin pl co) e =
          ⟨ctxAtHeader (h ++ e.pending.take t) opc fin pl co, e1, .headerPending, .again, []⟩ := by
        unfold readHeader
        rw [hnr, hmiss, hr]
        simp only [ctxAtHeader_set_hdr, show (ctxAtHeader h opc fin pl co).hdr = h from rfl, hp2]
      exact ⟨_, _, _, decode_header_pending _ _ _ _ len _ rfl rfl hrh, hff1, hs1,
        Or.inr ⟨rfl, _, hlt, rfl, by rw [List.append_assoc, ← hsplit]; exact hcat⟩⟩
    · -- two bytes are there: the violation is seen
      have hge : 2 ≤ (h ++ e.pending.take t).length := by omega
      obtain ⟨tl, htl'⟩ : ∃ tl, h ++ e.pending.take t = b0 :: b1 :: tl := by
        have h1 : (h ++ e.pending.take t) ++ e1.pending = b0 :: b1 :: junk := by
          rw [List.append_assoc, ← hsplit]; exact hcat
        match hx : h ++ List.take t e.pending, hge with
        | x :: y :: tl, _ =>
          rw [hx] at h1
          simp only [List.cons_append, List.cons.injEq] at h1
          exact ⟨tl, by rw [h1.1, h1.2.1]⟩
      have hhdr : ({ ctxAtHeader h opc fin pl co with
          hdr := (ctxAtHeader h opc fin pl co).hdr ++ e.pending.take t } : Ctx).hdr = b0 :: b1 :: tl := htl'
      obtain ⟨c', hp2⟩ := parse2_viol _ b0 b1 tl hhdr hv
      exact ⟨_, _, _, decode_parse2_error (ctxAtHeader h opc fin pl co) e e1 len (e.pending.take t) .eproto c'
        rfl (by rw [hnr, hmiss]; exact hr) hp2, hff1, hs1, Or.inl rfl⟩

theorem unmaskChunk_carry_le (complete : Bool) (m : Mask) (data : List Byte) :
    (unmaskChunk complete m data).2.length ≤ 3 := by
  cases complete <;> simp [unmaskChunk] <;> omega

theorem finishChunk_close_eq (c : Ctx) (e : Env) (len wpEnd bufsize : Nat) (data : List Byte)
    (hop : c.opcode = opClose) :
    finishChunk c e len wpEnd bufsize data =
      if c.remaining = 0 then
        ⟨{ c with carry := (unmaskChunk (c.st == .frameComplete) c.mask data).2,
                  writePos := some (wpEnd - (unmaskChunk (c.st == .frameComplete) c.mask data).2.length) },
         e, .frameComplete, .err .econnreset⟩
      else
        ⟨{ c with carry := (unmaskChunk (c.st == .frameComplete) c.mask data).2,
                  writePos := some (wpEnd - (unmaskChunk (c.st == .frameComplete) c.mask data).2.length) },
         e, .closeReasonPending, .again⟩ := by
  unfold finishChunk
  simp only [hop, if_true, Ctx.remaining]

theorem ctxF_set_carry_wp (f : Frame) (co : Byte) (st : St) (np : Nat) (carry carry' : List Byte)
    (wp wp' rp : Option Nat) (rl : Int) (rd : List Byte) :
    { ctxF f co st np carry wp rp rl rd with carry := carry', writePos := wp' } =
      ctxF f co st np carry' wp' rp rl rd := rfl

theorem decodeChunk_close (f : Frame) (co : Byte) (hop : f.effOp co = opClose) (st : St)
    (hst : st ≠ .frameComplete) (np : Nat) (carry : List Byte) (wp : Nat) (rp : Option Nat) (e : Env)
    (len bufsize : Nat) (bs : List Byte) (hnp : np + bs.length ≤ f.payload.length)
    (hP : f.payload.length < 2 ^ 64) :
    decodeChunk (ctxF f co st np carry (some wp) rp 0 []) e len [] (wp + carry.length) bufsize bs =
      if np + bs.length = f.payload.length then
        ⟨ctxF f co .frameComplete (np + bs.length) [] (some (wp + carry.length + bs.length)) rp 0 [], e,
          .frameComplete, .err .econnreset⟩
      else
        ⟨ctxF f co st (np + bs.length) ((carry ++ bs).drop (4 * ((carry ++ bs).length / 4)))
          (some (wp + carry.length + bs.length - ((carry ++ bs).drop (4 * ((carry ++ bs).length / 4))).length))
          rp 0 [], e, .closeReasonPending, .again⟩ := by
  have hdata : [] ++ (ctxF f co st np carry (some wp) rp 0 []).carry ++ bs = carry ++ bs := rfl
  have hnub : ¬ (wp + carry.length + bs.length < (carry ++ bs).length) := by
    rw [List.length_append]; omega
  rw [decodeChunk, hdata, if_neg hnub, advance_ctxF f co st np bs.length carry (some wp) rp 0 [] hnp hP,
    finishChunk_close_eq _ _ _ _ _ _ hop, ctxF_remaining f co _ (np + bs.length) carry (some wp) rp 0 [] hnp hP,
    ctxF_set_carry_wp]
  by_cases hc : np + bs.length = f.payload.length
  · simp [hc, ctxF, unmaskChunk]
  · have hsf : (st == St.frameComplete) = false := by cases st <;> first | rfl | exact absurd rfl hst
    have hne0 : ¬ (f.payload.length - (np + bs.length) = 0) := by omega
    simp [hc, hne0, ctxF, unmaskChunk, hsf]

theorem finishHeader_env (c : Ctx) (e : Env) : (finishHeader c e).e = e := by
  unfold finishHeader
  simp only
  split
  · rfl
  · split <;> rfl

/-- the first byte of a data frame (not control, not reserved) that may legally open or continue a
message when `co` is open -/
def DataB0 (co b0 : Byte) : Prop :=
  isReservedOp (b0 &&& 0x0f) = false ∧ ((b0 &&& 0x0f) &&& 0x08 != 0) = false ∧
  (b0 &&& 0x0f = opContinuation → co ≠ opInvalid ∧ (co &&& 0x08 != 0) = false)

def nmOp (co b0 : Byte) : Byte := if b0 &&& 0x0f = opContinuation then co else b0 &&& 0x0f
def nmCo (co b0 : Byte) : Byte :=
  if b0 &&& 0x0f = opContinuation then co
  else if (b0 &&& 0x80) >>> 7 = 0 then b0 &&& 0x0f else opInvalid

theorem parse2_data_ext (co co' b0 b1 : Byte) (tl : List Byte) (hd : DataB0 co b0)
    (hb1 : b1 = 0xfe ∨ b1 = 0xff) (hco : co' = co ∨ co' = nmCo co b0) (opc fin : Byte) (pl : Nat) :
    parse2 (ctxAtHeader (b0 :: b1 :: tl) opc fin pl co') =
      .ok (ctxAtHeader (b0 :: b1 :: tl) (nmOp co b0) ((b0 &&& 0x80) >>> 7) (b1 &&& 0x7f).toNat (nmCo co b0)) := by
  obtain ⟨h1, h2, h3⟩ := hd
  have hm : b1 &&& 0x80 ≠ 0 := by rcases hb1 with rfl | rfl <;> decide
  unfold parse2
  simp only [ctxAtHeader, Ctx.isControl, h1, h2, Bool.false_eq_true, if_false]
  by_cases h0 : b0 &&& 0x0f = opContinuation
  · obtain ⟨h4, h5⟩ := h3 h0
    have hco' : co' = co := by
      rcases hco with h | h
      · exact h
      · rw [h]; simp [nmCo, h0]
    simp only [h0, if_true, hco', h4, if_false, h5, Bool.false_eq_true, false_and, hm]
    simp [nmOp, nmCo, h0]
  · simp only [h0, if_false, h2, Bool.false_eq_true, false_and, hm]
    simp [nmOp, nmCo, h0]

theorem finishHeader_pending (c : Ctx) (e : Env) (h1 : ¬ (c.payloadLen < 126 ∧ c.nRead ≥ 6))
    (h2 : ¬ (c.payloadLen = 126 ∧ 8 ≤ c.nRead)) (h3 : ¬ (c.payloadLen = 127 ∧ 14 ≤ c.nRead)) :
    finishHeader c e = ⟨c, e, .headerPending, .again, []⟩ := by
  unfold finishHeader
  simp only [h1, h2, h3, if_false]

/-- header of a masked data frame that uses the 16-bit length form for a length below 126 -/
def nm16 (b0 x0 x1 m0 m1 m2 m3 : Byte) : List Byte := [b0, 0xfe, x0, x1, m0, m1, m2, m3]
/-- ... the 64-bit form for a length below 65536 -/
def nm64 (b0 x0 x1 x2 x3 x4 x5 x6 x7 m0 m1 m2 m3 : Byte) : List Byte :=
  [b0, 0xff, x0, x1, x2, x3, x4, x5, x6, x7, m0, m1, m2, m3]

theorem take_two_plus {α : Type} (a b : α) (tl : List α) (j : Nat) (hj : 2 ≤ j) :
    (a :: b :: tl).take j = a :: b :: tl.take (j - 2) := by
  obtain ⟨k, rfl⟩ : ∃ k, j = k + 2 := ⟨j - 2, by omega⟩
  simp

/-- `H` is the header of a masked data frame with a non-minimal length field -/
def IsNonMin (b0 : Byte) (H : List Byte) : Prop :=
  (∃ x0 x1 m0 m1 m2 m3, H = nm16 b0 x0 x1 m0 m1 m2 m3 ∧ beDec [x0, x1] < 126) ∨
  (∃ x0 x1 x2 x3 x4 x5 x6 x7 m0 m1 m2 m3, H = nm64 b0 x0 x1 x2 x3 x4 x5 x6 x7 m0 m1 m2 m3 ∧
    beDec [x0, x1, x2, x3, x4, x5, x6, x7] < 65536)

theorem IsNonMin.shape {b0 : Byte} {H : List Byte} (h : IsNonMin b0 H) :
    ∃ b1 tl, H = b0 :: b1 :: tl ∧ ((b1 = 0xfe ∧ tl.length = 6) ∨ (b1 = 0xff ∧ tl.length = 12)) ∧
      ∀ (c : Ctx) (e : Env), c.hdr = H → c.payloadLen = (b1 &&& 0x7f).toNat →
        (finishHeader c e).st = .err ∧ (finishHeader c e).res = .err .eproto := by
  rcases h with ⟨x0, x1, m0, m1, m2, m3, rfl, hlen⟩ | ⟨x0, x1, x2, x3, x4, x5, x6, x7, m0, m1, m2, m3, rfl, hlen⟩
  · refine ⟨0xfe, _, rfl, Or.inl ⟨rfl, rfl⟩, fun c e hh hpl => ?_⟩
    have h := finishHeader_nonminimal16 c e _ _ _ _ _ _ _ _ [] hpl hh hlen
    exact ⟨h.1, h.2.1⟩
  · refine ⟨0xff, _, rfl, Or.inr ⟨rfl, rfl⟩, fun c e hh hpl => ?_⟩
    have h := finishHeader_nonminimal64 c e _ _ _ _ _ _ _ _ _ _ _ _ _ _ [] hpl hh hlen
    exact ⟨h.1, h.2.1⟩

theorem readHeader_nonmin (H : List Byte) (co co' b0 : Byte) (hd : DataB0 co b0) (hH : IsNonMin b0 H)
    (j : Nat) (opc fin : Byte) (pl : Nat) (e : Env) (body : List Byte) (hj : j < H.length)
    (hco : co' = co ∨ co' = nmCo co b0) (hpend : e.pending = H.drop j ++ body)
    (hff : e.FaultFree) (hs : e.Safe) :
    ∃ OUT, HdrStep H body (fun c => c = co ∨ c = nmCo co b0) OUT e j
        (readHeader (ctxAtHeader (H.take j) opc fin pl co') e) ∧
      ∀ e', (OUT e').st = .err ∧ (OUT e').res = .err .eproto ∧ (OUT e').e = e' := by
  obtain ⟨b1, tl, rfl, hb1, hrej⟩ := hH.shape
  -- the 7-bit length code announces exactly the length the header has
  have hl7 : (b1 &&& 0x7f = 126 ∧ (b1 &&& 0x7f).toNat = 126 ∧ tl.length = 6) ∨
      (b1 &&& 0x7f ≠ 126 ∧ b1 &&& 0x7f = 127 ∧ (b1 &&& 0x7f).toNat = 127 ∧ tl.length = 12) := by
    rcases hb1 with ⟨rfl, h⟩ | ⟨rfl, h⟩
    · exact Or.inl ⟨by decide, by decide, h⟩
    · exact Or.inr ⟨by decide, by decide, by decide, h⟩
  refine ⟨_, readHeader_generic (b0 :: b1 :: tl) (nmOp co b0) ((b0 &&& 0x80) >>> 7)
    (b1 &&& 0x7f).toNat (nmCo co b0) (fun c => c = co ∨ c = nmCo co b0)
    (finishHeader (ctxAtHeader (b0 :: b1 :: tl) (nmOp co b0) ((b0 &&& 0x80) >>> 7) (b1 &&& 0x7f).toNat (nmCo co b0)))
    (by simp only [List.length_cons]; omega)
    (fun j _ => by
      by_cases h2 : 2 ≤ j
      · rw [take_two_plus _ _ _ j h2, hdrWant, if_pos h2, List.length_cons, List.length_cons]
        rcases hl7 with ⟨a, _, l⟩ | ⟨a, a', _, l⟩
        · rw [if_pos a, l]
        · rw [if_neg a, if_pos a', l]
      · obtain rfl | rfl : j = 0 ∨ j = 1 := by omega
        all_goals simp [hdrWant])
    (fun j hj opc fin pl co' => by
      obtain rfl | rfl : j = 0 ∨ j = 1 := by omega
      all_goals simp [parse2, ctxAtHeader])
    (fun j hj _ opc fin pl co' hc => by
      rw [take_two_plus _ _ _ j hj]
      exact parse2_data_ext co co' b0 b1 _ hd (hb1.imp And.left And.left) hc opc fin pl)
    (Or.inr rfl)
    (fun j hj e => by
      have hn : (ctxAtHeader ((b0 :: b1 :: tl).take j) (nmOp co b0) ((b0 &&& 0x80) >>> 7) (b1 &&& 0x7f).toNat
          (nmCo co b0)).nRead = j := by
        simp only [ctxAtHeader, Ctx.nRead, List.length_take]; omega
      simp only [List.length_cons] at hj
      apply finishHeader_pending <;> rw [hn] <;> simp only [ctxAtHeader] <;> omega)
    (fun _ => rfl) j opc fin pl co' e body hj hco hpend hff hs,
    fun e' => ⟨(hrej _ e' rfl rfl).1, (hrej _ e' rfl rfl).2, finishHeader_env _ _⟩⟩

/-- what follows the valid frames: a protocol violation, to be answered with errno `E`, followed by
arbitrary bytes.  `two`: visible in the first two header bytes (reserved opcode, fragmented control
frame, continuation without start, control frame longer than 125 bytes, unmasked); `nonmin`:
non-minimal length encoding; `close`: a Close frame. -/
inductive BadTail (co : Byte) : List Byte → Errno → Prop
  | two (b0 b1 : Byte) (junk : List Byte) : Viol2 co b0 b1 → BadTail co (b0 :: b1 :: junk) .eproto
  | nonmin (b0 : Byte) (H junk : List Byte) : DataB0 co b0 → IsNonMin b0 H → BadTail co (H ++ junk) .eproto
  | close (f : Frame) (junk : List Byte) : f.hok co → f.effOp co = opClose →
      BadTail co (f.header ++ (xorMask f.mask f.payload ++ junk)) .econnreset

/-- decoder states inside the violating frame -/
inductive Bad (co : Byte) : Errno → Ctx → List Byte → Prop
  | two (h : List Byte) (opc fin : Byte) (pl : Nat) (b0 b1 : Byte) (junk p : List Byte) :
      h.length < 2 → h ++ p = b0 :: b1 :: junk → Viol2 co b0 b1 →
      Bad co .eproto (ctxAtHeader h opc fin pl co) p
  | nonmin (b0 : Byte) (H junk : List Byte) (j : Nat) (opc fin : Byte) (pl : Nat) (co' : Byte) :
      DataB0 co b0 → IsNonMin b0 H → j < H.length → (co' = co ∨ co' = nmCo co b0) →
      Bad co .eproto (ctxAtHeader (H.take j) opc fin pl co') (H.drop j ++ junk)
  | closeHdr (f : Frame) (junk : List Byte) (j : Nat) (opc fin : Byte) (pl : Nat) (co' : Byte) :
      f.hok co → f.effOp co = opClose → j < f.header.length → (co' = co ∨ co' = f.nextCo co) →
      Bad co .econnreset (ctxAtHeader (f.header.take j) opc fin pl co')
        (f.header.drop j ++ (xorMask f.mask f.payload ++ junk))
  | closeBody (f : Frame) (junk : List Byte) (st : St) (np : Nat) (carry : List Byte) (wp : Nat)
      (rp : Option Nat) :
      f.hok co → f.effOp co = opClose → (st = .dataNeeded ∨ st = .closeReasonPending) →
      carry.length ≤ 3 → np < f.payload.length → wp + carry.length = f.header.length + np →
      Bad co .econnreset (ctxF f co st np carry (some wp) rp 0 [])
        ((xorMask f.mask f.payload).drop np ++ junk)

theorem Bad_start (co : Byte) (T : List Byte) (E : Errno) (h : BadTail co T E) (opc fin : Byte) (pl : Nat) :
    Bad co E (ctxAtHeader [] opc fin pl co) T := by
  cases h with
  | two b0 b1 junk hv => exact Bad.two [] opc fin pl b0 b1 junk _ (by simp) (by simp) hv
  | nonmin b0 H junk hd hH =>
    have hl : 0 < H.length := by
      rcases hH with ⟨_, _, _, _, _, _, rfl, _⟩ | ⟨_, _, _, _, _, _, _, _, _, _, _, _, rfl, _⟩ <;> simp [nm16, nm64]
    have := Bad.nonmin (co := co) b0 H junk 0 opc fin pl co hd hH hl (Or.inl rfl)
    simpa using this
  | close f junk hok hop =>
    have := Bad.closeHdr (co := co) f junk 0 opc fin pl co hok hop (by have := (header_length_le f).2; omega) (Or.inl rfl)
    simpa using this

theorem isDataOp_close : isDataOp opClose = false := by decide

/-- a Close frame with an acceptable header is a control frame, hence short -/
theorem close_payload_le (f : Frame) (co : Byte) (hok : f.hok co) (hop : f.effOp co = opClose) :
    f.payload.length ≤ 125 := by
  by_cases hc : f.isControl = true
  · exact (hok.2.1 hc).2.2
  · rcases (hok.2.2 (by simpa using hc)).2 with h | h <;> rw [hop] at h <;> exact absurd h (by decide)

/-- one `hybiReadAndDecode` in the payload of a Close frame, followed by the clean-up at `spor`:
never payload; ECONNRESET when the frame is complete, else EAGAIN with the decoder still inside it -/
theorem close_step (co : Byte) (f : Frame) (junk : List Byte) (st : St) (np : Nat) (carry : List Byte)
    (wp : Nat) (rp : Option Nat) (e : Env) (len : Nat) (hok : f.hok co) (hop : f.effOp co = opClose)
    (hst : st = .dataNeeded ∨ st = .closeReasonPending) (hk : carry.length ≤ 3) (hnp : np ≤ f.payload.length)
    (hwp : wp + carry.length = f.header.length + np)
    (hp : e.pending = (xorMask f.mask f.payload).drop np ++ junk) (hff : e.FaultFree) (hs : e.Safe) :
    ∃ d, readAndDecode (ctxF f co st np carry (some wp) rp 0 []) e len [] = d ∧
      d.e.FaultFree ∧ d.e.Safe ∧ (d.res = .err .econnreset ∨
        (d.res = .again ∧ Bad co .econnreset (spor { d.c with st := d.st }) d.e.pending)) := by
  refine ⟨_, rfl, ?_⟩
  have hP := close_payload_le f co hok hop
  have hl14 := (header_length_le f).1
  have hB : BUF = 2062 := rfl
  have hPlt : f.payload.length < 2 ^ 64 := by omega
  have hML : (xorMask f.mask f.payload).length = f.payload.length := by simp [xorMask, xorFrom_length]
  have hst1 : st ≠ .frameComplete := by rcases hst with h | h <;> rw [h] <;> decide
  have hst2 : st ≠ .err := by rcases hst with h | h <;> rw [h] <;> decide
  rw [readAndDecode_some _ e len [] wp rfl (by show wp + carry.length + 1 ≤ BUF; omega),
    ctxF_remaining f co st np carry (some wp) rp 0 [] hnp hPlt]
  simp only [show (ctxF f co st np carry (some wp) rp 0 []).carry = carry from rfl,
    show (ctxF f co st np carry (some wp) rp 0 []).st = st from rfl,
    show ¬ (f.payload.length - np > BUF - (wp + carry.length) - 1) by omega, if_false]
  -- what happens once `bs` has been stored
  have hchunk : ∀ (e1 : Env) (bs : List Byte), np + bs.length ≤ f.payload.length → e1.FaultFree → e1.Safe →
      e1.pending = (xorMask f.mask f.payload).drop (np + bs.length) ++ junk →
      ∀ d, decodeChunk (ctxF f co st np carry (some wp) rp 0 []) e1 len [] (wp + carry.length)
        (BUF - (wp + carry.length) - 1) bs = d →
      d.e.FaultFree ∧ d.e.Safe ∧ (d.res = .err .econnreset ∨
        (d.res = .again ∧ Bad co .econnreset (spor { d.c with st := d.st }) d.e.pending)) := by
    intro e1 bs ht hf1 hs1 hp1 d hd
    rw [decodeChunk_close f co hop st hst1 np carry wp rp e1 len _ bs ht hPlt] at hd
    subst hd
    by_cases hc : np + bs.length = f.payload.length
    · rw [if_pos hc]; exact ⟨hf1, hs1, Or.inl rfl⟩
    · rw [if_neg hc]
      refine ⟨hf1, hs1, Or.inr ⟨rfl, ?_⟩⟩
      simp only [ctxF_set_st]
      rw [spor_ctxF_other _ _ _ (by decide) (by decide), hp1]
      refine Bad.closeBody f junk .closeReasonPending (np + bs.length) _ _ rp hok hop (Or.inr rfl) ?_ (by omega) ?_
      · simp only [List.length_drop, List.length_append]; omega
      · simp only [List.length_drop, List.length_append]; omega
  by_cases hpos : f.payload.length - np > 0
  · simp only [hpos, if_true]
    obtain ⟨e', hff', hs', ⟨hr, hp', _⟩ | ⟨t, ht0, htN, hr, hp'⟩⟩ :=
      Env.read_prefix e (wp + carry.length) ((f.payload.length - np : Nat) : Int) _ junk hp (by omega)
        (by simp only [List.length_drop, hML]; omega) (by omega) hff hs
    · rw [hr]
      refine ⟨hff', hs', Or.inr ⟨rfl, ?_⟩⟩
      simp only [ctxF_set_st]
      rw [spor_ctxF_other _ _ _ hst1 hst2, hp']
      exact Bad.closeBody f junk st np carry wp rp hok hop hst hk (by omega) hwp
    · rw [hr]
      have hbl : (((xorMask f.mask f.payload).drop np).take t).length = t := by
        simp only [List.length_take, List.length_drop, hML]; omega
      exact hchunk e' _ (by omega) hff' hs' (by rw [hp', List.drop_drop, hbl]) _ rfl
  · simp only [hpos, if_false]
    exact hchunk e [] (by simp; omega) hff hs (by simpa using hp) _ rfl

theorem bad_step (co : Byte) (E : Errno) (c : Ctx) (e : Env) (len : Nat) (hbad : Bad co E c e.pending)
    (hff : e.FaultFree) (hs : e.Safe) :
    (decode c e len).2.1.FaultFree ∧ (decode c e len).2.1.Safe ∧
    ((decode c e len).2.2 = .err E ∨
     ((decode c e len).2.2 = .again ∧ Bad co E (decode c e len).1 (decode c e len).2.1.pending)) := by
  generalize hp : e.pending = p at hbad
  cases hbad with
  | two h opc fin pl b0 b1 junk _ hh2 hcat hv =>
    obtain ⟨c', e', res, hdec, a1, a2, a3⟩ :=
      decode_bad2 h opc fin pl co b0 b1 junk e len hh2 (by rw [hp]; exact hcat) hv hff hs
    rw [hdec]
    refine ⟨a1, a2, ?_⟩
    rcases a3 with a3 | ⟨a3, h', hh', hc', hcat'⟩
    · exact Or.inl a3
    · exact Or.inr ⟨a3, hc' ▸ Bad.two h' opc fin pl b0 b1 junk _ hh' hcat' hv⟩
  | nonmin b0 H junk j opc fin pl co' hd hH hj hco =>
    obtain ⟨OUT, ⟨e', hff', hs', hcs⟩, hrej⟩ :=
      readHeader_nonmin H co co' b0 hd hH j opc fin pl e junk hj hco hp hff hs
    rcases hcs with ⟨j', opc', fin', pl', co'', hj', hco'', hrh, hpe, _⟩ | ⟨hrh, hpe⟩
    · rw [decode_header_pending _ _ _ _ len _ rfl rfl hrh]
      exact ⟨hff', hs', Or.inr ⟨rfl, hpe ▸ Bad.nonmin b0 H junk j' opc' fin' pl' co'' hd hH hj' hco''⟩⟩
    · obtain ⟨h1, h2, h3⟩ := hrej e'
      have hst0 : (ctxAtHeader (H.take j) opc fin pl co').st = St.headerPending := rfl
      have hdec : (decode (ctxAtHeader (H.take j) opc fin pl co') e len).2 = (e', .err .eproto) := by
        simp only [decode, hst0, hrh, h1, if_true, h2, h3]
      rw [hdec]
      exact ⟨hff', hs', Or.inl rfl⟩
  | closeHdr f junk j opc fin pl co' hok hop hj hco =>
    obtain ⟨e', hff', hs', hcs⟩ := readHeader_cases_hok f co co' j opc fin pl e
      (xorMask f.mask f.payload ++ junk) hok hj hco hp hff hs
    rcases hcs with ⟨j', opc', fin', pl', co'', hj', hco'', hrh, hpe, _⟩ | ⟨hrh, hpe⟩
    · rw [decode_header_pending _ _ _ _ len _ rfl rfl hrh]
      exact ⟨hff', hs', Or.inr ⟨rfl, hpe ▸ Bad.closeHdr f junk j' opc' fin' pl' co'' hok hop hj' hco''⟩⟩
    · -- header complete: the payload phase starts in the same call
      have hc1 : { ctxInFrame f co 0 [] [] (some f.header.length) St.headerPending with st := St.dataNeeded } =
          ctxF f co .dataNeeded 0 [] (some f.header.length) (some f.header.length) 0 [] := by
        simp [ctxInFrame, ctxF, hop, isDataOp_close, xorFrom]
      obtain ⟨d, hd, h⟩ := close_step co f junk .dataNeeded 0 [] f.header.length (some f.header.length) e' len hok hop
        (Or.inl rfl) (by simp) (by omega) (by simp) (by rw [hpe]; simp) hff' hs'
      rw [decode_header_done _ _ _ _ len _ _ rfl hrh, hc1, hd]
      exact h
  | closeBody f junk st np carry wp rp hok hop hst hk hnp hwp =>
    obtain ⟨d, hd, h⟩ := close_step co f junk st np carry wp rp e len hok hop hst hk (by omega) hwp hp hff hs
    have hdec : decode (ctxF f co st np carry (some wp) rp 0 []) e len = (spor { d.c with st := d.st }, d.e, d.res) := by
      have hst0 : (ctxF f co st np carry (some wp) rp 0 []).st = st := rfl
      rcases hst with h | h <;> subst h <;> simp only [decode, hst0, hd]
    rw [hdec]
    exact h

/-- inside the valid frames, or inside the violating frame with nothing owed any more -/
def SI (T : List Byte) (cE : Byte) (E : Errno) (c : Ctx) (p V : List Byte) : Prop :=
  Inv T cE true c p V ∨ (V = [] ∧ Bad cE E c p)

theorem SI_of_inv (T : List Byte) (cE : Byte) (E : Errno) (hb : BadTail cE T E) (lv : Bool) (c : Ctx)
    (p V : List Byte) (h : Inv T cE lv c p V) : SI T cE E c p V := by
  cases lv with
  | true => exact Or.inl h
  | false =>
    cases h with
    | done opc fin pl => exact Or.inr ⟨rfl, Bad_start cE T E hb opc fin pl⟩

theorem runStop_cons (c : Ctx) (e : Env) (len : Nat) (ls : List Nat) :
    runStop c e (len :: ls) =
      if (decode c e len).2.2.fine then
        (decode c e len).2.2 :: runStop (decode c e len).1 (decode c e len).2.1 ls
      else [(decode c e len).2.2] := rfl

theorem strict_run_aux (hb : B64RoundTrip) (T : List Byte) (cE : Byte) (E : Errno) (hbt : BadTail cE T E)
    (lens : List Nat) (hl : ∀ l ∈ lens, 0 < l) : ∀ (c : Ctx) (e : Env) (V : List Byte),
    SI T cE E c e.pending V → e.FaultFree → e.Safe →
    (∀ r ∈ runStop c e lens, r.fine = true ∨ r = .err E) ∧
    ∃ V', V = delivered (runStop c e lens) ++ V' ∧ (∀ r ∈ runStop c e lens, r.fine = false → V' = []) := by
  induction lens with
  | nil => intro c e V _ _ _; exact ⟨by simp [runStop], V, by simp [runStop, delivered], by simp [runStop]⟩
  | cons len ls ih =>
    intro c e V hsi hff hs
    have hls : ∀ l ∈ ls, 0 < l := fun l h => hl l (by simp [h])
    -- a call with a fine result `r` that hands out `out`, after which `V1` is owed
    have hgo : ∀ (out V1 : List Byte), (decode c e len).2.2.fine = true → (decode c e len).2.2.bytes = out →
        V = out ++ V1 → SI T cE E (decode c e len).1 (decode c e len).2.1.pending V1 →
        (decode c e len).2.1.FaultFree → (decode c e len).2.1.Safe →
        (∀ r ∈ runStop c e (len :: ls), r.fine = true ∨ r = .err E) ∧
        ∃ V', V = delivered (runStop c e (len :: ls)) ++ V' ∧
          (∀ r ∈ runStop c e (len :: ls), r.fine = false → V' = []) := by
      intro out V1 hfine hbytes hV hsi1 hff1 hs1
      obtain ⟨ih1, V2, ih2, ih3⟩ := ih hls _ _ V1 hsi1 hff1 hs1
      rw [runStop_cons, if_pos hfine]
      refine ⟨?_, V2, by rw [delivered_cons, hbytes, hV, ih2, List.append_assoc], ?_⟩
      · intro r hr
        rcases List.mem_cons.mp hr with rfl | hr
        · exact Or.inl hfine
        · exact ih1 r hr
      · intro r hr hnf
        rcases List.mem_cons.mp hr with rfl | hr
        · rw [hfine] at hnf; cases hnf
        · exact ih3 r hr hnf
    rcases hsi with hinv | ⟨rfl, hbad⟩
    · obtain ⟨out, V1, h1, _, h3, ⟨lv1, h4⟩, h5, h6, _⟩ :=
        decode_step hb T cE true c e V len hinv (Or.inl rfl) hff hs (hl len (by simp))
      exact hgo out V1 (h1 ▸ Res.fine_of_out out) (h1 ▸ Res.bytes_of_out out) h3
        (SI_of_inv T cE E hbt lv1 _ _ _ h4) h5 h6
    · obtain ⟨b1, b2, b3 | ⟨b3, b4⟩⟩ := bad_step cE E c e len hbad hff hs
      · have hnf : (decode c e len).2.2.fine = false := by rw [b3]; rfl
        rw [runStop_cons, hnf]
        refine ⟨?_, [], by simp [delivered, b3, Res.bytes], by simp⟩
        intro r hr
        exact Or.inr ((List.mem_singleton.mp hr) ▸ b3)
      · exact hgo [] [] (by rw [b3]; rfl) (by rw [b3]; rfl) rfl (Or.inr ⟨rfl, b4⟩) b1 b2

end VncModel.Ws
