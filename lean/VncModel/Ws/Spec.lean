import VncModel.Ws.Decoder
import VncModel.Ws.Codec
/-
Specification vocabulary for the decoder theorems: which client frame sequences are valid, what the
RFB layer is supposed to receive from them, runs of the decoder under a caller, fault-free
oracles, memory-safe request logs.
-/
namespace VncModel.Ws

/-! ### RFC 6455 message structure as seen by a receiver -/

/-- opcode that governs the interpretation of the payload: a continuation frame inherits the
opcode `co` of the message it continues -/
def Frame.effOp (co : Byte) (f : Frame) : Byte :=
  if f.isControl then f.opcode else if f.opcode = opContinuation then co else f.opcode

/-- opcode of the message that is open once the header of `f` has been seen -/
def Frame.nextCo (co : Byte) (f : Frame) : Byte :=
  if f.isControl then co else if f.opcode = opContinuation then co
  else if f.fin = 0 then f.opcode else opInvalid

/-- opcode of the open message after frame `f` is complete (`opInvalid`: no message open) -/
def Frame.afterCo (co : Byte) (f : Frame) : Byte :=
  if f.fin ≠ 0 ∧ !f.isControl then opInvalid else f.nextCo co

/-- decoding of a complete base64 text payload (the whole payload at once) -/
def b64Inv (p : List Byte) : List Byte := (pton p (p.length + 1)).getD []

/-- what frame `f` contributes to the byte stream handed to the RFB layer -/
def Frame.out (co : Byte) (f : Frame) : List Byte :=
  if f.effOp co = opBinary then f.payload
  else if f.effOp co = opText then b64Inv f.payload
  else []

/-- frame `f` is acceptable when message `co` is open: the length fits the 64-bit field; control
frames are Ping or Pong, unfragmented and at most 125 bytes; a continuation needs an open message;
data is binary, or text whose payload is the base64 encoding of something -/
def Frame.ok (co : Byte) (f : Frame) : Prop :=
  f.payload.length < 2 ^ 64 ∧
  (f.isControl = true → f.fin ≠ 0 ∧ (f.opcode = opPing ∨ f.opcode = opPong) ∧ f.payload.length ≤ 125) ∧
  (f.isControl = false →
    (f.opcode = opContinuation → co ≠ opInvalid) ∧
    (f.effOp co = opBinary ∨ (f.effOp co = opText ∧ ∃ x, f.payload = ntop x)))

/-- header-level acceptability (what lets the header of `f` through `hybiReadHeader`): like `ok`
but Close is allowed and nothing is said about the contents of text payloads -/
def Frame.hok (co : Byte) (f : Frame) : Prop :=
  f.payload.length < 2 ^ 64 ∧
  (f.isControl = true → f.fin ≠ 0 ∧ (f.opcode = opClose ∨ f.opcode = opPing ∨ f.opcode = opPong) ∧
    f.payload.length ≤ 125) ∧
  (f.isControl = false →
    (f.opcode = opContinuation → co ≠ opInvalid) ∧ (f.effOp co = opBinary ∨ f.effOp co = opText))

theorem Frame.ok.hok {co : Byte} {f : Frame} (h : f.ok co) : f.hok co := by
  obtain ⟨h1, h2, h3⟩ := h
  refine ⟨h1, fun hc => ⟨(h2 hc).1, Or.inr (h2 hc).2.1, (h2 hc).2.2⟩, fun hc => ⟨(h3 hc).1, ?_⟩⟩
  rcases (h3 hc).2 with h | ⟨h, _⟩
  · exact Or.inl h
  · exact Or.inr h

def ValidSeq : Byte → List Frame → Prop
  | _, [] => True
  | co, f :: fs => f.ok co ∧ ValidSeq (f.afterCo co) fs

/-- the byte stream the RFB layer must see -/
def expected : Byte → List Frame → List Byte
  | _, [] => []
  | co, f :: fs => f.out co ++ expected (f.afterCo co) fs

/-- the law of base64.c the decoder lemmas are stated under (proved for the model as `b64Law`,
and compared with the C routines on every run): decoding an encoding gives the original back when
the target is large enough -/
def B64RoundTrip : Prop := ∀ (z : List Byte) (ts : Nat), z.length < ts → pton (ntop z) ts = some z

/-! ### oracles and runs -/

def Resp.benign : Resp → Bool
  | .chunk _ => true
  | .eagain => true
  | _ => false

/-- the transport never reports end of stream or a hard error -/
def Env.FaultFree (e : Env) : Prop := (∀ r ∈ e.sched, r.benign = true) ∧ (∀ r ∈ e.cycle, r.benign = true)

/-- every logged request stays inside `codeBufDecode` and asks for at least one byte -/
def Env.Safe (e : Env) : Prop := ∀ r ∈ e.log, 0 < r.n ∧ (r.off : Int) + r.n ≤ BUF

/-- the transport has nothing to give right now: its next answer is EAGAIN, or nothing is pending -/
def Env.Stuck (e : Env) : Prop := (e.next).1 = .eagain ∨ e.pending = []

structure RunOut where
  outs : List Res
  c : Ctx
  e : Env

/-- the caller: one `webSocketsDecodeHybi` call per requested length -/
def run (c : Ctx) (e : Env) : List Nat → RunOut
  | [] => ⟨[], c, e⟩
  | len :: ls =>
    let (c', e', r) := decode c e len
    let o := run c' e' ls
    ⟨r :: o.outs, o.c, o.e⟩

/-- the call neither failed nor left defined behaviour -/
def Res.fine : Res → Bool
  | .data _ => true
  | .again => true
  | _ => false

/-- the caller of the real server: it stops calling after the first result that is neither data
nor EAGAIN (the connection is closed then) -/
def runStop (c : Ctx) (e : Env) : List Nat → List Res
  | [] => []
  | len :: ls =>
    if (decode c e len).2.2.fine then (decode c e len).2.2 :: runStop (decode c e len).1 (decode c e len).2.1 ls
    else [(decode c e len).2.2]

def Res.bytes : Res → List Byte
  | .data bs => bs
  | _ => []

def delivered (outs : List Res) : List Byte := outs.flatMap Res.bytes

end VncModel.Ws
